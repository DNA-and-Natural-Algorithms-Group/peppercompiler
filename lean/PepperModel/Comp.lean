import PepperModel.Sem
import PepperModel.Codes
import PepperModel.Constraint
import PepperModel.Notation
/-!
# Components: source AST, object model, elaboration, PIL / DES emission
(mirrors `component_parser.load_component` from the statement loop on, `component_class.Component`
(`add_sequence`, `clean_const`, `add_super_sequence`, `add_strand`, `add_structure`, `add_kinetic`,
`add_IO`, `output_synthesis`, `output_nupack`) and `DNA_classes` (`Sequence`, `ReverseSequence`,
`AnonymousSequence`, `SuperSequence`, `ReverseSuperSequence`, `Strand`, `Structure`, `Kinetics`))

The statement-level regexes are modelled separately (`PepperModel/ParseComp.lean`); for this file the harness renders
an AST to `.comp` text for the real compiler and sends the AST here.  The two leaf notations that carry
real logic — quoted nucleotide regions and secondary-structure text — arrive as raw text and go
through `Constraint.parseQuoted` and `Notation.compileStruct`.

Python object references become values: `ItemRef` = (local name, orientation, length, kind) and
`BaseRef` for atomic sequences; whatever else the code reads through a reference (`seqs`,
`base_seqs`, `const`) is looked up by name in the component's tables.  The process-wide counter
`AnonymousSequence.num` is threaded through as `anon`.  Every `error()` / failed `assert` is
`Except.error`.
-/
namespace Pepper.Comp
open Pepper.Constraint

/-! ### source AST -/

inductive SrcItem
  | nuc (text : List Char)                 -- body of a quoted region
  | ref (name : String) (star : Bool)      -- `x` / `x*`
  | domains (name : String) (star : Bool)  -- `domains(x)` / `domains(x*)`
deriving Repr, DecidableEq, BEq

inductive OptSrc
  | default                -- no bracket: 1.0
  | noOpt                  -- `[no-opt]`: 0.0
  | value (text : String)  -- `[<decimal>nt]`
deriving Repr, DecidableEq, BEq

inductive Stmt
  | seq (name : String) (items : List SrcItem) (len : Option Nat)
  | strand (dummy : Bool) (name : String) (items : List SrcItem) (len : Option Nat)
  | struct (opt : OptSrc) (name : String) (strands : List String) (domain : Bool) (text : List Char)
  | kinetic (low high : Option String) (ins outs : List String)
deriving Repr, DecidableEq, BEq

structure Port where
  seq : String
  star : Bool
  struct : Option String
deriving Repr, DecidableEq, BEq

structure Src where
  name : String
  params : List String
  inputs : List Port
  outputs : List Port
  stmts : List Stmt
deriving Repr, DecidableEq, BEq

/-! ### object model -/

structure BaseRef where
  name : String
  rev : Bool
  len : Nat
deriving Repr, DecidableEq, BEq

def BaseRef.inv (b : BaseRef) : BaseRef := { b with rev := !b.rev }

structure ItemRef where
  name : String
  rev : Bool
  len : Nat
  isSup : Bool
deriving Repr, DecidableEq, BEq

def ItemRef.inv (i : ItemRef) : ItemRef := { i with rev := !i.rev }
def ItemRef.dummy (i : ItemRef) : Bool := i.len == 0

structure SeqE where
  name : String
  isSup : Bool
  anon : Bool
  len : Nat
  const : List Char           -- atomic sequences: long-form constraint
  items : List ItemRef        -- super-sequences: `seqs`
  bases : List BaseRef        -- `base_seqs` of the forward view
  inStrand : Bool := false
deriving Repr, DecidableEq, BEq

def SeqE.ref (e : SeqE) : ItemRef := ⟨e.name, false, e.len, e.isSup⟩

structure StrandE where
  name : String
  dummy : Bool
  len : Nat
  items : List ItemRef
  bases : List BaseRef
  inStructure : Bool := false
deriving Repr, DecidableEq, BEq

/-- a decimal numeral as the source wrote it: integer digits and fractional digits -/
structure Dec where
  int : List Char
  frac : List Char
deriving Repr, DecidableEq, BEq

structure StructE where
  name : String
  opt : Dec
  strands : List String
  struct : List Char
  bases : List BaseRef
deriving Repr, DecidableEq, BEq

structure KinE where
  name : String
  ins : List String
  outs : List String
  low : Option Dec      -- none = 0
  high : Option Dec     -- none = inf
deriving Repr, DecidableEq, BEq

structure St where
  name : String
  pfx : String
  params : List String := []
  seqs : List SeqE := []          -- `seqs` dict in insertion order; `base_seqs` / `sup_seqs` are its two filters
  strands : List StrandE := []
  structs : List StructE := []
  kins : List KinE := []
  inputSeqs : List ItemRef := []
  inputStructs : List (Option String) := []
  outputSeqs : List ItemRef := []
  outputStructs : List (Option String) := []
deriving Repr, DecidableEq, BEq

inductive Err
  | dupSeq | dupStrand | dupStruct | undefinedSeq | undefinedSup | undefinedStrand | undefinedStruct
  | constraint (e : Constraint.Err) | tooManyWild | lengthMismatch | wildNoLength | tooShort
  | zeroStrand | structNotation | structCount | structDomains | structLen | unbalanced
  | badNumber | superSeqStatement | arity | other
deriving Repr, DecidableEq, BEq

def St.findSeq (s : St) (n : String) : Option SeqE := s.seqs.find? (·.name == n)
def St.findStrand (s : St) (n : String) : Option StrandE := s.strands.find? (·.name == n)
def St.findStruct (s : St) (n : String) : Option StructE := s.structs.find? (·.name == n)
def St.baseSeqs (s : St) : List SeqE := s.seqs.filter (!·.isSup)
def St.supSeqs (s : St) : List SeqE := s.seqs.filter (·.isSup)

/-- `seq.seqs` / `(~seq).seqs` of a super-sequence view -/
def itemsOfView (e : SeqE) (rev : Bool) : List ItemRef :=
  if rev then e.items.reverse.map ItemRef.inv else e.items

/-- `base_seqs` of a view -/
def basesOfView (e : SeqE) (rev : Bool) : List BaseRef :=
  if rev then e.bases.reverse.map BaseRef.inv else e.bases

/-! ### `clean_const` -/

/-- a constraint item after name resolution -/
inductive CItem
  | obj (i : ItemRef) (bases : List BaseRef)     -- a sequence / super-sequence view and its `base_seqs`
  | nuc (parts : List (Mult × Char))
deriving Repr

def cleanConst (s : St) : List SrcItem → Except Err (List CItem)
  | [] => .ok []
  | .ref name star :: r => do
    match s.findSeq name with
    | none => throw .undefinedSeq
    | some e =>
      let rest ← cleanConst s r
      pure (.obj ⟨e.name, star, e.len, e.isSup⟩ (basesOfView e star) :: rest)
  | .domains name star :: r => do
    match s.findSeq name with
    | some e =>
      if !e.isSup then throw .undefinedSup
      let its := itemsOfView e star
      let objs ← its.mapM (fun (i : ItemRef) => match s.findSeq i.name with
        | some ie => pure (CItem.obj i (basesOfView ie i.rev))
        | none => throw Err.other)
      let rest ← cleanConst s r
      pure (objs ++ rest)
    | none => throw .undefinedSup
  | .nuc text :: r => do
    let rest ← cleanConst s r
    pure (.nuc (parseQuoted text) :: rest)

/-! ### `SuperSequence.__init__` (also `Strand`) -/

def anonName (k : Nat) : String := "_Anon" ++ toString k

structure Built where
  items : List ItemRef
  bases : List BaseRef
  len : Nat
  newAnon : List SeqE          -- anonymous sequences created, in creation order
  anon : Nat                   -- counter afterwards
deriving Repr

structure Acc where
  items : List ItemRef := []
  bases : List BaseRef := []
  len : Nat := 0
  newAnon : List SeqE := []
  anon : Nat
  wild : Option (Nat × Nat × List (Mult × Char)) := none

def mkAnon (k : Nat) (len : Nat) (const : List Char) : SeqE :=
  ⟨anonName k, false, true, len, const, [], [⟨anonName k, false, len⟩], false⟩

def buildStep (a : Acc) : CItem → Except Err Acc
  | .obj i bs => .ok { a with items := a.items ++ [i], bases := a.bases ++ bs, len := a.len + i.len }
  | .nuc parts =>
    match resolve parts none with
    | .ok (l, c) =>
      let e := mkAnon a.anon l c
      .ok { a with items := a.items ++ [e.ref], bases := a.bases ++ e.bases, len := a.len + l,
                   newAnon := a.newAnon ++ [e], anon := a.anon + 1 }
    | .error .wildNoLength =>
      if a.wild.isSome then .error .tooManyWild
      else .ok { a with wild := some (a.items.length, a.bases.length, parts) }
    | .error e => .error (.constraint e)

def buildFold : List CItem → Acc → Except Err Acc
  | [], a => .ok a
  | c :: r, a => match buildStep a c with
    | .ok a' => buildFold r a'
    | .error e => .error e

def insertAt {α} (l : List α) (i : Nat) (x : α) : List α := l.take i ++ x :: l.drop i

def buildSuper (anon : Nat) (items : List CItem) (length : Option Nat) : Except Err Built := do
  let a ← buildFold items { anon := anon }
  match a.wild with
  | none =>
    match length with
    | some l => if a.len == l then pure ⟨a.items, a.bases, a.len, a.newAnon, a.anon⟩ else throw .lengthMismatch
    | none => pure ⟨a.items, a.bases, a.len, a.newAnon, a.anon⟩
  | some (i, j, parts) =>
    match length with
    | none => throw .wildNoLength
    | some l =>
      if l < a.len then throw .tooShort
      match resolve parts (some (l - a.len)) with
      | .error e => throw (.constraint e)
      | .ok (wl, c) =>
        let e := mkAnon a.anon wl c
        pure ⟨insertAt a.items i e.ref, insertAt a.bases j ⟨e.name, false, wl⟩, a.len + wl,
              a.newAnon ++ [e], a.anon + 1⟩

/-- register the anonymous sequences of a freshly built object in `seqs` order of its items
    (`for seq in sup.seqs: … if seq.name not in self.seqs`) -/
def registerAnon (s : St) (b : Built) : St :=
  b.items.foldl (fun s i =>
    if (s.findSeq i.name).isSome then s
    else match b.newAnon.find? (·.name == i.name) with
      | some e => { s with seqs := s.seqs ++ [e] }
      | none => s) s

/-! ### statements -/

def parseDec (s : String) : Option Dec :=
  let cs := s.toList
  let ip := cs.takeWhile Char.isDigit
  let rest := cs.dropWhile Char.isDigit
  match rest with
  | [] => if ip.isEmpty then none else some ⟨ip, []⟩
  | '.' :: f => if f.all Char.isDigit && !(ip.isEmpty && f.isEmpty) then some ⟨ip, f⟩ else none
  | _ => none

def Dec.isZero (d : Dec) : Bool := d.int.all (· == '0') && d.frac.all (· == '0')
def stripZeros (l : List Char) : List Char := match l.dropWhile (· == '0') with | [] => ['0'] | r => r
/-- `"%d" % float`: truncation -/
def Dec.fmtD (d : Dec) : List Char := stripZeros d.int
/-- drop trailing zeros -/
def stripTrail (l : List Char) : List Char := (l.reverse.dropWhile (· == '0')).reverse
/-- `"%g" % float` for decimals below 10^6 with at most six significant digits: shortest plain form -/
def Dec.fmtG (d : Dec) : List Char :=
  match stripTrail d.frac with
  | [] => stripZeros d.int
  | f => stripZeros d.int ++ '.' :: f
/-- `"%f" % float` for decimals with at most six fractional digits -/
def Dec.fmtF (d : Dec) : List Char := stripZeros d.int ++ '.' :: (d.frac ++ List.replicate (6 - d.frac.length) '0').take 6

def markInStrand (s : St) (bs : List BaseRef) : St :=
  { s with seqs := s.seqs.map (fun e => if bs.any (·.name == e.name) then { e with inStrand := true } else e) }

def addStmt (s : St) (anon : Nat) : Stmt → Except Err (St × Nat)
  | .seq name items length =>
    if (s.findSeq name).isSome then .error .dupSeq
    else match items with
    | [.nuc text] =>
      match resolve (parseQuoted text) length with
      | .ok (l, c) => .ok ({ s with seqs := s.seqs ++ [⟨name, false, false, l, c, [], [⟨name, false, l⟩], false⟩] }, anon)
      | .error e => .error (.constraint e)
    | _ => do
      let cs ← cleanConst s items
      let b ← buildSuper anon cs length
      let s1 := { s with seqs := s.seqs ++ [⟨name, true, false, b.len, [], b.items, b.bases, false⟩] }
      pure (registerAnon s1 b, b.anon)
  | .strand dummy name items length => do
    if (s.findStrand name).isSome then throw .dupStrand
    let cs ← cleanConst s items
    let b ← buildSuper anon cs length
    if b.len == 0 then throw .zeroStrand
    let s1 := { s with strands := s.strands ++ [⟨name, dummy, b.len, b.items, b.bases, false⟩] }
    let s2 := registerAnon s1 b
    pure (markInStrand s2 b.bases, b.anon)
  | .struct opt name strands domain text => do
    if (s.findStruct name).isSome then throw .dupStruct
    let objs ← strands.mapM (fun n => match s.findStrand n with
      | some o => pure o | none => throw Err.undefinedStrand)
    let dp ← match Notation.compileStruct text with
      | some d => pure d | none => throw Err.structNotation
    let full ← if domain then
        (match Notation.domainExpand dp (objs.map (fun o => o.items.map (·.len))) with
         | some f => pure f | none => throw Err.structDomains)
      else pure dp
    if !Notation.sizesOk full (objs.map (·.len)) then throw .structLen
    let optv ← match opt with
      | .default => pure (⟨['1'], []⟩ : Dec)
      | .noOpt => pure ⟨['0'], []⟩
      | .value t => match parseDec t with | some d => pure d | none => throw Err.badNumber
    let s1 : St := { s with strands := s.strands.map (fun (o : StrandE) => if strands.contains o.name then { o with inStructure := true } else o) }
    let se : StructE := ⟨name, optv, strands, full, objs.flatMap (·.bases)⟩
    pure ({ s1 with structs := s1.structs ++ [se] }, anon)
  | .kinetic low high ins outs => do
    if !(ins ++ outs).all (fun n => (s.findStruct n).isSome) then throw .undefinedStruct
    let lo ← match low with
      | none => pure none
      | some t => match parseDec t with | some d => pure (if d.isZero then none else some d) | none => throw Err.badNumber
    let hi ← match high with
      | none => pure none
      | some t => match parseDec t with | some d => pure (if d.isZero then none else some d) | none => throw Err.badNumber
    pure ({ s with kins := s.kins ++ [⟨"Kin" ++ toString s.kins.length, ins, outs, lo, hi⟩] }, anon)

def addStmts (s : St) (anon : Nat) : List Stmt → Except Err (St × Nat)
  | [] => .ok (s, anon)
  | st :: r => match addStmt s anon st with
    | .ok (s', a') => addStmts s' a' r
    | .error e => .error e

def addIO (s : St) (inputs outputs : List Port) : Except Err St := do
  let go := fun (ps : List Port) => ps.mapM (fun (p : Port) => do
    match s.findSeq p.seq with
    | none => throw Err.undefinedSeq
    | some e =>
      match p.struct with
      | some sn => if (s.findStruct sn).isNone then throw Err.undefinedStruct
      | none => pure ()
      pure ((⟨e.name, p.star, e.len, e.isSup⟩ : ItemRef), p.struct))
  let ins ← go inputs
  let outs ← go outputs
  pure { s with inputSeqs := ins.map (·.1), inputStructs := ins.map (·.2),
                outputSeqs := outs.map (·.1), outputStructs := outs.map (·.2) }

/-- `load_component` after parameter substitution -/
def load (src : Src) (args : Nat) (pfx : String) (anon : Nat) : Except Err (St × Nat) := do
  if src.params.length != args then throw .arity
  let (s, a) ← addStmts { name := src.name, pfx := pfx, params := src.params } anon src.stmts
  let s ← addIO s src.inputs src.outputs
  pure (s, a)

/-! ### emission -/

def fullName (pfx : String) (n : String) (rev : Bool) : String := pfx ++ n ++ (if rev then "*" else "")

def joinWith (sep : String) : List String → String
  | [] => ""
  | [a] => a
  | a :: r => a ++ sep ++ joinWith sep r

def itemNames (pfx : String) (its : List ItemRef) : String :=
  joinWith " " ((its.filter (!·.dummy)).map (fun i => fullName pfx i.name i.rev))

/-- `output_synthesis`: the non-comment lines written for one component -/
def emitPil (s : St) : List String :=
  let p := s.pfx
  ((s.baseSeqs.filter (·.len != 0)).map (fun e =>
      "sequence " ++ p ++ e.name ++ " = " ++ String.ofList e.const ++ " : " ++ toString e.len))
  ++ ((s.supSeqs.filter (·.len != 0)).map (fun e =>
      "sup-sequence " ++ p ++ e.name ++ " = " ++ itemNames p e.items ++ " : " ++ toString e.len))
  ++ (s.strands.map (fun e =>
      "strand " ++ (if e.dummy then "[dummy] " else "") ++ p ++ e.name ++ " = " ++ itemNames p e.items ++ " : " ++ toString e.len))
  ++ (s.structs.map (fun e =>
      "structure [" ++ String.ofList e.opt.fmtG ++ "nt] " ++ p ++ e.name ++ " = " ++
        joinWith " + " (e.strands.map (p ++ ·)) ++ " : " ++ String.ofList e.struct))
  ++ (s.kins.map (fun k =>
      "kinetic [" ++ (match k.low with | some d => String.ofList d.fmtF | none => "0.000000") ++ " /M/s < k < " ++
        (match k.high with | some d => String.ofList d.fmtF | none => "inf") ++ " /M/s] " ++
        joinWith " + " (k.ins.map (p ++ ·)) ++ " -> " ++ joinWith " + " (k.outs.map (p ++ ·))))

/-- `output_nupack` -/
def emitDes (s : St) : List String :=
  let p := s.pfx
  (s.structs.map (fun e => "structure " ++ p ++ e.name ++ " = " ++ String.ofList e.struct))
  ++ ((s.baseSeqs.filter (·.len != 0)).map (fun e => "sequence " ++ p ++ e.name ++ " = " ++ String.ofList e.const))
  ++ (s.structs.flatMap (fun e =>
      [p ++ e.name ++ " : " ++ joinWith " " ((e.bases.filter (·.len != 0)).map (fun b => fullName p b.name b.rev))]
      ++ (if e.opt.isZero then [] else [p ++ e.name ++ " < " ++ String.ofList e.opt.fmtF])))

end Pepper.Comp
