import PepperModel.Pil
import PepperModel.Closure
import PepperModel.Generated.Tables
import PepperModel.Ssm
/-!
# The designer front-end: `design/constraint_load.py` and the file-writing part of
# `design/spurious_design.py : design()`; the reader `load_input_files` of `spuriousSSM.c`

Mirrors, for a loaded `Pil.Spec` (= `PIL_class.Spec` after `PIL_parser.load_spec`):
`index_func_strand`, `index_func_struct` (`strand_start`, `struct_start`, `get_index`,
`get_index_strand`), `Constraints.init / add_eq / add_wc / propagate / propagate_templates / get_reps /
dump`, `intersect_groups`, `Convert.get_constraints`; then `eq_map / wc_map / st_map / print_list`
and `load_input_files`.

Translation choices
* **Nodes.**  The Python keys are `int` layout positions and `(num, x)` tuples (`num` = 0,1 for the
  first base sequence and its `.wc` view, …, then the super-sequences and their `.wc` views).  They are
  encoded into `Nat` for `Closure.propagate`: position `i ↦ i` (`i < P`, `P` = final `prev_length`
  of the layout), `(num, x) ↦ P + num·M + x` with `M` = 1 + the longest sequence.  `isinstance(y, int)`
  is `y < P`.
* **Dicts** `eq`, `wc`, `st`, `done`, `eq_rep`, `wc_rep` are `Tab`s (an array indexed by the encoded
  node; `Tab.get`/`Tab.set` behave like a finite map, `PepperProofs/ConstraintGenGraph.lean: Tab.get_set`) plus
  the key list in insertion order where the Python iterates (`st.items()` = init order, `eq.keys()`
  after `propagate` = order of the result of `Closure.propagate`).
* **Order of the seeding.**  The Python interleaves `init` and `add_wc` for the reversed views and runs
  the seeding loops in a fixed order.  The model first produces the list of `init`s (same order), then
  the `eq` links and the `wc` links (each in the Python's order); `eq` and `wc` are different dicts, so
  only the order inside each matters for their contents.  Exceptions: `init` twice ↦ `.assertion`;
  `add_*` on a key that was never initialised ↦ `.keyError`; `strand_start[..] == None` used in
  arithmetic (structure layout, strand that occurs in no structure) ↦ `.layout`; the `assert`s of
  `get_index*` ↦ `.assertion`.  Where two of them could fire in one run the model reports the `init`
  one first; on specifications produced by `Pil.load` only `.layout` is possible.
* **`propagate_templates`**: `for x, st in list(self.st.items())` is a fold over the *snapshot* of
  the items; `ValueError` ↦ `.overconstrained`; a `KeyError` of `group[..]`, `rev_group[..]`,
  `complement[..]` ↦ `.keyError`; the two `assert y not in done` ↦ `.assertion`.  `complement[st]` in
  the last loop is evaluated once per element, i.e. not at all when `wc[x]` is empty.
* **`get_reps`** re-reads `eq_rep[x]` / `wc_rep[x]` in every iteration like the Python.
* **`dump`**: `max([])` (no integer key) ↦ `.noPositions`.
* Blank counts are the generated constants `strandGap`, `structGapStrands`, `structGapStructs`
  (measured on the working tree by `extract_tables.py`).
-/
namespace Pepper.ConstraintGen
open Pepper Pepper.Pil

/-! ## finite maps on encoded nodes -/

abbrev Tab (α : Type) := Array (Option α)

namespace Tab
variable {α : Type}
def empty : Tab α := #[]
def get (t : Tab α) (k : Nat) : Option α := match t[k]? with | some v => v | none => none
def set (t : Tab α) (k : Nat) (v : α) : Tab α :=
  if k < t.size then t.setIfInBounds k (some v)
  else (t ++ Array.replicate (k - t.size) none).push (some v)
def has (t : Tab α) (k : Nat) : Bool := (t.get k).isSome
end Tab

inductive Layout | strand | struct
deriving Repr, DecidableEq

inductive Err
  | overconstrained   -- the ValueError of propagate_templates
  | keyError          -- a KeyError (missing code, link on an uninitialised index)
  | assertion         -- an `assert`
  | layout            -- `None + int`: structure layout with a strand that occurs in no structure
  | noPositions       -- `max([])` in dump
deriving Repr, DecidableEq

/-- `for a in l: f(a)` collecting results, stopping at the first exception -/
def mapME {α β : Type} (f : α → Except Err β) : List α → Except Err (List β)
  | [] => .ok []
  | a :: r => match f a with
    | .error e => .error e
    | .ok b => match mapME f r with
      | .error e => .error e
      | .ok bs => .ok (b :: bs)

def flatME {α β : Type} (f : α → Except Err (List β)) (l : List α) : Except Err (List β) :=
  match mapME f l with
  | .error e => .error e
  | .ok ls => .ok ls.flatten

/-- `enumerate` -/
def enum {α : Type} (l : List α) : List (Nat × α) := (List.range l.length).zip l

/-- items with the running `offset` of the Python loops (`offset += item.length`) -/
def withOffsets {α : Type} (len : α → Nat) : List α → Nat → List (Nat × α)
  | [], _ => []
  | a :: r, off => (off, a) :: withOffsets len r (off + len a)

/-! ## layout (`index_func_strand`, `index_func_struct`) -/

structure Lay where
  strandStart : List (Option Nat)   -- `strand_start`, indexed by `strand.num`
  structStart : List Nat            -- `struct_start`, indexed by `struct.num`
  total : Nat                       -- final `prev_length`
deriving Repr

def strandIdx (spec : Spec) (n : String) : Option Nat := spec.strands.findIdx? (·.name == n)

/-- `struct.strands` as (strand.num, strand) -/
def structStrands (spec : Spec) (so : StructObj) : List (Nat × StrandObj) :=
  so.strands.filterMap (fun n => match strandIdx spec n, spec.findStrand n with
    | some i, some o => some (i, o)
    | _, _ => none)

def layStrandAux : List StrandObj → Nat → List (Option Nat) × Nat
  | [], p => ([], p)
  | s :: r, p =>
    let (l, t) := layStrandAux r (p + s.len + Generated.strandGap)
    (some p :: l, t)

def layStrand (spec : Spec) : Lay :=
  let (l, t) := layStrandAux spec.strands 0
  ⟨l, [], t⟩

def layStructStrands : List (Nat × StrandObj) → List (Option Nat) → Nat → List (Option Nat) × Nat
  | [], ss, p => (ss, p)
  | (i, o) :: r, ss, p =>
    let ss' := if (ss.getD i none).isNone then ss.set i (some p) else ss
    layStructStrands r ss' (p + o.len + Generated.structGapStrands)

def layStructAux (spec : Spec) : List StructObj → List (Option Nat) → Nat → List Nat × List (Option Nat) × Nat
  | [], ss, p => ([], ss, p)
  | so :: r, ss, p =>
    let (ss', p') := layStructStrands (structStrands spec so) ss p
    let (sts, ss'', t) := layStructAux spec r ss' (p' + (Generated.structGapStructs - Generated.structGapStrands))
    (p :: sts, ss'', t)

def layStruct (spec : Spec) : Lay :=
  let (sts, ss, t) := layStructAux spec spec.structs (List.replicate spec.strands.length none) 0
  ⟨ss, sts, t⟩

def layOf (mode : Layout) (spec : Spec) : Lay :=
  match mode with
  | .strand => layStrand spec
  | .struct => layStruct spec

/-- `get_index_strand(strand, index)` (same text in both layouts) -/
def getIndexStrand (lay : Lay) (num len index : Nat) : Except Err Nat :=
  if index < len then
    match lay.strandStart.getD num none with
    | some s => .ok (s + index)
    | none => .error .layout
  else .error .assertion

/-- loop of `get_index` in the strand layout -/
def getIndexS (lay : Lay) : List (Nat × StrandObj) → Nat → Except Err Nat
  | [], _ => .error .assertion
  | (i, o) :: r, index =>
    if index ≥ o.len then getIndexS lay r (index - o.len) else getIndexStrand lay i o.len index

/-- loop of `get_index` in the structure layout -/
def getIndexT : List (Nat × StrandObj) → Nat → Nat → Except Err Nat
  | [], _, _ => .error .assertion
  | (_, o) :: r, index, result =>
    if index ≥ o.len then getIndexT r (index - o.len) (result + o.len + Generated.structGapStrands)
    else .ok (result + index)

def getIndex (mode : Layout) (spec : Spec) (lay : Lay) (sidx : Nat) (so : StructObj) (index : Nat) :
    Except Err Nat :=
  if index < so.len then
    match mode with
    | .strand => getIndexS lay (structStrands spec so) index
    | .struct => getIndexT (structStrands spec so) index (lay.structStart.getD sidx 0)
  else .error .assertion

/-! ## sequence nodes -/

/-- `seq.num` of a view -/
def numOf (spec : Spec) (i : ItemRef) : Option Nat :=
  match spec.baseSeqs.findIdx? (·.name == i.name) with
  | some k => some (2 * k + (if i.rev then 1 else 0))
  | none => match spec.supSeqs.findIdx? (·.name == i.name) with
    | some k => some (2 * spec.baseSeqs.length + 2 * k + (if i.rev then 1 else 0))
    | none => none

def lenOf (spec : Spec) (i : ItemRef) : Nat :=
  match spec.findSeq i.name with
  | some o => o.len
  | none => 0

structure Enc where
  P : Nat
  M : Nat
deriving Repr

def Enc.sq (e : Enc) (num x : Nat) : Nat := e.P + num * e.M + x

def maxLen (spec : Spec) : Nat := spec.seqs.foldl (fun m o => max m o.len) 0

def encOf (spec : Spec) (lay : Lay) : Enc := ⟨lay.total, maxLen spec + 1⟩

def sqOf (spec : Spec) (e : Enc) (i : ItemRef) (x : Nat) : Except Err Nat :=
  match numOf spec i with
  | some n => .ok (e.sq n x)
  | none => .error .keyError

/-! ## the seeding of `get_constraints` -/

/-- the `init` calls of the layout part -/
def layoutInits (mode : Layout) (spec : Spec) (lay : Lay) : Except Err (List (Nat × Char)) :=
  match mode with
  | .struct =>
    flatME (fun (p : Nat × StructObj) =>
      mapME (fun x => match getIndex mode spec lay p.1 p.2 x with
        | .ok i => .ok (i, 'N') | .error e => .error e) (List.range p.2.len)) (enum spec.structs)
  | .strand =>
    flatME (fun (p : Nat × StrandObj) =>
      mapME (fun x => match getIndexStrand lay p.1 p.2.len x with
        | .ok i => .ok (i, 'N') | .error e => .error e) (List.range p.2.len)) (enum spec.strands)

/-- the `init` calls for sequences and super-sequences (forward view, then the `.wc` view) -/
def seqInits (spec : Spec) (e : Enc) : List (Nat × Char) :=
  (enum spec.baseSeqs).flatMap (fun (k, o) =>
    (enum o.template).map (fun (x, c) => (e.sq (2 * k) x, c)) ++
    (List.range o.len).map (fun x => (e.sq (2 * k + 1) x, 'N')))
  ++ (enum spec.supSeqs).flatMap (fun (k, o) =>
    (List.range o.len).map (fun x => (e.sq (2 * spec.baseSeqs.length + 2 * k) x, 'N')) ++
    (List.range o.len).map (fun x => (e.sq (2 * spec.baseSeqs.length + 2 * k + 1) x, 'N')))

/-- structure layout: "constrain all instances of the same strand to be equal" -/
def copyEdges (mode : Layout) (spec : Spec) (lay : Lay) : Except Err (List (Nat × Nat)) :=
  match mode with
  | .strand => .ok []
  | .struct =>
    flatME (fun (p : Nat × StructObj) =>
      flatME (fun (q : Nat × Nat × StrandObj) =>
        mapME (fun x =>
          match getIndexStrand lay q.2.1 q.2.2.len x with
          | .error e => .error e
          | .ok x2 => match getIndex mode spec lay p.1 p.2 (q.1 + x) with
            | .error e => .error e
            | .ok y2 => .ok (x2, y2)) (List.range q.2.2.len))
        (withOffsets (fun (s : Nat × StrandObj) => s.2.len) (structStrands spec p.2) 0))
      (enum spec.structs)

/-- "structural constraints": one `add_wc` per bond -/
def bondEdges (mode : Layout) (spec : Spec) (lay : Lay) : Except Err (List (Nat × Nat)) :=
  flatME (fun (p : Nat × StructObj) =>
    mapME (fun (b : Nat × Nat) =>
      match getIndex mode spec lay p.1 p.2 b.1 with
      | .error e => .error e
      | .ok x2 => match getIndex mode spec lay p.1 p.2 b.2 with
        | .error e => .error e
        | .ok y2 => .ok (x2, y2)) p.2.bonds)
    (enum spec.structs)

/-- the `add_wc` of every reversed view: `(seq.wc.num, x) ~ (seq.num, length - x - 1)` -/
def viewEdges (spec : Spec) (e : Enc) : List (Nat × Nat) :=
  (enum spec.baseSeqs).flatMap (fun (k, o) =>
    (List.range o.len).map (fun x => (e.sq (2 * k + 1) x, e.sq (2 * k) (o.len - x - 1))))
  ++ (enum spec.supSeqs).flatMap (fun (k, o) =>
    (List.range o.len).map (fun x =>
      (e.sq (2 * spec.baseSeqs.length + 2 * k + 1) x, e.sq (2 * spec.baseSeqs.length + 2 * k) (o.len - x - 1))))

/-- "equality constraints": every later member of an `equal` line against the first -/
def equalEdges (spec : Spec) (e : Enc) : Except Err (List (Nat × Nat)) :=
  flatME (fun (its : List ItemRef) =>
    match its with
    | [] => .error .assertion
    | first :: rest =>
      flatME (fun (it : ItemRef) =>
        if lenOf spec it != lenOf spec first then .error .assertion
        else mapME (fun x =>
          match sqOf spec e first x with
          | .error er => .error er
          | .ok a => match sqOf spec e it x with
            | .error er => .error er
            | .ok b => .ok (a, b)) (List.range (lenOf spec it))) rest)
    spec.equals

/-- "super-sequence constraints" -/
def supEdges (spec : Spec) (e : Enc) : Except Err (List (Nat × Nat)) :=
  flatME (fun (p : Nat × SeqObj) =>
    flatME (fun (q : Nat × ItemRef) =>
      mapME (fun x =>
        match sqOf spec e q.2 x with
        | .error er => .error er
        | .ok b => .ok (e.sq (2 * spec.baseSeqs.length + 2 * p.1) (q.1 + x), b)) (List.range (lenOf spec q.2)))
      (withOffsets (lenOf spec) p.2.items 0))
    (enum spec.supSeqs)

/-- "strand constraints" -/
def strandEdges (spec : Spec) (lay : Lay) (e : Enc) : Except Err (List (Nat × Nat)) :=
  flatME (fun (p : Nat × StrandObj) =>
    flatME (fun (q : Nat × ItemRef) =>
      mapME (fun x =>
        match getIndexStrand lay p.1 p.2.len (q.1 + x) with
        | .error er => .error er
        | .ok a => match sqOf spec e q.2 x with
          | .error er => .error er
          | .ok b => .ok (a, b)) (List.range (lenOf spec q.2)))
      (withOffsets (lenOf spec) p.2.items 0))
    (enum spec.strands)

structure Seeds where
  P : Nat
  inits : List (Nat × Char)
  eqE : List (Nat × Nat)
  wcE : List (Nat × Nat)
deriving Repr

def seeds (mode : Layout) (spec : Spec) : Except Err Seeds :=
  let lay := layOf mode spec
  let e := encOf spec lay
  match layoutInits mode spec lay with
  | .error er => .error er
  | .ok li =>
  match copyEdges mode spec lay with
  | .error er => .error er
  | .ok ce =>
  match bondEdges mode spec lay with
  | .error er => .error er
  | .ok be =>
  match equalEdges spec e with
  | .error er => .error er
  | .ok ee =>
  match supEdges spec e with
  | .error er => .error er
  | .ok se =>
  match strandEdges spec lay e with
  | .error er => .error er
  | .ok te =>
    .ok ⟨lay.total, li ++ seqInits spec e, ce ++ ee ++ se ++ te, be ++ viewEdges spec e⟩

/-! ## `Constraints` -/

structure Cons where
  keys : List Nat              -- insertion order of `eq` / `wc` / `st`
  eq : Tab (List Nat)
  wc : Tab (List Nat)
  st : Tab Char
deriving Repr

/-- all the `init` calls; fails on the duplicate assertion -/
def initAll : List (Nat × Char) → Cons → Except Err Cons
  | [], c => .ok c
  | (x, letter) :: r, c =>
    if c.eq.has x || c.wc.has x || c.st.has x then .error .assertion
    else initAll r ⟨c.keys ++ [x], c.eq.set x [], c.wc.set x [], c.st.set x letter⟩

/-- `d[x].append(y); d[y].append(x)` -/
def addLink (t : Tab (List Nat)) (x y : Nat) : Except Err (Tab (List Nat)) :=
  match t.get x with
  | none => .error .keyError
  | some lx =>
    let t1 := t.set x (lx ++ [y])
    match t1.get y with
    | none => .error .keyError
    | some ly => .ok (t1.set y (ly ++ [x]))

def addLinks : List (Nat × Nat) → Tab (List Nat) → Except Err (Tab (List Nat))
  | [], t => .ok t
  | (x, y) :: r, t => match addLink t x y with
    | .error e => .error e
    | .ok t' => addLinks r t'

def build (s : Seeds) : Except Err Cons :=
  match initAll s.inits ⟨[], Tab.empty, Tab.empty, Tab.empty⟩ with
  | .error e => .error e
  | .ok c =>
  match addLinks s.eqE c.eq with
  | .error e => .error e
  | .ok eq =>
  match addLinks s.wcE c.wc with
  | .error e => .error e
  | .ok wc => .ok { c with eq := eq, wc := wc }

def adjOf (keys : List Nat) (t : Tab (List Nat)) : Closure.Adj :=
  keys.map (fun k => (k, (t.get k).getD []))

/-- `intersect_groups` with the exception classes of `propagate_templates` -/
def isect (tbl : CodeTable) (a b : Char) : Except Err Char :=
  match tbl.intersect a b with
  | .ok e => .ok e
  | .error .empty => .error .overconstrained
  | .error .key => .error .keyError

structure PT where
  st : Tab Char
  done : Tab Unit

/-- `for y in self.eq[x]: assert y not in done; st = intersect_groups(st, self.st[y])` -/
def meetEq (tbl : CodeTable) (s : PT) : List Nat → Char → Except Err Char
  | [], c => .ok c
  | y :: r, c =>
    if s.done.has y then .error .assertion
    else match s.st.get y with
      | none => .error .keyError
      | some sy => match isect tbl c sy with
        | .error e => .error e
        | .ok c' => meetEq tbl s r c'

/-- `for y in self.wc[x]: assert y not in done; st = intersect_groups(st, complement[self.st[y]])` -/
def meetWc (tbl : CodeTable) (s : PT) : List Nat → Char → Except Err Char
  | [], c => .ok c
  | y :: r, c =>
    if s.done.has y then .error .assertion
    else match s.st.get y with
      | none => .error .keyError
      | some sy => match tbl.complOf sy with
        | none => .error .keyError
        | some cy => match isect tbl c cy with
          | .error e => .error e
          | .ok c' => meetWc tbl s r c'

def applyTo (s : PT) (c : Char) (l : List Nat) : PT :=
  l.foldl (fun s y => ⟨s.st.set y c, s.done.set y ()⟩) s

/-- body of the loop of `propagate_templates` for the snapshot item `(x, letter)` -/
def ptStep (tbl : CodeTable) (r : Closure.Res) (s : PT) (item : Nat × Char) : Except Err PT :=
  let (x, letter) := item
  if s.done.has x then .ok s
  else match r.get x with
    | none => .error .keyError
    | some (E, W) =>
      if W.contains x then .error .overconstrained
      else match meetEq tbl s E letter with
        | .error e => .error e
        | .ok c1 => match meetWc tbl s W c1 with
          | .error e => .error e
          | .ok c =>
            let s1 := applyTo s c E
            match W with
            | [] => .ok s1
            | _ :: _ => match tbl.complOf c with
              | none => .error .keyError
              | some cc => .ok (applyTo s1 cc W)

def ptLoop (tbl : CodeTable) (r : Closure.Res) : List (Nat × Char) → PT → Except Err PT
  | [], s => .ok s
  | it :: rest, s => match ptStep tbl r s it with
    | .error e => .error e
    | .ok s' => ptLoop tbl r rest s'

def sameKeys (a b : List Nat) : Bool := a.all b.contains && b.all a.contains

/-- `propagate_templates`; `items` is `list(self.st.items())` -/
def propagateTemplates (tbl : CodeTable) (keys : List Nat) (r : Closure.Res) (st : Tab Char) :
    Except Err (Tab Char) :=
  if !sameKeys keys (r.map (·.1)) then .error .assertion
  else
    let items := keys.filterMap (fun k => (st.get k).map (fun c => (k, c)))
    match ptLoop tbl r items ⟨st, Tab.empty⟩ with
    | .error e => .error e
    | .ok s => .ok s.st

/-- `min_([y for y in l if isvalid(y)])` -/
def minValid (P : Nat) (l : List Nat) : Option Nat :=
  l.foldl (fun m y => if y < P then (match m with | none => some y | some v => some (min v y)) else m) none

structure Reps where
  eqRep : Tab (Option Nat)
  wcRep : Tab (Option Nat)

def repGet (t : Tab (Option Nat)) (x : Nat) : Option Nat := (t.get x).getD none

/-- body of the loop of `get_reps` -/
def repStep (P : Nat) (s : Reps) (ent : Nat × List Nat × List Nat) : Reps :=
  let (x, E, W) := ent
  let s0 : Reps := ⟨s.eqRep.set x (minValid P E), s.wcRep.set x (minValid P W)⟩
  let s1 := E.foldl (fun (s : Reps) y =>
    let e1 := s.eqRep.set y (repGet s.eqRep x)
    ⟨e1, s.wcRep.set y (repGet s.wcRep x)⟩) s0
  W.foldl (fun (s : Reps) y =>
    let e1 := s.eqRep.set y (repGet s.wcRep x)
    ⟨e1, s.wcRep.set y (repGet e1 x)⟩) s1

def getReps (P : Nat) (r : Closure.Res) : Reps := r.foldl (repStep P) ⟨Tab.empty, Tab.empty⟩

abbrev Arrays := List (Option Nat) × List (Option Nat) × List (Option Char)

/-- `dump` -/
def dump (P : Nat) (r : Closure.Res) (reps : Reps) (st : Tab Char) : Except Err Arrays :=
  match (r.map (·.1)).filter (· < P) with
  | [] => .error .noPositions
  | k :: ks =>
    let n := ks.foldl max k + 1
    .ok ((List.range n).map (repGet reps.eqRep), (List.range n).map (repGet reps.wcRep),
         (List.range n).map st.get)

/-- everything after the seeding -/
def finish (tbl : CodeTable) (P : Nat) (c : Cons) : Except Err Arrays :=
  match Closure.propagate (adjOf c.keys c.eq) (adjOf c.keys c.wc) with
  | .error _ => .error .assertion
  | .ok r =>
    match propagateTemplates tbl c.keys r c.st with
    | .error e => .error e
    | .ok st => dump P r (getReps P r) st

/-- `Convert(file, struct_orient).get_constraints()` on the loaded specification -/
def getConstraintsT (tbl : CodeTable) (mode : Layout) (spec : Spec) : Except Err Arrays :=
  match seeds mode spec with
  | .error e => .error e
  | .ok s => match build s with
    | .error e => .error e
    | .ok c => finish tbl s.P c

def getConstraints (mode : Layout) (spec : Spec) : Except Err Arrays :=
  getConstraintsT Generated.pilTable mode spec

/-! ## `design()`: mapping and files -/

def eqMap : Option Nat → Int
  | some x => (x : Int) + 1
  | none => 0

def wcMap : Option Nat → Int
  | some x => (x : Int) + 1
  | none => -1

def stMap : Option Char → Char
  | some c => c
  | none => ' '

structure Files where
  st : String
  eq : String
  wc : String
deriving Repr, DecidableEq

def digitChar (d : Nat) : Char := Char.ofNat (48 + d)

/-- decimal digits of a natural number (`"%d"`) -/
def showNat (n : Nat) : List Char :=
  if h : n < 10 then [digitChar n] else showNat (n / 10) ++ [digitChar (n % 10)]
termination_by n
decreasing_by omega

/-- `"%d" % x` -/
def showInt : Int → List Char
  | .ofNat n => showNat n
  | .negSucc n => '-' :: showNat (n + 1)

/-- `print_list(xs, name, "%d ")` -/
def printInts (l : List Int) : String := String.ofList (l.flatMap (fun x => showInt x ++ [' ']))

/-- the three files `design()` writes -/
def ssmFiles (a : Arrays) : Files :=
  { eq := printInts (a.1.map eqMap)
    wc := printInts (a.2.1.map wcMap)
    st := String.ofList (a.2.2.map stMap) }

/-! ## `load_input_files` (template / wc / eq given, no start sequence) -/

def templateChars : List Char := "ATCGatcgRYWSMKBDHVNrywsmkbdhvn ".toList

def stripTrailing {α : Type} (p : α → Bool) (l : List α) : List α := (l.reverse.dropWhile p).reverse

/-- the template: characters outside the accepted set are skipped, trailing blanks stripped -/
def readTemplate (s : String) : List Char :=
  stripTrailing (· == ' ') (s.toList.filter templateChars.contains)

def isWs (c : Char) : Bool := c == ' ' || c == '\t' || c == '\n' || c == '\r' || c == '\x0b' || c == '\x0c'

def splitWs : List Char → List Char → List (List Char)
  | [], cur => if cur.isEmpty then [] else [cur.reverse]
  | c :: r, cur =>
    if isWs c then (if cur.isEmpty then splitWs r [] else cur.reverse :: splitWs r [])
    else splitWs r (c :: cur)

/-- one number as this model reads it: optional sign, decimal digits (the files `design()` writes
    contain nothing else; `%lf` accepts more) -/
def parseInt (tok : List Char) : Option Int :=
  let (neg, ds) := match tok with
    | '-' :: r => (true, r)
    | '+' :: r => (false, r)
    | r => (false, r)
  if ds.isEmpty || !ds.all Char.isDigit then none
  else
    let n : Nat := ds.foldl (fun a c => a * 10 + (c.toNat - 48)) 0
    some (if neg then -(n : Int) else (n : Int))

/-- `while (fscanf(f," %lf",&r)>0)`: numbers up to the first token that is not one -/
def readInts (s : String) : List Int :=
  let rec go : List (List Char) → List Int
    | [] => []
    | t :: r => match parseInt t with
      | some v => v :: go r
      | none => []
  go (splitWs s.toList [])

/-- `load_input_files` after the three files have been scanned; `none` = `exit(-1)` -/
def reconcile (st : List Char) (wc0 : List Int) (eqRead : List Int) : Option Ssm.Triple :=
  if wc0.any (fun v => v == 0 || v < -1) then none else
  let eq0 := stripTrailing (· == (0 : Int)) eqRead
  if eq0.any (· < 0) then none else
  let m := max eq0.length st.length
  -- wc longer than everything else: only trailing -1 may be dropped
  let extra := wc0.drop m
  if m > 0 && extra.any (· != -1) then none else
  let wc1 := if m > 0 then wc0.take m else wc0
  let n := max m wc1.length
  if n == 0 then none
  else if st.length != n || wc1.length != n || eq0.length != n then none
  else
    -- "corrections to defaults for ' ' separators" (the start sequence is drawn from the template:
    -- it is blank exactly where the template letter has no choice set)
    let blank := fun (i : Nat) => !(Ssm.isCode (st.getD i ' ')) || eq0.getD i 0 == 0
    some { st := (List.range n).map (fun i => if blank i then ' ' else st.getD i ' ')
           eq := (List.range n).map (fun i => if blank i then 0 else (eq0.getD i 0).toNat)
           wc := (List.range n).map (fun i => if blank i then -1 else wc1.getD i (-1)) }

/-- `load_input_files`; `none` = `exit(-1)` -/
def readTriple (f : Files) : Option Ssm.Triple :=
  reconcile (readTemplate f.st) (readInts f.wc) (readInts f.eq)

/-! ## the contract -/

/-- maximal runs of non-blank positions: (start, length) -/
def runsAux : List Char → Nat → Option (Nat × Nat) → List (Nat × Nat)
  | [], _, cur => match cur with | some r => [r] | none => []
  | c :: r, i, cur =>
    if c == ' ' then (match cur with | some x => x :: runsAux r (i + 1) none | none => runsAux r (i + 1) none)
    else match cur with
      | some (s, l) => runsAux r (i + 1) (some (s, l + 1))
      | none => runsAux r (i + 1) (some (i, 1))

def runs (st : List Char) : List (Nat × Nat) := runsAux st 0 none

/-- expected strands, grouped by complex: lengths (zero-length strands and empty complexes dropped) -/
abbrev Segs := List (List Nat)

def Segs.norm (s : Segs) : Segs := (s.map (fun c => c.filter (· != 0))).filter (fun c => !c.isEmpty)

/-- required blanks before each run: 0 for the first, 1 inside a complex, 2 at a complex boundary -/
def Segs.gaps (s : Segs) : List (Nat × Nat) :=
  match (s.norm.flatMap (fun c => match c with
    | [] => []
    | l :: r => (2, l) :: r.map (fun x => (1, x)))) with
  | [] => []
  | (_, l) :: r => (0, l) :: r

/-- "at least one blank between strands and two between complexes", against the expected strands -/
def sepsOk (st : List Char) (segs : Segs) : Bool :=
  let rs := runs st
  let gs := segs.gaps
  rs.length == gs.length &&
  (rs.zip gs).all (fun ((_, l), (_, l')) => l == l') &&
  (List.range rs.length).all (fun k =>
    match k with
    | 0 => true
    | k' + 1 =>
      let (s0, l0) := rs.getD k' (0, 0)
      let (s1, _) := rs.getD (k' + 1) (0, 0)
      let (g, _) := gs.getD (k' + 1) (0, 0)
      decide (s0 + l0 + g ≤ s1))

/-- the strands the layout puts on the line, by complex -/
def segsOf (mode : Layout) (spec : Spec) : Segs :=
  match mode with
  | .strand => spec.strands.map (fun o => [o.len])
  | .struct => spec.structs.map (fun so => (structStrands spec so).map (fun p => p.2.len))

/-- The documented input contract of spuriousSSM (C05): `Ssm.Contract` (equal lengths, 1-based, blanks
    exactly where `eq = 0` and there `wc = -1`, `eq` idempotent and lowest, `wc` a representative,
    constant on classes, pairing back, never the own class, equal positions same code, paired
    positions complementary codes) and the separator clause. -/
def SsmContract (t : Ssm.Triple) (segs : Segs) : Bool := Ssm.contractB t && sepsOk t.st segs

/-- the start sequence `main` builds: random bases from the template's choice sets (`pick i` is the
    draw at position `i`), before `constrain` (applied by the callers) -/
def startOf (t : Ssm.Triple) (pick : Nat → Nat) : Ssm.Seq :=
  (List.range t.N).map (fun i =>
    let ch := Ssm.choices (t.stAt i)
    ch.getD (pick i % ch.length) ' ')

end Pepper.ConstraintGen

/-! # Specification side

Everything below is written from the semantic definitions of DESIGN.md §4 over `Pil.denote spec`
(a `Design`: domains with templates, strands as lists of `Nuc`s, structures as dot-paren strings,
`equal` entries as lists of regions) and shares nothing with the graph construction above. -/
namespace Pepper.LinkSpec
open Pepper

inductive Base | A | C | G | T
deriving Repr, DecidableEq

def Base.compl : Base → Base
  | .A => .T | .T => .A | .C => .G | .G => .C

def Base.bit : Base → Nat
  | .A => 1 | .C => 2 | .G => 4 | .T => 8

def Base.toChar : Base → Char
  | .A => 'A' | .C => 'C' | .G => 'G' | .T => 'T'

def Base.all : List Base := [.A, .C, .G, .T]

/-- the base a nucleotide carries under an assignment of the domain positions -/
def val (a : Var → Base) (n : Nuc) : Base := if n.comp then (a n.var).compl else a n.var

/-- the code `c` allows the base `b` -/
def allows (tbl : CodeTable) (c : Char) (b : Base) : Prop := tbl.maskC c &&& b.bit ≠ 0

instance (tbl : CodeTable) (c : Char) (b : Base) : Decidable (allows tbl c b) := by
  unfold allows; infer_instance

/-- base pairs of a dot-paren string; positions do not count `+` -/
def pairsAux : List Char → Nat → List Nat → List (Nat × Nat)
  | [], _, _ => []
  | c :: r, p, stk =>
    if c == '+' then pairsAux r p stk
    else if c == '(' then pairsAux r (p + 1) (p :: stk)
    else if c == ')' then
      match stk with
      | o :: stk' => (o, p) :: pairsAux r (p + 1) stk'
      | [] => pairsAux r (p + 1) []
    else pairsAux r (p + 1) stk

def pairs (s : List Char) : List (Nat × Nat) := pairsAux s 0 []

def strandNucs (d : Design) (n : String) : List Nuc :=
  match d.strands.find? (·.1 == n) with
  | some (_, _, l) => l
  | none => []

/-- the nucleotides of a structure, strand after strand -/
def structNucs (d : Design) (s : StructD) : List Nuc := s.strands.flatMap (strandNucs d)

/-- an assignment satisfies a design -/
structure Sat (tbl : CodeTable) (d : Design) (a : Var → Base) : Prop where
  tmpl : ∀ p ∈ d.domains, ∀ (k : Nat) (c : Char), p.2[k]? = some c → allows tbl c (a ⟨p.1, k⟩)
  equal : ∀ e ∈ d.equals, ∀ r ∈ e, ∀ s ∈ e, ∀ (k : Nat) (m n : Nuc), r[k]? = some m → s[k]? = some n → val a m = val a n
  pair : ∀ s ∈ d.structs, ∀ ij ∈ pairs s.struct, ∀ (m n : Nuc),
    (structNucs d s)[ij.1]? = some m → (structNucs d s)[ij.2]? = some n → val a m = (val a n).compl

def Satisfiable (tbl : CodeTable) (d : Design) : Prop := ∃ a, Sat tbl d a

/-- a link of the design between two domain positions; `odd` = the two must be complementary -/
structure Link where
  a : Var
  b : Var
  odd : Bool
deriving Repr, DecidableEq

def regionLinks (r s : List Nuc) : List Link :=
  (r.zip s).map (fun (m, n) => ⟨m.var, n.var, m.comp != n.comp⟩)

def equalLinks (d : Design) : List Link :=
  d.equals.flatMap (fun e => e.flatMap (fun r => e.flatMap (fun s => regionLinks r s)))

def pairLinks (d : Design) : List Link :=
  d.structs.flatMap (fun s =>
    let ns := structNucs d s
    (pairs s.struct).filterMap (fun (i, j) =>
      match ns[i]?, ns[j]? with
      | some m, some n => some ⟨m.var, n.var, m.comp == n.comp⟩
      | _, _ => none))

def links (d : Design) : List Link := equalLinks d ++ pairLinks d

/-- parity reachability in the link graph: what "the specification forces equal (`false`) /
    complementary (`true`)" means -/
inductive ParityReach (d : Design) (v : Var) : Bool → Var → Prop
  | refl : ParityReach d v false v
  | fwd {w : Var} {p : Bool} (e : Link) : ParityReach d v p w → e ∈ links d → e.a = w →
      ParityReach d v (p != e.odd) e.b
  | bwd {w : Var} {p : Bool} (e : Link) : ParityReach d v p w → e ∈ links d → e.b = w →
      ParityReach d v (p != e.odd) e.a

/-- the two nucleotides are forced equal (`false`) / complementary (`true`) -/
def NucReach (d : Design) (m : Nuc) (p : Bool) (n : Nuc) : Prop :=
  ParityReach d m.var ((p != m.comp) != n.comp) n.var

/-! ### naive decision procedure and the arrays the property demands -/

def vars (d : Design) : List Var :=
  d.domains.flatMap (fun (n, t) => (List.range t.length).map (fun k => ⟨n, k⟩))

def templateOf (d : Design) (v : Var) : Option Char :=
  match d.domains.find? (·.1 == v.dom) with
  | some (_, t) => t[v.idx]?
  | none => none

def addNew (s : List (Var × Bool)) (q : Var × Bool) : List (Var × Bool) := if s.contains q then s else s ++ [q]

/-- one round of saturation over all links, both directions -/
def satStep (ls : List Link) (s : List (Var × Bool)) : List (Var × Bool) :=
  ls.foldl (fun acc e =>
    let acc := s.foldl (fun a q => if q.1 == e.a then addNew a (e.b, q.2 != e.odd) else a) acc
    s.foldl (fun a q => if q.1 == e.b then addNew a (e.a, q.2 != e.odd) else a) acc) s

def satIter (ls : List Link) : Nat → List (Var × Bool) → List (Var × Bool)
  | 0, s => s
  | n + 1, s =>
    let s' := satStep ls s
    if s'.length == s.length then s else satIter ls n s'

/-- all (position, parity) reachable from `v` -/
def classOf (d : Design) (v : Var) : List (Var × Bool) :=
  satIter (links d) (2 * (vars d).length + 2 * (links d).length + 2) [(v, false)]

/-- the set of bases allowed for `v` by every template in its class (complemented at odd parity) -/
def classMask (tbl : CodeTable) (d : Design) (cls : List (Var × Bool)) : Nat :=
  cls.foldl (fun m (w, p) =>
    match templateOf d w with
    | some c => m &&& (if p then complMask (tbl.maskC c) else tbl.maskC c)
    | none => m) 15

/-- naive decision procedure: no class is its own partner and every class has a common base -/
def satisfiableB (tbl : CodeTable) (d : Design) : Bool :=
  (vars d).all (fun v =>
    let cls := classOf d v
    !cls.contains (v, true) && classMask tbl d cls != 0)

/-- the line of nucleotides the layout describes: strand after strand with the blanks; the strand
    layout has every strand once, the structure layout every structure with its strands -/
def lineOf (struct : Bool) (d : Design) : List (Option Nuc) :=
  let raw :=
    if struct then
      d.structs.flatMap (fun s =>
        s.strands.flatMap (fun n => (strandNucs d n).map some ++ [none]) ++ [none])
    else
      d.strands.flatMap (fun (_, _, l) => l.map some ++ [none, none])
  (raw.reverse.dropWhile Option.isNone).reverse

def minOpt (l : List Nat) : Option Nat :=
  l.foldl (fun m y => match m with | none => some y | some v => some (min v y)) none

def codeOfMask (tbl : CodeTable) (m : Nat) : Option Char := tbl.revOf (canonStr m)

/-- the arrays the property demands, from the semantic graph and the line -/
def specArrays (tbl : CodeTable) (struct : Bool) (d : Design) :
    List (Option Nat) × List (Option Nat) × List (Option Char) :=
  let line := lineOf struct d
  let idx := List.range line.length
  let per := line.map (fun on => on.map (fun n => (n, classOf d n.var)))
  let reps := fun (want : Bool) (n : Nuc) (cls : List (Var × Bool)) =>
    minOpt (idx.filter (fun j => match line.getD j none with
      | some m => cls.contains (m.var, (want != n.comp) != m.comp)
      | none => false))
  (per.map (fun x => match x with | some (n, cls) => reps false n cls | none => none),
   per.map (fun x => match x with | some (n, cls) => reps true n cls | none => none),
   per.map (fun x => match x with
     | some (n, cls) =>
       let m := classMask tbl d cls
       codeOfMask tbl (if n.comp then complMask m else m)
     | none => none))

end Pepper.LinkSpec
