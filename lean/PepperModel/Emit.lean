import PepperModel.Sys
import PepperModel.Pil
/-!
# The emitted PIL as a statement list

`Comp.emitPil` / `Sys.emitPilInst` model the *text* the compiler writes.  `compStmts` / `instStmts` (with `sysStmts`,
`compsStmts`) are the same output as the statement list a PIL reader obtains from that text (sequence /
sup-sequence / strand / structure / equal; kinetic lines carry no constraint and are compared separately).  The
harness checks on every run that reading the implementation's `.pil` gives exactly `instStmts` of the model.
-/
namespace Pepper.Emit
open Pepper.Comp Pepper.Sys

def itemRaw (pfx : String) (i : ItemRef) : String := Comp.fullName pfx i.name i.rev

def compStmts (s : Comp.St) : List Pil.Stmt :=
  let p := s.pfx
  ((s.baseSeqs.filter (·.len != 0)).map (fun e => Pil.Stmt.seq (p ++ e.name) e.const))
  ++ ((s.supSeqs.filter (·.len != 0)).map (fun e =>
        Pil.Stmt.sup (p ++ e.name) ((e.items.filter (!·.dummy)).map (itemRaw p))))
  ++ (s.strands.map (fun e => Pil.Stmt.strand (p ++ e.name) e.dummy ((e.items.filter (!·.dummy)).map (itemRaw p))))
  ++ (s.structs.map (fun e => Pil.Stmt.struct (p ++ e.name) (some (String.ofList e.opt.fmtG ++ "nt"))
        (e.strands.map (p ++ ·)) e.struct))

mutual
def instStmts : Inst → List Pil.Stmt
  | .comp st => compStmts st
  | .sys st => sysStmts st
def sysStmts : SysSt → List Pil.Stmt
  | .mk _ _ pfx _ signals lengths components _ _ =>
    compsStmts components ++
    signals.flatMap (fun (sg, entries) =>
      let len := (lengths.lookup sg).getD 0
      [Pil.Stmt.seq (pfx ++ sg) (List.replicate len 'N'),
       Pil.Stmt.equal ((pfx ++ sg) :: entries.map (fun e =>
          (match e.port with
           | .seq i _ => pfx ++ e.comp ++ "-" ++ i.name
           | .sig n => pfx ++ e.comp ++ "-" ++ n) ++ (if e.wc then "*" else "")))])
def compsStmts : List (String × Inst) → List Pil.Stmt
  | [] => []
  | (_, i) :: r => instStmts i ++ compsStmts r
end

end Pepper.Emit
