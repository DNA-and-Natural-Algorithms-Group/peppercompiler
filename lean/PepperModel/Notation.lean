/-!
# Secondary-structure notations
(mirrors `HU_grammar.py`, `exDotParen_grammar.py`, `DotParen_grammar.py`, `HU2dotParen.py`, the
notation dispatch at the end of `component_parser_regex.parse_structure_statement` and the
domain-level expansion in `component_class.Component.add_structure`)

pyparsing grammars become a tokenizer (white space = blank and tab, as `compiler` sets it) plus
recursive-descent parsers over tokens.  A pyparsing `ParseException`/`ParseSyntaxException`/`error()`
is `none` (the statement is rejected).
-/
namespace Pepper.Notation

inductive Tok
  | num (n : Nat)
  | ch (c : Char)
deriving Repr, DecidableEq, BEq

def isWs (c : Char) : Bool := c == ' ' || c == '\t'

/-- read a maximal run of digits as a number (`Word(nums)` + `int`) -/
def takeNum : List Char → Nat → Nat × List Char
  | c :: r, acc => if c.isDigit then takeNum r (acc * 10 + (c.toNat - 48)) else (acc, c :: r)
  | [], acc => (acc, [])

theorem takeNum_length_le (s : List Char) (acc : Nat) : (takeNum s acc).2.length ≤ s.length := by
  induction s generalizing acc with
  | nil => simp [takeNum]
  | cons c r ih =>
    unfold takeNum; split
    · exact Nat.le_trans (ih _) (Nat.le_succ _)
    · simp

def tokenize : List Char → List Tok
  | [] => []
  | c :: r =>
    if isWs c then tokenize r
    else if c.isDigit then
      have : (takeNum r (c.toNat - 48)).2.length < (c :: r).length := by
        have := takeNum_length_le r (c.toNat - 48); simp; omega
      Tok.num (takeNum r (c.toNat - 48)).1 :: tokenize (takeNum r (c.toNat - 48)).2
    else Tok.ch c :: tokenize r
termination_by s => s.length

/-! ### nucleotide-level structures -/

/-- a balanced multi-strand structure: unpaired base, strand break, or a base pair around a sub-structure -/
inductive T
  | dot
  | brk
  | pair (inner : List T)
deriving Repr

mutual
def T.flat : T → List Char
  | .dot => ['.']
  | .brk => ['+']
  | .pair inner => '(' :: (flatL inner ++ [')'])
def flatL : List T → List Char
  | [] => []
  | t :: ts => t.flat ++ flatL ts
end

/-- `DotParen_grammar.parse` (with `parseAll`): `some tree` iff the string is balanced.
    Stack-based: `stk` holds the partially built enclosing levels, innermost first. -/
def parseDPAux : List Char → List T → List (List T) → Option (List T)
  | [], cur, [] => some cur.reverse
  | [], _, _ :: _ => none                                  -- unclosed "("
  | '.' :: r, cur, stk => parseDPAux r (T.dot :: cur) stk
  | '+' :: r, cur, stk => parseDPAux r (T.brk :: cur) stk
  | '(' :: r, cur, stk => parseDPAux r [] (cur :: stk)
  | ')' :: r, cur, up :: stk => parseDPAux r (T.pair cur.reverse :: up) stk
  | ')' :: _, _, [] => none                                -- unmatched ")"
  | _ :: _, _, _ => none                                   -- foreign character

def parseDP (s : List Char) : Option (List T) := parseDPAux s [] []

/-- the depth-counter view of balance, used by specifications -/
def balancedAux : List Char → Nat → Bool
  | [], d => d == 0
  | '(' :: r, d => balancedAux r (d + 1)
  | ')' :: r, d => d != 0 && balancedAux r (d - 1)
  | c :: r, d => (c == '.' || c == '+') && balancedAux r d

def balanced (s : List Char) : Bool := balancedAux s 0

/-! ### extended (run-length) dot-paren -/

def isDPSym (c : Char) : Bool := c == '.' || c == '(' || c == ')' || c == '+'

/-- `exDotParen_grammar.parse`: `ZeroOrMore(Group(Optional(int, default=1) + symbol))`, `parseAll` -/
def parseExt : List Tok → Option (List (Nat × Char))
  | [] => some []
  | Tok.num n :: Tok.ch c :: r => if isDPSym c then (parseExt r).map ((n, c) :: ·) else none
  | Tok.ch c :: r => if isDPSym c then (parseExt r).map ((1, c) :: ·) else none
  | _ => none

def expandExt : List (Nat × Char) → List Char
  | [] => []
  | (n, c) :: r => List.replicate n c ++ expandExt r

/-- `extended2dotParen` -/
def extended2dotParen (s : List Char) : Option (List Char) :=
  match parseExt (tokenize s) with
  | none => none
  | some p =>
    let out := expandExt p
    if (parseDP out).isSome then some out else none

/-! ### HU notation -/

inductive HU
  | plus
  | U (n : Nat)
  | H (n : Nat) (inner : List HU)
deriving Repr

mutual
def HU.expand : HU → List Char
  | .plus => ['+']
  | .U n => List.replicate n '.'
  | .H n inner => List.replicate n '(' ++ expandL inner ++ List.replicate n ')'
def expandL : List HU → List Char
  | [] => []
  | h :: hs => h.expand ++ expandL hs
end

/-- `HU_grammar.parse` on tokens; `stk` holds (helix size, terms before it) of the open helices -/
def parseHUAux : List Tok → List HU → List (Nat × List HU) → Option (List HU)
  | [], cur, [] => some cur.reverse
  | [], _, _ :: _ => none
  | Tok.ch '+' :: r, cur, stk => parseHUAux r (HU.plus :: cur) stk
  | Tok.ch 'U' :: Tok.num n :: r, cur, stk => parseHUAux r (HU.U n :: cur) stk
  | Tok.ch 'H' :: Tok.num n :: Tok.ch '(' :: r, cur, stk => parseHUAux r [] ((n, cur) :: stk)
  | Tok.ch ')' :: r, cur, (n, up) :: stk => parseHUAux r (HU.H n cur.reverse :: up) stk
  | _, _, _ => none

def parseHU (ts : List Tok) : Option (List HU) := parseHUAux ts [] []

/-- `HU2dotParen` -/
def HU2dotParen (s : List Char) : Option (List Char) := (parseHU (tokenize s)).map expandL

/-! ### `dotParen2HU` -/

/-- `count_parens`: strip levels that contain exactly one pair and nothing else -/
def countParens : Nat → List T → Nat × List T
  | fuel + 1, [T.pair inner] => let r := countParens fuel inner; (r.1 + 1, r.2)
  | _, e => (0, e)

/-- split off a maximal run of leading dots -/
def spanDots : List T → Nat × List T
  | T.dot :: r => let p := spanDots r; (p.1 + 1, p.2)
  | l => (0, l)

/-- `resolve` at tree level: runs of dots become one `U`, chains of singly nested pairs one `H` -/
def toHU : Nat → List T → List HU
  | 0, _ => []
  | _, [] => []
  | fuel + 1, T.brk :: r => HU.plus :: toHU fuel r
  | fuel + 1, T.dot :: r => let p := spanDots r; HU.U (p.1 + 1) :: toHU fuel p.2
  | fuel + 1, T.pair inner :: r =>
    let p := countParens fuel inner
    HU.H (p.1 + 1) (toHU fuel p.2) :: toHU fuel r

mutual
def T.size : T → Nat
  | .dot => 1
  | .brk => 1
  | .pair inner => 1 + sizeL inner
def sizeL : List T → Nat
  | [] => 0
  | t :: ts => t.size + sizeL ts
end

/-- decimal digits of a number, as `"%d"` prints them -/
def natStr (n : Nat) : List Char :=
  if h : n < 10 then [Char.ofNat (48 + n)] else natStr (n / 10) ++ [Char.ofNat (48 + n % 10)]
termination_by n
decreasing_by omega

/-- Python `str.strip()` restricted to blanks and tabs -/
def stripWs (s : List Char) : List Char := ((s.reverse.dropWhile isWs).reverse).dropWhile isWs

mutual
/-- the text `dotParen2HU` prints: every term followed by a blank, helix bodies stripped -/
def HU.render : HU → List Char
  | .plus => ['+', ' ']
  | .U n => 'U' :: natStr n ++ [' ']
  | .H n inner => 'H' :: natStr n ++ ['('] ++ stripWs (renderL inner) ++ [')', ' ']
def renderL : List HU → List Char
  | [] => []
  | h :: hs => h.render ++ renderL hs
end

/-- `dotParen2HU` (text in, text out) -/
def dotParen2HU (s : List Char) : Option (List Char) :=
  (parseDP s).map (fun ts => stripWs (renderL (toHU (sizeL ts + 1) ts)))

/-! ### notation dispatch of `parse_structure_statement` -/

def okHUChars (s : List Char) : Bool := s.all (fun c => c == 'H' || c == 'U' || c == '(' || c == ')' || c == '+' || c.isDigit || isWs c)
def okDPChars (s : List Char) : Bool := s.all (fun c => c == '.' || c == '(' || c == ')' || c == '+' || c.isDigit || isWs c)

/-- token-level core of the two converters -/
def compileToks (hu : Bool) (ts : List Tok) : Option (List Char) :=
  if hu then (parseHU ts).map expandL
  else match parseExt ts with
    | none => none
    | some p => if (parseDP (expandExt p)).isSome then some (expandExt p) else none

/-- the secondary-structure text of a structure statement ↦ plain dot-paren, or rejection -/
def compileStruct (s : List Char) : Option (List Char) :=
  if s.contains 'U' || s.contains 'H' then
    if okHUChars s then compileToks true (tokenize s) else none
  else
    if okDPChars s then compileToks false (tokenize s) else none

/-- canonical text of a token stream: every token followed by one blank -/
def renderToks : List Tok → List Char
  | [] => []
  | Tok.num n :: r => natStr n ++ ' ' :: renderToks r
  | Tok.ch c :: r => c :: ' ' :: renderToks r

/-! ### domain-level structures (`Component.add_structure`) -/

def splitOn (c : Char) : List Char → List (List Char)
  | [] => [[]]
  | d :: r => match splitOn c r with
    | [] => [[]]     -- unreachable
    | h :: t => if d == c then [] :: h :: t else (d :: h) :: t

def joinPlus : List (List Char) → List Char
  | [] => []
  | [a] => a
  | a :: r => a ++ '+' :: joinPlus r

/-- expand one strand's domain-level string against its domain lengths -/
def expandStrand : List Char → List Nat → List Char
  | c :: cs, n :: ns => List.replicate n c ++ expandStrand cs ns
  | _, _ => []

/-- `add_structure` for `isdomain`: `struct` is the already compiled domain-level dot-paren,
    `doms` the domain lengths of each strand.  The balance of the expanded string is always
    re-checked. -/
def domainExpand (struct : List Char) (doms : List (List Nat)) : Option (List Char) :=
  let subs := splitOn '+' struct
  if subs.length != doms.length then none
  else if !(List.zip subs doms).all (fun (s, d) => s.length == d.length) then none
  else
    let full := joinPlus ((List.zip subs doms).map (fun (s, d) => expandStrand s d))
    if balanced full then some full else none

/-- `Structure.__init__`: one segment per strand, each of the strand's length -/
def sizesOk (struct : List Char) (lens : List Nat) : Bool :=
  let subs := splitOn '+' struct
  subs.length == lens.length && (List.zip subs lens).all (fun (s, n) => s.length == n)

end Pepper.Notation
