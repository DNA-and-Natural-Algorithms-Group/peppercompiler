import PepperModel.Pil
/-!
# The designer front-end's PIL *text* reader
(mirrors `design/PIL_parser.py` completely: `load_spec`, `parse_seq`, `parse_sup_seq`, `parse_strand`, `parse_struct`,
`parse_equal`, and `utils.match`; the statements it produces are the calls `spec.add_seq / add_sup_seq / add_strand /
add_struct / add_equal` it makes on `PIL_class.Spec`, i.e. exactly the `Pil.Stmt` list `Pil.load` consumes)

**The reader is not a pyparsing grammar.**  `PIL_parser.py` is line oriented and uses `re`:

* `open(filename, "r")` — text mode, universal newlines: `\r\n` and a lone `\r` arrive as `\n` (`uniNl`);
  `for line in f` cuts after every `\n` only (`splitLines`; the flag says whether the line had its `\n` — the last
  line of a file may not);
* `re.sub(r"#.*\n", "", line)` — a comment is removed **only when the line is newline-terminated** (`.` does not match
  `\n` and the pattern insists on the `\n`): a `#` on an unterminated last line stays (`cleanLine`);
* `line.strip()`, `line.split()`, and `\s` in a `str` pattern all use `Py_UNICODE_ISSPACE`; on ASCII that is
  `\t \n \v \f \r \x1c \x1d \x1e \x1f` and the blank (`isWs`);  `\w` on ASCII is `[A-Za-z0-9_]`;
* `utils.match(regex, line)` = `re.match(regex.replace(" ", r"\s+") + r"\s*\Z", line)`.  The four statement regexes are
  matched here by deterministic scanners.  Why no backtracking is lost (the line is already stripped):
  - `\s+` followed by something that cannot start with white space, and `[\w-]+` followed by `\s+`, are maximal runs;
  - `([^:]*)(\s+:\s+.*)?\s*\Z` (super-sequence, strand): `[^:]*` stops at the FIRST colon; without a colon the
    optional group is skipped; with one, the group must match there, which needs white space on both sides of the
    colon, and the white space before it must be in addition to the one `=\s+` needs (`bodyColon`);
  - `([^:\s]*)(\s+:\s+.*)?\s*\Z` (sequence): the template is the maximal run of non-colon non-space characters; an empty
    template needs TWO white-space characters between `=` and `:` (`seqBody`);
  - `structure( \[([\w.+-]+)\])? ([\w-]+) = ([^:]*) : (.*)`: the colon is mandatory; the parameter alphabet is
    `[\w.+-]` (`[no-opt]`, `[1e+06nt]` are read); `strand_names.split("+")` + `strip()` keeps inner white space and empty names;
    the structure loses blanks and tabs only (not `\v \f \x1c…`) before the `.()+` alphabet check;
* `error()` is `sys.exit(1)`; a `kinetic` line is `pass` (it leaves no statement); `equal` takes all further tokens.

Loops become structural recursion; `error()` becomes `Except.error`.  Input is ASCII (the harness sends ASCII only).
-/
namespace Pepper.ParsePil
open Pepper

inductive Err
  | command | seqSyntax | template | supSyntax | strandSyntax | structSyntax | structChars
deriving Repr, DecidableEq, BEq

/-- `Py_UNICODE_ISSPACE` on ASCII -/
def isWs (c : Char) : Bool :=
  c == ' ' || c == '\t' || c == '\n' || c == '\x0b' || c == '\x0c' || c == '\r' ||
  c == '\x1c' || c == '\x1d' || c == '\x1e' || c == '\x1f'

/-- `[\w-]` on ASCII -/
def isNameChar (c : Char) : Bool := c.isAlphanum || c == '_' || c == '-'

/-- `[\w.+-]` on ASCII -/
def isParamChar (c : Char) : Bool := c.isAlphanum || c == '_' || c == '.' || c == '+' || c == '-'

/-- universal newlines of text-mode `open` -/
def uniNl : List Char → List Char
  | [] => []
  | '\r' :: '\n' :: r => '\n' :: uniNl r
  | '\r' :: r => '\n' :: uniNl r
  | c :: r => c :: uniNl r

/-- `for line in f`: the lines without their `\n`, with "was newline-terminated" -/
def splitLines : List Char → List (List Char × Bool)
  | [] => []
  | c :: r =>
    if c == '\n' then ([], true) :: splitLines r
    else match splitLines r with
      | [] => [([c], false)]
      | (l, t) :: rest => (c :: l, t) :: rest

def rstrip (l : List Char) : List Char := (l.reverse.dropWhile isWs).reverse

/-- `str.strip()` -/
def strip (l : List Char) : List Char := rstrip (l.dropWhile isWs)

/-- `re.sub(r"#.*\n", "", line).strip()` -/
def cleanLine (l : List Char) (terminated : Bool) : List Char :=
  strip (if terminated then l.takeWhile (· != '#') else l)

/-- a non-space character in front of the words of `r`: it extends the first word iff `r` starts with a non-space -/
def consWord (c : Char) (r : List Char) (ws : List (List Char)) : List (List Char) :=
  match r, ws with
  | d :: _, w :: ws' => if isWs d then [c] :: w :: ws' else (c :: w) :: ws'
  | _, ws => [c] :: ws

/-- `str.split()` -/
def words : List Char → List (List Char)
  | [] => []
  | c :: r => if isWs c then words r else consWord c r (words r)

/-- `\s+`, maximal -/
def ws1 : List Char → Option (List Char)
  | [] => none
  | c :: r => if isWs c then some (r.dropWhile isWs) else none

/-- `\s+([\w-]+)\s+=` : the name and what follows the `=` -/
def nameEq (l : List Char) : Option (String × List Char) :=
  match ws1 l with
  | none => none
  | some l1 =>
    let nm := l1.takeWhile isNameChar
    if nm.isEmpty then none
    else match ws1 (l1.dropWhile isNameChar) with
      | some ('=' :: r) => some (String.ofList nm, r)
      | _ => none

/-- `\s+:\s+.*` -/
def colonTail (l : List Char) : Bool :=
  match ws1 l with
  | some (':' :: c :: _) => isWs c
  | _ => false

/-- after `=`:  `\s+([^:\s]*)(\s+:\s+.*)?\s*\Z` — the template -/
def seqBody (t : List Char) : Option (List Char) :=
  let w := t.takeWhile isWs
  let rest := t.dropWhile isWs
  if w.isEmpty then none
  else
    let tm := rest.takeWhile (fun c => c != ':' && !isWs c)
    let rest' := rest.dropWhile (fun c => c != ':' && !isWs c)
    if tm.isEmpty then
      -- the template is empty: `=\s+` must leave one white-space character to the group
      match rest with
      | [] => some []
      | ':' :: c :: _ => if 2 ≤ w.length && isWs c then some [] else none
      | _ => none
    else if rest'.all isWs || colonTail rest' then some tm
    else none

/-- after `=`:  `\s+([^:]*)(\s+:\s+.*)?\s*\Z` (`mandatory = false`) or `\s+([^:]*)\s+:\s+(.*)\s*\Z` (`true`):
    group `[^:]*` (white space at its ends is irrelevant to the callers) and the text after the colon's white space -/
def bodyColon (mandatory : Bool) (t : List Char) : Option (List Char × List Char) :=
  match t with
  | [] => none
  | c0 :: _ =>
    if !isWs c0 then none
    else
      let pre := t.takeWhile (· != ':')
      match t.dropWhile (· != ':') with
      | [] => if mandatory then none else some (pre, [])
      | _ :: after =>
        match pre.reverse, after with
        | p :: _ :: _, c :: _ => if isWs p && isWs c then some (pre, after.dropWhile isWs) else none
        | _, _ => none

/-- `str.split("+")`: all fields, not stripped (`parseStruct` strips them) -/
def splitOnPlus : List Char → List (List Char)
  | [] => [[]]
  | c :: r => match splitOnPlus r with
    | [] => [[]]
    | h :: t => if c == '+' then [] :: h :: t else (c :: h) :: t

def dropPrefix? : List Char → List Char → Option (List Char)
  | [], l => some l
  | _ :: _, [] => none
  | p :: ps, c :: r => if p == c then dropPrefix? ps r else none

def str (l : List Char) : String := String.ofList l

/-- `parse_seq` (with the template alphabet check against `group.keys()`) -/
def parseSeq (tbl : CodeTable) (rest : List Char) : Except Err Pil.Stmt :=
  match nameEq rest with
  | none => .error .seqSyntax
  | some (name, t) =>
    match seqBody t with
    | none => .error .seqSyntax
    | some tm => if tm.all tbl.isCode then .ok (.seq name tm) else .error .template

/-- `parse_sup_seq` -/
def parseSup (rest : List Char) : Except Err Pil.Stmt :=
  match nameEq rest with
  | none => .error .supSyntax
  | some (name, t) =>
    match bodyColon false t with
    | none => .error .supSyntax
    | some (items, _) => .ok (.sup name ((words items).map str))

/-- `(\[dummy\] )?` of `parse_strand`: after the maximal `\s+`, the literal `[dummy]` (a name cannot start with `[`);
    returns the flag and the text the name pattern ` ([\w-]+) =` is matched against -/
def dummyPrefix (rest : List Char) : Bool × List Char :=
  match ws1 rest with
  | some l1 => (match dropPrefix? "[dummy]".toList l1 with
    | some l2 => (true, l2)
    | none => (false, rest))
  | none => (false, rest)

/-- `parse_strand` -/
def parseStrand (rest : List Char) : Except Err Pil.Stmt :=
  let d := dummyPrefix rest
  match nameEq d.2 with
  | none => .error .strandSyntax
  | some (name, t) =>
    match bodyColon false t with
    | none => .error .strandSyntax
    | some (items, _) => .ok (.strand name d.1 ((words items).map str))

/-- `( \[([\w.+-]+)\])?` of `parse_struct`: the optional bracketed parameter and the text the name pattern is matched
    against; `none` when a `[` is not followed by `[\w.+-]+]` (then ` ([\w-]+)` cannot match the `[` either) -/
def structHdr (rest : List Char) : Option (Option String × List Char) :=
  match ws1 rest with
  | some ('[' :: l1) =>
    let p := l1.takeWhile isParamChar
    if p.isEmpty then none
    else (match l1.dropWhile isParamChar with
      | ']' :: l2 => some (some (str p), l2)
      | _ => none)
  | _ => some (none, rest)

/-- `parse_struct` -/
def parseStruct (rest : List Char) : Except Err Pil.Stmt :=
  match structHdr rest with
  | none => .error .structSyntax
  | some (params, rest') =>
    match nameEq rest' with
    | none => .error .structSyntax
    | some (name, t) =>
      match bodyColon true t with
      | none => .error .structSyntax
      | some (names, st) =>
        let strands := (splitOnPlus names).map (fun n => str (strip n))
        let st' := st.filter (fun c => c != ' ' && c != '\t')
        if st'.all (fun c => c == '.' || c == '(' || c == ')' || c == '+') then .ok (.struct name params strands st')
        else .error .structChars

/-- one stripped, non-empty line: the statement `load_spec` hands to `Spec`, `none` for a `kinetic` line -/
def parseLine (tbl : CodeTable) (line : List Char) : Except Err (Option Pil.Stmt) :=
  let cmd := match words line with | w :: _ => w | [] => []
  -- the line is stripped, so it starts with its first token
  let rest := line.drop cmd.length
  if cmd == "sequence".toList then (parseSeq tbl rest).map some
  else if cmd == "super-sequence".toList || cmd == "sup-sequence".toList then (parseSup rest).map some
  else if cmd == "strand".toList then (parseStrand rest).map some
  else if cmd == "structure".toList then (parseStruct rest).map some
  else if cmd == "equal".toList then .ok (some (.equal (((words line).drop 1).map str)))
  else if cmd == "kinetic".toList then .ok none
  else .error .command

/-- the loop of `load_spec` -/
def parseLines (tbl : CodeTable) : List (List Char × Bool) → Except Err (List Pil.Stmt)
  | [] => .ok []
  | (l, t) :: r =>
    let c := cleanLine l t
    if c.isEmpty then parseLines tbl r
    else match parseLine tbl c with
      | .error e => .error e
      | .ok none => parseLines tbl r
      | .ok (some s) => match parseLines tbl r with
        | .ok ss => .ok (s :: ss)
        | .error e => .error e

/-- `load_spec` on the contents of the file, up to the calls on `Spec` -/
def parsePil (tbl : CodeTable) (text : String) : Except Err (List Pil.Stmt) :=
  parseLines tbl (splitLines (uniNl text.toList))

end Pepper.ParsePil
