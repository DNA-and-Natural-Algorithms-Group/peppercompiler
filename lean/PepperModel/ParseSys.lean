import PepperModel.Sys
/-!
# Statement-level text parsing of `.sys` files
(mirrors `peppercompiler/system_parser_pyparsing.py` — `parse_declare_statement`, `parse_import_statement`,
`parse_component_statement`, i.e. the pyparsing grammars `decl_stat`, `import_stat`, `component_stat` run with
`parseString(…, parseAll=True)` — and `peppercompiler/system_parser.py` `load_system`: the first-statement search
and the statement loop from `doc.split("\n")` on; pyparsing 3.3.2 as installed in /venv)

Input of this model: text as Python sees it (a `str`; a file's text after the universal-newline translation of
text-mode reading).  `parseDoc` takes the first statement (what the first-statement search of `load_system` found,
`firstStatement` models that search) and the document text AFTER parameter substitution
(`var_substitute.process_list`, modelled in `PepperModel/Subst.lean`).  Output: the system source AST `Sys.SSrc`
that `Sys.loadFile` consumes.

## How the pyparsing grammar was translated

The grammar is a PEG: every element either matches at a position and yields the next position, or raises
`ParseException`; `And` is sequencing; `Optional(e)` / `ZeroOrMore(e)` catch the `ParseException` of `e` and go
on from where `e` was TRIED (all of `e` is undone — this is the only backtracking there is); a `Word` is greedy
and never gives characters back.  Each nonterminal is one hand-written function `Str → Option (result × rest)`.

* **Pre-parse.**  Before trying to match, every element skips (1) ignorable expressions and (2) its white-space
  characters.  (2): the module calls `ParserElement.setDefaultWhitespaceChars(" \t")` before building the grammar,
  and an element copies the default when it is CONSTRUCTED, so all elements of the three grammars skip exactly
  space and tab whatever other modules set later.  (1): the last lines of the module build a never-used
  `document` grammar out of the same element objects and call `document.ignore(pythonStyleComment)`; `ignore`
  is propagated IN PLACE to every sub-expression, so the three statement grammars ignore `#.*` too (this, not the
  `re.sub` of the loop, is why `import a # note` works).  The ignorable is `Suppress(Regex("#.*"))` with white
  space `" \t"`.  Net effect, `skip`: drop spaces/tabs, and if a `#` follows drop up to (not including) the next
  `\n` or the end.  `skip` is idempotent, which is why it does not matter that `And`, `Group`, `Optional` … pre-parse
  as well, nor where exactly a failed `Optional` leaves the position.
* **Tabs.**  `parseString` first replaces the input by `instring.expandtabs()` (`keepTabs` is off): `expandTabs`
  (tab stops every 8 columns, column reset after `\n` and `\r`).  So a tab inside a template argument becomes
  spaces, which the argument `Word` accepts.
* `Word(init, body)` = `word`: after `skip`, one `init` character then the longest run of `body` characters.
* a string in a grammar (`"*"`, `S(":")`, `S("as")`, `S(system)`) is a `Literal` = `lit`: after `skip`, the exact
  characters; NO boundary condition (`declare systemX: ->` declares `X`; `import a asb` aliases `b`).
* `CaselessKeyword(k)` = `kw`: after `skip`, the next `len k` characters equal `k` up to ASCII case, and the
  character after them, if any, is not in `identChars` = `[A-Za-z0-9_$]`.  (The "not preceded by an identifier
  character" test of `Keyword` can never fail here: the keyword is the first element, so either it is tried at
  position 0 or the character before it was skipped, i.e. is a space.)
* `List(e, d)` = `Group(Optional(e + ZeroOrMore(Suppress(d) + e)))` = `listOf`; `delimitedList(e)` =
  `e + ZeroOrMore(Suppress(",") + e)` = `list1`; both use `more` for the `ZeroOrMore`: a `d` that is not followed
  by an `e` is given back (so a trailing delimiter is left for the next element, which then fails).
* `Flag("*")` = `Optional("*")` mapped to `bool`; `O(S("as") + var, default=None)`: alias or `None`;
  `O(S("(") + List(…) + S(")"), default=[])`: if anything in the parenthesis fails the whole group is undone and
  the next element (`:`) meets the `(` and fails.
* `parseAll=True` = `endOk`: `self.preParse` (= `skip`), then `Empty() + StringEnd()` **built at call time**, which
  therefore skips the white-space characters that are the process-global default AT THAT MOMENT (parameter `dw`:
  `" \t"` as long as the last module that set it was one of `system_parser_pyparsing`, `nupack_out_grammar`,
  `RNAfold_grammar`, `nupack_in_parser`, `component_parser_pyparsing`; `" \t\n"` after `nupack_mfe_grammar`), and no
  comments.  In the statement loop of `load_system` every line is `strip()`ped, so a `dw` of white-space characters
  (every value that occurs) cannot matter there (theorem `Props.parseLine_dw_irrelevant`); it matters for direct calls
  like `parse_import_statement("import a\n")`.
  In the compiler process the order is: `system_parser_pyparsing` is imported lazily by the first `load_file`
  (sets `" \t"`), nothing later changes it.
* **Template arguments.**  `python_object = Word(py_chars, py_chars+" ")` with `py_chars` = printable ASCII without
  `,` and `)`; the parse action `eval`s the text AS SOON AS the word is matched (even if the parenthesis later
  turns out not to close), in the globals of `system_parser_pyparsing`.  An exception of `eval` (SyntaxError,
  NameError, …) is not a `ParseException`: it is not caught by `Optional`, it aborts the statement = reject.  The AST
  keeps only the NUMBER of arguments.  `argVerdict` decides the outcome of `eval` for the following texts and only
  for them (**in-model argument language**): at most 200 characters, and either
  (i) a quoted string `'…'` / `"…"` whose body is over `[A-Za-z0-9_ ]`, possibly followed by spaces: evaluates; or
  (ii) a text over `[0-9+*( -]` (digits, `+`, `-`, `*`, `(`, space) without two adjacent `*` (`**` is the power
  operator: `9**9**9` does not terminate in reasonable time): evaluates iff it is a Python expression, i.e.
  `unary* NUMBER (binop unary* NUMBER)*` with `unary ∈ {+,-}`, `binop ∈ {+,-,*}`, `NUMBER` a digit run that is all
  zeros or does not start with `0` (`01` is a SyntaxError), tokens optionally separated by spaces; any `(` is a
  SyntaxError because the matching `)` cannot be part of the word.
  Every other argument text (names, floats, attribute access, comparisons, lists, …) is **outside the model**:
  the statement yields `Err.outOfModel` at the moment Python would call `eval`, and the harness reports such
  lines separately instead of comparing them.
* exceptions: `ParseException` and the exception of `utils.error` (DEBUG) = `Err.reject`.

## `load_system`

`firstStatement`: `for line in f: line = re.sub(r"#.*\n", "", line).strip(); if line: break` — here the lines still
end in `\n`, so the regex does strip comments; the statement found (or `""`) goes to `parse_declare_statement`
WITHOUT a look at its first word (`DeClArE system …` is accepted: the keyword is caseless).  The rest of the file
goes through `process_list`.  Statement loop (`parseLines`): `re.sub(r"#.*\n", "", line)` (`subComment`; never
matches inside a line of `split("\n")`, modelled as the code does it), `strip()`, skip if empty, first word by
`split()[0]`, exact (case-SENSITIVE) comparison with `declare` (error) / `import` / `component`, anything else is an
error.  So `IMPORT a` is rejected by the loop although `parse_import_statement` would accept it.

NON-ASCII INPUT IS OUTSIDE THE MODEL (`str.strip`/`split` know further Unicode spaces, `str.upper` maps `ı` to `I`);
the correspondence generator stays ASCII.
-/
namespace Pepper.ParseSys
open Pepper.Sys

abbrev Str := List Char

/-! ### character classes -/

/-- `str.isspace` on ASCII: what `strip()` and `split()` treat as white space -/
def isSp (c : Char) : Bool :=
  c == ' ' || c == '\t' || c == '\n' || c == '\r' || c == '\x0b' || c == '\x0c' ||
  c == '\x1c' || c == '\x1d' || c == '\x1e' || c == '\x1f'
/-- `alphas` -/
def isVar0 (c : Char) : Bool := c.isAlpha
/-- `alphanums + "_"` -/
def isVarC (c : Char) : Bool := c.isAlphanum || c == '_'
/-- `alphanums + ".-_/~"` -/
def isPathC (c : Char) : Bool := c.isAlphanum || c == '.' || c == '-' || c == '_' || c == '/' || c == '~'
/-- `printables`: `!` … `~` -/
def isPrintable (c : Char) : Bool := 33 ≤ c.toNat && c.toNat ≤ 126
/-- `py_chars` -/
def isPy0 (c : Char) : Bool := isPrintable c && c != ',' && c != ')'
/-- `py_chars + " "` -/
def isPyC (c : Char) : Bool := isPy0 c || c == ' '
/-- `Keyword.DEFAULT_KEYWORD_CHARS` = `alphanums + "_$"` (compared after `upper()`) -/
def isIdent (c : Char) : Bool := c.isAlphanum || c == '_' || c == '$'
/-- the grammar's white space `" \t"` -/
def isWs (c : Char) : Bool := c == ' ' || c == '\t'

/-! ### Python string functions -/

/-- `str.expandtabs()` (tab size 8); `col` is the current column -/
def expandTabs : Str → Nat → Str
  | [], _ => []
  | c :: r, col =>
    if c == '\t' then List.replicate (8 - col % 8) ' ' ++ expandTabs r (col + (8 - col % 8))
    else if c == '\n' || c == '\r' then c :: expandTabs r 0
    else c :: expandTabs r (col + 1)

def lstrip (s : Str) : Str := s.dropWhile isSp
def rstrip (s : Str) : Str := (s.reverse.dropWhile isSp).reverse
/-- `str.strip()` -/
def strip (s : Str) : Str := rstrip (lstrip s)

/-- `s.split()[0]` of a string that starts with a non-space character -/
def firstWord (s : Str) : Str := s.takeWhile (fun c => !isSp c)

/-- `str.split(sep)` for a one-character separator -/
def splitOn (sep : Char) : Str → List Str
  | [] => [[]]
  | c :: r =>
    if c == sep then [] :: splitOn sep r
    else match splitOn sep r with
      | [] => [[c]]      -- unreachable: `splitOn` never returns `[]`
      | x :: xs => (c :: x) :: xs

/-- `re.sub(r"#.*\n", "", s)`: a `#` starts a match iff a `\n` follows somewhere (`.` does not cross it), the match
    then ends with the first such `\n`; `pending` holds, in reverse, the text since a `#` whose fate is open -/
def subCommentAux : Str → Option Str → Str
  | [], none => []
  | [], some p => p.reverse
  | c :: r, none => if c == '#' then subCommentAux r (some ['#']) else c :: subCommentAux r none
  | c :: r, some p => if c == '\n' then subCommentAux r none else subCommentAux r (some (c :: p))

def subComment (s : Str) : Str := subCommentAux s none

/-- what `load_system` does to a raw line before looking at it -/
def cleanLine (l : Str) : Str := strip (subComment l)

/-! ### pre-parse and the leaf elements -/

def skipWs : Str → Str
  | [] => []
  | c :: r => if isWs c then skipWs r else c :: r

/-- the `.*` of the comment regex: up to, not including, the next `\n` -/
def skipLine : Str → Str
  | [] => []
  | c :: r => if c == '\n' then c :: r else skipLine r

/-- `preParse`: ignorables (`[ \t]*#.*`), then white space -/
def skip (s : Str) : Str :=
  match skipWs s with
  | '#' :: r => skipLine r
  | t => t

def dropPrefix : Str → Str → Option Str
  | [], s => some s
  | _ :: _, [] => none
  | p :: ps, c :: r => if c == p then dropPrefix ps r else none

/-- `Literal(p)` -/
def lit (p : Str) (s : Str) : Option Str := dropPrefix p (skip s)

/-- `Word(init, body)` -/
def word (init body : Char → Bool) (s : Str) : Option (Str × Str) :=
  match skip s with
  | [] => none
  | c :: r => if init c then some (c :: r.takeWhile body, r.dropWhile body) else none

/-- `CaselessKeyword(k)` -/
def kw (k : Str) (s : Str) : Option Str :=
  let t := skip s
  if (t.take k.length).map Char.toUpper == k.map Char.toUpper then
    match t.drop k.length with
    | [] => some []
    | c :: r => if isIdent c then none else some (c :: r)
  else none

/-- `var = Word(alphas, alphanums+"_")` -/
def var (s : Str) : Option (Str × Str) := word isVar0 isVarC s
/-- `path = Word(alphanums+".-_/~")` -/
def path (s : Str) : Option (Str × Str) := word isPathC isPathC s

/-- `ZeroOrMore(Suppress(delim) + item)`; every round consumes at least the delimiter, `fuel` = input length + 1
    never runs out -/
def more {α : Type} (delim : Str) (item : Str → Option (α × Str)) : Nat → Str → List α × Str
  | 0, s => ([], s)
  | fuel + 1, s =>
    match lit delim s with
    | none => ([], s)
    | some r =>
      match item r with
      | none => ([], s)
      | some (x, r') =>
        let (xs, r'') := more delim item fuel r'
        (x :: xs, r'')

/-- `delimitedList(item, delim)` = `item + ZeroOrMore(Suppress(delim) + item)` -/
def list1 {α : Type} (delim : Str) (item : Str → Option (α × Str)) (s : Str) : Option (List α × Str) :=
  match item s with
  | none => none
  | some (x, r) =>
    let (xs, r') := more delim item (r.length + 1) r
    some (x :: xs, r')

/-- `List(item, delim)` = `Group(Optional(item + ZeroOrMore(Suppress(delim) + item)))`: never fails -/
def listOf {α : Type} (delim : Str) (item : Str → Option (α × Str)) (s : Str) : List α × Str :=
  match list1 delim item s with
  | none => ([], s)
  | some r => r

/-- `signal = Group(var + Flag("*"))` -/
def signal (s : Str) : Option (SigRef × Str) :=
  match var s with
  | none => none
  | some (n, r) =>
    match lit ['*'] r with
    | some r' => some (⟨String.ofList n, true⟩, r')
    | none => some (⟨String.ofList n, false⟩, r)

/-- `signal_list = List(signal, "+")` -/
def signalList (s : Str) : List SigRef × Str := listOf ['+'] signal s

/-- `parseAll=True`: `dw` = the process-global default white space at call time -/
def endOk (dw : Str) (s : Str) : Bool := ((skip s).dropWhile (fun c => dw.contains c)).isEmpty

/-! ### template arguments -/

inductive ArgV | ok | bad | unk
deriving Repr, DecidableEq

/-- state of the expression recogniser: an operand is needed / inside a number (did it start with `0`?) / an
    operand is complete -/
inductive ASt | need | inNum (lead0 : Bool) | done
deriving Repr, DecidableEq

/-- one character of an argument over `[0-9+*( -]`; `none` = SyntaxError -/
def aStep : ASt → Char → Option ASt
  | .need, c =>
    if c.isDigit then some (.inNum (c == '0')) else if c == '+' || c == '-' || c == ' ' then some .need else none
  | .inNum z, c =>
    if c.isDigit then (if z && c != '0' then none else some (.inNum z))
    else if c == '+' || c == '-' || c == '*' then some .need else if c == ' ' then some .done else none
  | .done, c =>
    if c == '+' || c == '-' || c == '*' then some .need else if c == ' ' then some .done else none

def aRun : ASt → Str → Bool
  | .need, [] => false
  | _, [] => true
  | st, c :: r => match aStep st c with
    | none => false
    | some st' => aRun st' r

def isArithC (c : Char) : Bool := c.isDigit || c == '+' || c == '-' || c == '*' || c == '(' || c == ' '
def isStrBodyC (c : Char) : Bool := c.isAlphanum || c == '_' || c == ' '

def hasPow : Str → Bool
  | '*' :: '*' :: _ => true
  | _ :: r => hasPow r
  | [] => false

/-- a quoted string with a harmless body, possibly followed by spaces -/
def isSimpleString (a : Str) : Bool :=
  match a with
  | q :: r =>
    (q == '\'' || q == '"') &&
    (match (r.reverse.dropWhile (· == ' ')) with
     | q' :: body => q' == q && body.all isStrBodyC
     | [] => false)
  | [] => false

/-- what `eval` does with an argument text: evaluates / raises / not modelled -/
def argVerdict (a : Str) : ArgV :=
  if a.length > 200 then .unk
  else if isSimpleString a then .ok
  else if !a.all isArithC || hasPow a then .unk
  else if aRun .need a then .ok else .bad

inductive Err | reject | outOfModel
deriving Repr, DecidableEq

/-- `python_object`: the word, then `eval` -/
def pyObj (s : Str) : Except Err (Option Str) :=
  match word isPy0 isPyC s with
  | none => .ok none
  | some (a, r) =>
    match argVerdict a with
    | .ok => .ok (some r)
    | .bad => .error .reject
    | .unk => .error .outOfModel

/-- `ZeroOrMore(Suppress(",") + python_object)`, counting -/
def pyMore : Nat → Str → Except Err (Nat × Str)
  | 0, s => .ok (0, s)
  | fuel + 1, s =>
    match lit [','] s with
    | none => .ok (0, s)
    | some r =>
      match pyObj r with
      | .error e => .error e
      | .ok none => .ok (0, s)
      | .ok (some r') =>
        match pyMore fuel r' with
        | .error e => .error e
        | .ok (n, r'') => .ok (n + 1, r'')

/-- `List(python_object, ",")`, counting -/
def pyList (s : Str) : Except Err (Nat × Str) :=
  match pyObj s with
  | .error e => .error e
  | .ok none => .ok (0, s)
  | .ok (some r) =>
    match pyMore (r.length + 1) r with
    | .error e => .error e
    | .ok (n, r') => .ok (n + 1, r')

/-- `component_params = O(S("(") + List(python_object, ",") + S(")"), default=[])` -/
def componentParams (s : Str) : Except Err (Nat × Str) :=
  match lit ['('] s with
  | none => .ok (0, s)
  | some r =>
    match pyList r with
    | .error e => .error e
    | .ok (n, r') =>
      match lit [')'] r' with
      | some r'' => .ok (n, r'')
      | none => .ok (0, s)

/-- `decl_params = O(S("(") + List(var, ",") + S(")"), default=[])` -/
def declParams (s : Str) : List String × Str :=
  match lit ['('] s with
  | none => ([], s)
  | some r =>
    let (ps, r') := listOf [','] var r
    match lit [')'] r' with
    | some r'' => (ps.map String.ofList, r'')
    | none => ([], s)

/-! ### the three statements -/

/-- `Group(path + O(S("as") + var, default=None))` -/
def importItem (s : Str) : Option ((String × Option String) × Str) :=
  match path s with
  | none => none
  | some (p, r) =>
    match lit ['a', 's'] r with
    | none => some ((String.ofList p, none), r)
    | some r1 =>
      match var r1 with
      | none => some ((String.ofList p, none), r)
      | some (a, r2) => some ((String.ofList p, some (String.ofList a)), r2)

/-- `parse_import_statement` -/
def parseImportL (dw : Str) (s0 : Str) : Option (List (String × Option String)) :=
  match kw "import".toList (expandTabs s0 0) with
  | none => none
  | some r =>
    match list1 [','] importItem r with
    | none => none
    | some (items, r') => if endOk dw r' then some items else none

/-- `parse_component_statement` -/
def parseComponentL (dw : Str) (s0 : Str) : Except Err SStmt :=
  match kw "component".toList (expandTabs s0 0) with
  | none => .error .reject
  | some r1 =>
    match var r1 with
    | none => .error .reject
    | some (name, r2) =>
      match lit ['='] r2 with
      | none => .error .reject
      | some r3 =>
        match var r3 with
        | none => .error .reject
        | some (templ, r4) =>
          match componentParams r4 with
          | .error e => .error e
          | .ok (n, r5) =>
            match lit [':'] r5 with
            | none => .error .reject
            | some r6 =>
              let (ins, r7) := signalList r6
              match lit ['-', '>'] r7 with
              | none => .error .reject
              | some r8 =>
                let (outs, r9) := signalList r8
                if endOk dw r9 then .ok (.component (String.ofList name) (String.ofList templ) n ins outs)
                else .error .reject

/-- the declare header -/
structure Decl where
  name : String
  params : List String
  inputs : List SigRef
  outputs : List SigRef
deriving Repr, DecidableEq

/-- `parse_declare_statement` -/
def parseDeclareL (dw : Str) (s0 : Str) : Option Decl :=
  match kw "declare".toList (expandTabs s0 0) with
  | none => none
  | some r1 =>
    match lit "system".toList r1 with
    | none => none
    | some r2 =>
      match var r2 with
      | none => none
      | some (name, r3) =>
        let (ps, r4) := declParams r3
        match lit [':'] r4 with
        | none => none
        | some r5 =>
          let (ins, r6) := signalList r5
          match lit ['-', '>'] r6 with
          | none => none
          | some r7 =>
            let (outs, r8) := signalList r7
            if endOk dw r8 then some ⟨String.ofList name, ps, ins, outs⟩ else none

/-! ### `load_system` -/

/-- the body of the statement loop on one cleaned, non-empty line: dispatch on the first word -/
def parseStmtL (dw : Str) (c : Str) : Except Err SStmt :=
  let cmd := firstWord c
  if cmd == "declare".toList then .error .reject
  else if cmd == "import".toList then
    match parseImportL dw c with
    | some items => .ok (.imports items)
    | none => .error .reject
  else if cmd == "component".toList then parseComponentL dw c
  else .error .reject

/-- the body of the statement loop on one raw line: `none` = the line is skipped -/
def parseLineL (dw : Str) (l : Str) : Except Err (Option SStmt) :=
  let c := cleanLine l
  if c.isEmpty then .ok none
  else match parseStmtL dw c with
    | .error e => .error e
    | .ok st => .ok (some st)

/-- `for line in doc.split("\n"): …` -/
def parseLines (dw : Str) : List Str → Except Err (List SStmt)
  | [] => .ok []
  | l :: r =>
    match parseLineL dw l with
    | .error e => .error e
    | .ok none => parseLines dw r
    | .ok (some st) =>
      match parseLines dw r with
      | .error e => .error e
      | .ok sts => .ok (st :: sts)

/-- `load_system` from the first statement and the substituted document to the source AST -/
def parseDocL (dw : Str) (decl : Str) (doc : Str) : Except Err SSrc :=
  match parseDeclareL dw decl with
  | none => .error .reject
  | some d =>
    match parseLines dw (splitOn '\n' doc) with
    | .error e => .error e
    | .ok sts => .ok ⟨d.name, d.params, d.inputs, d.outputs, sts⟩

/-- lines of a text file as `for line in f` yields them (each with its `\n`, the last one possibly without) -/
def fileLines : Str → Str → List Str
  | [], [] => []
  | [], acc => [acc.reverse]
  | c :: r, acc => if c == '\n' then (c :: acc).reverse :: fileLines r [] else fileLines r (c :: acc)

/-- the first-statement search: the statement found (`""` if there is none) and the lines left in the file -/
def firstStatementAux : List Str → Str × List Str
  | [] => ([], [])
  | l :: r =>
    let c := cleanLine l
    if c.isEmpty then firstStatementAux r else (c, r)

def firstStatementL (text : Str) : Str × List Str := firstStatementAux (fileLines text [])

/-! ### `String` front ends -/

def defaultWs : String := " \t"

def parseImport (dw : String) (line : String) : Option (List (String × Option String)) :=
  parseImportL dw.toList line.toList
def parseComponent (dw : String) (line : String) : Except Err SStmt := parseComponentL dw.toList line.toList
def parseDeclare (dw : String) (line : String) : Option Decl := parseDeclareL dw.toList line.toList
def parseLine (dw : String) (line : String) : Except Err (Option SStmt) := parseLineL dw.toList line.toList
def parseDoc (dw : String) (decl doc : String) : Except Err SSrc := parseDocL dw.toList decl.toList doc.toList
def firstStatement (text : String) : String × List String :=
  let (c, r) := firstStatementL text.toList
  (String.ofList c, r.map String.ofList)

/-! ### spelling: statements as text, with free blanks where the grammar skips white space

`Layout` gives the NUMBER of blanks at every place where the grammar allows white space; the default values are the
canonical spelling, the one `progen.render_sys` writes (`renderSStmt`, `renderDecl`).  Places where at least one
blank is mandatory (after the keyword, before `as`) are rendered with one blank more than the layout says.
List positions are numbered: element `i` of a list uses `commaL i`, `commaR i`, `asL i`, `asR i`, `inGap i`, `outGap i`. -/

def sp (n : Nat) : Str := List.replicate n ' '

/-- blanks around one signal of a signal list: before its `*`, before and after the `+` that follows it -/
structure SigGap where
  star : Nat := 0
  plusL : Nat := 1
  plusR : Nat := 1

structure Layout where
  /-- before the keyword -/
  lead : Nat := 0
  /-- after the keyword (one more) -/
  afterKw : Nat := 0
  /-- `declare`: between `system` and the name (may be 0: `systemX`) -/
  afterSystem : Nat := 1
  eqL : Nat := 1
  eqR : Nat := 1
  /-- write `()` for an empty parameter / argument list -/
  emptyParens : Bool := false
  parL : Nat := 0
  parIn : Nat := 0
  /-- before `)` (parameter lists of `declare` only; in an argument list such blanks are part of the argument) -/
  parOut : Nat := 0
  colonL : Nat := 0
  colonR : Nat := 1
  arrowL : Nat := 1
  arrowR : Nat := 1
  /-- after the statement -/
  trail : Nat := 0
  /-- before / after the comma that follows list element `i` (before: not in argument lists) -/
  commaL : Nat → Nat := fun _ => 0
  commaR : Nat → Nat := fun _ => 1
  /-- before (one more) / after the `as` of import item `i` (after may be 0: `asX`) -/
  asL : Nat → Nat := fun _ => 0
  asR : Nat → Nat := fun _ => 1
  inGap : Nat → SigGap := fun _ => {}
  outGap : Nat → SigGap := fun _ => {}

def renderSigW (g : SigGap) (r : SigRef) : Str := r.name.toList ++ (if r.star then sp g.star ++ ['*'] else [])

def renderSigsW (G : Nat → SigGap) : Nat → List SigRef → Str
  | _, [] => []
  | i, [r] => renderSigW (G i) r
  | i, r :: r2 :: rest =>
    renderSigW (G i) r ++ sp (G i).plusL ++ ['+'] ++ sp (G i).plusR ++ renderSigsW G (i + 1) (r2 :: rest)

/-- a comma-separated list of words -/
def renderCommaW (L : Layout) (left : Bool) : Nat → List Str → Str
  | _, [] => []
  | _, [w] => w
  | i, w :: w2 :: rest =>
    w ++ sp (if left then L.commaL i else 0) ++ [','] ++ sp (L.commaR i) ++ renderCommaW L left (i + 1) (w2 :: rest)

/-- `(p1, p2)`; nothing (or `()`) for an empty list.  `left`: blanks before `,` and `)` are written -/
def renderParensW (L : Layout) (left : Bool) (ws : List Str) : Str :=
  if ws.isEmpty && !L.emptyParens then []
  else sp L.parL ++ ['('] ++ sp L.parIn ++ renderCommaW L left 0 ws ++ sp (if left then L.parOut else 0) ++ [')']

def renderItemW (L : Layout) (i : Nat) (it : String × Option String) : Str :=
  match it.2 with
  | some a => it.1.toList ++ sp (L.asL i + 1) ++ ['a', 's'] ++ sp (L.asR i) ++ a.toList
  | none => it.1.toList

def renderItemsW (L : Layout) : Nat → List (String × Option String) → Str
  | _, [] => []
  | i, [it] => renderItemW L i it
  | i, it :: it2 :: rest =>
    renderItemW L i it ++ sp (L.commaL i) ++ [','] ++ sp (L.commaR i) ++ renderItemsW L (i + 1) (it2 :: rest)

/-- `: ins -> outs`, up to the last non-blank character -/
def renderIOW (L : Layout) (ins outs : List SigRef) : Str :=
  sp L.colonL ++ [':'] ++ sp L.colonR ++ renderSigsW L.inGap 0 ins ++ sp L.arrowL ++ ['-', '>'] ++
    (if outs.isEmpty then [] else sp L.arrowR ++ renderSigsW L.outGap 0 outs)

/-- the blanks after the last non-blank character -/
def tailBlanks (L : Layout) (outs : List SigRef) : Nat := (if outs.isEmpty then L.arrowR else 0) + L.trail

/-- a statement without the blanks before and after it; every template argument is spelled `1` (the AST keeps
    their number only) -/
def renderCoreW (L : Layout) : SStmt → Str
  | .imports items => "import".toList ++ sp (L.afterKw + 1) ++ renderItemsW L 0 items
  | .component name templ args ins outs =>
    "component".toList ++ sp (L.afterKw + 1) ++ name.toList ++ sp L.eqL ++ ['='] ++ sp L.eqR ++
      templ.toList ++ renderParensW L false (List.replicate args ['1']) ++ renderIOW L ins outs

def stmtTail (L : Layout) : SStmt → Nat
  | .imports _ => L.trail
  | .component _ _ _ _ outs => tailBlanks L outs

def renderSStmtW (L : Layout) (s : SStmt) : Str := sp L.lead ++ renderCoreW L s ++ sp (stmtTail L s)

def renderDeclCoreW (L : Layout) (d : Decl) : Str :=
  "declare".toList ++ sp (L.afterKw + 1) ++ "system".toList ++ sp L.afterSystem ++ d.name.toList ++
    renderParensW L true (d.params.map String.toList) ++ renderIOW L d.inputs d.outputs

def renderDeclW (L : Layout) (d : Decl) : Str :=
  sp L.lead ++ renderDeclCoreW L d ++ sp (tailBlanks L d.outputs)

/-- the canonical spelling (what `progen.render_sys` writes) -/
def renderSStmt (s : SStmt) : String := String.ofList (renderSStmtW {} s)
def renderDecl (d : Decl) : String := String.ofList (renderDeclW {} d)

/-- the statements one per line, each line ended by `\n` (what `process_list` hands to the statement loop for a
    file without templates, comments and blank lines); line `i` is laid out by `Ls i` -/
def renderDocW (Ls : Nat → Layout) : Nat → List SStmt → Str
  | _, [] => []
  | i, s :: r => renderSStmtW (Ls i) s ++ '\n' :: renderDocW Ls (i + 1) r

/-- a whole file: the declare line, then the statements -/
def renderFileW (L : Layout) (Ls : Nat → Layout) (src : SSrc) : Str :=
  renderDeclW L ⟨src.name, src.params, src.inputs, src.outputs⟩ ++ '\n' :: renderDocW Ls 0 src.stmts

def renderDoc (stmts : List SStmt) : String := String.ofList (renderDocW (fun _ => {}) 0 stmts)

end Pepper.ParseSys
