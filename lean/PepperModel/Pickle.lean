/-!
# `pickle` — the object graph that `compiler.save` writes and `compiler.load` reads back
(mirrors CPython 3.12: the unpickler `pickle._Unpickler` of `Lib/pickle.py` — the readable reference of the C
`_pickle.Unpickler` that `pickle.load` really runs — and the pickler `_pickle.Pickler` of `Modules/_pickle.c`, protocol
`pickle.DEFAULT_PROTOCOL = 4`, which is what `pickle.dump(obj, f)` in `peppercompiler/compiler.py: save` uses)

**Heap.**  Python objects are cells of an array, references are indices (`Ref`).  A cell is a `Tag` (the kind and the
payload that is not a reference) and the list of references it holds (`kids`), in a fixed layout per kind:

* `none`, `bool b`, `int z`, `float bits` (the 8 big-endian bytes of the IEEE double as 16 hex digits, NEVER a `Float`),
  `str s`, `bytes hex`: no kids;
* `tuple`, `list`, `set`, `frozenset`: the elements in (iteration) order;  `dict`: `k₀, v₀, k₁, v₁, …` in iteration order;
* `global`: `[module, qualname]`, two `str` cells (the pickler saves these two strings as objects, memoised by identity);
* `obj viaNew hasState nItems`: an object the pickler handles through `__reduce_ex__(4)` — exactly the 5-tuple
  `(func, args, state, listitems, dictitems)` the pickler sees: kids `= cls/func :: args :: [state]? ++ listitems ++
  dictitems(k, v flattened)`.  `viaNew = true`: `func` is `copyreg.__newobj__`, the first kid is the CLASS (`args[0]`)
  and the second the rest of the argument tuple (`NEWOBJ`); `viaNew = false`: first kid is the callable (`REDUCE`).
  For an ordinary instance `state` is the instance's own `__dict__` (a `dict` cell with identity).

Mutable containers and instances are UPDATED IN PLACE (`APPENDS`, `SETITEMS`, `ADDITEMS`, `BUILD` rewrite the one cell):
that is what gives sharing and cycles (`s.wc.wc is s`).

**Unpickler** (`run`): stack of items (reference or MARK; `pickle.py` keeps a `metastack`, the C code a mark array — the
same thing), memo (`MEMOIZE` stores at index `len(memo)`; `BINPUT i` is supported for the dense use `i ≤ len(memo)`,
anything else is `unsupported`).  Every stack underflow, missing MARK, bad memo index, dangling reference and wrong cell
kind is an explicit `Err`, never a default.  What a real unpickler does and this one does NOT:
* `find_class` (import the module, `getattr` along the qualified name): `STACK_GLOBAL` makes a `global` cell holding the two
  strings; that the fresh process finds the same class there is outside the model;
* calling the class (`cls.__new__(cls, *args)` for `NEWOBJ`, `func(*args)` for `REDUCE`) is modelled as "a NEW object that
  remembers how it was made" (`obj` cell) — right for `object.__new__`, `OrderedDict()`, `copyreg._reconstructor`, wrong for
  a callable that hands out an existing object;
* `BUILD` mirrors `load_build`: a class with `__setstate__` (listed in `Cfg.setstate` by module and qualified name) is
  `unsupported`; `(state, slotstate)` 2-tuples are split; a true `state` must be a dict and is COPIED, key by key, into the
  instance's own attribute dict (a new `dict` cell allocated at the first `BUILD`, which becomes the `state` kid — the
  pickled dict itself is dropped, exactly as in Python); non-empty `slotstate` is `unsupported`.  Interning of the keys
  (`sys.intern`) is not modelled (identity of attribute-name strings);
* dict / set semantics need key equality (`keyEq`): strings, bytes, ints, bools (with `True == 1`), `None` by value;
  `global`s by their two names; `obj`s by identity (assumes no `__eq__`); floats, tuples and frozensets as keys are
  `unsupported` unless they are the same cell; lists, dicts and sets are unhashable = an error.  A key that is already
  present keeps its OLD key object and position and gets the new value (Python's `d[k] = v`).

**Pickler** (`dump`): `save` mirrors `_pickle.c: save` with CPython's memo discipline — `None`, `bool`, `int`, `float`
are written before the memo is consulted and never memoised; then memo lookup BY CELL (= `id(obj)`) → `BINGET`; `str` /
`bytes`: the literal then `MEMOIZE`; tuple: `()` → `EMPTY_TUPLE` un-memoised; elements, then the re-check "did saving my
elements memoise me" (recursive tuple: `POP`×n or `POP_MARK`, then `BINGET`), else `TUPLE1/2/3` or `MARK … TUPLE`, then
`MEMOIZE`; list: `EMPTY_LIST MEMOIZE` then batches; dict: `EMPTY_DICT MEMOIZE` then batches; set: `EMPTY_SET MEMOIZE`
batches with `ADDITEMS`; frozenset: `MARK … FROZENSET MEMOIZE` with the same re-check; class: module string, qualname
string (both through `save`, so memoised strings), `STACK_GLOBAL`, `MEMOIZE`; `obj`: `save_reduce` — class, args, `NEWOBJ`
(or callable, args, `REDUCE`), memo re-check (`POP` + `BINGET`) or `MEMOIZE`, list items, dict items, state + `BUILD`.
Batching is the C code's, which is NOT `pickle.py`'s (`batchSize = 1000`):
* exact `list`: one element → `APPEND`; else every batch, also a last batch of one, is `MARK … APPENDS`;
* exact `dict`: one pair → `SETITEM`; else `MARK … SETITEMS` per batch and — `do { … } while (i == BATCHSIZE)` — an EMPTY
  batch `MARK SETITEMS` after a last full batch (sizes 1000, 2000, …); `set` likewise with `ADDITEMS`;
* items coming from an iterator (`listitems` / `dictitems` of a reduce value): a batch of exactly one is `APPEND` /
  `SETITEM` without a MARK, no empty batch.
`PROTO` and `FRAME` are not produced (framing is a property of the byte stream, not of the opcode sequence).

**Canonical form** (`canon`): the non-atomic cells reachable from the root, numbered in first-visit order of a depth-first
walk (kids in order), each with its tag and its kids renamed to those numbers; atomic cells (`None`, bools, ints, floats
and the empty tuple — exactly the objects the pickler never memoises, whose identity therefore cannot and need not
survive) are inlined by value.  Two rooted heaps have the same canonical form iff their reachable parts are isomorphic
including sharing and cycles (`PepperProps/C16Pickle.lean`).
-/
namespace Pepper.Pickle

abbrev Ref := Nat

inductive Tag
  | none | bool (b : Bool) | int (z : Int) | float (bits : String)
  | str (s : String) | bytes (hex : String)
  | tuple | list | dict | set | frozenset
  | global
  | obj (viaNew : Bool) (hasState : Bool) (nItems : Nat)
  deriving DecidableEq, Repr, Inhabited

structure Cell where
  tag : Tag
  kids : List Ref := []
  deriving DecidableEq, Repr, Inhabited

abbrev Heap := Array Cell

/-- the objects the pickler writes before looking at the memo and never memoises -/
def Cell.isAtom (c : Cell) : Bool :=
  match c.tag with
  | .none | .bool _ | .int _ | .float _ => true
  | .tuple => c.kids.isEmpty
  | _ => false

/-! ### opcodes -/

inductive Op
  | proto (n : Nat) | frame | stop
  | none | newtrue | newfalse
  | int (z : Int)            -- BININT, BININT1, BININT2, LONG1 (LONG4)
  | float (bits : String)    -- BINFLOAT, payload = 16 hex digits
  | str (s : String)         -- SHORT_BINUNICODE, BINUNICODE, BINUNICODE8
  | bytes (hex : String)     -- SHORT_BINBYTES, BINBYTES, BINBYTES8
  | memoize
  | get (i : Nat)            -- BINGET, LONG_BINGET
  | put (i : Nat)            -- BINPUT, LONG_BINPUT
  | emptyDict | emptyList | emptyTuple | emptySet
  | mark | setitem | setitems | append | appends | additems | frozenset
  | tuple | tuple1 | tuple2 | tuple3
  | global (module name : String) | stackGlobal
  | newobj | newobjEx | reduce | build
  | pop | popMark | dup
  deriving DecidableEq, Repr, Inhabited

inductive Err
  | stack            -- underflow, or a MARK where a value is needed
  | noMark           -- no MARK on the stack
  | memo             -- memo index not present
  | ref              -- dangling reference
  | kind (what : String)          -- wrong kind of cell for the opcode (TypeError / AttributeError / UnpicklingError)
  | unsupported (what : String)   -- legal Python that this model does not mirror
  | eof              -- op list ended without STOP
  | proto
  | fuel
  deriving DecidableEq, Repr, Inhabited

def Err.cls : Err → String
  | .stack => "stack" | .noMark => "no-mark" | .memo => "memo" | .ref => "ref"
  | .kind w => "kind:" ++ w | .unsupported w => "unsupported:" ++ w | .eof => "eof" | .proto => "proto" | .fuel => "fuel"

/-! ### layout of `obj` cells -/

structure ObjParts where
  viaNew : Bool
  cls : Ref
  args : Ref
  state : Option Ref
  items : List Ref
  ditems : List Ref     -- k, v flattened
  deriving DecidableEq, Repr

def ObjParts.cell (p : ObjParts) : Cell :=
  ⟨.obj p.viaNew p.state.isSome p.items.length, p.cls :: p.args :: (p.state.toList ++ (p.items ++ p.ditems))⟩

def Cell.objParts? (c : Cell) : Option ObjParts :=
  match c.tag, c.kids with
  | .obj vn true n, cls :: args :: st :: rest => some ⟨vn, cls, args, some st, rest.take n, rest.drop n⟩
  | .obj vn false n, cls :: args :: rest => some ⟨vn, cls, args, none, rest.take n, rest.drop n⟩
  | _, _ => none

/-! ### the unpickler -/

inductive Item
  | ref (r : Ref) | mark
  deriving DecidableEq, Repr, Inhabited

structure VM where
  heap : Heap := #[]
  stack : List Item := []      -- head = top
  memo : Array Ref := #[]
  deriving Repr, Inhabited

/-- classes (module, qualified name) that define `__setstate__`: `BUILD` on their instances is `unsupported` -/
structure Cfg where
  setstate : List (String × String) := []

def VM.alloc (v : VM) (c : Cell) : VM :=
  { v with heap := v.heap.push c, stack := .ref v.heap.size :: v.stack }

def VM.cell (v : VM) (r : Ref) : Except Err Cell :=
  match v.heap[r]? with
  | some c => .ok c
  | none => .error .ref

def VM.popRef (v : VM) : Except Err (Ref × VM) :=
  match v.stack with
  | .ref r :: rest => .ok (r, { v with stack := rest })
  | _ => .error .stack

def VM.topRef (v : VM) : Except Err Ref :=
  match v.stack with
  | .ref r :: _ => .ok r
  | _ => .error .stack

/-- items above the topmost MARK (in push order) and the stack below it -/
def splitMark : List Item → List Ref → Option (List Ref × List Item)
  | [], _ => none
  | .mark :: rest, acc => some (acc, rest)
  | .ref r :: rest, acc => splitMark rest (r :: acc)

def VM.popMark (v : VM) : Except Err (List Ref × VM) :=
  match splitMark v.stack [] with
  | some (items, rest) => .ok (items, { v with stack := rest })
  | none => .error .noMark

def strOf (h : Heap) (r : Ref) : Option String :=
  match h[r]? with
  | some ⟨.str s, _⟩ => some s
  | _ => none

/-- Python's `a == b` for two objects used as dict keys / set members (see the header for what is covered) -/
def keyEq (h : Heap) (a b : Ref) : Except Err Bool :=
  if a = b then .ok true else
  match h[a]?, h[b]? with
  | some ca, some cb =>
    match ca.tag, cb.tag with
    | .str s, .str t => .ok (s == t)
    | .bytes s, .bytes t => .ok (s == t)
    | .int x, .int y => .ok (x == y)
    | .bool x, .bool y => .ok (x == y)
    | .bool x, .int y => .ok ((if x then 1 else 0) == y)
    | .int x, .bool y => .ok (x == (if y then 1 else 0))
    | .none, .none => .ok true
    | .float _, _ => .error (.unsupported "float key")
    | _, .float _ => .error (.unsupported "float key")
    | .tuple, .tuple => if ca.kids.isEmpty && cb.kids.isEmpty then .ok true
                        else if ca.kids.length != cb.kids.length then .ok false else .error (.unsupported "tuple key")
    | .frozenset, .frozenset => .error (.unsupported "frozenset key")
    | .global, .global =>
      match ca.kids, cb.kids with
      | [m1, n1], [m2, n2] =>
        match strOf h m1, strOf h n1, strOf h m2, strOf h n2 with
        | some a1, some a2, some b1, some b2 => .ok (a1 == b1 && a2 == b2)
        | _, _, _, _ => .error (.kind "global")
      | _, _ => .error (.kind "global")
    | _, _ => .ok false
  | _, _ => .error .ref

def hashable (h : Heap) (k : Ref) : Except Err Unit :=
  match h[k]? with
  | some c => match c.tag with
    | .list | .dict | .set => .error (.kind "unhashable")
    | _ => .ok ()
  | none => .error .ref

/-- `d[k] = v` on the flattened pair list -/
def dictSet (h : Heap) : List Ref → Ref → Ref → Except Err (List Ref)
  | [], k, v => .ok [k, v]
  | [_], _, _ => .error (.kind "dict")
  | k0 :: v0 :: rest, k, v => do
    if (← keyEq h k0 k) then pure (k0 :: v :: rest)
    else
      let r ← dictSet h rest k v
      pure (k0 :: v0 :: r)

def dictSetMany (h : Heap) : List Ref → List Ref → Except Err (List Ref)
  | kvs, [] => .ok kvs
  | _, [_] => .error (.kind "odd")
  | kvs, k :: v :: rest => do
    hashable h k
    let kvs' ← dictSet h kvs k v
    dictSetMany h kvs' rest

/-- `s.add(x)` -/
def setAdd (h : Heap) : List Ref → Ref → Except Err (List Ref)
  | [], x => .ok [x]
  | y :: rest, x => do
    if (← keyEq h y x) then pure (y :: rest)
    else
      let r ← setAdd h rest x
      pure (y :: r)

def setAddMany (h : Heap) : List Ref → List Ref → Except Err (List Ref)
  | s, [] => .ok s
  | s, x :: rest => do
    hashable h x
    let s' ← setAdd h s x
    setAddMany h s' rest

def VM.setCell (v : VM) (r : Ref) (c : Cell) : VM := { v with heap := v.heap.setIfInBounds r c }

/-- `list_obj.extend(items)` on the object under the items -/
def VM.extend (v : VM) (target : Ref) (items : List Ref) : Except Err VM := do
  let c ← v.cell target
  match c.tag with
  | .list => pure (v.setCell target { c with kids := c.kids ++ items })
  | .obj .. =>
    match c.objParts? with
    | some p => pure (v.setCell target { p with items := p.items ++ items }.cell)
    | none => throw (.kind "obj")
  | _ => throw (.kind "append")

/-- `dict[k] = v` for the pairs, on the object under them -/
def VM.setitems (v : VM) (target : Ref) (kvs : List Ref) : Except Err VM := do
  let c ← v.cell target
  match c.tag with
  | .dict =>
    let k' ← dictSetMany v.heap c.kids kvs
    pure (v.setCell target { c with kids := k' })
  | .obj .. =>
    match c.objParts? with
    | some p =>
      let d' ← dictSetMany v.heap p.ditems kvs
      pure (v.setCell target { p with ditems := d' }.cell)
    | none => throw (.kind "obj")
  | _ => throw (.kind "setitem")

/-- truth value of a cell, as `if state:` sees it (`none` = not decidable here) -/
def truthy (c : Cell) : Option Bool :=
  match c.tag with
  | .none => some false
  | .bool b => some b
  | .int z => some (z != 0)
  | .str s => some (s != "")
  | .bytes s => some (s != "")
  | .tuple | .list | .dict | .set | .frozenset => some (!c.kids.isEmpty)
  | .global => some true
  | .float _ => none
  | .obj .. => none

def classNames (h : Heap) (cls : Ref) : Option (String × String) :=
  match h[cls]? with
  | some ⟨.global, [m, n]⟩ =>
    match strOf h m, strOf h n with
    | some a, some b => some (a, b)
    | _, _ => none
  | _ => none

/-- the instance's own `__dict__` cell; allocated (empty) when the instance has none yet -/
def VM.instDict (v : VM) (inst : Ref) (p : ObjParts) : Ref × VM :=
  match p.state with
  | some d => (d, v)
  | none => (v.heap.size,
      { v with heap := (v.heap.push ⟨.dict, []⟩).setIfInBounds inst { p with state := some v.heap.size }.cell })

/-- `if state: inst_dict = inst.__dict__; for k, v in state.items(): inst_dict[k] = v` for the pickled state cell `dc` -/
def VM.updateAttrs (v : VM) (inst : Ref) (p : ObjParts) (dc : Cell) : Except Err VM :=
  match truthy dc with
  | none => .error (.unsupported "state truth value")
  | some false => .ok v
  | some true =>
    if dc.tag != .dict then .error (.kind "state") else
    match (v.instDict inst p).2.cell (v.instDict inst p).1 with
    | .error e => .error e
    | .ok cur =>
      if cur.tag != .dict then .error (.kind "__dict__") else
      match dictSetMany (v.instDict inst p).2.heap cur.kids dc.kids with
      | .error e => .error e
      | .ok k' => .ok ((v.instDict inst p).2.setCell (v.instDict inst p).1 { cur with kids := k' })

/-- `if slotstate: for k, v in slotstate.items(): setattr(inst, k, v)` — only the empty case is mirrored -/
def VM.slotState (v : VM) (slot : Option Ref) : Except Err VM :=
  match slot with
  | none => .ok v
  | some s =>
    match v.cell s with
    | .error e => .error e
    | .ok sl =>
      match truthy sl with
      | some false => .ok v
      | _ => .error (.unsupported "slotstate")

/-- `load_build` -/
def VM.build (cfg : Cfg) (v0 : VM) : Except Err VM := do
  let (st, v) ← v0.popRef
  let inst ← v.topRef
  let ic ← v.cell inst
  match ic.objParts? with
  | none => throw (.kind "build")
  | some p =>
    match classNames v.heap p.cls with
    | none => throw (.kind "class")
    | some mn =>
      if cfg.setstate.contains mn then throw (.unsupported "__setstate__") else
      let sc ← v.cell st
      -- `if isinstance(state, tuple) and len(state) == 2: state, slotstate = state`
      let ds : Ref × Option Ref :=
        match sc.tag, sc.kids with
        | .tuple, [a, b] => (a, some b)
        | _, _ => (st, none)
      let dc ← v.cell ds.1
      let v1 ← v.updateAttrs inst p dc
      v1.slotState ds.2

def VM.step (cfg : Cfg) (v : VM) : Op → Except Err VM
  | .proto n => if n ≤ 5 then pure v else throw .proto
  | .frame => pure v
  | .stop => pure v     -- handled by `runOps`
  | .none => pure (v.alloc ⟨.none, []⟩)
  | .newtrue => pure (v.alloc ⟨.bool true, []⟩)
  | .newfalse => pure (v.alloc ⟨.bool false, []⟩)
  | .int z => pure (v.alloc ⟨.int z, []⟩)
  | .float b => pure (v.alloc ⟨.float b, []⟩)
  | .str s => pure (v.alloc ⟨.str s, []⟩)
  | .bytes s => pure (v.alloc ⟨.bytes s, []⟩)
  | .memoize => do
    let r ← v.topRef
    pure { v with memo := v.memo.push r }
  | .get i =>
    match v.memo[i]? with
    | some r => pure { v with stack := .ref r :: v.stack }
    | none => throw .memo
  | .put i => do
    let r ← v.topRef
    if i < v.memo.size then pure { v with memo := v.memo.setIfInBounds i r }
    else if i = v.memo.size then pure { v with memo := v.memo.push r }
    else throw (.unsupported "sparse memo")
  | .emptyDict => pure (v.alloc ⟨.dict, []⟩)
  | .emptyList => pure (v.alloc ⟨.list, []⟩)
  | .emptyTuple => pure (v.alloc ⟨.tuple, []⟩)
  | .emptySet => pure (v.alloc ⟨.set, []⟩)
  | .mark => pure { v with stack := .mark :: v.stack }
  | .setitem => do
    let (val, v1) ← v.popRef
    let (key, v2) ← v1.popRef
    let t ← v2.topRef
    v2.setitems t [key, val]
  | .setitems => do
    let (items, v1) ← v.popMark
    let t ← v1.topRef
    v1.setitems t items
  | .append => do
    let (val, v1) ← v.popRef
    let t ← v1.topRef
    v1.extend t [val]
  | .appends => do
    let (items, v1) ← v.popMark
    let t ← v1.topRef
    v1.extend t items
  | .additems => do
    let (items, v1) ← v.popMark
    let t ← v1.topRef
    let c ← v1.cell t
    if c.tag != .set then throw (.kind "additems") else
    let k' ← setAddMany v1.heap c.kids items
    pure (v1.setCell t { c with kids := k' })
  | .frozenset => do
    let (items, v1) ← v.popMark
    let k' ← setAddMany v1.heap [] items
    pure (v1.alloc ⟨.frozenset, k'⟩)
  | .tuple => do
    let (items, v1) ← v.popMark
    pure (v1.alloc ⟨.tuple, items⟩)
  | .tuple1 => do
    let (a, v1) ← v.popRef
    pure (v1.alloc ⟨.tuple, [a]⟩)
  | .tuple2 => do
    let (b, v1) ← v.popRef
    let (a, v2) ← v1.popRef
    pure (v2.alloc ⟨.tuple, [a, b]⟩)
  | .tuple3 => do
    let (c, v1) ← v.popRef
    let (b, v2) ← v1.popRef
    let (a, v3) ← v2.popRef
    pure (v3.alloc ⟨.tuple, [a, b, c]⟩)
  | .global m n =>
    let i := v.heap.size
    pure { v with heap := ((v.heap.push ⟨.str m, []⟩).push ⟨.str n, []⟩).push ⟨.global, [i, i + 1]⟩,
                  stack := .ref (i + 2) :: v.stack }
  | .stackGlobal => do
    let (n, v1) ← v.popRef
    let (m, v2) ← v1.popRef
    match strOf v2.heap m, strOf v2.heap n with
    | some _, some _ => pure (v2.alloc ⟨.global, [m, n]⟩)
    | _, _ => throw (.kind "STACK_GLOBAL requires str")
  | .newobj => do
    let (args, v1) ← v.popRef
    let (cls, v2) ← v1.popRef
    let ac ← v2.cell args
    let cc ← v2.cell cls
    if ac.tag != .tuple then throw (.kind "NEWOBJ args") else
    if cc.tag != .global then throw (.kind "NEWOBJ class") else
    pure (v2.alloc (ObjParts.cell ⟨true, cls, args, none, [], []⟩))
  | .newobjEx => do
    let (kw, v0) ← v.popRef
    let (args, v1) ← v0.popRef
    let (cls, v2) ← v1.popRef
    let kc ← v2.cell kw
    let ac ← v2.cell args
    let cc ← v2.cell cls
    if kc.tag != .dict then throw (.kind "NEWOBJ_EX kwargs") else
    if !kc.kids.isEmpty then throw (.unsupported "NEWOBJ_EX kwargs") else
    if ac.tag != .tuple then throw (.kind "NEWOBJ_EX args") else
    if cc.tag != .global then throw (.kind "NEWOBJ_EX class") else
    pure (v2.alloc (ObjParts.cell ⟨true, cls, args, none, [], []⟩))
  | .reduce => do
    let (args, v1) ← v.popRef
    let (f, v2) ← v1.popRef
    let ac ← v2.cell args
    let fc ← v2.cell f
    if ac.tag != .tuple then throw (.kind "REDUCE args") else
    if fc.tag != .global then throw (.kind "REDUCE callable") else
    pure (v2.alloc (ObjParts.cell ⟨false, f, args, none, [], []⟩))
  | .build => v.build cfg
  | .pop =>
    match v.stack with
    | _ :: rest => pure { v with stack := rest }    -- a value, or (pickle.py: empty frame → pop_mark) the MARK itself
    | [] => throw .stack
  | .popMark => do
    let (_, v1) ← v.popMark
    pure v1
  | .dup => do
    let r ← v.topRef
    pure { v with stack := .ref r :: v.stack }

/-- run until STOP; what follows STOP is not read -/
def runOps (cfg : Cfg) : List Op → VM → Except Err (VM × Ref)
  | [], _ => .error .eof
  | .stop :: _, v => do
    let r ← v.topRef
    pure (v, r)
  | op :: rest, v => do
    let v' ← v.step cfg op
    runOps cfg rest v'

def runWith (cfg : Cfg) (ops : List Op) : Except Err (Heap × Ref) := do
  let (v, r) ← runOps cfg ops {}
  pure (v.heap, r)

def run (ops : List Op) : Except Err (Heap × Ref) := runWith {} ops

/-! ### the pickler -/

def batchSize : Nat := 1000

/-- the pickler's memo: position = memo index, entry = the cell (`id(obj)`) -/
abbrev PMemo := List Ref

abbrev Saver := Ref → PMemo → Except Err (List Op × PMemo)

def saveAll (save : Saver) : List Ref → PMemo → Except Err (List Op × PMemo)
  | [], m => .ok ([], m)
  | k :: ks, m => do
    let (o1, m1) ← save k m
    let (o2, m2) ← saveAll save ks m1
    pure (o1 ++ o2, m2)

def chunksAux {α : Type} (n : Nat) : Nat → List α → List (List α)
  | 0, _ => []
  | f + 1, l => if l.isEmpty then [] else l.take n :: chunksAux n f (l.drop n)

/-- consecutive pieces of `n` elements (the last one shorter); `n ≥ 1` -/
def chunks {α : Type} (n : Nat) (l : List α) : List (List α) := chunksAux n l.length l

/-- one batch: `MARK items… CLOSE`, or for a single item (when `single` is given) `item SINGLE` -/
def saveBatches (save : Saver) (per : Nat) (close : Op) (single : Option Op) :
    List (List Ref) → PMemo → Except Err (List Op × PMemo)
  | [], m => .ok ([], m)
  | c :: cs, m => do
    let (o1, m1) ← saveAll save c m
    let this := match single with
      | some s => if c.length == per then o1 ++ [s] else Op.mark :: o1 ++ [close]
      | none => Op.mark :: o1 ++ [close]
    let (o2, m2) ← saveBatches save per close single cs m1
    pure (this ++ o2, m2)

/-- `batch_list_exact` / `batch_dict_exact` / the loop of `save_set` (`per` = references per item: 1 or 2).
    `emptyTail`: the `do … while (i == BATCHSIZE)` loops write an empty batch after a last full one. -/
def batchExact (save : Saver) (per : Nat) (close single : Op) (emptyTail : Bool) (singleSpecial : Bool)
    (kids : List Ref) (m : PMemo) : Except Err (List Op × PMemo) := do
  if kids.isEmpty then pure ([], m)
  else if singleSpecial && kids.length == per then
    let (o, m1) ← saveAll save kids m
    pure (o ++ [single], m1)
  else
    let (o, m1) ← saveBatches save per close none (chunks (per * batchSize) kids) m
    pure (if emptyTail && kids.length % (per * batchSize) == 0 then o ++ [.mark, close] else o, m1)

/-- `batch_list` / `batch_dict` on an iterator -/
def batchIter (save : Saver) (per : Nat) (close single : Op) (kids : List Ref) (m : PMemo) :
    Except Err (List Op × PMemo) :=
  saveBatches save per close (some single) (chunks (per * batchSize) kids) m

/-- position of the first occurrence -/
def indexOf? (x : Ref) : List Ref → Option Nat
  | [] => none
  | y :: ys => if y = x then some 0 else (indexOf? x ys).map (· + 1)

def memoIdx (m : PMemo) (x : Ref) : Option Nat := indexOf? x m

def atomOp? (c : Cell) : Option Op :=
  match c.tag with
  | .none => some .none
  | .bool true => some .newtrue
  | .bool false => some .newfalse
  | .int z => some (.int z)
  | .float b => some (.float b)
  | .tuple => if c.kids.isEmpty then some .emptyTuple else none
  | _ => none

/-- `save(obj)` -/
def save (h : Heap) : Nat → Ref → PMemo → Except Err (List Op × PMemo)
  | 0, _, _ => .error .fuel
  | fuel + 1, x, m =>
    match h[x]? with
    | none => .error .ref
    | some c =>
      match atomOp? c with
      | some op => .ok ([op], m)
      | none =>
        match memoIdx m x with
        | some i => .ok ([.get i], m)
        | none =>
          match c.tag with
          | .str s => .ok ([.str s, .memoize], m ++ [x])
          | .bytes s => .ok ([.bytes s, .memoize], m ++ [x])
          | .tuple => do
            let n := c.kids.length
            let (o, m1) ← saveAll (save h fuel) c.kids m
            match memoIdx m1 x with
            | some i =>   -- recursive tuple: it was memoised while its elements were saved
              pure ((if n ≤ 3 then o ++ List.replicate n .pop else Op.mark :: o ++ [.popMark]) ++ [.get i], m1)
            | none =>
              let body := match n with
                | 1 => o ++ [.tuple1]
                | 2 => o ++ [.tuple2]
                | 3 => o ++ [.tuple3]
                | _ => Op.mark :: o ++ [.tuple]
              pure (body ++ [.memoize], m1 ++ [x])
          | .list => do
            let (o, m1) ← batchExact (save h fuel) 1 .appends .append false true c.kids (m ++ [x])
            pure (Op.emptyList :: .memoize :: o, m1)
          | .dict => do
            if c.kids.length % 2 != 0 then throw (.kind "dict") else
            let (o, m1) ← batchExact (save h fuel) 2 .setitems .setitem true true c.kids (m ++ [x])
            pure (Op.emptyDict :: .memoize :: o, m1)
          | .set => do
            let (o, m1) ← batchExact (save h fuel) 1 .additems .additems true false c.kids (m ++ [x])
            pure (Op.emptySet :: .memoize :: o, m1)
          | .frozenset => do
            let (o, m1) ← saveAll (save h fuel) c.kids m
            match memoIdx m1 x with
            | some i => pure (Op.mark :: o ++ [.popMark, .get i], m1)
            | none => pure (Op.mark :: o ++ [.frozenset, .memoize], m1 ++ [x])
          | .global =>
            match c.kids with
            | [mo, na] => do
              match strOf h mo, strOf h na with
              | some _, some _ =>
                let (o1, m1) ← save h fuel mo m
                let (o2, m2) ← save h fuel na m1
                pure (o1 ++ o2 ++ [.stackGlobal, .memoize], m2 ++ [x])
              | _, _ => throw (.kind "global")
            | _ => throw (.kind "global")
          | .obj .. =>
            match c.objParts? with
            | none => .error (.kind "obj")
            | some p => do
              if p.ditems.length % 2 != 0 then throw (.kind "obj") else
              let (o1, m1) ← save h fuel p.cls m
              let (o2, m2) ← save h fuel p.args m1
              let mk : Op := if p.viaNew then .newobj else .reduce
              let (o3, m3) : List Op × PMemo := match memoIdx m2 x with
                | some i => ([.pop, .get i], m2)
                | none => ([.memoize], m2 ++ [x])
              let (o4, m4) ← batchIter (save h fuel) 1 .appends .append p.items m3
              let (o5, m5) ← batchIter (save h fuel) 2 .setitems .setitem p.ditems m4
              let (o6, m6) ← match p.state with
                | none => pure ([], m5)
                | some st => do
                  let (o, m') ← save h fuel st m5
                  pure (o ++ [.build], m')
              pure (o1 ++ o2 ++ [mk] ++ o3 ++ o4 ++ o5 ++ o6, m6)
          | _ => .error (.kind "atom")

/-- the fuel of `dump`.  Not enough for every heap: a tuple is memoised only after its elements, so `save` re-enters it once
    per list that contains it (`t = ([t], [t], [t])` needs 8, has 6) -/
def dumpFuel (h : Heap) : Nat := h.size + 2

/-- `pickle.dumps(obj)` as an opcode list, without `PROTO` / `FRAME` -/
def dumpWith (h : Heap) (r : Ref) (fuel : Nat) : Except Err (List Op) := do
  let (o, _) ← save h fuel r []
  pure (o ++ [.stop])

def dump (h : Heap) (r : Ref) : Except Err (List Op) := dumpWith h r (dumpFuel h)

/-! ### reachability and the canonical form -/

/-- depth-first first-visit order of the non-atomic cells reachable from the references in `todo`
    (`seen` = visited so far, in order); `none`: dangling reference or out of fuel -/
def visit (h : Heap) : Nat → List Ref → List Ref → Option (List Ref)
  | 0, _, _ => none
  | _ + 1, [], seen => some seen
  | fuel + 1, x :: todo, seen =>
    match h[x]? with
    | none => none
    | some c =>
      if c.isAtom || seen.contains x then visit h fuel todo seen
      else visit h fuel (c.kids ++ todo) (seen ++ [x])

def kidsLen (h : Heap) (i : Nat) : Nat :=
  match h[i]? with
  | some c => c.kids.length
  | none => 0

/-- enough whenever any fuel is (`PepperProofs/PickleCanon.lean: visit_fuel`): one step per stack entry, at most one push per kid -/
def visitFuel (h : Heap) : Nat := 2 + ((List.range h.size).map (kidsLen h)).sum

/-- the non-atomic cells reachable from `r`, in first-visit order -/
def reach (h : Heap) (r : Ref) : Option (List Ref) := visit h (visitFuel h) [r] []

inductive CRef
  | atom (t : Tag)     -- inlined by value (`tuple` = the empty tuple)
  | idx (n : Nat)      -- the n-th cell of the canonical form
  deriving DecidableEq, Repr, Inhabited

structure Canon where
  root : CRef
  cells : List (Tag × List CRef)
  deriving DecidableEq, Repr, Inhabited

def mapOpt {α β : Type} (f : α → Option β) : List α → Option (List β)
  | [] => some []
  | x :: xs =>
    match f x, mapOpt f xs with
    | some y, some ys => some (y :: ys)
    | _, _ => none

def rename (h : Heap) (order : List Ref) (k : Ref) : Option CRef :=
  match h[k]? with
  | none => none
  | some c => if c.isAtom then some (.atom c.tag) else (indexOf? k order).map .idx

def canonCell (h : Heap) (order : List Ref) (x : Ref) : Option (Tag × List CRef) :=
  match h[x]? with
  | none => none
  | some c => (mapOpt (rename h order) c.kids).map (fun ks => (c.tag, ks))

def canon (h : Heap) (r : Ref) : Option Canon :=
  match reach h r with
  | none => none
  | some order =>
    match rename h order r, mapOpt (canonCell h order) order with
    | some root, some cells => some ⟨root, cells⟩
    | _, _ => none

/-- the round trip evaluated on one rooted heap: `dump` succeeds, `run` of its opcodes succeeds, both canonical forms
    exist and are equal (driver op `pickle-roundtrip`; `PepperProps/C16Pickle.lean: roundtrip_of_check`) -/
def roundtripB (h : Heap) (r : Ref) : Bool :=
  match dump h r with
  | .error _ => false
  | .ok ops =>
    match run ops with
    | .error _ => false
    | .ok (h', r') =>
      match canon h r, canon h' r' with
      | some c, some c' => c == c'
      | _, _ => false

/-! ### the heaps for which the round trip is PROVED (`PepperProofs/Pickle.lean: Supported`, `roundtrip_supported`), as a
    decidable check (`supportedB_sound`); the driver evaluates it on every real heap (op `pickle-supported`) -/

/-- the texts of the keys of a flattened pair list, when all keys are `str` cells -/
def keyStrs (H : Heap) : List Ref → Option (List String)
  | [] => some []
  | [_] => none
  | k :: _ :: rest =>
    match strOf H k, keyStrs H rest with
    | some s, some ss => some (s :: ss)
    | _, _ => none

def strKeysB (h : Heap) (kids : List Ref) : Bool :=
  match keyStrs h kids with
  | some ss => decide ss.Nodup
  | none => false

def classB (h : Heap) (cls : Ref) : Bool :=
  match h[cls]? with
  | some ⟨.global, [mo, na]⟩ => (strOf h mo).isSome && (strOf h na).isSome
  | _ => false

def okCellB (h : Heap) (c : Cell) : Bool :=
  match c.tag with
  | .str _ | .bytes _ => c.kids.isEmpty
  | .list => decide (c.kids.length ≤ batchSize)
  | .dict => decide (c.kids.length < 2 * batchSize) && strKeysB h c.kids
  | .global => match c.kids with
    | [mo, na] => (strOf h mo).isSome && (strOf h na).isSome
    | _ => false
  | .obj .. => match c.objParts? with
    | none => false
    | some p =>
      c == p.cell && p.items.isEmpty &&
      (match h[p.args]? with | some ca => ca.tag == .tuple && ca.kids.isEmpty | none => false) &&
      classB h p.cls && decide (p.ditems.length < 2 * batchSize) && strKeysB h p.ditems &&
      (match p.state with
        | none => true
        | some d => match h[d]? with
          | some cd => cd.tag == .dict && !cd.kids.isEmpty && strKeysB h cd.kids
          | none => false)
  | .set | .frozenset => false
  | _ => true

def stateAt (h : Heap) (o : Ref) : Option Ref :=
  match h[o]? with
  | some c => match c.objParts? with
    | some p => p.state
    | none => none
  | none => none

/-- the state dicts of all instances -/
def stateRefs (h : Heap) : List Ref := (List.range h.size).filterMap (stateAt h)

def ownerB (h : Heap) (states : List Ref) : Bool :=
  (List.range h.size).all fun p =>
    match h[p]? with
    | none => true
    | some c => c.kids.all fun k =>
      !states.contains k ||
      (match c.objParts? with
        | some pp => pp.state == some k && k != pp.cls && k != pp.args && !pp.items.contains k && !pp.ditems.contains k
        | none => false)

def uniqB (h : Heap) : Bool :=
  let owners := (List.range h.size).filter (fun o => (stateAt h o).isSome)
  owners.all fun o1 => owners.all fun o2 => o1 == o2 || stateAt h o1 != stateAt h o2

def supportedB (h : Heap) (r : Ref) : Bool :=
  (List.range h.size).all (fun i => match h[i]? with | some c => okCellB h c | none => true) &&
  !(stateRefs h).contains r && ownerB h (stateRefs h) && uniqB h

/-! ### the C16 snapshot read off a decoded heap
(mirrors `harness/snapshot.py: snap` — the `tree` part — on the cell vocabulary: attribute lookup in an instance's state
dict, `OrderedDict` items = the dict items of a `REDUCE`d object, `isinstance(s, SuperSequence)` = the class's qualified
name is `SuperSequence`, `ReverseSuperSequence` or `Strand`; `"%f" % s.opt` is left to the caller: the number is handed
out as it is in the heap) -/

structure SnapSeq where
  name : String
  sup : Bool
  len : Int
  const : String
  items : List (String × Bool)
  bases : List (String × Bool × Int)
  deriving Repr, DecidableEq

structure SnapStrand where
  name : String
  dummy : Bool
  len : Int
  items : List (String × Bool)
  bases : List (String × Bool × Int)
  deriving Repr, DecidableEq

structure SnapStruct where
  name : String
  strands : List String
  struct : String
  opt : Tag                  -- `int z` or `float bits`
  bases : List (String × Bool × Int)
  deriving Repr, DecidableEq

structure SnapComp where
  pfx : String
  seqs : List SnapSeq
  strands : List SnapStrand
  structs : List SnapStruct
  kins : List (String × List String × List String)
  deriving Repr, DecidableEq

inductive SnapInst
  | comp (c : SnapComp)
  | sys (pfx : String) (signals : List (String × List (String × String × Bool))) (lengths : List (String × Int))
      (components : List (String × SnapInst))
  deriving Repr

def pairsOf : List Ref → List (Ref × Ref)
  | k :: v :: rest => (k, v) :: pairsOf rest
  | _ => []

/-- value of the attribute `name` of the instance `o` -/
def attr (h : Heap) (o : Ref) (name : String) : Option Ref :=
  match h[o]? with
  | some c => match c.objParts? with
    | some p => match p.state with
      | some d => match h[d]? with
        | some ⟨.dict, kids⟩ => ((pairsOf kids).find? (fun kv => strOf h kv.1 == some name)).map (·.2)
        | _ => none
      | none => none
    | none => none
  | none => none

/-- `(key, value)` pairs of an `OrderedDict` (or plain dict) with string keys -/
def odItems (h : Heap) (o : Ref) : Option (List (String × Ref)) :=
  match h[o]? with
  | some c =>
    let kvs := match c.tag with
      | .dict => some (pairsOf c.kids)
      | .obj .. => c.objParts?.map (fun (p : ObjParts) => pairsOf p.ditems)
      | _ => none
    kvs.bind (mapOpt (fun kv => (strOf h kv.1).map (fun s => (s, kv.2))))
  | none => none

def intAt (h : Heap) (r : Ref) : Option Int :=
  match h[r]? with
  | some ⟨.int z, _⟩ => some z
  | some ⟨.bool b, _⟩ => some (if b then 1 else 0)
  | _ => none

/-- `bool(x)` for the values that occur (bools, ints, None) -/
def boolAt (h : Heap) (r : Ref) : Option Bool :=
  match h[r]? with
  | some c => truthy c
  | none => none

def seqAt (h : Heap) (r : Ref) : Option (List Ref) :=
  match h[r]? with
  | some ⟨.list, ks⟩ => some ks
  | some ⟨.tuple, ks⟩ => some ks
  | _ => none

def className (h : Heap) (o : Ref) : Option String :=
  match h[o]? with
  | some c => match c.objParts? with
    | some p => (classNames h p.cls).map (·.2)
    | none => none
  | none => none

def strAttr (h : Heap) (o : Ref) (n : String) : Option String := (attr h o n).bind (strOf h)
def intAttr (h : Heap) (o : Ref) (n : String) : Option Int := (attr h o n).bind (intAt h)
def boolAttr (h : Heap) (o : Ref) (n : String) : Option Bool := (attr h o n).bind (boolAt h)
def listAttr (h : Heap) (o : Ref) (n : String) : Option (List Ref) := (attr h o n).bind (seqAt h)

def dropLast (s : String) : String := String.ofList s.toList.dropLast
def rstripStar (s : String) : String := String.ofList (s.toList.reverse.dropWhile (· == '*')).reverse

/-- `[i.name[:-1] if i.reversed else i.name, bool(i.reversed)]` -/
def snapItem (h : Heap) (i : Ref) : Option (String × Bool) := do
  let n ← strAttr h i "name"
  let rv ← boolAttr h i "reversed"
  pure (if rv then dropLast n else n, rv)

/-- `[b.name.rstrip("*") if b.reversed else b.name, bool(b.reversed), b.length]` -/
def snapBase (h : Heap) (b : Ref) : Option (String × Bool × Int) := do
  let n ← strAttr h b "name"
  let rv ← boolAttr h b "reversed"
  let l ← intAttr h b "length"
  pure (if rv then rstripStar n else n, rv, l)

def isSuperClass (n : String) : Bool := n == "SuperSequence" || n == "ReverseSuperSequence" || n == "Strand"

def snapSeq (h : Heap) (name : String) (s : Ref) : Option SnapSeq := do
  let cn ← className h s
  let len ← intAttr h s "length"
  if isSuperClass cn then
    let items ← (← listAttr h s "seqs").mapM (snapItem h)
    let bases ← (← listAttr h s "base_seqs").mapM (snapBase h)
    pure ⟨name, true, len, "", items, bases⟩
  else
    let const ← strAttr h s "const"
    pure ⟨name, false, len, const, [], [(name, false, len)]⟩

def snapStrand (h : Heap) (name : String) (s : Ref) : Option SnapStrand := do
  let dummy ← boolAttr h s "dummy"
  let len ← intAttr h s "length"
  let items ← (← listAttr h s "seqs").mapM (snapItem h)
  let bases ← (← listAttr h s "base_seqs").mapM (snapBase h)
  pure ⟨name, dummy, len, items, bases⟩

def snapStruct (h : Heap) (name : String) (s : Ref) : Option SnapStruct := do
  let strands ← (← listAttr h s "strands").mapM (fun x => strAttr h x "name")
  let st ← strAttr h s "struct"
  let optRef ← attr h s "opt"
  let opt ← (h[optRef]?).map (·.tag)
  let bases ← (← listAttr h s "base_seqs").mapM (snapBase h)
  pure ⟨name, strands, st, opt, bases⟩

def snapKin (h : Heap) (name : String) (k : Ref) : Option (String × List String × List String) := do
  let ins ← (← listAttr h k "inputs").mapM (fun x => strAttr h x "name")
  let outs ← (← listAttr h k "outputs").mapM (fun x => strAttr h x "name")
  pure (name, ins, outs)

def snapComp (h : Heap) (c : Ref) : Option SnapComp := do
  let pfx ← strAttr h c "prefix"
  let seqs ← (← odItems h (← attr h c "seqs")).mapM (fun (n, s) => snapSeq h n s)
  let strands ← (← odItems h (← attr h c "strands")).mapM (fun (n, s) => snapStrand h n s)
  let structs ← (← odItems h (← attr h c "structs")).mapM (fun (n, s) => snapStruct h n s)
  let kins ← (← odItems h (← attr h c "kinetics")).mapM (fun (n, s) => snapKin h n s)
  pure ⟨pfx, seqs, strands, structs, kins⟩

/-- one `(port, cname, wc)` entry of a signal: a port that is a string is a sub-system's signal (`"@" + port`) -/
def snapSignalEntry (h : Heap) (e : Ref) : Option (String × String × Bool) := do
  match ← seqAt h e with
  | [port, cname, wc] =>
    let pn ← match strOf h port with
      | some s => some ("@" ++ s)
      | none => strAttr h port "name"
    let cn ← strOf h cname
    let w ← boolAt h wc
    pure (pn, cn, w)
  | _ => none

def snapInst (h : Heap) : Nat → Ref → Option SnapInst
  | 0, _ => none
  | fuel + 1, o => do
    let cn ← className h o
    if cn == "Component" then (snapComp h o).map .comp
    else
      let pfx ← strAttr h o "prefix"
      let sigs ← (← odItems h (← attr h o "signals")).mapM (fun (n, es) => do
        let rows ← (← seqAt h es).mapM (snapSignalEntry h)
        pure (n, rows))
      let lens ← (← odItems h (← attr h o "lengths")).mapM (fun (n, l) => (intAt h l).map (fun z => (n, z)))
      let comps ← (← odItems h (← attr h o "components")).mapM (fun (n, s) => (snapInst h fuel s).map (fun i => (n, i)))
      pure (.sys pfx sigs lens comps)

/-- the C16 snapshot of the system rooted at `r` of a decoded heap -/
def snapshotOfHeap (h : Heap) (r : Ref) : Option SnapInst := snapInst h 64 r

/-! ### statistics (evidence only) -/

def countTag (h : Heap) (order : List Ref) (p : Tag → Bool) : Nat :=
  (order.filter (fun x => match h[x]? with | some c => p c.tag | none => false)).length

end Pepper.Pickle
