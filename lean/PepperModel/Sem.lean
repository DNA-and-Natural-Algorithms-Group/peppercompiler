/-!
# Shared semantic domain: oriented domain positions

All meaning is expressed over nucleotides of *base domains*: `Var` = nucleotide `idx` of the atomic
sequence `dom`; `Nuc` = that nucleotide or its Watson–Crick partner.  A region (sequence,
super-sequence, strand) denotes a `List Nuc`; the reverse complement of a region is `rc`.
A `Design` is what a `.comp`/`.sys` source, a `.pil` file or a `.des` file *denotes*; C01/C02/C03/C06/C14
compare designs, C04/C15 read the link graph and satisfiability off a design.
-/
namespace Pepper

structure Var where
  dom : String
  idx : Nat
deriving Repr, DecidableEq, BEq, Hashable

structure Nuc where
  var : Var
  comp : Bool
deriving Repr, DecidableEq, BEq

def Nuc.flip (n : Nuc) : Nuc := { n with comp := !n.comp }

/-- reverse complement of a region -/
def rc (l : List Nuc) : List Nuc := l.reverse.map Nuc.flip

/-- the nucleotides of an atomic sequence read 5'→3' -/
def fwd (name : String) (len : Nat) : List Nuc := (List.range len).map fun k => ⟨⟨name, k⟩, false⟩

/-- optimisation parameter of a structure as the formats can express it -/
inductive Opt
  | noOpt
  | nt (n : Nat)
  | other (text : String)   -- a bound that is not a natural number (e.g. a fractional one), kept as its `%g` text
deriving Repr, DecidableEq, BEq

structure StructD where
  name : String
  strands : List String
  struct : List Char
  opt : Opt
deriving Repr, DecidableEq, BEq

structure KinD where
  inputs : List String
  outputs : List String
  low : String      -- printed decimal, compared as text
  high : String
deriving Repr, DecidableEq, BEq

/-- the design a file denotes -/
structure Design where
  domains  : List (String × List Char)           -- atomic sequences of non-zero length: name, template codes
  seqs     : List (String × List Nuc)            -- named sequences and super-sequences of non-zero length
  strands  : List (String × Bool × List Nuc)     -- name, dummy flag, nucleotides
  structs  : List StructD
  kinetics : List KinD
  equals   : List (List (List Nuc))              -- each entry: regions forced position-wise equal
deriving Repr, DecidableEq, BEq

def Design.empty : Design := ⟨[], [], [], [], [], []⟩

end Pepper
