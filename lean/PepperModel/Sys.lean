import PepperModel.Comp
/-!
# Systems: imports, instances, signals, emission of `.pil` and `.des`
(mirrors `system_class.load_file`, `system_class.System` (`add_import`, `add_component`, `add_IO`,
`output_synthesis`, `output_nupack`) and the statement loop of `system_parser.load_system`; fixing sequences is
`PepperModel/Fix.lean`)

The file system is a `Bundle`: normalised path ↦ parsed source.  `os.path.join` / `dirname` are
modelled on `/`-separated strings.  Template arguments arrive already substituted into the sources
(parameter substitution is C13's model); only the *number* of arguments is checked here.
-/
namespace Pepper.Sys
open Pepper.Comp

/-! ### sources -/

structure SigRef where
  name : String
  star : Bool
deriving Repr, DecidableEq, BEq

inductive SStmt
  | imports (items : List (String × Option String))            -- path, optional alias
  | component (name templ : String) (args : Nat) (ins outs : List SigRef)
deriving Repr, DecidableEq, BEq

structure SSrc where
  name : String
  params : List String
  inputs : List SigRef
  outputs : List SigRef
  stmts : List SStmt
deriving Repr, DecidableEq, BEq

inductive FileSrc
  | comp (c : Comp.Src)
  | sys (s : SSrc)
deriving Repr

/-- path (normalised, with extension) ↦ source.  A template instantiated with different arguments is
    a different source text after substitution: the key is `path@instance-path` (`loadFile`'s `argKey`), under
    which the harness stores the source with that instance's arguments substituted; the bare path answers
    "does the file exist". -/
structure Bundle where
  files : List (String × FileSrc)
  exists_ : List String
deriving Repr

/-! ### paths -/

def splitSlash (s : String) : List String := s.splitOn "/"

/-- `os.path.normpath` on relative `/`-paths without `..` -/
def normPath (p : String) : String :=
  let segs := (splitSlash p).filter (fun x => x != "" && x != ".")
  let r := Comp.joinWith "/" segs
  if p.startsWith "/" then "/" ++ r else if r == "" then "." else r

/-- `os.path.join(a, b)` -/
def pathJoin (a b : String) : String :=
  if b.startsWith "/" then b else if a == "" then b else if a.endsWith "/" then a ++ b else a ++ "/" ++ b

/-- `os.path.dirname` -/
def dirname (p : String) : String :=
  match (splitSlash p).reverse with
  | [] => ""
  | [_] => ""
  | _ :: r => let d := Comp.joinWith "/" r.reverse; if d == "" && p.startsWith "/" then "/" else d

/-! ### object model -/

inductive Port
  | seq (i : ItemRef) (bases : List BaseRef)     -- a component's sequence object (unreversed after the F2 repair)
  | sig (name : String)                          -- a sub-system's signal, by name
deriving Repr, DecidableEq, BEq

structure SigEntry where
  port : Port
  comp : String
  wc : Bool
deriving Repr, DecidableEq, BEq

mutual
inductive Inst
  | comp (st : Comp.St)
  | sys (st : SysSt)
inductive SysSt
  | mk (path name pfx : String) (template : List (String × String))
       (signals : List (String × List SigEntry)) (lengths : List (String × Nat))
       (components : List (String × Inst)) (inputSeqs outputSeqs : List SigRef)
end

def SysSt.path : SysSt → String | .mk p _ _ _ _ _ _ _ _ => p
def SysSt.name : SysSt → String | .mk _ n _ _ _ _ _ _ _ => n
def SysSt.pfx : SysSt → String | .mk _ _ p _ _ _ _ _ _ => p
def SysSt.template : SysSt → List (String × String) | .mk _ _ _ t _ _ _ _ _ => t
def SysSt.signals : SysSt → List (String × List SigEntry) | .mk _ _ _ _ s _ _ _ _ => s
def SysSt.lengths : SysSt → List (String × Nat) | .mk _ _ _ _ _ l _ _ _ => l
def SysSt.components : SysSt → List (String × Inst) | .mk _ _ _ _ _ _ c _ _ => c
def SysSt.inputSeqs : SysSt → List SigRef | .mk _ _ _ _ _ _ _ i _ => i
def SysSt.outputSeqs : SysSt → List SigRef | .mk _ _ _ _ _ _ _ _ o => o

inductive Err
  | comp (e : Comp.Err)
  | ambiguous | missing | dupImport | unknownTemplate | dupComponent | portCount
  | dummySignal | signalLength | undefinedSignal | arity | fuel | wrongKind
deriving Repr

/-- first match of `base.sys` / `base.comp` in `dir :: includes` — `load_file`'s search loop.
    `probe p` says whether file `p` exists. -/
def resolveImport (probe : String → Bool) (base : String) (dir : String) (includes : List String) :
    Except Err (String × Bool × String) :=     -- (file name, is system, new_path)
  let rec go : List String → Except Err (String × Bool × String)
    | [] => .error .missing
    | inc :: r =>
      let bp := pathJoin inc base
      let issys := probe (bp ++ ".sys")
      let iscomp := probe (bp ++ ".comp")
      if issys && iscomp then .error .ambiguous
      else if issys then .ok (bp ++ ".sys", true, dirname bp)
      else if iscomp then .ok (bp ++ ".comp", false, dirname bp)
      else go r
  go (dir :: includes)

def lookupSig (l : List (String × List SigEntry)) (n : String) : Option (List SigEntry) := l.lookup n

def addSig (sigs : List (String × List SigEntry)) (n : String) (e : SigEntry) : List (String × List SigEntry) :=
  if (sigs.lookup n).isSome then sigs.map (fun (k, v) => if k == n then (k, v ++ [e]) else (k, v))
  else sigs ++ [(n, [e])]

mutual
/-- `load_file` -/
def loadFile (b : Bundle) (fuel : Nat) (base : String) (args : Nat) (argKey : String) (pfx : String)
    (path : String) (includes : List String) (anon : Nat) : Except Err (Inst × Nat) :=
  match fuel with
  | 0 => .error .fuel
  | fuel + 1 =>
    match resolveImport (fun p => b.exists_.contains (normPath p)) base path includes with
    | .error e => .error e
    | .ok (fname, issys, newPath) =>
      let key := normPath fname ++ argKey
      match b.files.lookup key with
      | none => .error .missing
      | some (.comp c) =>
        if issys then .error .wrongKind else
        match Comp.load c args pfx anon with
        | .ok (st, a) => .ok (.comp st, a)
        | .error e => .error (.comp e)
      | some (.sys s) =>
        if !issys then .error .wrongKind else
        if s.params.length != args then .error .arity else
        match loadStmts b fuel includes s.stmts (.mk newPath s.name pfx [] [] [] [] [] []) anon with
        | .error e => .error e
        | .ok (st, a) =>
          -- add_IO
          if !(s.inputs ++ s.outputs).all (fun r => (st.signals.lookup r.name).isSome) then .error .undefinedSignal
          else match st with
            | .mk p n pf t sg l c _ _ => .ok (.sys (.mk p n pf t sg l c s.inputs s.outputs), a)

def loadStmts (b : Bundle) (fuel : Nat) (includes : List String) : List SStmt → SysSt → Nat → Except Err (SysSt × Nat)
  | [], st, a => .ok (st, a)
  | .imports items :: r, st, a =>
    let rec addImports : List (String × Option String) → List (String × String) → Except Err (List (String × String))
      | [], t => .ok t
      | (p, al) :: rest, t =>
        let name := match al with
          | some n => n
          | none => match (splitSlash p).reverse with | x :: _ => x | [] => p
        if (t.lookup name).isSome then .error .dupImport else addImports rest (t ++ [(name, p)])
    match addImports items st.template with
    | .error e => .error e
    | .ok t => match st with
      | .mk p n pf _ sg l c i o => loadStmts b fuel includes r (.mk p n pf t sg l c i o) a
  | .component cname templ args ins outs :: r, st, a =>
    match st.template.lookup templ with
    | none => .error .unknownTemplate
    | some tpath =>
      if (st.components.lookup cname).isSome then .error .dupComponent else
      -- the bundle key of the instance's substituted source: the template's path, `@`, the instance path
      match loadFile b fuel tpath args ("@" ++ st.pfx ++ cname) (st.pfx ++ cname ++ "-") st.path includes a with
      | .error e => .error e
      | .ok (inst, a') =>
        let bind (sigs : List (String × List SigEntry)) (lens : List (String × Nat))
            (globs : List SigRef) (ports : List (Port × Bool × Nat × Bool)) :
            Except Err (List (String × List SigEntry) × List (String × Nat)) :=
          (List.zip globs ports).foldlM (fun (acc : List (String × List SigEntry) × List (String × Nat)) (gp : SigRef × (Port × Bool × Nat × Bool)) =>
            let (g, (port, locWc, len, dummy)) := gp
            let wc := g.star != locWc
            match acc.2.lookup g.name with
            | none => if dummy then .error .dummySignal
                      else .ok (addSig acc.1 g.name ⟨port, cname, wc⟩, acc.2 ++ [(g.name, len)])
            | some l0 => if l0 != len then .error .signalLength
                         else .ok (addSig acc.1 g.name ⟨port, cname, wc⟩, acc.2)) (sigs, lens)
        match inst with
        | .comp cst =>
          if ins.length != cst.inputSeqs.length || outs.length != cst.outputSeqs.length then .error .portCount else
          let ports := (cst.inputSeqs ++ cst.outputSeqs).map (fun (i : ItemRef) =>
            let fwdRef : ItemRef := { i with rev := false }
            let bases := match cst.findSeq i.name with | some e => e.bases | none => []
            (Port.seq fwdRef bases, i.rev, i.len, i.len == 0))
          match bind st.signals st.lengths (ins ++ outs) ports with
          | .error e => .error e
          | .ok (sg, l) => match st with
            | .mk p n pf t _ _ c i o => loadStmts b fuel includes r (.mk p n pf t sg l (c ++ [(cname, inst)]) i o) a'
        | .sys sst =>
          if ins.length != sst.inputSeqs.length || outs.length != sst.outputSeqs.length then .error .portCount else
          let ports := (sst.inputSeqs ++ sst.outputSeqs).map (fun (r : SigRef) =>
            (Port.sig r.name, r.star, (sst.lengths.lookup r.name).getD 0, false))
          match bind st.signals st.lengths (ins ++ outs) ports with
          | .error e => .error e
          | .ok (sg, l) => match st with
            | .mk p n pf t _ _ c i o => loadStmts b fuel includes r (.mk p n pf t sg l (c ++ [(cname, inst)]) i o) a'
end

/-! ### emission -/

mutual
def emitPilInst : Inst → List String
  | .comp st => Comp.emitPil st
  | .sys st => emitPilSys st
def emitPilSys : SysSt → List String
  | .mk _ _ pfx _ signals lengths components _ _ =>
    emitPilComps components ++
    signals.flatMap (fun (sg, entries) =>
      let len := (lengths.lookup sg).getD 0
      let sname := pfx ++ sg
      ["sequence " ++ sname ++ " = " ++ String.ofList (List.replicate len 'N') ++ " : " ++ toString len,
       "equal " ++ sname ++ " " ++ String.join (entries.map (fun e =>
          (match e.port with
           | .seq i _ => pfx ++ e.comp ++ "-" ++ i.name
           | .sig n => pfx ++ e.comp ++ "-" ++ n) ++ (if e.wc then "* " else " ")))])
def emitPilComps : List (String × Inst) → List String
  | [] => []
  | (_, i) :: r => emitPilInst i ++ emitPilComps r
end

/-- the name `System.output_nupack` gives the connector of a signal entry, after the signal's own name -/
def SigEntry.connName (e : SigEntry) : String :=
  match e.port with
  | .seq i _ => e.comp ++ "-" ++ i.name
  | .sig n => e.comp ++ "-" ++ n

/-- `done` set of `System.output_nupack`: a port bound to one signal twice in the same orientation (as an input and as
    an output of the instance) gets one connector (repair F17) -/
def dedupEntriesAux : List (String × Bool) → List SigEntry → List SigEntry
  | _, [] => []
  | seen, e :: r =>
    if seen.contains (e.connName, e.wc) then dedupEntriesAux seen r
    else e :: dedupEntriesAux ((e.connName, e.wc) :: seen) r
def dedupEntries (es : List SigEntry) : List SigEntry := dedupEntriesAux [] es

/-- suffix of a connector's structure name: a port bound to the signal in BOTH orientations gets two connectors, and the
    one of the complementary binding is called `…-_rc` (repair F17b) -/
def rcSuffix (es : List SigEntry) (e : SigEntry) : String :=
  if e.wc && es.any (fun e' => e'.connName == e.connName && !e'.wc) then "-_rc" else ""

mutual
def emitDesInst : Inst → List String
  | .comp st => Comp.emitDes st
  | .sys st => emitDesSys st
def emitDesSys : SysSt → List String
  | .mk _ _ pfx _ signals lengths components _ _ =>
    emitDesComps components ++
    signals.flatMap (fun (sg, entries) =>
      let len := (lengths.lookup sg).getD 0
      let sname := pfx ++ sg
      let wcName := sname ++ "-_WC"
      let duplex := String.ofList (List.replicate len '(' ++ '+' :: List.replicate len ')')
      ["sequence " ++ sname ++ " = " ++ String.ofList (List.replicate len 'N'),
       "sequence " ++ wcName ++ " = " ++ String.ofList (List.replicate len 'N'),
       "structure " ++ sname ++ "-_Self = " ++ duplex,
       sname ++ "-_Self : " ++ wcName ++ " " ++ sname] ++
      (dedupEntries entries).flatMap (fun e =>
        let (sigName, seqs) := match e.port with
          | .seq i bases =>
            if i.isSup then (e.comp ++ "-" ++ i.name,
              Comp.joinWith " " ((bases.filter (·.len != 0)).map (fun b => pfx ++ e.comp ++ "-" ++ b.name ++ (if b.rev then "*" else ""))))
            else (e.comp ++ "-" ++ i.name, pfx ++ e.comp ++ "-" ++ i.name)
          | .sig n => (e.comp ++ "-" ++ n, pfx ++ e.comp ++ "-" ++ n)
        let dn := sname ++ "-" ++ sigName ++ rcSuffix entries e
        ["structure " ++ dn ++ " = " ++ duplex,
         dn ++ " : " ++ (if e.wc then sname else wcName) ++ " " ++ seqs]))
def emitDesComps : List (String × Inst) → List String
  | [] => []
  | (_, i) :: r => emitDesInst i ++ emitDesComps r
end

end Pepper.Sys
