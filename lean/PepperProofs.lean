import PepperProofs.Basic
import PepperProofs.Closure
import PepperProofs.ClosureClass
import PepperProofs.ClosureStaged
import PepperProofs.Codes
import PepperProofs.Comp
import PepperProofs.CompBasic
import PepperProofs.CompBuild
import PepperProofs.CompConstraint
import PepperProofs.CompDenote
import PepperProofs.CompEmit
import PepperProofs.CompAdd
import PepperProofs.CompOpt
import PepperProofs.CompFind
import PepperProofs.CompReg
import PepperProofs.CompSem
import PepperProofs.AnonName
import PepperProofs.SysShift
import PepperProofs.CompShift
import PepperProofs.CompStep
import PepperProofs.CompWF
import PepperProofs.ConstraintGen
import PepperProofs.ConstraintGenComp
import PepperProofs.ConstraintGenFiles
import PepperProofs.GenTables
import PepperProofs.ConstraintGenGraph
import PepperProofs.ConstraintGenLoad
import PepperProofs.ConstraintGenSeeds
import PepperProofs.ConstraintGenSeps
import PepperProofs.ConstraintGenSim
import PepperProofs.ConstraintGenSimT
import PepperProofs.ConstraintGenTotal
import PepperProofs.ConstraintGenTotalT
import PepperProofs.DenoteRegion
import PepperProofs.DenoteStmt
import PepperProofs.DenoteZero
import PepperProofs.Des
import PepperProofs.EmitEq
import PepperProofs.EndToEnd
import PepperProofs.EndToEndAsg
import PepperProofs.EndToEndFinish
import PepperProofs.EndToEndMain
import PepperProofs.EndToEndMfe
import PepperProofs.EndToEndNames
import PepperProofs.EndToEndText
import PepperProofs.EndToEndTree
import PepperProofs.Finish
import PepperProofs.FinishText
import PepperProofs.FinishDecls
import PepperProofs.FixSpecIff
import PepperProofs.Fix
import PepperProofs.Fs
import PepperProofs.GcFloat
import PepperProofs.GcToken
import PepperProofs.LoadInv
import PepperProofs.LoadInvDes
import PepperProofs.LoadInvDesSys
import PepperProofs.LoadInvSys
import PepperProofs.LoadInvFinish
import PepperProofs.Notation
import PepperProofs.ParseComp
import PepperProofs.ParseCompChars
import PepperProofs.ParseCompDefs
import PepperProofs.ParseCompEngine
import PepperProofs.ParseCompRenderCons
import PepperProofs.ParseCompRenderDecl
import PepperProofs.ParseCompRenderKin
import PepperProofs.ParseCompRenderSeq
import PepperProofs.ParseCompRenderStruct
import PepperProofs.ParseCompSound
import PepperProofs.ParseFixed
import PepperProofs.ParsePil
import PepperProofs.ParsePilSound
import PepperProofs.ParsePilLoad
import PepperProofs.ParsePilNames
import PepperProofs.PilAdd
import PepperProofs.ParseSys
import PepperProofs.ParseSysDefs
import PepperProofs.ParseSysInv
import PepperProofs.ParseSysLink
import PepperProofs.PickleFrame
import PepperProofs.PickleCanon
import PepperProofs.Pickle
import PepperProofs.Ssm
import PepperProofs.SsmChecked
import PepperProofs.Subst
import PepperProofs.Sys
import PepperProofs.SysAgree
import PepperProofs.SysDenote
import PepperProofs.SysPrefix
import PepperProofs.SysPil
import PepperProofs.WellFormed
