import PepperModel.Comp
import PepperProofs.CompBasic
/-!
# The reserved names `_Anon<n>` and their renumbering `shift`

Declared into `Pepper.CompShift`, the namespace of the results about renumbering (C18) that rest on them.
-/
namespace Pepper.CompShift
open Pepper.Comp

/-- the number `n` if the name is exactly `_Anon<decimal numeral of n>` -/
def anonIdx? (s : String) : Option Nat :=
  match s.toList with
  | '_' :: 'A' :: 'n' :: 'o' :: 'n' :: ds =>
    if ds = Nat.toDigits 10 (Nat.ofDigitChars 10 ds 0) then some (Nat.ofDigitChars 10 ds 0) else none
  | _ => none

theorem anonName_toList (n : Nat) :
    (anonName n).toList = '_' :: 'A' :: 'n' :: 'o' :: 'n' :: Nat.toDigits 10 n :=
  Comp.anonName_toList n

theorem anonIdx?_anonName (n : Nat) : anonIdx? (anonName n) = some n := by
  unfold anonIdx?
  rw [anonName_toList]
  simp [Nat.ofDigitChars_ten_toDigits]

theorem anonIdx?_eq_some {s : String} {n : Nat} (h : anonIdx? s = some n) : s = anonName n := by
  unfold anonIdx? at h
  split at h
  · rename_i ds heq
    split at h
    · rename_i hd
      injection h with h
      subst h
      apply String.toList_inj.1
      rw [anonName_toList, heq, ← hd]
    · cases h
  · cases h

def isAnon (s : String) : Bool := (anonIdx? s).isSome

theorem isAnon_anonName (n : Nat) : isAnon (anonName n) = true := by simp [isAnon, anonIdx?_anonName]

theorem isAnon_iff {s : String} : isAnon s = true ↔ ∃ n, s = anonName n := by
  constructor
  · intro h
    obtain ⟨n, hn⟩ := Option.isSome_iff_exists.1 h
    exact ⟨n, anonIdx?_eq_some hn⟩
  · rintro ⟨n, rfl⟩
    exact isAnon_anonName n

theorem isAnon_eq_false_iff {s : String} : isAnon s = false ↔ ∀ n, s ≠ anonName n := by
  rw [← Bool.not_eq_true, isAnon_iff, not_exists]

def shift (a k : Nat) (s : String) : String :=
  match anonIdx? s with
  | some n => if a ≤ n then anonName (n + k) else s
  | none => s

theorem shift_user {a k : Nat} {s : String} (h : isAnon s = false) : shift a k s = s := by
  have hn : anonIdx? s = none := by simpa [isAnon] using h
  rw [shift, hn]

theorem shift_anonName_eq (a k n : Nat) : shift a k (anonName n) = anonName (if a ≤ n then n + k else n) := by
  simp only [shift, anonIdx?_anonName]
  split <;> rfl

theorem shift_anonName {a k n : Nat} (h : a ≤ n) : shift a k (anonName n) = anonName (n + k) := by
  rw [shift_anonName_eq, if_pos h]

theorem shift_anonName_lt {a k n : Nat} (h : n < a) : shift a k (anonName n) = anonName n := by
  rw [shift_anonName_eq, if_neg (Nat.not_le.2 h)]

theorem isAnon_shift (a k : Nat) (s : String) : isAnon (shift a k s) = isAnon s := by
  cases hs : isAnon s with
  | false => rw [shift_user hs, hs]
  | true =>
    obtain ⟨n, rfl⟩ := isAnon_iff.1 hs
    rw [shift_anonName_eq, isAnon_anonName]

theorem shift_zero (a : Nat) (s : String) : shift a 0 s = s := by
  cases hs : isAnon s with
  | false => exact shift_user hs
  | true =>
    obtain ⟨n, rfl⟩ := isAnon_iff.1 hs
    rw [shift_anonName_eq, Nat.add_zero, ite_self]

/-- `shift` keeps reserved and other names apart and acts on the indices of the reserved ones by the injective
    map `n ↦ if a ≤ n then n + k else n` -/
theorem shift_injective (a k : Nat) : Function.Injective (shift a k) := by
  intro s t h
  have hst : isAnon s = isAnon t := by rw [← isAnon_shift a k s, h, isAnon_shift]
  cases hs : isAnon s with
  | false => rwa [shift_user hs, shift_user (hst ▸ hs)] at h
  | true =>
    obtain ⟨m, rfl⟩ := isAnon_iff.1 hs
    obtain ⟨n, rfl⟩ := isAnon_iff.1 (hst ▸ hs)
    rw [shift_anonName_eq, shift_anonName_eq] at h
    have hmn := anonName_inj h
    congr 1
    split at hmn <;> split at hmn <;> omega

end Pepper.CompShift
