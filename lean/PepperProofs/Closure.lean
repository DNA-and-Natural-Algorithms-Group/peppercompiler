import PepperProofs.ClosureClass
import PepperProofs.Basic
/-!
# `propagate_constraints`: the outer loop

`ClosureClass` proves that one class (`classOf`) is exactly the parity-reachable set.  This file lifts
it to the whole function: lemmas about the result dictionary (`Res.get`/`Res.set`, its keys stay
duplicate-free), algebra of `Reach` under the symmetry precondition, and the outer-loop invariant `OInv` of
`resolveAll`, which gives `propagate_closed` (`Closed`: the hand-over; `propagate_res` reads it for a given result).  At the end: the executable precondition `preB` implies `Pre`
(`Pre.of_preB`), and the naive saturation oracle `naiveClass` only reports reachable items (`nsound_iter`; `C07.naive_sound`).
-/
namespace Pepper.Closure

def Res.keys (r : Res) : List Item := r.map (·.1)

theorem Res.has_eq (r : Res) (x : Item) : r.has x = (r.get x).isSome := rfl

theorem Res.has_iff_mem_keys (r : Res) (x : Item) : r.has x = true ↔ x ∈ r.keys :=
  lookup_isSome_iff_mem_keys

theorem Res.set_map (r : Res) (y : Item) (v : List Item × List Item) :
    r.map (fun (k, w) => if k == y then (k, v) else (k, w))
      = r.map (fun e => (e.1, if e.1 == y then v else e.2)) :=
  List.map_congr_left fun e _ => by
    obtain ⟨k, w⟩ := e
    dsimp only
    split <;> rfl

/-- `d[y] = v; d.get(z)` -/
theorem Res.get_set (r : Res) (y z : Item) (v : List Item × List Item) :
    (r.set y v).get z = if z = y then some v else r.get z := by
  unfold Res.set Res.get Res.has
  split
  · rename_i h
    rw [Res.set_map, lookup_map_snd (fun k w => if k == y then v else w)]
    by_cases hzy : z = y
    · obtain ⟨w, hw⟩ := Option.isSome_iff_exists.1 h
      simp [hzy, hw]
    · cases r.lookup z <;> simp [hzy]
  · rename_i h
    rw [List.lookup_append, List.lookup_cons, List.lookup_nil]
    by_cases hzy : z = y
    · simp [hzy, Option.not_isSome_iff_eq_none.1 h]
    · simp [hzy, beq_false_of_ne hzy]

theorem Res.keys_set (r : Res) (y : Item) (v : List Item × List Item) :
    (r.set y v).keys = if r.has y = true then r.keys else r.keys ++ [y] := by
  unfold Res.set Res.keys
  split
  · rw [Res.set_map, List.map_map]
    rfl
  · rw [List.map_append]
    rfl

theorem Res.set_nodup {r : Res} (h : r.keys.Nodup) (y : Item) (v : List Item × List Item) :
    (r.set y v).keys.Nodup := by
  rw [Res.keys_set]
  split
  · exact h
  · rename_i hn
    exact nodup_append_singleton h fun hy => hn ((r.has_iff_mem_keys y).2 hy)

/-- `for y in l: d[y] = v` -/
theorem Res.get_foldl_set (l : List Item) (v : List Item × List Item) (r : Res) (z : Item) :
    (l.foldl (fun r y => r.set y v) r).get z = if z ∈ l then some v else r.get z := by
  induction l generalizing r with
  | nil => simp
  | cons a l ih =>
    simp only [List.foldl_cons, ih, Res.get_set, List.mem_cons]
    by_cases h1 : z ∈ l <;> by_cases h2 : z = a <;> simp [h1, h2]

theorem get_storeClass (r : Res) (s : St) (z : Item) :
    (storeClass r s).get z =
      if z ∈ s.W then some (s.W, s.E) else if z ∈ s.E then some (s.E, s.W) else r.get z := by
  simp only [storeClass, Res.get_foldl_set]

theorem has_storeClass (r : Res) (s : St) (z : Item) :
    (storeClass r s).has z = true ↔ z ∈ s.W ∨ z ∈ s.E ∨ r.has z = true := by
  rw [Res.has_eq, get_storeClass, Res.has_eq]
  by_cases h1 : z ∈ s.W <;> by_cases h2 : z ∈ s.E <;> simp [h1, h2]

theorem storeClass_nodup {r : Res} (h : r.keys.Nodup) (s : St) : (storeClass r s).keys.Nodup :=
  foldl_inv (fun r : Res => r.keys.Nodup)
    (foldl_inv (fun r : Res => r.keys.Nodup) h fun _ _ _ hb => Res.set_nodup hb _ _)
    fun _ _ _ hb => Res.set_nodup hb _ _

theorem Reach.trans {eq wc : Adj} {x y z : Item} {p q : Bool}
    (h1 : Reach eq wc x p y) (h2 : Reach eq wc y q z) : Reach eq wc x (p ^^ q) z := by
  induction h2 with
  | refl => simpa using h1
  | eqStep _ hz ih => exact Reach.eqStep ih hz
  | @wcStep q _ _ _ hz ih => exact Bool.xor_not p q ▸ Reach.wcStep ih hz

theorem Pre.reach_symm {eq wc : Adj} (h : Pre eq wc) {x y : Item} {p : Bool} (r : Reach eq wc x p y) :
    Reach eq wc y p x := by
  induction r with
  | refl => exact Reach.refl
  | eqStep _ hz ih => simpa using (Reach.refl.eqStep (h.eqSymm _ _ hz)).trans ih
  | wcStep _ hz ih => simpa using (Reach.refl.wcStep (h.wcSymm _ _ hz)).trans ih

/-- the class of a member is the class of `x`, with the two sets swapped when the member is a complement -/
theorem Pre.reach_shift {eq wc : Adj} (h : Pre eq wc) {x y : Item} {q : Bool} (r : Reach eq wc x q y) (p : Bool)
    (z : Item) : Reach eq wc y p z ↔ Reach eq wc x (q ^^ p) z :=
  ⟨r.trans, fun h2 => xor_cancel q p ▸ (h.reach_symm r).trans h2⟩

theorem Pre.reach_shift_both {eq wc : Adj} (h : Pre eq wc) {x z : Item} {p : Bool} (r : Reach eq wc x p z) (y : Item) :
    (Reach eq wc z false y ↔ Reach eq wc x p y) ∧ (Reach eq wc z true y ↔ Reach eq wc x (!p) y) :=
  ⟨by simpa using h.reach_shift r false y, by simpa using h.reach_shift r true y⟩

/-- a path that starts inside a region closed under the edges only uses the edges of that region -/
theorem Reach.restrict {eq wc eq' wc' : Adj} (P : Item → Prop)
    (he : ∀ y z, P y → z ∈ nb eq y → z ∈ nb eq' y ∧ P z)
    (hw : ∀ y z, P y → z ∈ nb wc y → z ∈ nb wc' y ∧ P z) {x y : Item} {p : Bool}
    (hx : P x) (h : Reach eq wc x p y) : Reach eq' wc' x p y ∧ P y := by
  induction h with
  | refl => exact ⟨Reach.refl, hx⟩
  | eqStep _ hz ih => exact ⟨Reach.eqStep ih.1 (he _ _ ih.2 hz).1, (he _ _ ih.2 hz).2⟩
  | wcStep _ hz ih => exact ⟨Reach.wcStep ih.1 (hw _ _ ih.2 hz).1, (hw _ _ ih.2 hz).2⟩

theorem Reach.mono {eq wc eq' wc' : Adj}
    (he : ∀ y z, z ∈ nb eq y → z ∈ nb eq' y)
    (hw : ∀ y z, z ∈ nb wc y → z ∈ nb wc' y) {x y : Item} {p : Bool}
    (h : Reach eq wc x p y) : Reach eq' wc' x p y :=
  (h.restrict (fun _ => True) (fun y z _ hz => ⟨he y z hz, trivial⟩)
    (fun y z _ hz => ⟨hw y z hz, trivial⟩) trivial).1

theorem Reach.lift {eq wc eq' wc' : Adj}
    (he : ∀ y z, z ∈ nb eq y → Reach eq' wc' y false z)
    (hw : ∀ y z, z ∈ nb wc y → Reach eq' wc' y true z) {x y : Item} {p : Bool}
    (h : Reach eq wc x p y) : Reach eq' wc' x p y := by
  induction h with
  | refl => exact Reach.refl
  | eqStep _ hz ih => simpa using ih.trans (he _ _ hz)
  | wcStep _ hz ih => simpa using ih.trans (hw _ _ hz)

theorem Pre.keyClosed {eq wc : Adj} (h : Pre eq wc) : KeyClosed eq wc (keys eq) :=
  ⟨h.eqClosed, h.wcClosed⟩

/-- invariant of the `for x in keys` loop -/
structure OInv (eq wc : Adj) (r : Res) : Prop where
  isKey : ∀ x, r.has x = true → x ∈ keys eq
  exact : ∀ x E W, r.get x = some (E, W) →
    (∀ y, y ∈ E ↔ Reach eq wc x false y) ∧ (∀ y, y ∈ W ↔ Reach eq wc x true y)
  closed : ∀ x p y, r.has x = true → Reach eq wc x p y → r.has y = true

def ExactAt (eq wc : Adj) (r : Res) (x : Item) : Prop :=
  ∃ E W, r.get x = some (E, W) ∧
    (∀ y, y ∈ E ↔ Reach eq wc x false y) ∧ (∀ y, y ∈ W ↔ Reach eq wc x true y)

theorem OInv.get {eq wc : Adj} {r : Res} (i : OInv eq wc r) {x : Item} (hx : r.has x = true) :
    ExactAt eq wc r x := by
  obtain ⟨⟨E, W⟩, hg⟩ := Option.isSome_iff_exists.1 (r.has_eq x ▸ hx)
  exact ⟨E, W, hg, i.exact x E W hg⟩

theorem exact_congr {eq wc eq' wc' : Adj} {r : Res} {x : Item}
    (hc : ∀ y p, Reach eq wc x p y ↔ Reach eq' wc' x p y) : ExactAt eq wc r x → ExactAt eq' wc' r x :=
  fun ⟨E, W, hg, hE, hW⟩ => ⟨E, W, hg, fun y => (hE y).trans (hc y false), fun y => (hW y).trans (hc y true)⟩

theorem resolve_ok {eq wc : Adj} (h : Pre eq wc) {r : Res} (hi : OInv eq wc r) {x : Item}
    (hx : x ∈ keys eq) :
    ∃ r', resolve eq wc r x = .ok r' ∧ OInv eq wc r' ∧ r'.has x = true ∧
      ∀ z, r.has z = true → r'.has z = true := by
  unfold resolve
  by_cases hr : r.has x = true
  · exact ⟨r, by simp [hr], hi, hr, fun _ hz => hz⟩
  · rw [if_neg hr]
    have kc := h.keyClosed
    have c : ∀ p y, y ∈ (classOf eq wc x).side p ↔ Reach eq wc x p y := classOf_side kc hx
    have cM : ∀ y, y ∈ (classOf eq wc x).W ∨ y ∈ (classOf eq wc x).E ↔ ∃ p, Reach eq wc x p y :=
      fun y => ⟨fun hy => hy.elim (fun hy => ⟨true, (c true y).1 hy⟩) (fun hy => ⟨false, (c false y).1 hy⟩),
        fun ⟨p, hp⟩ => by
          cases p
          · exact Or.inr ((c false y).2 hp)
          · exact Or.inl ((c true y).2 hp)⟩
    -- a member at parity `q` gets (side `q`, side `!q`), and these are its own two classes
    have own : ∀ q z, z ∈ (classOf eq wc x).side q →
        (∀ y, y ∈ (classOf eq wc x).side q ↔ Reach eq wc z false y) ∧
        (∀ y, y ∈ (classOf eq wc x).side (!q) ↔ Reach eq wc z true y) := by
      intro q z hz
      have sh := h.reach_shift_both ((c q z).1 hz)
      exact ⟨fun y => (c q y).trans (sh y).1.symm, fun y => (c (!q) y).trans (sh y).2.symm⟩
    have notBad : classBad eq r (classOf eq wc x) = false := by
      unfold classBad
      rw [List.any_eq_false]
      intro y hy
      obtain ⟨p, hp⟩ := (cM y).1 (List.mem_append.1 hy).symm
      have yn : ¬ r.has y = true := fun hy => hr (hi.closed y p x hy (h.reach_symm hp))
      have yk : (keys eq).contains y = true := List.contains_iff_mem.2 (hp.mem_keys kc hx)
      rw [yk, Bool.not_true, Bool.false_or]
      exact yn
    simp only [notBad, Bool.false_eq_true, if_false]
    refine ⟨_, rfl, ⟨?_, ?_, ?_⟩, ?_, ?_⟩
    · intro z hz
      rw [has_storeClass, ← or_assoc, cM] at hz
      rcases hz with ⟨q, hq⟩ | hz
      · exact hq.mem_keys kc hx
      · exact hi.isKey z hz
    · intro z E W hg
      rw [get_storeClass] at hg
      split at hg
      · cases hg
        exact own true z ‹_›
      · split at hg
        · cases hg
          exact own false z ‹_›
        · exact hi.exact z E W hg
    · intro z p y hz hzy
      rw [has_storeClass, ← or_assoc, cM] at hz ⊢
      rcases hz with ⟨q, hq⟩ | hz
      · exact Or.inl ⟨_, hq.trans hzy⟩
      · exact Or.inr (hi.closed z p y hz hzy)
    · exact (has_storeClass _ _ _).2 (Or.inr (Or.inl ((c false x).2 Reach.refl)))
    · exact fun z hz => (has_storeClass _ _ _).2 (Or.inr (Or.inr hz))

theorem resolveAll_ok {eq wc : Adj} (h : Pre eq wc) (xs : List Item) (hxs : ∀ x ∈ xs, x ∈ keys eq)
    {r : Res} (hi : OInv eq wc r) :
    ∃ r', resolveAll eq wc xs r = .ok r' ∧ OInv eq wc r' ∧ (∀ x ∈ xs, r'.has x = true) ∧
      ∀ z, r.has z = true → r'.has z = true := by
  induction xs generalizing r with
  | nil => exact ⟨r, rfl, hi, fun _ hx => (nomatch hx), fun _ hz => hz⟩
  | cons x xs ih =>
    obtain ⟨r1, e1, i1, hx1, m1⟩ := resolve_ok h hi (hxs x List.mem_cons_self)
    obtain ⟨r2, e2, i2, hx2, m2⟩ := ih (fun y hy => hxs y (List.mem_cons_of_mem _ hy)) i1
    refine ⟨r2, by simp only [resolveAll, e1, e2], i2, fun y hy => ?_, fun z hz => m2 z (m1 z hz)⟩
    rcases List.mem_cons.1 hy with rfl | hy
    · exact m2 _ hx1
    · exact hx2 y hy

/-- `r` is the exact closure of `eq` / `wc`: what `propagate` hands over to its callers -/
structure Closed (eq wc : Adj) (r : Res) : Prop where
  inv : OInv eq wc r
  all : ∀ x ∈ keys eq, r.has x = true
  nodup : r.keys.Nodup

theorem OInv.mem_keys {eq wc : Adj} {r : Res} (i : OInv eq wc r) (all : ∀ x ∈ keys eq, r.has x = true) (x : Item) :
    x ∈ r.keys ↔ x ∈ keys eq :=
  ⟨fun hk => i.isKey x ((r.has_iff_mem_keys x).2 hk), fun hk => (r.has_iff_mem_keys x).1 (all x hk)⟩

theorem resolveAll_nodup {eq wc : Adj} (xs : List Item) {r r' : Res} (h : r.keys.Nodup)
    (e : resolveAll eq wc xs r = .ok r') : r'.keys.Nodup := by
  induction xs generalizing r with
  | nil => cases e; exact h
  | cons x xs ih =>
    unfold resolveAll at e
    split at e
    · rename_i r1 e1
      refine ih ?_ e
      unfold resolve at e1
      split at e1
      · cases e1; exact h
      · dsimp only at e1
        split at e1
        · cases e1
        · cases e1; exact storeClass_nodup h _
    · cases e

theorem propagate_nodup {eq wc : Adj} {r : Res} (e : propagate eq wc = .ok r) : r.keys.Nodup := by
  unfold propagate at e
  split at e
  · cases e
  · exact resolveAll_nodup (r := []) _ List.nodup_nil e

/-- **Under the precondition `propagate` returns the exact closure.** -/
theorem propagate_closed {eq wc : Adj} (h : Pre eq wc) : ∃ r, propagate eq wc = .ok r ∧ Closed eq wc r := by
  obtain ⟨r, e, i, hx, _⟩ := resolveAll_ok h (keys eq) (fun _ hx => hx)
    (r := []) ⟨fun _ h => (nomatch h), fun _ _ _ h => (nomatch h), fun _ _ _ h => (nomatch h)⟩
  have e' : propagate eq wc = .ok r := by
    unfold propagate
    simp [← h.sameKeys, e]
  exact ⟨r, e', i, hx, propagate_nodup e'⟩

theorem propagate_res {eq wc : Adj} {r : Res} (h : Pre eq wc) (e : propagate eq wc = .ok r) :
    OInv eq wc r ∧ (∀ x, x ∈ r.keys ↔ x ∈ keys eq) ∧ r.keys.Nodup := by
  obtain ⟨r0, e0, K⟩ := propagate_closed h
  cases e.symm.trans e0
  exact ⟨K.inv, K.inv.mem_keys K.all, K.nodup⟩

theorem mem_nb {g : Adj} {y z : Item} (h : z ∈ nb g y) : ∃ l, (y, l) ∈ g ∧ z ∈ l := by
  unfold nb at h
  split at h
  · rename_i l hl
    exact ⟨l, lookup_mem hl, h⟩
  · cases h

theorem Pre.of_preB {eq wc : Adj} (h : preB eq wc = true) : Pre eq wc := by
  unfold preB at h
  simp only [Bool.and_eq_true, beq_iff_eq, decide_eq_true_eq, List.all_eq_true, List.contains_iff_mem] at h
  obtain ⟨⟨⟨hk, hn⟩, he⟩, hw⟩ := h
  have both : ∀ g : Adj, (∀ e ∈ g, ∀ z ∈ e.2, z ∈ keys eq ∧ e.1 ∈ nb g z) →
      ∀ y z, z ∈ nb g y → z ∈ keys eq ∧ y ∈ nb g z := by
    intro g hg y z hz
    obtain ⟨l, hl, hzl⟩ := mem_nb hz
    exact hg (y, l) hl z hzl
  exact ⟨hk, hn, fun y z hz => (both eq he y z hz).1, fun y z hz => (both wc hw y z hz).1,
    fun y z hz => (both eq he y z hz).2, fun y z hz => (both wc hw y z hz).2⟩

def NSound (eq wc : Adj) (x : Item) (s : List (Item × Bool)) : Prop := ∀ q ∈ s, Reach eq wc x q.2 q.1

theorem nsound_add {eq wc : Adj} {x : Item} {a : List (Item × Bool)} {q : Item × Bool}
    (ha : NSound eq wc x a) (hq : Reach eq wc x q.2 q.1) :
    NSound eq wc x (if a.contains q then a else a ++ [q]) := by
  split
  · exact ha
  · intro q' hq'
    rcases List.mem_append.1 hq' with hq' | hq'
    · exact ha q' hq'
    · rw [List.mem_singleton.1 hq']
      exact hq

theorem nsound_step {eq wc : Adj} {x : Item} {s : List (Item × Bool)} (h : NSound eq wc x s) :
    NSound eq wc x (naiveStep eq wc s) := by
  unfold naiveStep
  apply foldl_inv (NSound eq wc x) h
  rintro acc ⟨y, p⟩ hyp hacc
  have ry : Reach eq wc x p y := h _ hyp
  dsimp only
  apply foldl_inv (NSound eq wc x) (l := nb wc y)
  · apply foldl_inv (NSound eq wc x) (l := nb eq y) hacc
    exact fun a z hz ha => nsound_add ha (Reach.eqStep ry hz)
  · exact fun a z hz ha => nsound_add ha (Reach.wcStep ry hz)

theorem nsound_iter {eq wc : Adj} {x : Item} (n : Nat) {s : List (Item × Bool)} (h : NSound eq wc x s) :
    NSound eq wc x (naiveIter eq wc n s) := by
  induction n generalizing s with
  | zero => exact h
  | succ n ih => exact ih (nsound_step h)

end Pepper.Closure
