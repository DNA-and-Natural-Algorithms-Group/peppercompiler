import PepperModel.Closure
import Batteries.Data.List.Perm
/-!
# `propagate_constraints`: one class

`classOf eq wc x` holds exactly the items reachable from `x`, split by the parity of the number of `wc` links on the
way (`classOf_side`).  `Inv` is the invariant of the work-list loop; `iter_reaches_fixpoint` shows that the fuel
`classOf` runs with is enough.  The two halves of a round are mirror images, so sides, processed lists, steps and
links are indexed by a parity.
-/
namespace Pepper.Closure

theorem le_of_nodup_subset {l l' : List Item} (hl : l.Nodup) (hs : ∀ z ∈ l, z ∈ l') :
    l.length ≤ l'.length :=
  (List.subperm_of_subset hl hs).length_le

theorem length_lt_of_extra {l l' : List Item} (hl : l.Nodup) (hs : ∀ z ∈ l, z ∈ l')
    {y} (hy : y ∈ l') (hn : y ∉ l) : l.length < l'.length :=
  le_of_nodup_subset (l := y :: l) (List.nodup_cons.2 ⟨hn, hl⟩)
    (fun z hz => (List.mem_cons.1 hz).elim (fun e => e ▸ hy) (hs z))

theorem xor_cancel (p q : Bool) : (p ^^ (p ^^ q)) = q := Bool.bne_self_left p q

theorem mem_ins {s : List Item} {x y : Item} : y ∈ ins s x ↔ y = x ∨ y ∈ s := by
  unfold ins
  split
  · exact ⟨Or.inr, fun h => h.elim (fun e => e ▸ ‹x ∈ s›) id⟩
  · exact List.mem_cons

theorem nodup_ins {s : List Item} {x} (h : s.Nodup) : (ins s x).Nodup := by
  unfold ins
  split
  · exact h
  · exact List.nodup_cons.2 ⟨‹x ∉ s›, h⟩

theorem mem_union {s t : List Item} {y : Item} : y ∈ union s t ↔ y ∈ s ∨ y ∈ t := by
  unfold union
  induction t generalizing s with
  | nil => simp
  | cons a t ih => rw [List.foldl_cons, ih, mem_ins, List.mem_cons, or_comm (a := y = a), or_assoc]

theorem mem_diff {s t : List Item} {y : Item} : y ∈ diff s t ↔ y ∈ s ∧ y ∉ t := by
  simp [diff]

theorem diff_sub {l t : List Item} : ∀ a ∈ diff l t, a ∈ l := fun _ ha => (mem_diff.1 ha).1

/-- `false`: the equals `E`; `true`: the complements `W` -/
def St.side (s : St) : Bool → List Item
  | false => s.E
  | true => s.W

def St.seen (s : St) : Bool → List Item
  | false => s.Ed
  | true => s.Wd

def step (eq wc : Adj) : Bool → St → Item → St
  | false => stepEq eq wc
  | true => stepWc eq wc

/-- the links that change the parity by `b` -/
def adj (eq wc : Adj) : Bool → Adj
  | false => eq
  | true => wc

section
variable {eq wc : Adj} {x y z : Item} {p q : Bool} {s : St}

theorem Reach.adjStep {b : Bool} (h : Reach eq wc x p y) (hz : z ∈ nb (adj eq wc b) y) :
    Reach eq wc x (p ^^ b) z := by
  cases b
  · simpa using h.eqStep hz
  · simpa using h.wcStep hz

theorem mem_side_step {b : Bool} :
    z ∈ (step eq wc p s y).side (p ^^ b) ↔ z ∈ s.side (p ^^ b) ∨ z ∈ nb (adj eq wc b) y := by
  cases p <;> cases b <;> exact mem_union

theorem mem_seen_step : z ∈ (step eq wc p s y).seen q ↔ (q = p ∧ z = y) ∨ z ∈ s.seen q := by
  cases p <;> cases q <;> simp [step, stepEq, stepWc, St.seen, mem_ins]

theorem side_step_mono (h : z ∈ s.side q) : z ∈ (step eq wc p s y).side q :=
  xor_cancel p q ▸ mem_side_step.2 (Or.inl (by rwa [xor_cancel]))

structure Inv (eq wc : Adj) (x : Item) (s : St) : Prop where
  x_in : x ∈ s.side false
  sound : ∀ p, ∀ y ∈ s.side p, Reach eq wc x p y
  seen_side : ∀ p, ∀ y ∈ s.seen p, y ∈ s.side p
  closed : ∀ p, ∀ y ∈ s.seen p, ∀ b, ∀ z ∈ nb (adj eq wc b) y, z ∈ s.side (p ^^ b)
  nodup : ∀ p, (s.seen p).Nodup

theorem inv_init (eq wc : Adj) (x : Item) : Inv eq wc x (init eq wc x) where
  x_in := mem_ins.2 (Or.inl rfl)
  sound := by
    intro p y hy
    cases p
    · rcases mem_ins.1 hy with rfl | hy
      · exact Reach.refl
      · exact Reach.refl.eqStep ((mem_union.1 hy).resolve_left (nomatch ·))
    · exact Reach.refl.wcStep ((mem_union.1 hy).resolve_left (nomatch ·))
  seen_side := fun p y hy => by cases p <;> cases hy
  closed := fun p y hy => by cases p <;> cases hy
  nodup := fun p => by cases p <;> exact List.nodup_nil

theorem inv_step (h : Inv eq wc x s) (hy : y ∈ s.side p) : Inv eq wc x (step eq wc p s y) where
  x_in := side_step_mono h.x_in
  sound := by
    intro q z hz
    rw [← xor_cancel p q] at hz ⊢
    rcases mem_side_step.1 hz with hz | hz
    · exact h.sound _ z hz
    · exact (h.sound p y hy).adjStep hz
  seen_side := by
    intro q z hz
    rcases mem_seen_step.1 hz with ⟨rfl, rfl⟩ | hz
    · exact side_step_mono hy
    · exact side_step_mono (h.seen_side q z hz)
  closed := by
    intro q z hz b w hw
    rcases mem_seen_step.1 hz with ⟨rfl, rfl⟩ | hz
    · exact mem_side_step.2 (Or.inr hw)
    · exact side_step_mono (h.closed q z hz b w hw)
  nodup := by
    intro q
    cases p <;> cases q
    · exact nodup_ins (h.nodup false)
    · exact h.nodup true
    · exact h.nodup false
    · exact nodup_ins (h.nodup true)

theorem inv_foldl_step (l : List Item) (h : Inv eq wc x s) (hl : ∀ a ∈ l, a ∈ s.side p) :
    Inv eq wc x (l.foldl (step eq wc p) s) ∧
    (∀ q, ∀ z ∈ s.seen q, z ∈ (l.foldl (step eq wc p) s).seen q) ∧
    ∀ a ∈ l, a ∈ (l.foldl (step eq wc p) s).seen p := by
  induction l generalizing s with
  | nil => exact ⟨h, fun _ _ hz => hz, fun _ ha => nomatch ha⟩
  | cons a l ih =>
    obtain ⟨i, m, d⟩ := ih (inv_step h (hl a List.mem_cons_self))
      (fun b hb => side_step_mono (hl b (List.mem_cons_of_mem _ hb)))
    refine ⟨i, fun q z hz => m q z (mem_seen_step.2 (Or.inr hz)), fun b hb => ?_⟩
    rcases List.mem_cons.1 hb with rfl | hb
    · exact m p _ (mem_seen_step.2 (Or.inl ⟨rfl, rfl⟩))
    · exact d b hb

theorem inv_round (h : Inv eq wc x s) : Inv eq wc x (round eq wc s) :=
  (inv_foldl_step (p := true) _ (inv_foldl_step (p := false) _ h diff_sub).1 diff_sub).1

theorem inv_iter (n : Nat) (h : Inv eq wc x s) : Inv eq wc x (iter eq wc n s) := by
  induction n generalizing s with
  | zero => exact h
  | succ n ih =>
    unfold Closure.iter
    split
    · exact ih (inv_round h)
    · exact h

theorem inv_complete (h : Inv eq wc x s) (hp : pending s = false) {p y} (r : Reach eq wc x p y) :
    y ∈ s.side p := by
  have hs : ∀ p, ∀ y ∈ s.side p, y ∈ s.seen p := by
    intro p y hy
    have h0 : diff (s.side p) (s.seen p) = [] := by
      simp only [pending, Bool.or_eq_false_iff, Bool.not_eq_false', List.isEmpty_iff] at hp
      cases p
      · exact hp.1
      · exact hp.2
    exact Decidable.byContradiction fun hn => List.not_mem_nil (h0 ▸ mem_diff.2 ⟨hy, hn⟩)
  induction r with
  | refl => exact h.x_in
  | eqStep _ hz ih => simpa using h.closed _ _ (hs _ _ ih) false _ hz
  | wcStep _ hz ih => simpa using h.closed _ _ (hs _ _ ih) true _ hz

/-! Fuel: processed lists are duplicate-free lists of keys; a round with something pending makes `done` larger. -/

structure KeyClosed (eq wc : Adj) (K : List Item) : Prop where
  eqK : ∀ y z, z ∈ nb eq y → z ∈ K
  wcK : ∀ y z, z ∈ nb wc y → z ∈ K

theorem Reach.mem_keys {K : List Item} (kc : KeyClosed eq wc K) (h : Reach eq wc x p y) (hx : x ∈ K) :
    y ∈ K := by
  induction h with
  | refl => exact hx
  | eqStep _ hz _ => exact kc.eqK _ _ hz
  | wcStep _ hz _ => exact kc.wcK _ _ hz

def done (s : St) : Nat := s.Ed.length + s.Wd.length

theorem done_le {K : List Item} (kc : KeyClosed eq wc K) (hx : x ∈ K) (h : Inv eq wc x s) :
    done s ≤ 2 * K.length := by
  have b : ∀ p, (s.seen p).length ≤ K.length := fun p =>
    le_of_nodup_subset (h.nodup p) (fun z hz => (h.sound p z (h.seen_side p z hz)).mem_keys kc hx)
  have bE : s.Ed.length ≤ K.length := b false
  have bW : s.Wd.length ≤ K.length := b true
  unfold done
  omega

theorem round_progress (h : Inv eq wc x s) (hp : pending s = true) :
    done s < done (round eq wc s) := by
  obtain ⟨h1, m1, p1⟩ := inv_foldl_step (p := false) _ h diff_sub
  obtain ⟨_, m2, p2⟩ := inv_foldl_step (p := true) _ h1 diff_sub
  have eE : s.Ed.length ≤ (roundEq eq wc s).Ed.length := le_of_nodup_subset (h.nodup false) (m1 false)
  have eW : s.Wd.length ≤ (roundEq eq wc s).Wd.length := le_of_nodup_subset (h.nodup true) (m1 true)
  have wE : (roundEq eq wc s).Ed.length ≤ (round eq wc s).Ed.length :=
    le_of_nodup_subset (h1.nodup false) (m2 false)
  have wW : (roundEq eq wc s).Wd.length ≤ (round eq wc s).Wd.length :=
    le_of_nodup_subset (h1.nodup true) (m2 true)
  -- something is pending on the `eq` side now, or else on the `wc` side after the first half
  by_cases hE : diff s.E s.Ed = []
  · have hW : diff (roundEq eq wc s).W (roundEq eq wc s).Wd ≠ [] := by
      have e : roundEq eq wc s = s := by simp [roundEq, hE]
      rw [e]
      intro c
      simp [pending, hE, c] at hp
    obtain ⟨y, hy⟩ := List.exists_mem_of_ne_nil _ hW
    have : (roundEq eq wc s).Wd.length < (round eq wc s).Wd.length :=
      length_lt_of_extra (h1.nodup true) (m2 true) (p2 y hy) (mem_diff.1 hy).2
    unfold done
    omega
  · obtain ⟨y, hy⟩ := List.exists_mem_of_ne_nil _ hE
    have : s.Ed.length < (roundEq eq wc s).Ed.length :=
      length_lt_of_extra (h.nodup false) (m1 false) (p1 y hy) (mem_diff.1 hy).2
    unfold done
    omega

theorem iter_reaches_fixpoint {K : List Item} (kc : KeyClosed eq wc K) (hx : x ∈ K) (n : Nat)
    (h : Inv eq wc x s) (hn : 2 * K.length < done s + n) : pending (iter eq wc n s) = false := by
  induction n generalizing s with
  | zero => have := done_le kc hx h; omega
  | succ n ih =>
    unfold iter
    split
    · have := round_progress h ‹_›
      exact ih (inv_round h) (by omega)
    · simpa using ‹¬ pending s = true›

end

theorem classOf_side {eq wc : Adj} (kc : KeyClosed eq wc (keys eq)) {x : Item} (hx : x ∈ keys eq)
    (p : Bool) (y : Item) : y ∈ (classOf eq wc x).side p ↔ Reach eq wc x p y :=
  have hi : Inv eq wc x (classOf eq wc x) := inv_iter _ (inv_init eq wc x)
  ⟨hi.sound p y, inv_complete hi
    (iter_reaches_fixpoint kc hx _ (inv_init eq wc x) (by simp [done, init]))⟩

/-- C07 for one class: the sets computed for `x` are exactly the even / odd parity-reachable items. -/
theorem classOf_exact {eq wc : Adj} (kc : KeyClosed eq wc (keys eq)) {x : Item} (hx : x ∈ keys eq) (y : Item) :
    (y ∈ (classOf eq wc x).E ↔ Reach eq wc x false y) ∧ (y ∈ (classOf eq wc x).W ↔ Reach eq wc x true y) :=
  ⟨classOf_side kc hx false y, classOf_side kc hx true y⟩

end Pepper.Closure
