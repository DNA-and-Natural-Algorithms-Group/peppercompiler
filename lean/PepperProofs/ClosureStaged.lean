import PepperProofs.Closure
/-!
# `propagate_constraints`: re-using the result as the next basis

`design/constraint_load.py : Constraints.propagate` stores the *result* of `propagate_constraints`
back as the link collections (`self.eq, self.wc = propagate_constraints(self.eq, self.wc)`), after
which the store may be extended by fresh items and propagated again.  A result read back as adjacency lists
(`Res.eqAdj`/`Res.wcAdj`) satisfies the documented precondition again, also after appending a disjoint fresh
basis, and the second propagation returns exactly the parity classes of the *original* combined basis.  Only C07
rests on this: the modelled `finish` propagates once.

The keys of a result are a permutation of the keys of the input (classes are stored member by
member), so nothing here depends on the key order; duplicate-freeness of the result's keys is
proved from the code (`propagate_nodup`).
-/
namespace Pepper.Closure

def Res.eqAdj (r : Res) : Adj := r.map (fun e => (e.1, e.2.1))
def Res.wcAdj (r : Res) : Adj := r.map (fun e => (e.1, e.2.2))

theorem keys_append (a b : Adj) : keys (a ++ b) = keys a ++ keys b :=
  List.map_append

theorem keys_map_val (f : List Item × List Item → List Item) (r : Res) :
    keys (r.map (fun e => (e.1, f e.2))) = r.keys := by
  simp [keys, Res.keys]

theorem nb_map_val (f : List Item × List Item → List Item) (r : Res) (x : Item) :
    nb (r.map (fun e => (e.1, f e.2))) x = match r.get x with | some v => f v | none => [] := by
  unfold nb Res.get
  rw [lookup_map_snd (fun _ => f)]
  cases r.lookup x <;> rfl

theorem keys_eqAdj (r : Res) : keys r.eqAdj = r.keys := keys_map_val Prod.fst r
theorem keys_wcAdj (r : Res) : keys r.wcAdj = r.keys := keys_map_val Prod.snd r

theorem nb_eqAdj (r : Res) (x : Item) : nb r.eqAdj x = match r.get x with | some v => v.1 | none => [] :=
  nb_map_val Prod.fst r x
theorem nb_wcAdj (r : Res) (x : Item) : nb r.wcAdj x = match r.get x with | some v => v.2 | none => [] :=
  nb_map_val Prod.snd r x

theorem key_of_mem_nb {g : Adj} {y z : Item} (h : z ∈ nb g y) : y ∈ keys g := by
  obtain ⟨l, hl, _⟩ := mem_nb h
  exact List.mem_map.2 ⟨(y, l), hl, rfl⟩

theorem nb_append (a b : Adj) (y : Item) :
    nb (a ++ b) y = if y ∈ keys a then nb a y else nb b y := by
  unfold nb
  rw [List.lookup_append]
  cases h : a.lookup y <;> simp [keys, ← lookup_isSome_iff_mem_keys, h]

theorem mem_nb_append {a b : Adj} (hd : ∀ x, x ∈ keys a → x ∉ keys b) (y z : Item) :
    z ∈ nb (a ++ b) y ↔ z ∈ nb a y ∨ z ∈ nb b y := by
  rw [nb_append]
  split
  · rename_i hy
    exact ⟨Or.inl, fun h => h.elim id (fun h => absurd (key_of_mem_nb h) (hd y hy))⟩
  · rename_i hy
    exact ⟨Or.inr, fun h => h.elim (fun h => absurd (key_of_mem_nb h) hy) id⟩

section staged
variable {eq wc eq2 wc2 : Adj} {r : Res}

/-- edges of a store `g` that holds for every old item its class of parity `p`, extended by `g2`:
    a closure edge between old items or a basis edge between fresh ones -/
theorem mem_nb_store_append (h : Pre eq wc) (e : propagate eq wc = .ok r) (p : Bool) {g g2 : Adj}
    (hkeys : keys g = r.keys)
    (hnb : ∀ y E W, r.get y = some (E, W) → (∀ z, z ∈ E ↔ Reach eq wc y false z) →
      (∀ z, z ∈ W ↔ Reach eq wc y true z) → ∀ z, z ∈ nb g y ↔ Reach eq wc y p z)
    (hd : ∀ x, x ∈ keys eq → x ∉ keys g2) (y z : Item) :
    z ∈ nb (g ++ g2) y ↔ (y ∈ keys eq ∧ Reach eq wc y p z) ∨ z ∈ nb g2 y := by
  obtain ⟨i, hk, _⟩ := propagate_res h e
  rw [nb_append, hkeys]
  by_cases hy : y ∈ keys eq
  · rw [if_pos ((hk y).2 hy)]
    obtain ⟨E, W, hg, hE, hW⟩ := i.get ((r.has_iff_mem_keys y).2 ((hk y).2 hy))
    have hf := hnb y E W hg hE hW z
    exact ⟨fun hz => Or.inl ⟨hy, hf.1 hz⟩,
      fun hz => hz.elim (fun hz => hf.2 hz.2) (fun hz => absurd (key_of_mem_nb hz) (hd y hy))⟩
  · rw [if_neg (fun c => hy ((hk y).1 c))]
    exact ⟨Or.inr, fun hz => hz.elim (fun hz => absurd hz.1 hy) id⟩

theorem mem_nb_eqAdj_append (h : Pre eq wc) (e : propagate eq wc = .ok r) {g2 : Adj}
    (hd : ∀ x, x ∈ keys eq → x ∉ keys g2) (y z : Item) :
    z ∈ nb (r.eqAdj ++ g2) y ↔ (y ∈ keys eq ∧ Reach eq wc y false z) ∨ z ∈ nb g2 y :=
  mem_nb_store_append h e false (keys_eqAdj r)
    (fun y E W hg hE _ z => by rw [nb_eqAdj, hg]; exact hE z) hd y z

theorem mem_nb_wcAdj_append (h : Pre eq wc) (e : propagate eq wc = .ok r) {g2 : Adj}
    (hd : ∀ x, x ∈ keys eq → x ∉ keys g2) (y z : Item) :
    z ∈ nb (r.wcAdj ++ g2) y ↔ (y ∈ keys eq ∧ Reach eq wc y true z) ∨ z ∈ nb g2 y :=
  mem_nb_store_append h e true (keys_wcAdj r)
    (fun y E W hg _ hW z => by rw [nb_wcAdj, hg]; exact hW z) hd y z

theorem pre_staged (h : Pre eq wc) (e : propagate eq wc = .ok r) (h2 : Pre eq2 wc2)
    (hd : ∀ x, x ∈ keys eq → x ∉ keys eq2) : Pre (r.eqAdj ++ eq2) (r.wcAdj ++ wc2) := by
  obtain ⟨_, hk, hn⟩ := propagate_res h e
  have kc := h.keyClosed
  have kA : keys (r.eqAdj ++ eq2) = r.keys ++ keys eq2 := by rw [keys_append, keys_eqAdj]
  have side : ∀ (g g2 : Adj) (p : Bool),
      (∀ y z, z ∈ nb g y ↔ (y ∈ keys eq ∧ Reach eq wc y p z) ∨ z ∈ nb g2 y) →
      (∀ y z, z ∈ nb g2 y → z ∈ keys eq2) → (∀ y z, z ∈ nb g2 y → y ∈ nb g2 z) →
      (∀ y z, z ∈ nb g y → z ∈ keys (r.eqAdj ++ eq2)) ∧ (∀ y z, z ∈ nb g y → y ∈ nb g z) := by
    intro g g2 p m closed2 symm2
    refine ⟨fun y z hz => ?_, fun y z hz => ?_⟩
    · rw [kA, List.mem_append]
      rcases (m y z).1 hz with ⟨hy, hr⟩ | hz
      · exact Or.inl ((hk z).2 (hr.mem_keys kc hy))
      · exact Or.inr (closed2 y z hz)
    · rcases (m y z).1 hz with ⟨hy, hr⟩ | hz
      · exact (m z y).2 (Or.inl ⟨hr.mem_keys kc hy, h.reach_symm hr⟩)
      · exact (m z y).2 (Or.inr (symm2 y z hz))
  have sE := side (r.eqAdj ++ eq2) _ _ (mem_nb_eqAdj_append h e hd) h2.eqClosed h2.eqSymm
  have sW := side (r.wcAdj ++ wc2) _ _ (mem_nb_wcAdj_append h e (h2.sameKeys ▸ hd)) h2.wcClosed h2.wcSymm
  refine ⟨?_, ?_, sE.1, sW.1, sE.2, sW.2⟩
  · rw [kA, keys_append, keys_wcAdj, h2.sameKeys]
  · rw [kA]
    exact List.nodup_append.2 ⟨hn, h2.nodupKeys, fun a ha b hb c => hd a ((hk a).1 ha) (c ▸ hb)⟩

theorem reach_staged (h : Pre eq wc) (e : propagate eq wc = .ok r) (h2 : Pre eq2 wc2)
    (hd : ∀ x, x ∈ keys eq → x ∉ keys eq2) (x y : Item) (p : Bool) :
    Reach (r.eqAdj ++ eq2) (r.wcAdj ++ wc2) x p y ↔ Reach (eq ++ eq2) (wc ++ wc2) x p y := by
  have hd' : ∀ x, x ∈ keys eq → x ∉ keys wc2 := h2.sameKeys ▸ hd
  have mE := mem_nb_eqAdj_append h e hd
  have mW := mem_nb_wcAdj_append h e hd'
  have gE := mem_nb_append hd
  have gW := mem_nb_append (h.sameKeys ▸ hd')
  constructor
  · -- a stored edge is a path of the old basis, which lies inside the combined one
    have up : ∀ {a b : Item} {q : Bool}, Reach eq wc a q b → Reach (eq ++ eq2) (wc ++ wc2) a q b :=
      Reach.mono (fun y z hz => (gE y z).2 (Or.inl hz)) (fun y z hz => (gW y z).2 (Or.inl hz))
    apply Reach.lift
    · intro y z hz
      rcases (mE y z).1 hz with ⟨_, hr⟩ | hz
      · exact up hr
      · exact Reach.refl.eqStep ((gE y z).2 (Or.inr hz))
    · intro y z hz
      rcases (mW y z).1 hz with ⟨_, hr⟩ | hz
      · exact up hr
      · exact Reach.refl.wcStep ((gW y z).2 (Or.inr hz))
  · apply Reach.mono
    · intro y z hz
      rcases (gE y z).1 hz with hz | hz
      · exact (mE y z).2 (Or.inl ⟨key_of_mem_nb hz, Reach.refl.eqStep hz⟩)
      · exact (mE y z).2 (Or.inr hz)
    · intro y z hz
      rcases (gW y z).1 hz with hz | hz
      · exact (mW y z).2 (Or.inl ⟨h.sameKeys ▸ key_of_mem_nb hz, Reach.refl.wcStep hz⟩)
      · exact (mW y z).2 (Or.inr hz)

theorem reach_of_split {G G' a a' b b' : Adj}
    (hG : ∀ y z, z ∈ nb G y ↔ z ∈ nb a y ∨ z ∈ nb b y) (hG' : ∀ y z, z ∈ nb G' y ↔ z ∈ nb a' y ∨ z ∈ nb b' y)
    (K : List Item) (ca : ∀ y z, z ∈ nb a y → z ∈ K) (ca' : ∀ y z, z ∈ nb a' y → z ∈ K)
    (hb : ∀ y z, y ∈ K → z ∉ nb b y) (hb' : ∀ y z, y ∈ K → z ∉ nb b' y)
    {x : Item} (hx : x ∈ K) (y : Item) (p : Bool) : Reach G G' x p y ↔ Reach a a' x p y :=
  ⟨fun hr => (hr.restrict (· ∈ K)
      (fun y z hy hz => ((hG y z).1 hz).elim (fun h => ⟨h, ca y z h⟩) (fun h => absurd h (hb y z hy)))
      (fun y z hy hz => ((hG' y z).1 hz).elim (fun h => ⟨h, ca' y z h⟩) (fun h => absurd h (hb' y z hy))) hx).1,
    Reach.mono (fun y z hz => (hG y z).2 (Or.inl hz)) (fun y z hz => (hG' y z).2 (Or.inl hz))⟩

theorem reach_append_left (h : Pre eq wc) (h2 : Pre eq2 wc2)
    (hd : ∀ x, x ∈ keys eq → x ∉ keys eq2) {x : Item} (hx : x ∈ keys eq) (y : Item) (p : Bool) :
    Reach (eq ++ eq2) (wc ++ wc2) x p y ↔ Reach eq wc x p y :=
  have hdw : ∀ x, x ∈ keys wc → x ∉ keys wc2 := h.sameKeys ▸ h2.sameKeys ▸ hd
  reach_of_split (mem_nb_append hd) (mem_nb_append hdw) (keys eq) h.eqClosed h.wcClosed
    (fun y _ hy hz => hd y hy (key_of_mem_nb hz))
    (fun y _ hy hz => hdw y (h.sameKeys ▸ hy) (key_of_mem_nb hz)) hx y p

theorem reach_append_right (h : Pre eq wc) (h2 : Pre eq2 wc2)
    (hd : ∀ x, x ∈ keys eq → x ∉ keys eq2) {x : Item} (hx : x ∈ keys eq2) (y : Item) (p : Bool) :
    Reach (eq ++ eq2) (wc ++ wc2) x p y ↔ Reach eq2 wc2 x p y :=
  have hdw : ∀ x, x ∈ keys wc → x ∉ keys wc2 := h.sameKeys ▸ h2.sameKeys ▸ hd
  reach_of_split (fun y z => (mem_nb_append hd y z).trans or_comm)
    (fun y z => (mem_nb_append hdw y z).trans or_comm) (keys eq2) h2.eqClosed h2.wcClosed
    (fun y _ hy hz => hd y (key_of_mem_nb hz) hy)
    (fun y _ hy hz => hdw y (key_of_mem_nb hz) (h2.sameKeys ▸ hy)) hx y p

theorem propagate_staged (h : Pre eq wc) (e : propagate eq wc = .ok r) (h2 : Pre eq2 wc2)
    (hd : ∀ x, x ∈ keys eq → x ∉ keys eq2) :
    Pre (r.eqAdj ++ eq2) (r.wcAdj ++ wc2) ∧
    ∃ r', propagate (r.eqAdj ++ eq2) (r.wcAdj ++ wc2) = .ok r' ∧
      (∀ x, r'.has x = true → x ∈ keys eq ++ keys eq2) ∧
      (∀ x ∈ keys eq ++ keys eq2, ∃ E W, r'.get x = some (E, W) ∧
        (∀ y, y ∈ E ↔ Reach (eq ++ eq2) (wc ++ wc2) x false y) ∧
        (∀ y, y ∈ W ↔ Reach (eq ++ eq2) (wc ++ wc2) x true y)) ∧
      (∀ x ∈ keys eq, ∃ E W, r'.get x = some (E, W) ∧
        (∀ y, y ∈ E ↔ Reach eq wc x false y) ∧ (∀ y, y ∈ W ↔ Reach eq wc x true y)) ∧
      (∀ x ∈ keys eq2, ∃ E W, r'.get x = some (E, W) ∧
        (∀ y, y ∈ E ↔ Reach eq2 wc2 x false y) ∧ (∀ y, y ∈ W ↔ Reach eq2 wc2 x true y)) := by
  have hp := pre_staged h e h2 hd
  obtain ⟨_, hk, _⟩ := propagate_res h e
  obtain ⟨r', e', i', hx', _⟩ := propagate_closed hp
  have kA : ∀ x, x ∈ keys (r.eqAdj ++ eq2) ↔ x ∈ keys eq ++ keys eq2 := by
    intro x
    rw [keys_append, keys_eqAdj, List.mem_append, List.mem_append, hk x]
  have main := fun x hx => exact_congr (reach_staged h e h2 hd x) (i'.get (hx' x ((kA x).2 hx)))
  exact ⟨hp, r', e', fun x hx => (kA x).1 (i'.isKey x hx), main,
    fun x hx => exact_congr (reach_append_left h h2 hd hx) (main x (List.mem_append.2 (Or.inl hx))),
    fun x hx => exact_congr (reach_append_right h h2 hd hx) (main x (List.mem_append.2 (Or.inr hx)))⟩

theorem propagate_idempotent (h : Pre eq wc) (e : propagate eq wc = .ok r) :
    Pre r.eqAdj r.wcAdj ∧
    ∃ r', propagate r.eqAdj r.wcAdj = .ok r' ∧
      (∀ x, r'.has x = true → x ∈ keys eq) ∧
      ∀ x ∈ keys eq, ∃ E' W', r'.get x = some (E', W') ∧
        (∀ y, y ∈ E' ↔ Reach eq wc x false y) ∧ (∀ y, y ∈ W' ↔ Reach eq wc x true y) := by
  obtain ⟨hp, r', e', hk', _, hold, _⟩ :=
    propagate_staged (eq2 := []) (wc2 := []) h e
      ⟨rfl, List.nodup_nil, fun _ _ hz => (nomatch hz), fun _ _ hz => (nomatch hz),
        fun _ _ hz => (nomatch hz), fun _ _ hz => (nomatch hz)⟩ (fun _ _ c => nomatch c)
  rw [List.append_nil, List.append_nil] at hp e'
  exact ⟨hp, r', e', fun x hx => List.append_nil (keys eq) ▸ hk' x hx, hold⟩

end staged

/-! ### non-vacuity

First stage: an odd cycle (`0 ~ 1 ~ 2 ~ 0`), an isolated item (`3`) and a mixed chain
(`4 = 5 ~ 6 = 7`).  Second stage: two fresh items linked to each other (`8 ~ 9`) and a fresh isolated
item (`10`). -/

abbrev stagedEq : Adj := [(0, []), (1, []), (2, []), (3, []), (4, [5]), (5, [4]), (6, [7]), (7, [6])]
abbrev stagedWc : Adj :=
  [(0, [1, 2]), (1, [0, 2]), (2, [1, 0]), (3, []), (4, []), (5, [6]), (6, [5]), (7, [])]
abbrev stagedEq2 : Adj := [(8, []), (9, []), (10, [])]
abbrev stagedWc2 : Adj := [(8, [9]), (9, [8]), (10, [])]
/-- the result of the first stage (its keys are a permutation of the input's) -/
abbrev stagedRes : Res :=
  [(2, [0, 2, 1], [2, 1, 0]), (1, [0, 2, 1], [2, 1, 0]), (0, [0, 2, 1], [2, 1, 0]),
   (3, [3], []),
   (4, [4, 5], [7, 6]), (5, [4, 5], [7, 6]), (7, [7, 6], [4, 5]), (6, [7, 6], [4, 5])]

-- the test vectors are left to `decide +kernel` (`rfl` makes the elaborator evaluate `propagate` as well)
example : Pre stagedEq stagedWc ∧ propagate stagedEq stagedWc = .ok stagedRes ∧
    Pre stagedEq2 stagedWc2 ∧ ∀ x, x ∈ keys stagedEq → x ∉ keys stagedEq2 :=
  ⟨Pre.of_preB (by decide +kernel), by decide +kernel, Pre.of_preB (by decide +kernel), by decide +kernel⟩

/-- propagating the stored result again returns the same classes (as sets; the order differs) -/
example : propagate stagedRes.eqAdj stagedRes.wcAdj = .ok
    [(1, [0, 1, 2], [1, 2, 0]), (2, [0, 1, 2], [1, 2, 0]), (0, [0, 1, 2], [1, 2, 0]),
     (3, [3], []),
     (5, [5, 4], [6, 7]), (4, [5, 4], [6, 7]), (6, [6, 7], [5, 4]), (7, [6, 7], [5, 4])] := by decide +kernel

/-- and after adding the fresh items the old classes are unchanged and the fresh ones exact -/
example : propagate (stagedRes.eqAdj ++ stagedEq2) (stagedRes.wcAdj ++ stagedWc2) = .ok
    [(1, [0, 1, 2], [1, 2, 0]), (2, [0, 1, 2], [1, 2, 0]), (0, [0, 1, 2], [1, 2, 0]),
     (3, [3], []),
     (5, [5, 4], [6, 7]), (4, [5, 4], [6, 7]), (6, [6, 7], [5, 4]), (7, [6, 7], [5, 4]),
     (8, [8], [9]), (9, [9], [8]), (10, [10], [])] := by decide +kernel

end Pepper.Closure
