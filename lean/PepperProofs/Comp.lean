import PepperProofs.CompDenote
/-!
# C01: the compile path of one component preserves the design

`load_refines`: the simulation at the end of `load`; `compile_preserves` is read off it.
-/
namespace Pepper.Comp
open Pepper.Constraint Pepper.Denote

def PortOk (s : St) (p : Port) : Prop :=
  (∃ e, s.findSeq p.seq = some e) ∧ ∀ sn, p.struct = some sn → (s.findStruct sn).isSome = true

theorem ports_ok {s : St} {ins outs : List Port} {vi vo : List (ItemRef × Option String)}
    (hi : ins.mapM (SysProofs.portOf s) = .ok vi) (ho : outs.mapM (SysProofs.portOf s) = .ok vo) :
    ∀ p ∈ ins ++ outs, PortOk s p := fun p hp =>
  have ⟨_, hr⟩ : ∃ r, SysProofs.portOf s p = .ok r := (List.mem_append.mp hp).elim
    (fun h => (mapM_ok_mem hi p h).imp fun _ h => h.2) (fun h => (mapM_ok_mem ho p h).imp fun _ h => h.2)
  have ⟨_, _, e, he, _⟩ := SysProofs.portOf_spec hr
  ⟨⟨e, he⟩, fun _ hsn => SysProofs.portOf_struct hr hsn⟩

theorem addIO_inv {s st : St} {ins outs : List Port} (h : addIO s ins outs = .ok st) :
    (st.pfx = s.pfx ∧ st.seqs = s.seqs ∧ st.strands = s.strands ∧ st.structs = s.structs ∧ st.kins = s.kins) ∧
    ∀ p ∈ ins ++ outs, PortOk s p := by
  rw [SysProofs.addIO_eq] at h
  obtain ⟨vi, hi, h⟩ := bind_ok h
  obtain ⟨vo, ho, h⟩ := bind_ok h
  cases h
  exact ⟨⟨rfl, rfl, rfl, rfl, rfl⟩, ports_ok hi ho⟩

/-- the line `output_synthesis` writes for a kinetic reaction -/
def renderKin (k : KinD) : String :=
  "kinetic [" ++ k.low ++ " /M/s < k < " ++ k.high ++ " /M/s] " ++
    joinWith " + " k.inputs ++ " -> " ++ joinWith " + " k.outputs

theorem load_inv {src : Src} {n : Nat} {pfx : String} {a : Nat} {st : St} {a' : Nat}
    (h : load src n pfx a = .ok (st, a')) :
    ∃ s, addStmts { name := src.name, pfx := pfx, params := src.params } a src.stmts = .ok (s, a') ∧
      addIO s src.inputs src.outputs = .ok st := by
  obtain ⟨s, vi, vo, hadd, hi, ho, rfl⟩ := load_ok h
  exact ⟨s, hadd, by rw [SysProofs.addIO_eq, hi, ho]; rfl⟩

theorem Agree_init (name pfx : String) (params : List String) (a : Nat) :
    Agree pfx { name := name, pfx := pfx, params := params } { anon := a } {} a :=
  ⟨rfl, by simp, by simp [findE], by simp, by simp [findT], rfl, rfl, rfl, rfl, rfl, rfl⟩

theorem kinLines (s : St) :
    (emitPil s).drop (Emit.compStmts s).length = (s.kins.map (kinD s.pfx)).map renderKin := by
  unfold emitPil Emit.compStmts
  rw [List.drop_left']
  · rw [List.map_map]; rfl
  · simp

/-- **The simulation at the end of `load`**, stated for the state `load` returns (`addIO` only fills in the port
    fields).  What C01 and the system level say about one component is read off this. -/
structure Refines (src : Src) (pfx : String) (a : Nat) (st : St) (a' : Nat) (env : Env) (o : Out) : Prop where
  wf : WF st a'
  agree : Agree pfx st env o a'
  pfx_eq : st.pfx = pfx
  codes : ∀ tbl, CodesOk tbl src = true → CodesInv tbl st
  ports : ∀ p ∈ src.inputs ++ src.outputs, ∃ e b, st.findSeq p.seq = some e ∧ env.seqs.lookup p.seq = some b ∧
    cnucs pfx e.bases = b.nucs ∧ ∀ sn, p.struct = some sn → o.structs.any (·.name == pfx ++ sn) = true
  denote : denoteComp src pfx a = .ok (o, (src.inputs ++ src.outputs).map
    (fun p => (((env.seqs.lookup p.seq).map (·.nucs)).getD [], p.star)), a')

theorem load_refines {src : Src} {n : Nat} {pfx : String} {a : Nat} {st : St} {a' : Nat}
    (hload : load src n pfx a = .ok (st, a')) (hnames : UserNamesOk src = true) :
    ∃ env o, Refines src pfx a st a' env o := by
  simp only [UserNamesOk, Bool.and_eq_true, List.all_eq_true] at hnames
  obtain ⟨hw, hci⟩ := load_WF_codes hload hnames.1
  have hpfx := load_pfx hload
  obtain ⟨s, vi, vo, hadd, hi, ho, rfl⟩ := load_ok hload
  obtain ⟨env, o, hden, hA⟩ := addStmts_agree (WF_init src.name pfx src.params a).zero
    (Agree_init src.name pfx src.params a) hnames.1 hadd
  have hport : ∀ p ∈ src.inputs ++ src.outputs, ∃ e b, s.findSeq p.seq = some e ∧ env.seqs.lookup p.seq = some b ∧
      cnucs pfx e.bases = b.nucs ∧ ∀ sn, p.struct = some sn → o.structs.any (·.name == pfx ++ sn) = true := by
    intro p hp
    obtain ⟨⟨e, he⟩, hstr⟩ := ports_ok hi ho p hp
    obtain ⟨b, hlk, hc, _⟩ := hA.seq_of_findE (hnames.2 p hp) he
    refine ⟨e, b, he, hlk, hc, fun sn hsn => ?_⟩
    rw [hA.structs, any_struct_name pfx s.structs sn _ (fun _ => rfl)]
    exact hstr sn hsn
  refine ⟨env, o, hw, { hA with }, hpfx, hci, hport, ?_⟩
  rw [denoteComp_eq, hden]
  show (portsOf pfx env o _).map _ = _
  rw [portsOf, mapM_ok_of_forall (g := fun p => (((env.seqs.lookup p.seq).map (·.nucs)).getD [], p.star)), hA.anon]
  · rfl
  · intro p hp
    obtain ⟨e, b, _, hlk, _, hstr⟩ := hport p hp
    rw [Denote.portOf, hlk]
    cases hps : p.struct with
    | none => rfl
    | some sn =>
      simp only [hstr sn hps, if_true]
      rfl

/-- C01 for one component: the emitted PIL loads, the specification accepts the source, and both denote the
    same design; the kinetic lines of the emitted text are the denoted reactions -/
theorem compile_preserves (tbl : CodeTable) (src : Src) (n : Nat) (pfx : String) (a : Nat) (st : St) (a' : Nat)
    (hload : load src n pfx a = .ok (st, a')) (hnames : UserNamesOk src = true) (hcodes : CodesOk tbl src = true) :
    ∃ spec o ports, Pil.load tbl (Emit.compStmts st) {} = .ok spec ∧
      denoteComp src pfx a = .ok (o, ports, a') ∧ DesignEquiv (Pil.denote spec) (o.design []) ∧
      (emitPil st).drop (Emit.compStmts st).length = o.kinetics.map renderKin := by
  obtain ⟨env, o, R⟩ := load_refines hload hnames
  obtain ⟨spec, hl, hd⟩ := emit_sound tbl R.wf (R.codes tbl hcodes)
  refine ⟨spec, o, _, hl, R.denote, ?_, ?_⟩
  · rw [hd]
    exact R.agree.design R.pfx_eq
  · rw [kinLines st, R.pfx_eq, R.agree.kinetics]

/-- a small component used by the non-vacuity examples of C01: two atomic sequences (one with a wildcard),
    a super-sequence with a quoted wildcard region and a starred item, a strand using `domains(s*)`, a structure
    in run-length notation with a fractional optimisation bound, a kinetic statement, two ports -/
def exampleSrc : Src :=
  { name := "c", params := [], inputs := [⟨"a", false, none⟩], outputs := [⟨"s", true, some "T"⟩],
    stmts := [
      .seq "a" [.nuc "3N".toList] none,
      .seq "b" [.nuc "2S ?W".toList] (some 4),
      .seq "s" [.ref "a" false, .nuc "2R ?Y".toList, .ref "b" true] (some 10),
      .strand false "X" [.ref "s" false, .domains "s" true] none,
      .struct (.value "2.50") "T" ["X"] false "10( 10)".toList,
      .kinetic none (some "100") ["T"] ["T"] ] }

end Pepper.Comp
