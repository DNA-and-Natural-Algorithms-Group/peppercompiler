import PepperModel.Comp
import PepperProofs.Basic
/-!
# `Comp.addStmt` in closed form

Each arm of `addStmt` is a guard, a chain of sub-steps that only read the state (`build`, `findStrands`, `structCheck`,
`kinEntry`) and a state update (`addStmt_seq_eq` …: equations, so they also say when the statement is rejected).
`Adds s a stmt s' a'` lists what an accepted statement did, one constructor per kind (`addStmt_adds`); nothing else
opens `addStmt`.  Likewise `load` (`load_ok`, `load_induct`) and `addIO` (`portOf`, `addIO_eq`, `portOf_spec`,
`portOf_struct`: named under `Pepper.SysProofs`, where the entry of C02 lists them).
-/
namespace Pepper.Comp
open Pepper.Constraint

def build (s : St) (a : Nat) (items : List SrcItem) (len : Option Nat) : Except Err Built :=
  cleanConst s items >>= fun cs => buildSuper a cs len

theorem build_ok {s : St} {a : Nat} {items : List SrcItem} {len : Option Nat} {b : Built}
    (h : build s a items len = .ok b) : ∃ cs, cleanConst s items = .ok cs ∧ buildSuper a cs len = .ok b :=
  bind_ok h

theorem addStmt_seq_eq (s : St) (a : Nat) (name : String) (items : List SrcItem) (len : Option Nat) :
    addStmt s a (.seq name items len) =
      if (s.findSeq name).isSome then .error .dupSeq else
      match items with
      | [.nuc text] =>
        (match resolve (parseQuoted text) len with
         | .ok (l, c) =>
           .ok ({ s with seqs := s.seqs ++ [⟨name, false, false, l, c, [], [⟨name, false, l⟩], false⟩] }, a)
         | .error e => .error (.constraint e))
      | _ => build s a items len >>= fun b =>
        .ok (registerAnon { s with seqs := s.seqs ++ [⟨name, true, false, b.len, [], b.items, b.bases, false⟩] } b,
             b.anon) := by
  unfold addStmt build
  dsimp only
  split
  · rfl
  · split
    · rfl
    · simp only [bind_assoc]; rfl

/-! The two flag updates by name: `Adds`, `Step` and the invariants above speak of them in these words. -/

/-- what a `strand` statement does to a sequence entry: the flag `inStrand`, nothing else -/
def markFn (bs : List BaseRef) (e : SeqE) : SeqE := if bs.any (·.name == e.name) then { e with inStrand := true } else e

theorem markInStrand_eq (s : St) (bs : List BaseRef) : markInStrand s bs = { s with seqs := s.seqs.map (markFn bs) } := rfl

theorem markInStrand_names (s : St) (bs : List BaseRef) :
    (markInStrand s bs).seqs.map (·.name) = s.seqs.map (·.name) := by
  rw [markInStrand_eq, List.map_map]
  refine List.map_congr_left fun e _ => ?_
  simp only [Function.comp, markFn]
  split <;> rfl

/-- what a `structure` statement does to a strand entry: the flag `inStructure`, nothing else -/
def structFlag (strands : List String) (o : StrandE) : StrandE :=
  if strands.contains o.name then { o with inStructure := true } else o

theorem structFlag_eq (strands : List String) (o : StrandE) :
    structFlag strands o = { o with inStructure := (structFlag strands o).inStructure } := by
  unfold structFlag
  split <;> rfl

theorem structFlag_props (strands : List String) (o : StrandE) :
    (structFlag strands o).name = o.name ∧ (structFlag strands o).len = o.len := by
  rw [structFlag_eq]; exact ⟨rfl, rfl⟩

theorem addStmt_strand_eq (s : St) (a : Nat) (dummy : Bool) (name : String) (items : List SrcItem)
    (len : Option Nat) :
    addStmt s a (.strand dummy name items len) =
      if (s.findStrand name).isSome then .error .dupStrand else
      build s a items len >>= fun b =>
      if b.len == 0 then .error .zeroStrand else
      .ok (markInStrand
            (registerAnon { s with strands := s.strands ++ [⟨name, dummy, b.len, b.items, b.bases, false⟩] } b)
            b.bases, b.anon) := by
  rw [addStmt, build]
  split
  · rfl
  · simp only [bind_assoc]; rfl

def optDec : OptSrc → Option Dec
  | .default => some ⟨['1'], []⟩
  | .noOpt => some ⟨['0'], []⟩
  | .value t => parseDec t

/-- the rate bound `addStmt` stores: `none` = the default (0 / inf) -/
def decOpt : Option String → Option (Option Dec)
  | none => some none
  | some t => (parseDec t).map (fun d => if d.isZero then none else some d)

def findStrands (s : St) (strands : List String) : Except Err (List StrandE) :=
  strands.mapM fun n => match s.findStrand n with
    | some o => pure o
    | none => throw Err.undefinedStrand

def structCheck (opt : OptSrc) (domain : Bool) (text : List Char) (domLens : List (List Nat)) (lens : List Nat) :
    Except Err (Dec × List Char) :=
  match Notation.compileStruct text with
  | none => .error .structNotation
  | some dp =>
    match (if domain then Notation.domainExpand dp domLens else some dp) with
    | none => .error .structDomains
    | some full =>
      if !Notation.sizesOk full lens then .error .structLen else
      match optDec opt with
      | some optv => .ok (optv, full)
      | none => .error .badNumber

theorem addStmt_struct_eq (s : St) (a : Nat) (opt : OptSrc) (name : String) (strands : List String) (domain : Bool)
    (text : List Char) :
    addStmt s a (.struct opt name strands domain text) =
      if (s.findStruct name).isSome then .error .dupStruct else
      findStrands s strands >>= fun objs =>
      structCheck opt domain text (objs.map fun o => o.items.map (·.len)) (objs.map (·.len)) >>= fun r =>
      .ok ({ s with strands := s.strands.map (structFlag strands),
                    structs := s.structs ++ [⟨name, r.1, strands, r.2, objs.flatMap (·.bases)⟩] }, a) := by
  rw [addStmt]
  split
  · rfl
  · refine congrArg _ (funext fun objs => ?_)
    -- both sides make the same case distinctions, in the same order, and agree in each case
    unfold structCheck
    cases Notation.compileStruct text with
    | none => rfl
    | some dp =>
      simp only [pure_bind]
      cases domain with
      | false =>
        simp only [Bool.false_eq_true, if_false]
        cases Notation.sizesOk dp (objs.map (·.len)) with
        | false => rfl
        | true =>
          cases opt with
          | default => rfl
          | noOpt => rfl
          | value t =>
            dsimp only [optDec]
            cases parseDec t <;> rfl
      | true =>
        simp only [if_true]
        cases Notation.domainExpand dp (objs.map fun o => o.items.map (·.len)) with
        | none => rfl
        | some full =>
          simp only [pure_bind]
          cases Notation.sizesOk full (objs.map (·.len)) with
          | false => rfl
          | true =>
            cases opt with
            | default => rfl
            | noOpt => rfl
            | value t =>
              dsimp only [optDec]
              cases parseDec t <;> rfl

def kinEntry (s : St) (low high : Option String) (ins outs : List String) : Except Err KinE :=
  if !(ins ++ outs).all (fun n => (s.findStruct n).isSome) then .error .undefinedStruct else
  match decOpt low, decOpt high with
  | some lo, some hi => .ok ⟨"Kin" ++ toString s.kins.length, ins, outs, lo, hi⟩
  | _, _ => .error .badNumber

theorem addStmt_kinetic_eq (s : St) (a : Nat) (low high : Option String) (ins outs : List String) :
    addStmt s a (.kinetic low high ins outs) =
      kinEntry s low high ins outs >>= fun k => .ok ({ s with kins := s.kins ++ [k] }, a) := by
  rw [addStmt, kinEntry]
  by_cases hf : (!(ins ++ outs).all (fun n => (s.findStruct n).isSome)) = true
  · rw [if_pos hf, if_pos hf]; rfl
  · rw [if_neg hf, if_neg hf]
    rcases low with _ | tl <;> rcases high with _ | th
    · rfl
    · dsimp only [decOpt]; cases parseDec th <;> rfl
    · dsimp only [decOpt]; cases parseDec tl <;> rfl
    · dsimp only [decOpt]; cases parseDec tl <;> cases parseDec th <;> rfl

abbrev baseEntry (name : String) (l : Nat) (c : List Char) : SeqE := ⟨name, false, false, l, c, [], [⟨name, false, l⟩], false⟩
abbrev supEntry (name : String) (b : Built) : SeqE := ⟨name, true, false, b.len, [], b.items, b.bases, false⟩
abbrev strandEntry (name : String) (dummy : Bool) (b : Built) : StrandE := ⟨name, dummy, b.len, b.items, b.bases, false⟩

theorem structCheck_ok {opt : OptSrc} {domain : Bool} {text : List Char} {dl : List (List Nat)} {ls : List Nat}
    {r : Dec × List Char} (h : structCheck opt domain text dl ls = .ok r) :
    ∃ dp, Notation.compileStruct text = some dp ∧
      (if domain then Notation.domainExpand dp dl = some r.2 else r.2 = dp) ∧
      Notation.sizesOk r.2 ls = true ∧ optDec opt = some r.1 := by
  unfold structCheck at h
  split at h
  · cases h
  · rename_i dp hdp
    split at h
    · cases h
    · rename_i full hfull
      obtain ⟨hsz, h⟩ := ite_ok h
      split at h
      · rename_i optv hopt
        cases h
        refine ⟨dp, hdp, ?_, not_not_true hsz, hopt⟩
        cases domain with
        | false => cases hfull; rfl
        | true => exact hfull
      · cases h

theorem kinEntry_ok {s : St} {low high : Option String} {ins outs : List String} {k : KinE}
    (h : kinEntry s low high ins outs = .ok k) :
    (ins ++ outs).all (fun n => (s.findStruct n).isSome) = true ∧ ∃ lo hi, decOpt low = some lo ∧ decOpt high = some hi ∧
      k = ⟨"Kin" ++ toString s.kins.length, ins, outs, lo, hi⟩ := by
  unfold kinEntry at h
  obtain ⟨hf, h⟩ := ite_ok h
  refine ⟨not_not_true hf, ?_⟩
  split at h
  · rename_i lo hi hlo hhi
    cases h
    exact ⟨lo, hi, hlo, hhi, rfl⟩
  · cases h

inductive Adds (s : St) (a : Nat) : Stmt → St → Nat → Prop
  | seqBase {name : String} {text : List Char} {len : Option Nat} {l : Nat} {c : List Char}
      (hf : s.findSeq name = none) (hr : resolve (parseQuoted text) len = .ok (l, c)) :
      Adds s a (.seq name [.nuc text] len) { s with seqs := s.seqs ++ [baseEntry name l c] } a
  | seqSup {name : String} {items : List SrcItem} {len : Option Nat} {b : Built}
      (hne : ∀ text, items ≠ [.nuc text]) (hf : s.findSeq name = none) (hb : build s a items len = .ok b) :
      Adds s a (.seq name items len) (registerAnon { s with seqs := s.seqs ++ [supEntry name b] } b) b.anon
  | strand {dummy : Bool} {name : String} {items : List SrcItem} {len : Option Nat} {b : Built}
      (hf : s.findStrand name = none) (hb : build s a items len = .ok b) (hz : b.len ≠ 0) :
      Adds s a (.strand dummy name items len)
        (markInStrand (registerAnon { s with strands := s.strands ++ [strandEntry name dummy b] } b) b.bases) b.anon
  | struct {opt : OptSrc} {name : String} {strands : List String} {domain : Bool} {text : List Char}
      {objs : List StrandE} {r : Dec × List Char} (hf : s.findStruct name = none)
      (hobjs : findStrands s strands = .ok objs)
      (hchk : structCheck opt domain text (objs.map fun o => o.items.map (·.len)) (objs.map (·.len)) = .ok r) :
      Adds s a (.struct opt name strands domain text)
        { s with strands := s.strands.map (structFlag strands),
                 structs := s.structs ++ [⟨name, r.1, strands, r.2, objs.flatMap (·.bases)⟩] } a
  | kinetic {low high : Option String} {ins outs : List String} {k : KinE}
      (hk : kinEntry s low high ins outs = .ok k) :
      Adds s a (.kinetic low high ins outs) { s with kins := s.kins ++ [k] } a

theorem addStmt_adds {s : St} {a : Nat} {stmt : Stmt} {s' : St} {a' : Nat} (h : addStmt s a stmt = .ok (s', a')) :
    Adds s a stmt s' a' := by
  cases stmt with
  | seq name items len =>
    rw [addStmt_seq_eq] at h
    obtain ⟨hf, h⟩ := ite_ok h
    have hf := Option.not_isSome_iff_eq_none.mp hf
    split at h
    · cases hr : resolve (parseQuoted _) len with
      | error e => rw [hr] at h; cases h
      | ok v => rw [hr] at h; cases h; exact .seqBase hf hr
    · rename_i hne
      obtain ⟨b, hb, h⟩ := bind_ok h
      cases h
      exact .seqSup (fun t ht => hne t ht) hf hb
  | strand dummy name items len =>
    rw [addStmt_strand_eq] at h
    obtain ⟨hf, h⟩ := ite_ok h
    obtain ⟨b, hb, h⟩ := bind_ok h
    obtain ⟨hz, h⟩ := ite_ok h
    cases h
    exact .strand (Option.not_isSome_iff_eq_none.mp hf) hb (by simpa using hz)
  | struct opt name strands domain text =>
    rw [addStmt_struct_eq] at h
    obtain ⟨hf, h⟩ := ite_ok h
    obtain ⟨objs, hobjs, h⟩ := bind_ok h
    obtain ⟨r, hchk, h⟩ := bind_ok h
    cases h
    exact .struct (Option.not_isSome_iff_eq_none.mp hf) hobjs hchk
  | kinetic low high ins outs =>
    rw [addStmt_kinetic_eq] at h
    obtain ⟨k, hk, h⟩ := bind_ok h
    cases h
    exact .kinetic hk

theorem load_eq (src : Src) (n : Nat) (pfx : String) (a : Nat) :
    load src n pfx a =
      if src.params.length != n then .error .arity else
      addStmts { name := src.name, pfx := pfx, params := src.params } a src.stmts >>= fun r =>
      addIO r.1 src.inputs src.outputs >>= fun s => .ok (s, r.2) := by
  rw [load]
  split <;> rfl

theorem addStmts_inv {P : St → Nat → Prop} {stmts : List Stmt}
    (hstep : ∀ st ∈ stmts, ∀ {s a s' a'}, P s a → addStmt s a st = .ok (s', a') → P s' a') :
    ∀ {s a s' a'}, P s a → addStmts s a stmts = .ok (s', a') → P s' a' := by
  induction stmts with
  | nil => intro s a s' a' hP h; cases h; exact hP
  | cons st r ih =>
    intro s a s' a' hP h
    rw [addStmts] at h
    cases h1 : addStmt s a st with
    | error e => rw [h1] at h; cases h
    | ok v =>
      rw [h1] at h
      exact ih (fun x hx => hstep x (List.mem_cons_of_mem _ hx)) (hstep st (List.mem_cons_self ..) hP h1) h

end Pepper.Comp

namespace Pepper.SysProofs
open Pepper.Comp

/-- `add_IO`, one port -/
def portOf (s : Comp.St) (p : Comp.Port) : Except Comp.Err (ItemRef × Option String) := do
  match s.findSeq p.seq with
  | none => throw Comp.Err.undefinedSeq
  | some e =>
    match p.struct with
    | some sn => if (s.findStruct sn).isNone then throw Comp.Err.undefinedStruct
    | none => pure ()
    pure ((⟨e.name, p.star, e.len, e.isSup⟩ : ItemRef), p.struct)

theorem addIO_eq (s : Comp.St) (inputs outputs : List Comp.Port) :
    Comp.addIO s inputs outputs = (do
      let ins ← inputs.mapM (portOf s)
      let outs ← outputs.mapM (portOf s)
      pure { s with inputSeqs := ins.map (·.1), inputStructs := ins.map (·.2),
                    outputSeqs := outs.map (·.1), outputStructs := outs.map (·.2) }) := rfl

theorem portOf_spec {s : Comp.St} {p : Comp.Port} {r : ItemRef × Option String} (h : portOf s p = .ok r) :
    r.1.name = p.seq ∧ r.1.rev = p.star ∧ ∃ e, s.findSeq p.seq = some e ∧ r.1.len = e.len ∧ r.1.isSup = e.isSup := by
  unfold portOf at h
  split at h
  · cases h
  · rename_i e he
    have hr : ((⟨e.name, p.star, e.len, e.isSup⟩ : ItemRef), p.struct) = r := by
      split at h
      · exact pure_eq_ok.1 (guard_eq_ok.1 h).2
      · exact pure_eq_ok.1 h
    subst hr
    exact ⟨by simpa using List.find?_some he, rfl, e, he, rfl, rfl⟩

theorem portOf_struct {s : Comp.St} {p : Comp.Port} {r : ItemRef × Option String} (h : portOf s p = .ok r)
    {sn : String} (hs : p.struct = some sn) : (s.findStruct sn).isSome = true := by
  unfold portOf at h
  split at h
  · cases h
  · simp only [hs] at h
    cases hf : s.findStruct sn with
    | none => rw [hf] at h; cases h
    | some x => rfl

end Pepper.SysProofs

namespace Pepper.Comp
open Pepper.SysProofs (portOf addIO_eq portOf_spec portOf_struct)

theorem load_ok {src : Comp.Src} {n : Nat} {pfx : String} {a : Nat} {st : Comp.St} {a' : Nat}
    (h : Comp.load src n pfx a = .ok (st, a')) :
    ∃ s vi vo, Comp.addStmts { name := src.name, pfx := pfx, params := src.params } a src.stmts = .ok (s, a') ∧
      src.inputs.mapM (portOf s) = .ok vi ∧ src.outputs.mapM (portOf s) = .ok vo ∧
      st = { s with inputSeqs := vi.map (·.1), inputStructs := vi.map (·.2),
                    outputSeqs := vo.map (·.1), outputStructs := vo.map (·.2) } := by
  rw [load_eq] at h
  obtain ⟨_, h⟩ := ite_ok h
  obtain ⟨⟨s, a1⟩, hadd, h⟩ := bind_ok h
  obtain ⟨st', hio, h⟩ := bind_ok h
  cases h
  rw [addIO_eq] at hio
  obtain ⟨vi, hi, hio⟩ := bind_ok hio
  obtain ⟨vo, ho, hio⟩ := bind_ok hio
  cases hio
  exact ⟨s, vi, vo, hadd, hi, ho, rfl⟩

/-- the item `add_IO` records for a declared port -/
def itemOf (s : Comp.St) (p : Comp.Port) : ItemRef :=
  match s.findSeq p.seq with
  | some e => ⟨e.name, p.star, e.len, e.isSup⟩
  | none => ⟨p.seq, p.star, 0, false⟩

theorem portOf_item {s : Comp.St} {p : Comp.Port} {r : ItemRef × Option String} (h : portOf s p = .ok r) :
    r.1 = itemOf s p := by
  obtain ⟨h1, h2, e, he, h3, h4⟩ := portOf_spec h
  have hn : e.name = p.seq := by
    have := List.find?_some he; simpa using this
  unfold itemOf
  rw [he]
  obtain ⟨⟨n, rv, l, su⟩, x⟩ := r
  simp only at h1 h2 h3 h4 ⊢
  rw [h1, h2, h3, h4, hn]

theorem mapM_portOf_items {s : Comp.St} {ps : List Comp.Port} {rs : List (ItemRef × Option String)}
    (h : ps.mapM (portOf s) = .ok rs) : rs.map (·.1) = ps.map (itemOf s) :=
  mapM_map_eq (fun _ _ hp => portOf_item hp) h

theorem load_items {src : Comp.Src} {n : Nat} {pfx : String} {a : Nat} {st : Comp.St} {a' : Nat}
    (h : Comp.load src n pfx a = .ok (st, a')) :
    st.inputSeqs ++ st.outputSeqs = (src.inputs ++ src.outputs).map (itemOf st) := by
  obtain ⟨s, vi, vo, _, hi, ho, rfl⟩ := load_ok h
  simp only [List.map_append, mapM_portOf_items hi, mapM_portOf_items ho]
  rfl

/-- `addIO` only fills in the port fields (`hio`). -/
theorem load_induct {P : St → Nat → Prop} {src : Src} {n : Nat} {pfx : String} {a : Nat} {st : St} {a' : Nat}
    (h : load src n pfx a = .ok (st, a'))
    (h0 : P { name := src.name, pfx := pfx, params := src.params } a)
    (hstep : ∀ stmt ∈ src.stmts, ∀ {s a s' a'}, P s a → addStmt s a stmt = .ok (s', a') → P s' a')
    (hio : ∀ {s : St} {i1 o1 : List ItemRef} {i2 o2 : List (Option String)}, P s a' →
      P { s with inputSeqs := i1, inputStructs := i2, outputSeqs := o1, outputStructs := o2 } a') : P st a' := by
  obtain ⟨s, vi, vo, hadd, _, _, rfl⟩ := load_ok h
  exact hio (addStmts_inv hstep h0 hadd)

end Pepper.Comp
