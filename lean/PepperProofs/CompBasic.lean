import Std.Data.String.ToNat
import PepperModel.Comp
import PepperModel.Pil
/-!
# `rc` algebra, `anonName` is injective, `insertAt`
-/
namespace Pepper

@[simp] theorem flip_flip (n : Nuc) : n.flip.flip = n := by cases n; simp [Nuc.flip]
@[simp] theorem rc_rc (l : List Nuc) : rc (rc l) = l := by
  simp [rc, List.map_reverse, Function.comp_def]
@[simp] theorem rc_append (a b : List Nuc) : rc (a ++ b) = rc b ++ rc a := by simp [rc]
@[simp] theorem rc_nil : rc [] = [] := rfl
@[simp] theorem rc_length (l : List Nuc) : (rc l).length = l.length := by simp [rc]
@[simp] theorem fwd_length (n : String) (k : Nat) : (fwd n k).length = k := by simp [fwd]
@[simp] theorem fwd_zero (n : String) : fwd n 0 = [] := by simp [fwd]

theorem rc_flatMap {α} (f : α → List Nuc) (l : List α) :
    rc (l.flatMap f) = l.reverse.flatMap (fun a => rc (f a)) := by
  induction l with
  | nil => simp
  | cons a l ih => simp [List.flatMap_cons, ih]

theorem rc_flatten (l : List (List Nuc)) : rc l.flatten = (l.reverse.map rc).flatten := by
  induction l with
  | nil => simp
  | cons a l ih => simp [ih]

namespace Pil

theorem nucsOfBase_inv (b : BaseRef) : nucsOfBase b.inv = rc (nucsOfBase b) := by
  unfold nucsOfBase BaseRef.inv
  cases hb : b.rev
  · simp
  · simp [rc_rc]

theorem nucsOfBases_rev (bs : List BaseRef) :
    nucsOfBases (bs.reverse.map BaseRef.inv) = rc (nucsOfBases bs) := by
  unfold nucsOfBases
  rw [rc_flatMap, List.flatMap_map]
  simp only [nucsOfBase_inv]

end Pil

namespace Comp

theorem anon_full_name (p : String) (k : Nat) : p ++ "_Anon" ++ toString k = p ++ anonName k := by
  simp [anonName, String.append_assoc]

theorem insertAt_append_left {α} (a b : List α) (x : α) {j : Nat} (h : a.length = j) :
    insertAt (a ++ b) j x = a ++ x :: b := by
  subst h
  simp [insertAt]

theorem anonName_inj {j k : Nat} (h : anonName j = anonName k) : j = k := by
  unfold anonName at h
  rw [String.append_right_inj] at h
  exact Nat.repr_injective h

theorem anonName_toList (k : Nat) : (anonName k).toList = "_Anon".toList ++ Nat.toDigits 10 k := by
  unfold anonName
  rw [String.toList_append]
  congr 1
  exact Nat.toList_repr

end Comp
end Pepper
