import PepperModel.Comp
import PepperProofs.CompConstraint
import PepperProofs.CompBasic
/-!
# Closed form of `Comp.buildFold` / `Comp.buildSuper` (C10, C01)

`buildSuper` threads an accumulator through the item list and defers the single wildcard region.  Here
the result is written as explicit functions of the item list (`refsFrom`, `basesFrom`, `anonsFrom`,
`lenSum`, `nucCount`), first for wildcard-free lists, then for `pre ++ nuc w :: post`.
-/
namespace Pepper.Comp
open Pepper.Constraint

def wildFree : List CItem → Bool
  | [] => true
  | .obj _ _ :: r => wildFree r
  | .nuc p :: r => wildCount p == 0 && wildFree r

def nucCount : List CItem → Nat
  | [] => 0
  | .obj _ _ :: r => nucCount r
  | .nuc _ :: r => nucCount r + 1

/-- total length of the items, a wildcard counting as 0 -/
def lenSum : List CItem → Nat
  | [] => 0
  | .obj i _ :: r => i.len + lenSum r
  | .nuc p :: r => fixedSum p + lenSum r

/-- `seqs` of the built object: quoted regions become anonymous sequences numbered from `k` -/
def refsFrom (k : Nat) : List CItem → List ItemRef
  | [] => []
  | .obj i _ :: r => i :: refsFrom k r
  | .nuc p :: r => ⟨anonName k, false, fixedSum p, false⟩ :: refsFrom (k + 1) r

/-- its `base_seqs`; `anonsFrom`: the anonymous sequences created -/
def basesFrom (k : Nat) : List CItem → List BaseRef
  | [] => []
  | .obj _ bs :: r => bs ++ basesFrom k r
  | .nuc p :: r => ⟨anonName k, false, fixedSum p⟩ :: basesFrom (k + 1) r

def anonsFrom (k : Nat) : List CItem → List SeqE
  | [] => []
  | .obj _ _ :: r => anonsFrom k r
  | .nuc p :: r => mkAnon k (fixedSum p) (expand 0 p) :: anonsFrom (k + 1) r

@[simp] theorem wildFree_append (a b : List CItem) : wildFree (a ++ b) = (wildFree a && wildFree b) := by
  induction a with
  | nil => simp [wildFree]
  | cons c r ih => cases c <;> simp [wildFree, ih, Bool.and_assoc]

theorem wildFree_iff_wildCount (cs : List CItem) :
    wildFree cs = true ↔ ∀ p, CItem.nuc p ∈ cs → wildCount p = 0 := by
  induction cs with
  | nil => simp [wildFree]
  | cons c r ih =>
    cases c with
    | obj i bs => simp [wildFree, ih]
    | nuc q => simp [wildFree, ih]

theorem wildFree_mem {cs : List CItem} (h : wildFree cs = true) {p : List (Mult × Char)} (hp : CItem.nuc p ∈ cs) :
    wildCount p = 0 :=
  (wildFree_iff_wildCount cs).mp h p hp

@[simp] theorem nucCount_append (a b : List CItem) : nucCount (a ++ b) = nucCount a + nucCount b := by
  induction a with
  | nil => simp [nucCount]
  | cons c r ih =>
    cases c with
    | obj i bs => simp [nucCount, ih]
    | nuc p => simp only [List.cons_append, nucCount, ih]; omega

@[simp] theorem lenSum_append (a b : List CItem) : lenSum (a ++ b) = lenSum a + lenSum b := by
  induction a with
  | nil => simp [lenSum]
  | cons c r ih =>
    cases c with
    | obj i bs => simp only [List.cons_append, lenSum, ih]; omega
    | nuc p => simp only [List.cons_append, lenSum, ih]; omega

theorem refsFrom_append (k : Nat) (a b : List CItem) :
    refsFrom k (a ++ b) = refsFrom k a ++ refsFrom (k + nucCount a) b := by
  induction a generalizing k with
  | nil => simp [refsFrom, nucCount]
  | cons c r ih =>
    cases c with
    | obj i bs => simp [refsFrom, nucCount, ih]
    | nuc p => simp [refsFrom, nucCount, ih, Nat.add_assoc, Nat.add_comm 1]

theorem basesFrom_append (k : Nat) (a b : List CItem) :
    basesFrom k (a ++ b) = basesFrom k a ++ basesFrom (k + nucCount a) b := by
  induction a generalizing k with
  | nil => simp [basesFrom, nucCount]
  | cons c r ih =>
    cases c with
    | obj i bs => simp [basesFrom, nucCount, ih]
    | nuc p => simp [basesFrom, nucCount, ih, Nat.add_assoc, Nat.add_comm 1]

theorem anonsFrom_append (k : Nat) (a b : List CItem) :
    anonsFrom k (a ++ b) = anonsFrom k a ++ anonsFrom (k + nucCount a) b := by
  induction a generalizing k with
  | nil => simp [anonsFrom, nucCount]
  | cons c r ih =>
    cases c with
    | obj i bs => simp [anonsFrom, nucCount, ih]
    | nuc p => simp [anonsFrom, nucCount, ih, Nat.add_assoc, Nat.add_comm 1]

@[simp] theorem refsFrom_length (k : Nat) (cs : List CItem) : (refsFrom k cs).length = cs.length := by
  induction cs generalizing k with
  | nil => simp [refsFrom]
  | cons c r ih => cases c <;> simp [refsFrom, ih]

@[simp] theorem anonsFrom_length (k : Nat) (cs : List CItem) : (anonsFrom k cs).length = nucCount cs := by
  induction cs generalizing k with
  | nil => simp [anonsFrom, nucCount]
  | cons c r ih => cases c <;> simp [anonsFrom, nucCount, ih]

theorem refsFrom_lenSum (k : Nat) (cs : List CItem) : ((refsFrom k cs).map (·.len)).sum = lenSum cs := by
  induction cs generalizing k with
  | nil => simp [refsFrom, lenSum]
  | cons c r ih => cases c <;> simp [refsFrom, lenSum, ih]

/-- A wildcard region with its `?` written out for a remainder `R` is one quoted region of length `R`: what it
    contributes to a built object numbered `j`. -/
theorem explicit_region {w : List (Mult × Char)} (hw : wildCount w = 1) {R : Nat} (hle : fixedSum w ≤ R) (j : Nat) :
    fixedSum (explicit (R - fixedSum w) w) = R ∧
    wildFree [.nuc (explicit (R - fixedSum w) w)] = true ∧
    nucCount [.nuc (explicit (R - fixedSum w) w)] = 1 ∧
    lenSum [.nuc (explicit (R - fixedSum w) w)] = R ∧
    refsFrom j [.nuc (explicit (R - fixedSum w) w)] = [⟨anonName j, false, R, false⟩] ∧
    basesFrom j [.nuc (explicit (R - fixedSum w) w)] = [⟨anonName j, false, R⟩] ∧
    anonsFrom j [.nuc (explicit (R - fixedSum w) w)] = [mkAnon j R (expand (R - fixedSum w) w)] := by
  have h : fixedSum (explicit (R - fixedSum w) w) = R := by rw [fixedSum_explicit, hw]; omega
  refine ⟨h, ?_, rfl, ?_, ?_, ?_, ?_⟩
  · simp only [wildFree, wildCount_explicit]; rfl
  · show fixedSum _ + 0 = R
    rw [h]; rfl
  · show [(⟨anonName j, false, fixedSum _, false⟩ : ItemRef)] = _
    rw [h]
  · show [(⟨anonName j, false, fixedSum _⟩ : BaseRef)] = _
    rw [h]
  · show [mkAnon j (fixedSum _) (expand 0 _)] = _
    rw [h, expand_explicit]

theorem buildFold_wildFree_append {cs : List CItem} (hf : wildFree cs = true) (rest : List CItem) (A : Acc) :
    buildFold (cs ++ rest) A =
      buildFold rest { A with items := A.items ++ refsFrom A.anon cs,
                              bases := A.bases ++ basesFrom A.anon cs,
                              len := A.len + lenSum cs,
                              newAnon := A.newAnon ++ anonsFrom A.anon cs,
                              anon := A.anon + nucCount cs } := by
  induction cs generalizing A with
  | nil => simp [refsFrom, basesFrom, lenSum, anonsFrom, nucCount]
  | cons c r ih =>
    cases c with
    | obj i bs =>
      simp only [wildFree] at hf
      simp only [List.cons_append, buildFold, buildStep, ih hf]
      simp [refsFrom, basesFrom, lenSum, anonsFrom, nucCount, Nat.add_assoc]
    | nuc p =>
      simp only [wildFree, Bool.and_eq_true, beq_iff_eq] at hf
      simp only [List.cons_append, buildFold, buildStep, resolve_none_of_zero hf.1, ih hf.2]
      simp [refsFrom, basesFrom, lenSum, anonsFrom, nucCount, Nat.add_assoc, mkAnon, SeqE.ref,
        Nat.add_comm 1]

theorem buildFold_wildFree {cs : List CItem} (hf : wildFree cs = true) (A : Acc) :
    buildFold cs A = .ok { A with items := A.items ++ refsFrom A.anon cs,
                                  bases := A.bases ++ basesFrom A.anon cs,
                                  len := A.len + lenSum cs,
                                  newAnon := A.newAnon ++ anonsFrom A.anon cs,
                                  anon := A.anon + nucCount cs } := by
  simpa [buildFold] using buildFold_wildFree_append hf [] A

theorem buildStep_wild {w : List (Mult × Char)} (h1 : wildCount w = 1) (A : Acc) (hA : A.wild = none) :
    buildStep A (.nuc w) = .ok { A with wild := some (A.items.length, A.bases.length, w) } := by
  simp [buildStep, resolve_none_of_one h1, hA]

theorem buildFold_wild {pre post : List CItem} {w : List (Mult × Char)}
    (hpre : wildFree pre = true) (h1 : wildCount w = 1) (hpost : wildFree post = true)
    (A : Acc) (hA : A.wild = none) :
    buildFold (pre ++ .nuc w :: post) A =
      .ok { items := A.items ++ refsFrom A.anon pre ++ refsFrom (A.anon + nucCount pre) post,
            bases := A.bases ++ basesFrom A.anon pre ++ basesFrom (A.anon + nucCount pre) post,
            len := A.len + lenSum pre + lenSum post,
            newAnon := A.newAnon ++ anonsFrom A.anon pre ++ anonsFrom (A.anon + nucCount pre) post,
            anon := A.anon + nucCount pre + nucCount post,
            wild := some ((A.items ++ refsFrom A.anon pre).length, (A.bases ++ basesFrom A.anon pre).length, w) } := by
  rw [buildFold_wildFree_append hpre]
  simp only [buildFold]
  rw [buildStep_wild h1 _ (by simpa using hA)]
  simp only [buildFold_wildFree hpost]

theorem buildFold_ok_cases {cs : List CItem} {A A' : Acc} (h : buildFold cs A = .ok A') :
    wildFree cs = true ∨
    ∃ pre w post, cs = pre ++ .nuc w :: post ∧ wildFree pre = true ∧ wildCount w = 1 ∧
      wildFree post = true ∧ A.wild = none := by
  induction cs generalizing A with
  | nil => left; rfl
  | cons c r ih =>
    simp only [buildFold] at h
    cases hs : buildStep A c with
    | error e => simp [hs] at h
    | ok A1 =>
      simp only [hs] at h
      cases c with
      | obj i bs =>
        simp only [buildStep, Except.ok.injEq] at hs
        rcases ih h with hr | ⟨pre, w, post, rfl, hp, hw, hq, hn⟩
        · left; simpa [wildFree] using hr
        · right
          refine ⟨.obj i bs :: pre, w, post, by simp, by simpa [wildFree] using hp, hw, hq, ?_⟩
          subst hs; simpa using hn
      | nuc p =>
        by_cases h0 : wildCount p = 0
        · simp only [buildStep, resolve_none_of_zero h0, Except.ok.injEq] at hs
          rcases ih h with hr | ⟨pre, w, post, rfl, hp, hw, hq, hn⟩
          · left; simp [wildFree, h0, hr]
          · right
            refine ⟨.nuc p :: pre, w, post, by simp, by simp [wildFree, h0, hp], hw, hq, ?_⟩
            subst hs; simpa using hn
        · by_cases h1 : wildCount p = 1
          · simp only [buildStep, resolve_none_of_one h1] at hs
            split at hs
            · simp at hs
            · rename_i hw
              simp only [Except.ok.injEq] at hs
              rcases ih h with hr | ⟨pre, w, post, _, _, _, _, hn⟩
              · right
                exact ⟨[], p, r, by simp, rfl, h1, hr, by simpa using hw⟩
              · subst hs; simp at hn
          · have h2 : 2 ≤ wildCount p := by omega
            simp [buildStep, resolve_of_two h2] at hs

theorem buildSuper_wildFree {cs : List CItem} (hf : wildFree cs = true) (k : Nat) (length : Option Nat) :
    buildSuper k cs length =
      if length = none ∨ length = some (lenSum cs) then
        .ok ⟨refsFrom k cs, basesFrom k cs, lenSum cs, anonsFrom k cs, k + nucCount cs⟩
      else .error .lengthMismatch := by
  simp only [buildSuper, buildFold_wildFree hf, bind, Except.bind]
  cases length with
  | none => simp [pure, Except.pure]
  | some l =>
    by_cases hl : lenSum cs = l
    · simp [hl, pure, Except.pure]
    · have : ¬ l = lenSum cs := fun h => hl h.symm
      simp [hl, this, throw, throwThe, MonadExceptOf.throw]

theorem buildSuper_wild {pre post : List CItem} {w : List (Mult × Char)}
    (hpre : wildFree pre = true) (h1 : wildCount w = 1) (hpost : wildFree post = true) (k L : Nat) :
    buildSuper k (pre ++ .nuc w :: post) (some L) =
      if L < lenSum pre + lenSum post then .error .tooShort
      else if L - (lenSum pre + lenSum post) < fixedSum w then .error (.constraint .tooShort)
      else
        let wl := L - (lenSum pre + lenSum post)
        let kw := k + nucCount pre + nucCount post
        .ok ⟨refsFrom k pre ++ ⟨anonName kw, false, wl, false⟩ :: refsFrom (k + nucCount pre) post,
             basesFrom k pre ++ ⟨anonName kw, false, wl⟩ :: basesFrom (k + nucCount pre) post,
             L,
             anonsFrom k pre ++ anonsFrom (k + nucCount pre) post ++ [mkAnon kw wl (expand (wl - fixedSum w) w)],
             kw + 1⟩ := by
  simp only [buildSuper, buildFold_wild hpre h1 hpost { anon := k } rfl, bind, Except.bind]
  simp only [List.nil_append, Nat.zero_add]
  by_cases hS : L < lenSum pre + lenSum post
  · simp [hS, throw, throwThe, MonadExceptOf.throw]
  · simp only [hS, if_false]
    by_cases hw : L - (lenSum pre + lenSum post) < fixedSum w
    · simp [resolve, h1, hw, throw, throwThe, MonadExceptOf.throw]
    · have hle : fixedSum w ≤ L - (lenSum pre + lenSum post) := by omega
      simp only [resolve_some_of_one h1 hle, hw, if_false, pure, Except.pure, insertAt_append_left _ _ _ rfl, mkAnon, SeqE.ref]
      simp
      omega

theorem buildSuper_wild_none {pre post : List CItem} {w : List (Mult × Char)}
    (hpre : wildFree pre = true) (h1 : wildCount w = 1) (hpost : wildFree post = true) (k : Nat) :
    buildSuper k (pre ++ .nuc w :: post) none = .error .wildNoLength := by
  simp only [buildSuper, buildFold_wild hpre h1 hpost { anon := k } rfl, bind, Except.bind]
  simp [throw, throwThe, MonadExceptOf.throw]

def ItemRef.shape (i : ItemRef) : Bool × Nat × Bool := (i.rev, i.len, i.isSup)
def BaseRef.shape (b : BaseRef) : Bool × Nat := (b.rev, b.len)

theorem refsFrom_shape (k k' : Nat) (cs : List CItem) :
    (refsFrom k cs).map ItemRef.shape = (refsFrom k' cs).map ItemRef.shape := by
  induction cs generalizing k k' with
  | nil => simp [refsFrom]
  | cons c r ih =>
    cases c with
    | obj i bs => simp [refsFrom, ih k k']
    | nuc p => simp [refsFrom, ih (k + 1) (k' + 1), ItemRef.shape]

theorem basesFrom_shape (k k' : Nat) (cs : List CItem) :
    (basesFrom k cs).map BaseRef.shape = (basesFrom k' cs).map BaseRef.shape := by
  induction cs generalizing k k' with
  | nil => simp [basesFrom]
  | cons c r ih =>
    cases c with
    | obj i bs => simp [basesFrom, ih k k']
    | nuc p => simp [basesFrom, ih (k + 1) (k' + 1), BaseRef.shape]

theorem refsFrom_getElem?_obj (k : Nat) (cs : List CItem) (idx : Nat) (i : ItemRef) (bs : List BaseRef)
    (h : cs[idx]? = some (.obj i bs)) : (refsFrom k cs)[idx]? = some i := by
  induction cs generalizing k idx with
  | nil => simp at h
  | cons c r ih =>
    cases idx with
    | zero => simp at h; subst h; simp [refsFrom]
    | succ n =>
      simp at h
      cases c <;> simp [refsFrom, ih _ n h]

/-- an object item is found at its index whatever `y` stands where `x` stood and however `post` is numbered -/
theorem refsFrom_around_getElem?_obj (k k' : Nat) (pre post : List CItem) (x : CItem) (y : ItemRef) (idx : Nat)
    (i : ItemRef) (bs : List BaseRef) (h : (pre ++ x :: post)[idx]? = some (.obj i bs))
    (hx : ∀ i bs, x ≠ .obj i bs) :
    (refsFrom k pre ++ y :: refsFrom k' post)[idx]? = some i := by
  by_cases hlt : idx < pre.length
  · rw [List.getElem?_append_left hlt] at h
    rw [List.getElem?_append_left (by simpa using hlt)]
    exact refsFrom_getElem?_obj k pre idx i bs h
  · have hge : pre.length ≤ idx := by omega
    rw [List.getElem?_append_right hge] at h
    rw [List.getElem?_append_right (by simpa using hge)]
    simp only [refsFrom_length]
    cases hd : idx - pre.length with
    | zero => simp [hd] at h; exact absurd h (hx i bs)
    | succ n =>
      simp [hd] at h ⊢
      exact refsFrom_getElem?_obj k' post n i bs h

theorem buildSuper_ok_cases {a : Nat} {cs : List CItem} {len : Option Nat} {b : Built}
    (h : buildSuper a cs len = .ok b) :
    (wildFree cs = true ∧ (len = none ∨ len = some (lenSum cs)) ∧
      b = ⟨refsFrom a cs, basesFrom a cs, lenSum cs, anonsFrom a cs, a + nucCount cs⟩) ∨
    (∃ pre w post L, cs = pre ++ .nuc w :: post ∧ wildFree pre = true ∧ wildCount w = 1 ∧
      wildFree post = true ∧ len = some L ∧ lenSum pre + lenSum post + fixedSum w ≤ L ∧
      b = ⟨refsFrom a pre ++ ⟨anonName (a + nucCount pre + nucCount post), false, L - (lenSum pre + lenSum post), false⟩ ::
              refsFrom (a + nucCount pre) post,
           basesFrom a pre ++ ⟨anonName (a + nucCount pre + nucCount post), false, L - (lenSum pre + lenSum post)⟩ ::
              basesFrom (a + nucCount pre) post,
           L,
           anonsFrom a pre ++ anonsFrom (a + nucCount pre) post ++
             [mkAnon (a + nucCount pre + nucCount post) (L - (lenSum pre + lenSum post))
                (expand (L - (lenSum pre + lenSum post) - fixedSum w) w)],
           a + nucCount pre + nucCount post + 1⟩) := by
  cases hf : buildFold cs { anon := a } with
  | error e => simp [buildSuper, hf, bind, Except.bind] at h
  | ok A' =>
    rcases buildFold_ok_cases hf with hw | ⟨pre, w, post, rfl, hpre, hw, hpost, _⟩
    · left
      rw [buildSuper_wildFree hw] at h
      split at h
      · rename_i hl
        simp only [Except.ok.injEq] at h
        exact ⟨hw, hl, h.symm⟩
      · simp at h
    · right
      cases len with
      | none => rw [buildSuper_wild_none hpre hw hpost] at h; simp at h
      | some L =>
        rw [buildSuper_wild hpre hw hpost] at h
        split at h
        · simp at h
        · split at h
          · simp at h
          · simp only [Except.ok.injEq] at h
            exact ⟨pre, w, post, L, rfl, hpre, hw, hpost, rfl, by omega, h.symm⟩

theorem buildSuper_anon {a : Nat} {cs : List CItem} {len : Option Nat} {b : Built}
    (h : buildSuper a cs len = .ok b) : b.anon = a + nucCount cs := by
  rcases buildSuper_ok_cases h with ⟨_, _, rfl⟩ | ⟨pre, w, post, L, rfl, _, _, _, _, _, rfl⟩
  · rfl
  · simp [nucCount]; omega

end Pepper.Comp
