import PepperModel.Constraint
import PepperProofs.Basic
/-!
# `Constraint.resolve`: when it accepts and what it returns (C10, C01)
-/

namespace Pepper.Constraint

@[simp] theorem expand_length (w : Nat) : ∀ parts : List (Mult × Char),
    (expand w parts).length = fixedSum parts + w * wildCount parts
  | [] => rfl
  | (.num n, c) :: r => by simp [expand, fixedSum, wildCount, expand_length w r]; omega
  | (.wild, c) :: r => by simp [expand, fixedSum, wildCount, expand_length w r, Nat.mul_add]; omega

theorem wildCount_explicit (w : Nat) : ∀ parts : List (Mult × Char), wildCount (explicit w parts) = 0
  | [] => rfl
  | (.num _, _) :: r => wildCount_explicit w r
  | (.wild, _) :: r => wildCount_explicit w r

theorem fixedSum_explicit (w : Nat) : ∀ parts : List (Mult × Char),
    fixedSum (explicit w parts) = fixedSum parts + w * wildCount parts
  | [] => rfl
  | (.num n, c) :: r => by simp [explicit, fixedSum, wildCount, fixedSum_explicit w r]; omega
  | (.wild, c) :: r => by simp [explicit, fixedSum, wildCount, fixedSum_explicit w r, Nat.mul_add]; omega

theorem expand_explicit (w v : Nat) : ∀ parts : List (Mult × Char), expand v (explicit w parts) = expand w parts
  | [] => rfl
  | (.num n, c) :: r => congrArg (List.replicate n c ++ ·) (expand_explicit w v r)
  | (.wild, c) :: r => congrArg (List.replicate w c ++ ·) (expand_explicit w v r)

theorem length_explicit (w : Nat) : ∀ parts : List (Mult × Char), (explicit w parts).length = parts.length
  | [] => rfl
  | (.num _, _) :: r => congrArg (· + 1) (length_explicit w r)
  | (.wild, _) :: r => congrArg (· + 1) (length_explicit w r)

theorem explicit_getElem? (w : Nat) : ∀ (parts : List (Mult × Char)) (i : Nat),
    (explicit w parts)[i]? = parts[i]?.map (fun p => match p with
      | (.num n, c) => (.num n, c)
      | (.wild, c) => (.num w, c))
  | [], _ => rfl
  | (.num _, _) :: _, 0 => rfl
  | (.wild, _) :: _, 0 => rfl
  | (.num _, _) :: r, i + 1 => by simpa [explicit] using explicit_getElem? w r i
  | (.wild, _) :: r, i + 1 => by simpa [explicit] using explicit_getElem? w r i

theorem expand_of_wildCount_zero {parts : List (Mult × Char)} (h : wildCount parts = 0) (w v : Nat) :
    expand w parts = expand v parts := by
  induction parts with
  | nil => simp [expand]
  | cons p r ih =>
    obtain ⟨m, c⟩ := p
    cases m with
    | num n => simp [expand, wildCount] at h ⊢; exact ih h
    | wild => simp [wildCount] at h

theorem resolve_none_of_zero {parts : List (Mult × Char)} (h : wildCount parts = 0) :
    resolve parts none = .ok (fixedSum parts, expand 0 parts) := by
  simp [resolve, h]

theorem resolve_none_of_one {parts : List (Mult × Char)} (h : wildCount parts = 1) :
    resolve parts none = .error .wildNoLength := by
  simp [resolve, h]

theorem resolve_of_two {parts : List (Mult × Char)} (h : 2 ≤ wildCount parts) (l : Option Nat) :
    resolve parts l = .error .tooManyWild := by
  have : wildCount parts > 1 := h
  simp [resolve, this]

theorem resolve_some_of_one {parts : List (Mult × Char)} (h : wildCount parts = 1) {L : Nat}
    (hle : fixedSum parts ≤ L) : resolve parts (some L) = .ok (L, expand (L - fixedSum parts) parts) := by
  have : ¬ L < fixedSum parts := by omega
  simp [resolve, h, this]

theorem resolve_ok_iff {parts : List (Mult × Char)} {l : Option Nat} {r : Nat × List Char} :
    resolve parts l = .ok r ↔
      (wildCount parts = 0 ∧ (l = none ∨ l = some (fixedSum parts)) ∧ r = (fixedSum parts, expand 0 parts)) ∨
      (wildCount parts = 1 ∧ ∃ L, l = some L ∧ fixedSum parts ≤ L ∧ r = (L, expand (L - fixedSum parts) parts)) := by
  by_cases h2 : 2 ≤ wildCount parts
  · rw [resolve_of_two h2]
    constructor
    · intro h; cases h
    · rintro (⟨h, _⟩ | ⟨h, _⟩) <;> omega
  by_cases h0 : wildCount parts = 0
  · cases l with
    | none => simp [resolve, h0, eq_comm]
    | some L =>
      by_cases hL : L = fixedSum parts
      · simp [resolve, h0, hL, eq_comm]
      · simp [resolve, h0, hL]
  · have h1 : wildCount parts = 1 := by omega
    cases l with
    | none => simp [resolve, h1]
    | some L =>
      by_cases hL : L < fixedSum parts
      · simp [resolve, h1, hL]; omega
      · simp [resolve, h1, hL, eq_comm]; omega

theorem resolve_none_ok_iff {parts : List (Mult × Char)} : (∃ r, resolve parts none = .ok r) ↔ wildCount parts = 0 := by
  constructor
  · rintro ⟨r, hr⟩
    rcases resolve_ok_iff.mp hr with ⟨h0, _⟩ | ⟨_, L, hl, _⟩
    · exact h0
    · cases hl
  · exact fun h0 => ⟨_, resolve_none_of_zero h0⟩

theorem resolve_none_wild_iff {parts : List (Mult × Char)} :
    resolve parts none = .error .wildNoLength ↔ wildCount parts = 1 := by
  refine ⟨fun h => ?_, resolve_none_of_one⟩
  by_cases h2 : 2 ≤ wildCount parts
  · rw [resolve_of_two h2] at h; cases h
  · by_cases h0 : wildCount parts = 0
    · rw [resolve_none_of_zero h0] at h; cases h
    · omega

theorem resolve_length {parts : List (Mult × Char)} {l : Option Nat} {n : Nat} {c : List Char}
    (h : resolve parts l = .ok (n, c)) : c.length = n := by
  rcases resolve_ok_iff.mp h with ⟨h0, _, hr⟩ | ⟨h1, L, _, hle, hr⟩
  · cases hr; simp [h0]
  · cases hr; simp [h1]; omega

theorem resolve_eq_expand {parts : List (Mult × Char)} {l : Option Nat} {n : Nat} {c : List Char}
    (h : resolve parts l = .ok (n, c)) : ∃ w, c = expand w parts := by
  rcases resolve_ok_iff.mp h with ⟨_, _, hr⟩ | ⟨_, L, _, _, hr⟩ <;> cases hr <;> exact ⟨_, rfl⟩

end Pepper.Constraint
