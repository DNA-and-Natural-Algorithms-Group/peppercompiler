import PepperProofs.CompEmit
import PepperModel.Denote
import PepperProofs.CompOpt
import PepperProofs.DenoteStmt
import PepperProofs.CompStep
/-!
# The compile path agrees with the specification `Denote.denoteComp`

`Agree p s env o a`: the tables `s` of the compile path after a prefix of the statements and the
specification's environment / output after the same prefix describe the same thing.  A `Step` of the loader and
`Denote.denoteStmt` preserve it in lock step (`Step.agree`, `addStmts_agree`), from any `WF0` state; `Agree.design`: the
design read off the tables is the denoted one.  The theorem that ties `Comp.load` to `Denote.denoteComp` is
`Comp.load_refines` (Comp.lean).
-/
namespace Pepper.Comp
open Pepper.Constraint Pepper.Denote

/-- `Denote.denoteItems` on cleaned items (`clean_sound`) -/
def denoteC (p : String) : List CItem → ItemsAcc → Except Denote.Err ItemsAcc
  | [], a => .ok a
  | .obj _ bs :: r, a => denoteC p r { a with segs := a.segs ++ [cnucs p bs] }
  | .nuc parts :: r, a =>
    match resolve parts none with
    | .ok (l, c) =>
      let name := p ++ "_Anon" ++ toString a.anon
      denoteC p r { a with segs := a.segs ++ [fwd name l], newDomains := a.newDomains ++ [(a.segs.length, name, c)],
                           anon := a.anon + 1 }
    | .error .wildNoLength =>
      if a.wild.isSome then .error .wildcard
      else denoteC p r { a with segs := a.segs ++ [[]], wild := some (a.segs.length, parts) }
    | .error _ => .error .wildcard

def itemNucs (p : String) (l : List SeqE) (i : ItemRef) : List Nuc := cnucs p (viewBases l i)

/-- the reaction a stored kinetic entry denotes -/
def kinD (p : String) (k : KinE) : KinD :=
  ⟨k.ins.map (p ++ ·), k.outs.map (p ++ ·),
   (match k.low with | some d => String.ofList d.fmtF | none => "0.000000"),
   (match k.high with | some d => String.ofList d.fmtF | none => "inf")⟩

/-- Anonymous sequences are entries of `s.seqs` but are not bound in `env.seqs`: hence `seqsNone` speaks of user names
    (`okName`) only, while `strandsNone` needs no such restriction. -/
structure Agree (p : String) (s : St) (env : Env) (o : Out) (a : Nat) : Prop where
  anon : env.anon = a
  seqs : ∀ n b, env.seqs.lookup n = some b → ∃ e, findE s.seqs n = some e ∧ cnucs p e.bases = b.nucs ∧
    e.isSup = b.isSup ∧ (b.isSup = true → e.items.map (itemNucs p s.seqs) = b.segs)
  seqsNone : ∀ n, okName n = true → env.seqs.lookup n = none → findE s.seqs n = none
  strands : ∀ n x, env.strands.lookup n = some x → ∃ t, findT s.strands n = some t ∧ cnucs p t.bases = x.1 ∧
    t.items.map (itemNucs p s.seqs) = x.2
  strandsNone : ∀ n, env.strands.lookup n = none → findT s.strands n = none
  domains : o.domains = (s.baseSeqs.filter (·.len != 0)).map (fun e => (p ++ e.name, e.const))
  baseSeqs : o.baseSeqs = (s.baseSeqs.filter (·.len != 0)).map (fun e => (p ++ e.name, cnucs p e.bases))
  supSeqs : o.supSeqs = (s.supSeqs.filter (·.len != 0)).map (fun e => (p ++ e.name, cnucs p e.bases))
  ostrands : o.strands = s.strands.map (fun t => (p ++ t.name, t.dummy, cnucs p t.bases))
  structs : o.structs = s.structs.map (fun e => ⟨p ++ e.name, e.strands.map (p ++ ·), e.struct, optOfDec e.opt⟩)
  kinetics : o.kinetics = s.kins.map (kinD p)

variable {p : String} {s : St} {a : Nat} {env : Env} {o : Out}

/-- equality of designs in everything a PIL statement list carries (all fields except `kinetics`).
    This is plain equality — stronger than equality up to a renaming of anonymous domains: the model and the
    specification number anonymous regions identically (the wildcard region of a statement last). -/
def DesignEquiv (d1 d2 : Design) : Prop :=
  d1.domains = d2.domains ∧ d1.seqs = d2.seqs ∧ d1.strands = d2.strands ∧ d1.structs = d2.structs ∧
    d1.equals = d2.equals

theorem DesignEquiv.refl (a : Design) : DesignEquiv a a := ⟨rfl, rfl, rfl, rfl, rfl⟩

theorem DesignEquiv.trans {a b c : Design} (h1 : DesignEquiv a b) (h2 : DesignEquiv b c) : DesignEquiv a c :=
  ⟨h1.1.trans h2.1, h1.2.1.trans h2.2.1, h1.2.2.1.trans h2.2.2.1, h1.2.2.2.1.trans h2.2.2.2.1,
    h1.2.2.2.2.trans h2.2.2.2.2⟩

theorem DesignEquiv.append {a b c d : Design} (h1 : DesignEquiv a c) (h2 : DesignEquiv b d) :
    DesignEquiv (Design.append a b) (Design.append c d) := by
  obtain ⟨a1, a2, a3, a4, a5⟩ := h1
  obtain ⟨b1, b2, b3, b4, b5⟩ := h2
  simp only [DesignEquiv, Design.append, a1, a2, a3, a4, a5, b1, b2, b3, b4, b5, and_self]

theorem Agree.design (hA : Agree p s env o a) (hp : s.pfx = p) : DesignEquiv (designOf s) (o.design []) := by
  simp only [designOf, Out.design, DesignEquiv, hp, hA.domains, hA.baseSeqs, hA.supSeqs, hA.ostrands, hA.structs,
    List.map_append, and_self]

theorem denoteC_objs (p : String) (vb : ItemRef → List BaseRef) (its : List ItemRef) (rest : List CItem) (acc : ItemsAcc) :
    denoteC p (its.map (fun i => CItem.obj i (vb i)) ++ rest) acc =
      denoteC p rest { acc with segs := acc.segs ++ its.map (fun i => cnucs p (vb i)) } := by
  induction its generalizing acc with
  | nil => simp
  | cons i r ih =>
    simp only [List.map_cons, List.cons_append, denoteC, ih]
    simp

theorem itemNucs_inv (p : String) (l : List SeqE) (i : ItemRef) : itemNucs p l i.inv = rc (itemNucs p l i) := by
  simp only [itemNucs, viewBases_inv, cnucs_rev_inv]

theorem itemsOfView_nucs (p : String) (l : List SeqE) (e : SeqE) (st : Bool) :
    (itemsOfView e st).map (itemNucs p l) =
      if st then rcSegs (e.items.map (itemNucs p l)) else e.items.map (itemNucs p l) := by
  cases st with
  | false => simp [itemsOfView]
  | true =>
    simp only [itemsOfView, if_true, rcSegs, List.map_map, List.map_reverse]
    congr 1
    apply List.map_congr_left
    intro i _
    exact itemNucs_inv p l i

theorem Agree.seq_of_findE (hA : Agree p s env o a) {n : String} (hok : okName n = true) {e : SeqE}
    (he : findE s.seqs n = some e) :
    ∃ b, env.seqs.lookup n = some b ∧ cnucs p e.bases = b.nucs ∧ e.isSup = b.isSup ∧
      (b.isSup = true → e.items.map (itemNucs p s.seqs) = b.segs) := by
  cases hl : env.seqs.lookup n with
  | none => rw [hA.seqsNone n hok hl] at he; cases he
  | some b =>
    obtain ⟨e', he', h⟩ := hA.seqs n b hl
    rw [he] at he'
    cases he'
    exact ⟨b, rfl, h⟩

theorem clean_sound (hw : WF0 s a) (hA : Agree p s env o a)
    {items : List SrcItem} (hn : itemNamesOk items = true) {cs : List CItem}
    (hc : cleanConst s items = .ok cs) (acc : ItemsAcc) :
    denoteItems p env items acc = denoteC p cs acc := by
  induction items generalizing cs acc with
  | nil => simp [cleanConst] at hc; subst hc; rfl
  | cons it r ih =>
    simp only [itemNamesOk, List.all_cons, Bool.and_eq_true] at hn
    have hnr : itemNamesOk r = true := hn.2
    cases it with
    | nuc text =>
      obtain ⟨rest, hr, rfl⟩ := cleanConst_nuc hc
      simp only [denoteItems, denoteC]
      cases hres : resolve (parseQuoted text) none with
      | ok v => exact ih hnr hr _
      | error er =>
        cases er with
        | wildNoLength => rw [ih hnr hr]
        | tooManyWild => rfl
        | mismatch => rfl
        | tooShort => rfl
    | ref n st =>
      obtain ⟨e, rest, he, hr, rfl⟩ := cleanConst_ref hc
      obtain ⟨b, hl, hnu, _, _⟩ := hA.seq_of_findE hn.1 he
      simp only [denoteItems, denoteC, hl]
      rw [ih hnr hr, cnucs_basesOfView, hnu]
    | domains n st =>
      obtain ⟨e, objs, rest, he, hs, hobjs, hr, rfl⟩ := cleanConst_domains hc
      obtain ⟨b, hl, hnu, hsup, hsegs⟩ := hA.seq_of_findE hn.1 he
      have hbs : b.isSup = true := by rw [← hsup]; exact hs
      rw [mapM_ok_of_forall (g := fun i => CItem.obj i (viewBases s.seqs i)) (fun i hi => by
        obtain ⟨j, hj, hjn, _⟩ := mem_itemsOfView hi
        obtain ⟨ie, hie, _⟩ := ((hw.seqs.entries e (findE_some he).1).sup hs).1 j hj
        simp only [findSeq_eq, viewBases, hjn, hie]
        rfl)] at hobjs
      cases hobjs
      simp only [denoteItems, hl, hbs, Bool.not_true, Bool.false_eq_true, if_false]
      rw [denoteC_objs, ih hnr hr]
      congr 2
      have := itemsOfView_nucs p s.seqs e st
      rw [hsegs hbs] at this
      exact congrArg (acc.segs ++ ·) this.symm

/-- the segments `denoteC` produces for a wildcard-free list numbered from `k` (`denoteC_wildFree`); `domsFrom`: its
    new domains with their positions -/
def segsFrom (p : String) (k : Nat) : List CItem → List (List Nuc)
  | [] => []
  | .obj _ bs :: r => cnucs p bs :: segsFrom p k r
  | .nuc q :: r => fwd (p ++ anonName k) (fixedSum q) :: segsFrom p (k + 1) r

def domsFrom (p : String) (idx k : Nat) : List CItem → List (Nat × String × List Char)
  | [] => []
  | .obj _ _ :: r => domsFrom p (idx + 1) k r
  | .nuc q :: r => (idx, p ++ anonName k, expand 0 q) :: domsFrom p (idx + 1) (k + 1) r

@[simp] theorem segsFrom_length (p : String) (k : Nat) (cs : List CItem) : (segsFrom p k cs).length = cs.length := by
  induction cs generalizing k with
  | nil => rfl
  | cons c r ih => cases c <;> simp [segsFrom, ih]

theorem denoteC_wildFree_append (p : String) {cs : List CItem} (hf : wildFree cs = true) (rest : List CItem)
    (A : ItemsAcc) :
    denoteC p (cs ++ rest) A =
      denoteC p rest { A with segs := A.segs ++ segsFrom p A.anon cs,
                              newDomains := A.newDomains ++ domsFrom p A.segs.length A.anon cs,
                              anon := A.anon + nucCount cs } := by
  induction cs generalizing A with
  | nil => simp [segsFrom, domsFrom, nucCount]
  | cons c r ih =>
    cases c with
    | obj i bs =>
      simp only [wildFree] at hf
      simp only [List.cons_append, denoteC, ih hf]
      simp [segsFrom, domsFrom, nucCount]
    | nuc q =>
      simp only [wildFree, Bool.and_eq_true, beq_iff_eq] at hf
      simp only [List.cons_append, denoteC, resolve_none_of_zero hf.1, ih hf.2, anon_full_name]
      simp [segsFrom, domsFrom, nucCount, Nat.add_assoc, Nat.add_comm 1]

theorem denoteC_wildFree (p : String) {cs : List CItem} (hf : wildFree cs = true) (A : ItemsAcc) :
    denoteC p cs A = .ok { A with segs := A.segs ++ segsFrom p A.anon cs,
                                  newDomains := A.newDomains ++ domsFrom p A.segs.length A.anon cs,
                                  anon := A.anon + nucCount cs } := by
  simpa [denoteC] using denoteC_wildFree_append p hf [] A

theorem domsFrom_snd (p : String) (idx k : Nat) (cs : List CItem) :
    (domsFrom p idx k cs).map (·.2) = (anonsFrom k cs).map (fun e => (p ++ e.name, e.const)) := by
  induction cs generalizing idx k with
  | nil => rfl
  | cons c r ih => cases c <;> simp [domsFrom, anonsFrom, ih, mkAnon]

theorem domsFrom_idx (p : String) (idx k : Nat) (cs : List CItem) :
    ∀ d ∈ domsFrom p idx k cs, idx ≤ d.1 ∧ d.1 < idx + cs.length := by
  induction cs generalizing idx k with
  | nil => simp [domsFrom]
  | cons c r ih =>
    cases c with
    | obj i bs =>
      intro d hd
      have := ih (idx + 1) k d (by simpa [domsFrom] using hd)
      simp only [List.length_cons]; omega
    | nuc q =>
      intro d hd
      simp only [domsFrom, List.mem_cons] at hd
      rcases hd with rfl | hd
      · simp
      · have := ih (idx + 1) (k + 1) d hd
        simp only [List.length_cons]; omega

theorem domsFrom_filter_lt_self (p : String) (idx k : Nat) (cs : List CItem) {n : Nat} (h : idx + cs.length ≤ n) :
    (domsFrom p idx k cs).filter (fun d => decide (d.1 < n)) = domsFrom p idx k cs :=
  List.filter_eq_self.mpr (fun d hd => decide_eq_true (Nat.lt_of_lt_of_le (domsFrom_idx p idx k cs d hd).2 h))

theorem domsFrom_filter_lt_nil (p : String) (idx k : Nat) (cs : List CItem) {n : Nat} (h : n ≤ idx) :
    (domsFrom p idx k cs).filter (fun d => decide (d.1 < n)) = [] :=
  List.filter_eq_nil_iff.mpr (fun d hd => by
    simpa using Nat.le_trans h (domsFrom_idx p idx k cs d hd).1)

theorem domsFrom_length (p : String) (idx k : Nat) (cs : List CItem) : (domsFrom p idx k cs).length = nucCount cs := by
  induction cs generalizing idx k with
  | nil => rfl
  | cons c r ih => cases c <;> simp [domsFrom, nucCount, ih]

theorem segsFrom_lens (p : String) (k : Nat) (cs : List CItem)
    (h : ∀ i bs, CItem.obj i bs ∈ cs → (bs.map (·.len)).sum = i.len) :
    ((segsFrom p k cs).map List.length).sum = lenSum cs := by
  induction cs generalizing k with
  | nil => rfl
  | cons c r ih =>
    cases c with
    | obj i bs =>
      simp only [segsFrom, lenSum, List.map_cons, List.sum_cons, cnucs_length, h i bs (by simp),
        ih k (fun j b hj => h j b (List.mem_cons_of_mem _ hj))]
    | nuc q =>
      simp only [segsFrom, lenSum, List.map_cons, List.sum_cons, fwd_length,
        ih (k + 1) (fun j b hj => h j b (List.mem_cons_of_mem _ hj))]

theorem setAt_middle {α} (A B : List α) (x y : α) {n : Nat} (hn : A.length = n) :
    setAt (A ++ [x] ++ B) n y = A ++ y :: B := by
  subst hn
  simp [setAt]

def sgSegs (p : String) (sg : Segs) : List (List Nuc) := sg.flatMap (fun x => segsFrom p x.1 x.2)
def sgDoms (p : String) (sg : Segs) : List (String × List Char) := (sgAnons sg).map (fun e => (p ++ e.name, e.const))

/-- `hI`: the items are read as the cleaned items `cs` (`clean_sound`) -/
theorem denoteRegion_shape {p : String} {env : Env} {a : Nat} (ha : env.anon = a) {items : List SrcItem}
    {cs : List CItem} (hI : ∀ acc, denoteItems p env items acc = denoteC p cs acc) {len : Option Nat} {sg : Segs}
    (hs : SgShape a cs len sg) (hobj : ∀ i bs, CItem.obj i bs ∈ cs → (bs.map (·.len)).sum = i.len) :
    denoteRegion p env items len = .ok (sgSegs p sg, sgDoms p sg, a + nucCount cs) := by
  rcases hs with ⟨hf, hlen, rfl⟩ | ⟨pre, w, post, L, rfl, hpre, hw, hpost, rfl, hle, rfl⟩
  · simp only [denoteRegion, hI, ha, denoteC_wildFree p hf, bind, Except.bind, List.nil_append, List.length_nil,
      segsFrom_lens p a cs hobj, domsFrom_snd]
    rcases hlen with rfl | rfl <;> simp [sgSegs, sgDoms, sgAnons, pure, Except.pure]
  · have hwstep : resolve w none = .error .wildNoLength := resolve_none_of_one hw
    unfold denoteRegion
    rw [hI, ha, denoteC_wildFree_append p hpre]
    simp only [denoteC, hwstep, Option.isSome_none, Bool.false_eq_true, if_false, List.nil_append, List.length_nil]
    rw [denoteC_wildFree p hpost]
    simp only [bind, Except.bind, segsFrom_length, List.length_append, List.length_cons, List.length_nil]
    have hsum : (List.map List.length (segsFrom p a pre ++ [[]] ++ segsFrom p (a + nucCount pre) post)).sum =
        lenSum pre + lenSum post := by
      simp only [List.map_append, List.sum_append, List.map_cons, List.map_nil, List.length_nil, List.sum_cons,
        List.sum_nil, segsFrom_lens p _ pre (fun i bs h => hobj i bs (by simp [h])),
        segsFrom_lens p _ post (fun i bs h => hobj i bs (by simp [h]))]
      omega
    have hlt : ¬ L < lenSum pre + lenSum post := by omega
    have hres := resolve_some_of_one hw (L := L - (lenSum pre + lenSum post)) (by omega)
    -- the wildcard's domain goes between those of `pre` (positions below `pre.length`) and those of `post`
    have hD1 := domsFrom_filter_lt_self p 0 a pre (n := pre.length) (by omega)
    have hD2 := domsFrom_filter_lt_nil p (pre.length + (0 + 1)) (a + nucCount pre) post (n := pre.length) (by omega)
    have hl1 : (List.map (fun x => x.snd) (domsFrom p 0 a pre)).length = nucCount pre := by
      simp [domsFrom_length]
    simp only [hsum, hlt, if_false, hres, List.filter_append, hD1, hD2, List.append_nil, domsFrom_length,
      pure, Except.pure, anon_full_name]
    simp only [List.map_append, List.take_left' hl1, List.drop_left' hl1]
    rw [setAt_middle _ _ _ _ (segsFrom_length p a pre)]
    obtain ⟨hfs, -, -, -, -, -, hanons⟩ :=
      explicit_region hw (R := L - (lenSum pre + lenSum post)) (by omega) (a + nucCount pre + nucCount post)
    simp only [sgSegs, sgDoms, sgAnons, segsFrom, hanons, hfs, domsFrom_snd, List.flatMap_cons, List.flatMap_nil,
      List.append_nil, List.map_append, List.map_cons,
      mkAnon, nucCount_append, nucCount, List.cons_append, List.nil_append]
    congr 3
    omega

theorem segsFrom_eq (p : String) (k : Nat) (cs : List CItem) :
    segsFrom p k cs = (numFrom k cs).map fun x => cnucs p (nBases x) := by
  induction cs generalizing k with
  | nil => rfl
  | cons c r ih => cases c <;> simp [segsFrom, numFrom, nBases, ih, fwd_eq_cnucs]

theorem sgSegs_eq (p : String) (sg : Segs) : sgSegs p sg = (sgN sg).map fun x => cnucs p (nBases x) := by
  simp only [sgSegs, sgN, List.map_flatMap, segsFrom_eq]

theorem sg_segs {l' : List SeqE} {sg : Segs} (h : ∀ x ∈ sgN sg, NOk l' x) (p : String) :
    sgSegs p sg = (sgRefs sg).map (itemNucs p l') := by
  rw [sgSegs_eq, sgRefs_eq, List.map_map]
  exact List.map_congr_left fun x hx => by rw [Function.comp, itemNucs, (h x hx).view.2]

theorem sg_flatten (p : String) (sg : Segs) : (sgSegs p sg).flatten = cnucs p (sgBases sg) := by
  rw [sgSegs_eq, sgBases_eq, ← List.flatMap_def, cnucs, List.flatMap_assoc]
  rfl

theorem region_denote (hw : WF0 s a) (hA : Agree p s env o a)
    {items : List SrcItem} (hn : itemNamesOk items = true) {len : Option Nat} {cs : List CItem} {b : Built} {sg : Segs}
    (R : RegionNF s a items len cs b sg) :
    denoteRegion p env items len = .ok (sgSegs p sg, sgDoms p sg, b.anon) := by
  rw [denoteRegion_shape hA.anon (clean_sound hw hA hn R.clean) R.shape, buildSuper_anon R.build]
  intro i bs hi
  obtain ⟨ie, h1, h2, h3⟩ := cleanConst_ok hw.seqs.entries R.clean i bs hi
  rw [h3, view_lens (hw.seqs.entries ie (findE_some h1).1), h2]

theorem itemNucs_mono {p : String} {l l' : List SeqE} (h : Ext l l') {i : ItemRef} (hi : ItemOk l i) :
    itemNucs p l' i = itemNucs p l i := by
  simp only [itemNucs, viewBases_mono h hi]

theorem map_itemNucs_mono {p : String} {l l' : List SeqE} (h : Ext l l') {its : List ItemRef} (hi : ∀ i ∈ its, ItemOk l i) :
    its.map (itemNucs p l') = its.map (itemNucs p l) :=
  List.map_congr_left (fun i hm => itemNucs_mono h (hi i hm))

theorem agree_seqs_ext (hw : WF0 s a) (hA : Agree p s env o a)
    {l' : List SeqE} (hext : Ext s.seqs l') :
    ∀ n b, env.seqs.lookup n = some b → ∃ e, findE l' n = some e ∧ cnucs p e.bases = b.nucs ∧
      e.isSup = b.isSup ∧ (b.isSup = true → e.items.map (itemNucs p l') = b.segs) := by
  intro n b hl
  obtain ⟨e, h1, h2, h3, h4⟩ := hA.seqs n b hl
  refine ⟨e, hext _ _ h1, h2, h3, fun hb => ?_⟩
  rw [map_itemNucs_mono hext ((hw.seqs.entries e (findE_some h1).1).sup (h3.trans hb)).1]
  exact h4 hb

theorem agree_strands_ext (hw : WF0 s a) (hA : Agree p s env o a)
    {l' : List SeqE} (hext : Ext s.seqs l') :
    ∀ n x, env.strands.lookup n = some x → ∃ t, findT s.strands n = some t ∧ cnucs p t.bases = x.1 ∧
      t.items.map (itemNucs p l') = x.2 := by
  intro n x hl
  obtain ⟨t, h1, h2, h3⟩ := hA.strands n x hl
  refine ⟨t, h1, h2, ?_⟩
  rw [map_itemNucs_mono hext (hw.strands t (findT_some h1).1).items]
  exact h3

theorem withNewDomains_eq (o : Out) (doms : List (String × List Char)) :
    withNewDomains o doms = { o with domains := o.domains ++ doms.filter (fun d => d.2.length != 0),
                                     baseSeqs := o.baseSeqs ++ (doms.filter (fun d => d.2.length != 0)).map
                                        (fun d => (d.1, fwd d.1 d.2.length)) } := rfl

theorem newDomains_eq (p : String) (AN : List SeqE)
    (h : ∀ e ∈ AN, e.const.length = e.len ∧ e.bases = [⟨e.name, false, e.len⟩]) :
    (AN.filter (·.len != 0)).map (fun e => (p ++ e.name, e.const)) =
      (AN.map (fun e => (p ++ e.name, e.const))).filter (fun d => d.2.length != 0) ∧
    (AN.filter (·.len != 0)).map (fun e => (p ++ e.name, cnucs p e.bases)) =
      ((AN.map (fun e => (p ++ e.name, e.const))).filter (fun d => d.2.length != 0)).map
        (fun d => (d.1, fwd d.1 d.2.length)) := by
  induction AN with
  | nil => exact ⟨rfl, rfl⟩
  | cons e r ih =>
    obtain ⟨h1, h2⟩ := h e (by simp)
    obtain ⟨ih1, ih2⟩ := ih (fun x hx => h x (by simp [hx]))
    simp only [List.filter_cons, List.map_cons, h1]
    split <;> simp [ih1, ih2, h1, h2, fwd_eq_cnucs]

theorem itemNucs_map {f : SeqE → SeqE} (hf : FlagOnly f) (p : String) (l : List SeqE) (i : ItemRef) :
    itemNucs p (l.map f) i = itemNucs p l i := by
  simp only [itemNucs, viewBases_map hf]

theorem filter_map_flag (f : SeqE → SeqE) (q : SeqE → Bool) (hq : ∀ e, q (f e) = q e) (l : List SeqE) :
    (l.map f).filter q = (l.filter q).map f := by
  rw [List.filter_map, show q ∘ f = q from funext hq]

theorem map_flag_filters {β} (f : SeqE → SeqE) (hf : FlagOnly f) (q : SeqE → Bool) (hq : ∀ e, q (f e) = q e)
    (G : SeqE → β) (hG : ∀ e, G (f e) = G e) (l : List SeqE) :
    (((l.map f).filter q).filter (·.len != 0)).map G = ((l.filter q).filter (·.len != 0)).map G := by
  rw [filter_map_flag f q hq, filter_map_flag f _ (fun e => by rw [hf.len]), List.map_map,
    show G ∘ f = G from funext hG]

theorem Agree.flag (hA : Agree p s env o a) {f : SeqE → SeqE} (hf : FlagOnly f) :
    Agree p { s with seqs := s.seqs.map f } env o a := by
  have hnucs : ∀ its : List ItemRef, its.map (itemNucs p (s.seqs.map f)) = its.map (itemNucs p s.seqs) :=
    fun its => List.map_congr_left (fun i _ => itemNucs_map hf p _ i)
  refine { hA with seqs := fun n b hb => ?_, seqsNone := fun n hn hb => ?_, strands := fun n x hb => ?_,
                   domains := ?_, baseSeqs := ?_, supSeqs := ?_ }
  · obtain ⟨e, h1, h2, h3, h4⟩ := hA.seqs n b hb
    refine ⟨f e, by rw [findE_map _ hf.name, h1]; rfl, by rw [hf.bases]; exact h2,
      by rw [hf.isSup]; exact h3, fun hb' => ?_⟩
    rw [hf.items, hnucs]
    exact h4 hb'
  · rw [findE_map _ hf.name, hA.seqsNone n hn hb]; rfl
  · obtain ⟨t, h1, h2, h3⟩ := hA.strands n x hb
    exact ⟨t, h1, h2, by rw [hnucs]; exact h3⟩
  · exact hA.domains.trans (map_flag_filters f hf _ (fun e => by rw [hf.isSup]) _
      (fun e => by rw [hf.name, hf.const]) s.seqs).symm
  · exact hA.baseSeqs.trans (map_flag_filters f hf _ (fun e => by rw [hf.isSup]) _
      (fun e => by rw [hf.name, hf.bases]) s.seqs).symm
  · exact hA.supSeqs.trans (map_flag_filters f hf _ hf.isSup _
      (fun e => by rw [hf.name, hf.bases]) s.seqs).symm

/-- the atomic entries `AN` a statement appends to the table are what `withNewDomains` adds; its non-empty
    super-sequence entries `x` go to `supSeqs` -/
theorem agree_out_append (hA : Agree p s env o a)
    {x AN : List SeqE} (hx : ∀ e ∈ x, e.isSup = true)
    (hAN : ∀ e ∈ AN, e.isSup = false ∧ e.const.length = e.len ∧ e.bases = [⟨e.name, false, e.len⟩])
    {s' : St} (hs' : s'.seqs = s.seqs ++ x ++ AN) :
    (withNewDomains o (AN.map fun e => (p ++ e.name, e.const))).domains =
        (s'.baseSeqs.filter (·.len != 0)).map (fun e => (p ++ e.name, e.const)) ∧
    (withNewDomains o (AN.map fun e => (p ++ e.name, e.const))).baseSeqs =
        (s'.baseSeqs.filter (·.len != 0)).map (fun e => (p ++ e.name, cnucs p e.bases)) ∧
    o.supSeqs ++ (x.filter (·.len != 0)).map (fun e => (p ++ e.name, cnucs p e.bases)) =
        (s'.supSeqs.filter (·.len != 0)).map (fun e => (p ++ e.name, cnucs p e.bases)) := by
  have hANb : AN.filter (fun e => !e.isSup) = AN := List.filter_eq_self.mpr (fun e he => by simp [(hAN e he).1])
  have hANs : AN.filter (·.isSup) = [] := List.filter_eq_nil_iff.mpr (fun e he => by simp [(hAN e he).1])
  have hxb : x.filter (fun e => !e.isSup) = [] := List.filter_eq_nil_iff.mpr (fun e he => by simp [hx e he])
  have hxs : x.filter (·.isSup) = x := List.filter_eq_self.mpr (fun e he => hx e he)
  obtain ⟨hd, hb⟩ := newDomains_eq p AN (fun e he => (hAN e he).2)
  refine ⟨?_, ?_, ?_⟩
  · rw [St.baseSeqs, hs']
    simp only [withNewDomains_eq, List.filter_append, hANb, hxb, List.append_nil, List.map_append, hA.domains, hd]
    rfl
  · rw [St.baseSeqs, hs']
    simp only [withNewDomains_eq, List.filter_append, hANb, hxb, List.append_nil, List.map_append, hA.baseSeqs, hb]
    rfl
  · rw [St.supSeqs, hs']
    simp only [List.filter_append, hANs, hxs, List.append_nil, List.map_append, hA.supSeqs]
    rfl

theorem RegionFinal.atomic {b : Built} {sg : Segs} {x : List SeqE} (F : RegionFinal s a b sg x) :
    ∀ e ∈ sgAnons sg, e.isSup = false ∧ e.const.length = e.len ∧ e.bases = [⟨e.name, false, e.len⟩] := by
  intro e he
  obtain ⟨hwf, hs, _⟩ := F.anons e he
  exact ⟨hs, (hwf.base hs).2.1, (hwf.base hs).1⟩

theorem sgAnons_ne_okName {sg : Segs} {e : SeqE} (he : e ∈ sgAnons sg) {n : String} (hn : okName n = true) :
    e.name ≠ n := by
  obtain ⟨j, _, hj⟩ := sgAnons_name he
  rw [hj]
  exact fun h => okName_ne_anon hn j h.symm

theorem lookup_none_of_findE (hA : Agree p s env o a)
    {n : String} (h : findE s.seqs n = none) : env.seqs.lookup n = none := by
  cases hl : env.seqs.lookup n with
  | none => rfl
  | some b => obtain ⟨e, he, _⟩ := hA.seqs n b hl; rw [h] at he; simp at he

theorem lookup_snoc_some {β} {l : List (String × β)} {k n : String} {v x : β}
    (h : (l ++ [(k, v)]).lookup n = some x) : l.lookup n = some x ∨ (n = k ∧ x = v) := by
  simp only [List.lookup_append, Option.or_eq_some_iff, List.lookup_cons, List.lookup_nil] at h
  rcases h with h | ⟨_, h⟩
  · exact Or.inl h
  · split at h
    · rename_i heq
      cases h
      exact Or.inr ⟨by simpa using heq, rfl⟩
    · cases h

theorem lookup_snoc_none {β} {l : List (String × β)} {k n : String} {v : β}
    (h : (l ++ [(k, v)]).lookup n = none) : l.lookup n = none ∧ n ≠ k := by
  simp only [List.lookup_append, Option.or_eq_none_iff] at h
  exact ⟨h.1, fun hk => by subst hk; simp at h⟩

theorem agree_seqs_snoc (hw : WF0 s a) (hA : Agree p s env o a)
    {name : String} (hf : findE s.seqs name = none) {x : List SeqE} {e : SeqE} {bd : Bind}
    (he : findE x name = some e) (hx : ∀ e' ∈ x, e'.name = name ∨ ∃ j, e'.name = anonName j)
    (hnu : cnucs p e.bases = bd.nucs) (hsup : e.isSup = bd.isSup)
    (hsegs : bd.isSup = true → e.items.map (itemNucs p (s.seqs ++ x)) = bd.segs) :
    (∀ n b, (env.seqs ++ [(name, bd)]).lookup n = some b → ∃ e, findE (s.seqs ++ x) n = some e ∧
      cnucs p e.bases = b.nucs ∧ e.isSup = b.isSup ∧ (b.isSup = true → e.items.map (itemNucs p (s.seqs ++ x)) = b.segs)) ∧
    (∀ n, okName n = true → (env.seqs ++ [(name, bd)]).lookup n = none → findE (s.seqs ++ x) n = none) := by
  refine ⟨fun n b hb => ?_, fun n hn hb => ?_⟩
  · rcases lookup_snoc_some hb with hb | ⟨rfl, rfl⟩
    · exact agree_seqs_ext hw hA (Ext.append _ _) n b hb
    · rw [findE_append_of_none hf]
      exact ⟨e, he, hnu, hsup, hsegs⟩
  · obtain ⟨hb, hne⟩ := lookup_snoc_none hb
    rw [findE_append_of_none (hA.seqsNone n hn hb), findE_eq_none]
    intro e' he'
    rcases hx e' he' with h | ⟨j, h⟩
    · rw [h]; exact Ne.symm hne
    · rw [h]; exact fun h' => okName_ne_anon hn j h'.symm

theorem step_seq_base (hw : WF0 s a) (hA : Agree p s env o a)
    {name : String} (hf : findE s.seqs name = none) {text : List Char} {len : Option Nat}
    {l : Nat} {c : List Char} (hr : resolve (parseQuoted text) len = .ok (l, c)) :
    ∃ env' o', denoteStmt p env o (.seq name [.nuc text] len) = .ok (env', o') ∧
      Agree p { s with seqs := s.seqs ++ [baseEntry name l c] } env' o' a := by
  have hl := lookup_none_of_findE hA hf
  have hext : Ext s.seqs (s.seqs ++ [baseEntry name l c]) := Ext.append _ _
  have hlen := resolve_length hr
  have ho : (if (l == 0) = true then o else
      { o with domains := o.domains ++ [(p ++ name, c)], baseSeqs := o.baseSeqs ++ [(p ++ name, fwd (p ++ name) l)] }) =
      withNewDomains o [(p ++ name, c)] := by
    by_cases hz : l = 0 <;> simp [withNewDomains_eq, hlen, hz]
  obtain ⟨hd, hb, hs⟩ := agree_out_append hA (x := []) (AN := [baseEntry name l c]) (by simp) (by simp [hlen])
    (s' := { s with seqs := s.seqs ++ [baseEntry name l c] }) (by simp)
  refine ⟨_, _, by rw [denoteStmt_atom, hl, hr]; rfl, ?_⟩
  rw [ho]
  obtain ⟨hS, hSN⟩ := agree_seqs_snoc hw hA hf (x := [baseEntry name l c]) (e := baseEntry name l c)
    (bd := ⟨fwd (p ++ name) l, [fwd (p ++ name) l], false⟩) (by simp [findE]) (by simp) (by simp [fwd_eq_cnucs]) rfl
    (fun h => by simp at h)
  exact { hA with seqs := hS, seqsNone := hSN, strands := agree_strands_ext hw hA hext, domains := hd, baseSeqs := hb,
                  supSeqs := (by simpa using hs : o.supSeqs = _) }

theorem step_seq_sup (hw : WF0 s a) (hA : Agree p s env o a)
    {name : String} {items : List SrcItem} (hn : itemNamesOk items = true)
    (hne : ∀ text, items ≠ [.nuc text]) (hf : findE s.seqs name = none)
    {len : Option Nat} {cs : List CItem} {b : Built} {sg : Segs} (R : RegionNF s a items len cs b sg)
    (F : RegionFinal s a b sg [supEntry name b]) :
    ∃ env' o', denoteStmt p env o (.seq name items len) = .ok (env', o') ∧
      Agree p { s with seqs := s.seqs ++ [supEntry name b] ++ sgAnons sg } env' o' b.anon := by
  have hl := lookup_none_of_findE hA hf
  have hext : Ext s.seqs (s.seqs ++ [supEntry name b] ++ sgAnons sg) := by
    rw [List.append_assoc]; exact Ext.append _ _
  have hnucs : (sgSegs p sg).flatten = cnucs p b.bases := by rw [sg_flatten, R.nf.bases]
  have hempty : (cnucs p b.bases = []) ↔ b.len = 0 := by
    rw [← List.length_eq_zero_iff, cnucs_length, ← F.lenB]
  obtain ⟨hd, hb, hs⟩ := agree_out_append hA (x := [supEntry name b]) (AN := sgAnons sg) (by simp) F.atomic
    (s' := { s with seqs := s.seqs ++ [supEntry name b] ++ sgAnons sg }) (by simp)
  have ho : (if (sgSegs p sg).flatten.isEmpty = true then withNewDomains o (sgDoms p sg) else
      { withNewDomains o (sgDoms p sg) with
        supSeqs := (withNewDomains o (sgDoms p sg)).supSeqs ++ [(p ++ name, (sgSegs p sg).flatten)] }) =
      { withNewDomains o (sgDoms p sg) with
        supSeqs := o.supSeqs ++ ([supEntry name b].filter (·.len != 0)).map (fun e => (p ++ e.name, cnucs p e.bases)) } := by
    by_cases hz : b.len = 0 <;> simp [hnucs, hempty, hz, withNewDomains_eq]
  refine ⟨_, _, by rw [denoteStmt_seq _ _ _ _ _ hne, hl, region_denote hw hA hn R]; rfl, ?_⟩
  rw [ho]
  obtain ⟨hS, hSN⟩ := agree_seqs_snoc hw hA hf (x := [supEntry name b] ++ sgAnons sg) (e := supEntry name b)
    (bd := ⟨(sgSegs p sg).flatten, sgSegs p sg, true⟩) (by simp [findE])
    (by
      intro e he
      rcases List.mem_append.mp he with he | he
      · exact Or.inl (by rw [List.mem_singleton.mp he])
      · obtain ⟨j, _, hj⟩ := sgAnons_name he
        exact Or.inr ⟨j, hj⟩)
    hnucs.symm rfl
    (fun _ => by
      show b.items.map _ = _
      rw [R.nf.items, sg_segs F.ok, List.append_assoc])
  simp only [← List.append_assoc] at hS hSN
  exact { hA with anon := rfl, seqs := hS, seqsNone := hSN, strands := agree_strands_ext hw hA hext, domains := hd,
                  baseSeqs := hb, supSeqs := hs }

theorem step_strand (hw : WF0 s a) (hA : Agree p s env o a)
    {name : String} {dummy : Bool} {items : List SrcItem} (hn : itemNamesOk items = true)
    (hf : findT s.strands name = none)
    {len : Option Nat} {cs : List CItem} {b : Built} {sg : Segs} (R : RegionNF s a items len cs b sg)
    (F : RegionFinal s a b sg []) (hz : b.len ≠ 0) :
    ∃ env' o', denoteStmt p env o (.strand dummy name items len) = .ok (env', o') ∧
      Agree p { s with seqs := (s.seqs ++ sgAnons sg).map (markFn b.bases),
                       strands := s.strands ++ [strandEntry name dummy b] } env' o' b.anon := by
  have hl : env.strands.lookup name = none := by
    cases h : env.strands.lookup name with
    | none => rfl
    | some x => obtain ⟨t, ht, _⟩ := hA.strands name x h; rw [hf] at ht; simp at ht
  have hsegs := F.ok
  rw [List.append_nil] at hsegs
  have hext : Ext s.seqs (s.seqs ++ sgAnons sg) := Ext.append _ _
  have hnucs : (sgSegs p sg).flatten = cnucs p b.bases := by rw [sg_flatten, R.nf.bases]
  have hempty : ¬ (cnucs p b.bases = []) := by
    rw [← List.length_eq_zero_iff, cnucs_length, ← F.lenB]; exact hz
  refine ⟨_, _, by
    rw [denoteStmt_strand, hl, region_denote hw hA hn R]
    simp only [Option.isSome_none, Bool.false_eq_true, if_false, bind, Except.bind, strandResult, hnucs,
      List.isEmpty_iff, hempty]
    rfl, ?_⟩
  obtain ⟨hd, hb, hs⟩ := agree_out_append hA (x := []) (AN := sgAnons sg) (by simp) F.atomic
    (s' := { s with seqs := s.seqs ++ sgAnons sg, strands := s.strands ++ [strandEntry name dummy b] }) (by simp)
  refine Agree.flag (s := { s with seqs := s.seqs ++ sgAnons sg, strands := s.strands ++ [strandEntry name dummy b] })
    ?_ (markFn_flagOnly b.bases)
  refine { hA with anon := rfl, seqs := agree_seqs_ext hw hA hext, seqsNone := ?_, strands := ?_, strandsNone := ?_,
                   domains := hd, baseSeqs := hb, supSeqs := (by simpa using hs : o.supSeqs = _), ostrands := ?_ }
  · intro n hnn hb
    rw [findE_append_of_none (hA.seqsNone n hnn hb), findE_eq_none]
    exact fun e he => sgAnons_ne_okName he hnn
  · intro n x hb
    rcases lookup_snoc_some hb with hb | ⟨rfl, rfl⟩
    · obtain ⟨t, h1, h2, h3⟩ := agree_strands_ext hw hA hext n x hb
      exact ⟨t, by rw [findT_append, h1]; rfl, h2, h3⟩
    · refine ⟨strandEntry n dummy b, by rw [findT_append, hf]; simp [findT], rfl, ?_⟩
      show b.items.map _ = _
      rw [R.nf.items, sg_segs hsegs]
  · intro n hb
    obtain ⟨hb, hne⟩ := lookup_snoc_none hb
    rw [findT_append, hA.strandsNone n hb]
    simp [findT, Ne.symm hne]
  · simp [withNewDomains_eq, hA.ostrands]

theorem itemNucs_length {p : String} {l : List SeqE} (hent : ∀ e ∈ l, EntryWF0 l e) {i : ItemRef} (hi : ItemOk l i) :
    (itemNucs p l i).length = i.len := by
  obtain ⟨ie, h1, h2⟩ := hi
  simp only [itemNucs, viewBases, h1, cnucs_length]
  rw [view_lens (hent ie (findE_some h1).1), h2]

theorem any_struct_name (p : String) (structs : List StructE) (name : String) (g : StructE → StructD)
    (hg : ∀ e, (g e).name = p ++ e.name) :
    (structs.map g).any (·.name == p ++ name) = (structs.find? (·.name == name)).isSome := by
  induction structs with
  | nil => rfl
  | cons e r ih =>
    simp only [List.map_cons, List.any_cons, List.find?_cons, hg, pfx_beq, ih]
    cases h : (e.name == name) <;> simp

theorem step_struct (hw : WF0 s a) (hA : Agree p s env o a)
    {opt : OptSrc} {name : String} {strands : List String} {domain : Bool} {text : List Char}
    (hf : s.findStruct name = none) {objs : List StrandE} {dp full : List Char} {optv : Dec}
    (hfound : ∀ n ∈ strands, (findT s.strands n).isSome = true) (hobjs : objs = strands.filterMap (findT s.strands))
    (hdp : Notation.compileStruct text = some dp)
    (hfull : if domain then Notation.domainExpand dp (objs.map (fun o => o.items.map (·.len))) = some full else full = dp)
    (hsz : Notation.sizesOk full (objs.map (·.len)) = true) (hopt : optDec opt = some optv) :
    ∃ env' o', denoteStmt p env o (.struct opt name strands domain text) = .ok (env', o') ∧
      Agree p { s with strands := s.strands.map (structFlag strands),
                       structs := s.structs ++ [⟨name, optv, strands, full, objs.flatMap (·.bases)⟩] } env' o' a := by
  have hdup : o.structs.any (·.name == p ++ name) = false := by
    rw [hA.structs, any_struct_name p s.structs name _ (fun _ => rfl)]
    simp only [St.findStruct] at hf
    rw [hf]; rfl
  have hlk : ∀ n ∈ strands, ∃ t x, findT s.strands n = some t ∧ env.strands.lookup n = some x ∧
      cnucs p t.bases = x.1 ∧ t.items.map (itemNucs p s.seqs) = x.2 := by
    intro n hn
    cases hl : env.strands.lookup n with
    | none => have := hfound n hn; rw [hA.strandsNone n hl] at this; simp at this
    | some x =>
      obtain ⟨t, h1, h2, h3⟩ := hA.strands n x hl
      exact ⟨t, x, h1, rfl, h2, h3⟩
  have hlens : (strands.map (fun n => (env.strands.lookup n).getD ([], []))).map (fun x => x.2.map List.length) =
        objs.map (fun o => o.items.map (·.len)) ∧
      (strands.map (fun n => (env.strands.lookup n).getD ([], []))).map (fun x => x.1.length) = objs.map (·.len) := by
    rw [hobjs]
    clear hfull hsz hobjs hfound
    induction strands with
    | nil => exact ⟨rfl, rfl⟩
    | cons n r ih =>
      obtain ⟨t, x, h1, hx, h2, h3⟩ := hlk n (by simp)
      obtain ⟨ih1, ih2⟩ := ih (fun m hm => hlk m (by simp [hm]))
      have ht := hw.strands t (findT_some h1).1
      simp only [List.map_cons, List.filterMap_cons, h1, hx, Option.getD_some, ih1, ih2]
      refine ⟨?_, ?_⟩
      · congr 1
        rw [← h3, List.map_map]
        exact List.map_congr_left (fun i hi => itemNucs_length hw.seqs.entries (ht.items i hi))
      · congr 1
        rw [← h2, cnucs_length, strand_lenB hw.seqs.entries ht]
  have hoptA := opt_agree opt optv hopt
  have hstep : denoteStmt p env o (.struct opt name strands domain text) =
      .ok (env, { o with structs := o.structs ++ [⟨p ++ name, strands.map (p ++ ·), full, optD optv⟩] }) := by
    have h1 : lookupStrands env strands = .ok (strands.map fun n => (env.strands.lookup n).getD ([], [])) :=
      mapM_ok_of_forall fun n hn => by obtain ⟨t, x, _, hx, _⟩ := hlk n hn; rw [lookupStrand, hx]; rfl
    have h2 : structFull domain text (objs.map fun o => o.items.map (·.len)) = .ok full := by
      rw [structFull, hdp]
      cases domain with
      | false => cases hfull; rfl
      | true => rw [if_pos rfl] at hfull; simp only [if_true, hfull]
    have h3 : structEntry p opt name strands full (objs.map (·.len)) =
        .ok ⟨p ++ name, strands.map (p ++ ·), full, optD optv⟩ := by
      rw [structEntry, hsz, hoptA.1]; rfl
    rw [denoteStmt_struct, hdup, if_neg Bool.false_ne_true, h1]
    dsimp only [bind, Except.bind]
    rw [hlens.1, hlens.2, h2]
    dsimp only
    rw [h3]
    rfl
  refine ⟨_, _, hstep, ?_⟩
  have hg := fun t => (structFlag_props strands t).1
  refine { hA with strands := ?_, strandsNone := ?_, ostrands := ?_, structs := ?_ }
  · intro n x hx
    obtain ⟨t, h1, h2, h3⟩ := hA.strands n x hx
    refine ⟨_, by rw [findT_map _ hg, h1]; rfl, ?_, ?_⟩
    · rw [structFlag_eq]; exact h2
    · rw [structFlag_eq]; exact h3
  · intro n hx
    rw [findT_map _ hg, hA.strandsNone n hx]; rfl
  · simp only [hA.ostrands, List.map_map]
    apply List.map_congr_left
    intro t _
    show _ = (p ++ (structFlag strands t).name, _, _)
    rw [structFlag_eq]
  · simp [hA.structs, optOfDec, hoptA.2]

theorem kinOf_eq (p : String) {low high : Option String} {lo hi : Option Dec} (ins outs : List String) (nm : String)
    (hlo : decOpt low = some lo) (hhi : decOpt high = some hi) :
    kinOf p low high ins outs = .ok (kinD p ⟨nm, ins, outs, lo, hi⟩) := by
  unfold kinOf
  extract_lets f
  -- one bound: the specification's text is the format of what `addStmt` stores
  have key : ∀ {o : Option String} {v : Option Dec} (dflt : String), decOpt o = some v →
      f o dflt = .ok (match v with | some d => String.ofList d.fmtF | none => dflt) := by
    intro o v dflt h
    rcases o with _ | t
    · cases h; rfl
    · simp only [decOpt, Option.map_eq_some_iff] at h
      obtain ⟨d, hd, rfl⟩ := h
      simp only [f, hd]
      split <;> rfl
  rw [key _ hlo, key _ hhi]
  rfl

theorem step_kinetic (hA : Agree p s env o a)
    {low high : Option String} {ins outs : List String} {lo hi : Option Dec}
    (hall : (ins ++ outs).all (fun n => (s.findStruct n).isSome) = true)
    (hlo : decOpt low = some lo) (hhi : decOpt high = some hi) :
    ∃ env' o', denoteStmt p env o (.kinetic low high ins outs) = .ok (env', o') ∧
      Agree p { s with kins := s.kins ++ [⟨"Kin" ++ toString s.kins.length, ins, outs, lo, hi⟩] } env' o' a := by
  have hall' : (ins ++ outs).all (fun n => o.structs.any (·.name == p ++ n)) = true := by
    rw [List.all_eq_true] at hall ⊢
    intro n hn
    rw [hA.structs, any_struct_name p s.structs n _ (fun _ => rfl)]
    exact hall n hn
  refine ⟨_, _, by
    rw [denoteStmt_kinetic, hall', kinOf_eq p ins outs ("Kin" ++ toString s.kins.length) hlo hhi]
    rfl, ?_⟩
  exact { hA with kinetics := by simp [hA.kinetics] }

theorem Step.agree {stmt : Stmt} {s' : St} {a' : Nat}
    (hw : WF0 s a) (hA : Agree p s env o a) (hok : stmtNamesOk stmt = true) (h : Step s a stmt s' a') :
    ∃ env' o', denoteStmt p env o stmt = .ok (env', o') ∧ Agree p s' env' o' a' := by
  cases h with
  | seqBase hf hr => exact step_seq_base hw hA hf hr
  | seqSup hne hf R F =>
    simp only [stmtNamesOk, Bool.and_eq_true] at hok
    exact step_seq_sup hw hA hok.2 hne hf R F
  | strand hf R F hz => exact step_strand hw hA hok hf R F hz
  | struct hf hfound hobjs hdp hfull hsz hopt => exact step_struct hw hA hf hfound hobjs hdp hfull hsz hopt
  | kinetic hall hlo hhi => exact step_kinetic hA hall hlo hhi

/-- an induction of its own, not `load_steps0`: the denotation's `env`, `o` exist per prefix of the statement list -/
theorem addStmts_agree {p : String} {stmts : List Stmt} : ∀ {s : St} {a : Nat} {env : Env} {o : Out} {s' : St} {a' : Nat},
    WF0 s a → Agree p s env o a → (∀ st ∈ stmts, stmtNamesOk st = true) → addStmts s a stmts = .ok (s', a') →
    ∃ env' o', denoteStmts p stmts env o = .ok (env', o') ∧ Agree p s' env' o' a' := by
  induction stmts with
  | nil =>
    intro s a env o s' a' hw hA _ h
    simp only [addStmts, Except.ok.injEq, Prod.mk.injEq] at h
    obtain ⟨rfl, rfl⟩ := h
    exact ⟨env, o, rfl, hA⟩
  | cons st r ih =>
    intro s a env o s' a' hw hA hok h
    simp only [addStmts] at h
    cases h1 : addStmt s a st with
    | error e => simp [h1] at h
    | ok v =>
      obtain ⟨s1, a1⟩ := v
      simp only [h1] at h
      have hna := defNotAnon_of_namesOk (hok st (by simp))
      have hst := addStmt_step hw hna h1
      obtain ⟨env1, o1, hd, hA1⟩ := hst.agree hw hA (hok st (by simp))
      obtain ⟨env', o', hd', hA'⟩ := ih (hst.wf0 hw).1 hA1 (fun x hx => hok x (by simp [hx])) h
      exact ⟨env', o', by rw [denoteStmts_cons, hd]; exact hd', hA'⟩

end Pepper.Comp
