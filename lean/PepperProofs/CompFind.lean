import PepperModel.Comp
import PepperProofs.Basic
/-!
# Lookup by name in the component tables

`findE` / `findT` are `St.findSeq` / `St.findStrand` on the bare lists (`findSeq_eq`, `findStrand_eq`).
-/
namespace Pepper.Comp

def findE (l : List SeqE) (n : String) : Option SeqE := l.find? (·.name == n)
def findT (l : List StrandE) (n : String) : Option StrandE := l.find? (·.name == n)

theorem findSeq_eq (s : St) (n : String) : s.findSeq n = findE s.seqs n := rfl
theorem findStrand_eq (s : St) (n : String) : s.findStrand n = findT s.strands n := rfl

theorem find_name_map {α : Type} (nm : α → String) (f : α → α) (hf : ∀ e, nm (f e) = nm e) (l : List α) (n : String) :
    (l.map f).find? (nm · == n) = (l.find? (nm · == n)).map f := by
  rw [List.find?_map]
  simp only [Function.comp_def, hf]

theorem findE_append (l1 l2 : List SeqE) (n : String) : findE (l1 ++ l2) n = (findE l1 n).or (findE l2 n) :=
  List.find?_append

theorem findE_eq_none {l : List SeqE} {n : String} : findE l n = none ↔ ∀ e ∈ l, e.name ≠ n := by
  simp [findE, List.find?_eq_none]

theorem findE_some {l : List SeqE} {n : String} {e : SeqE} (h : findE l n = some e) : e ∈ l ∧ e.name = n :=
  find?_key_some h

theorem findE_append_of_some {l1 : List SeqE} {n : String} {e : SeqE} (h : findE l1 n = some e) (l2 : List SeqE) :
    findE (l1 ++ l2) n = some e :=
  find?_append_of_some h l2

theorem findE_append_of_none {l1 : List SeqE} {n : String} (h : findE l1 n = none) (l2 : List SeqE) :
    findE (l1 ++ l2) n = findE l2 n :=
  find?_append_of_none h l2

theorem findE_isSome_iff {l : List SeqE} {n : String} : (findE l n).isSome = true ↔ ∃ e ∈ l, e.name = n := by
  simp [findE, List.find?_isSome]

theorem nodup_names_filter {l : List SeqE} (h : (l.map (·.name)).Nodup) (q : SeqE → Bool) :
    ((l.filter q).map (·.name)).Nodup :=
  List.Nodup.sublist (List.Sublist.map _ List.filter_sublist) h

theorem findE_of_mem {l : List SeqE} (hn : (l.map (·.name)).Nodup) {e : SeqE} (he : e ∈ l) :
    findE l e.name = some e :=
  find?_of_mem_nodup SeqE.name hn he rfl

theorem findE_map (f : SeqE → SeqE) (hf : ∀ e, (f e).name = e.name) (l : List SeqE) (n : String) :
    findE (l.map f) n = (findE l n).map f := find_name_map SeqE.name f hf l n

theorem findT_append (l1 l2 : List StrandE) (n : String) : findT (l1 ++ l2) n = (findT l1 n).or (findT l2 n) :=
  List.find?_append

theorem findT_some {l : List StrandE} {n : String} {e : StrandE} (h : findT l n = some e) : e ∈ l ∧ e.name = n :=
  find?_key_some h

theorem findT_map (f : StrandE → StrandE) (hf : ∀ e, (f e).name = e.name) (l : List StrandE) (n : String) :
    findT (l.map f) n = (findT l n).map f := find_name_map StrandE.name f hf l n

end Pepper.Comp
