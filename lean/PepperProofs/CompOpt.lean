import PepperProofs.CompAdd
import PepperModel.Denote
import PepperModel.Pil
/-!
# The optimisation bracket: source denotation and emitted PIL text agree (C01)
-/
namespace Pepper.Comp

/-- the optimisation parameter a stored decimal denotes -/
def optD (d : Dec) : Opt :=
  if d.frac.all (· == '0') then
    (if (stripZeros d.int).foldl (fun a c => a * 10 + (c.toNat - 48)) 0 == 0 then Opt.noOpt
     else Opt.nt ((stripZeros d.int).foldl (fun a c => a * 10 + (c.toNat - 48)) 0))
  else Opt.other (String.ofList d.fmtG)

theorem stripZeros_digits {l : List Char} (h : l.all Char.isDigit = true) : (stripZeros l).all Char.isDigit = true := by
  unfold stripZeros
  have h2 := all_dropWhile (q := (· == '0')) h
  split
  · decide
  · exact h2

theorem stripZeros_ne_nil (l : List Char) : stripZeros l ≠ [] := by
  unfold stripZeros
  split
  · simp
  · rename_i h; exact h

theorem stripZeros_idem (l : List Char) : stripZeros (stripZeros l) = stripZeros l := by
  cases h : l.dropWhile (· == '0') with
  | nil =>
    have : stripZeros l = ['0'] := by unfold stripZeros; rw [h]
    rw [this]; decide
  | cons a r =>
    have h1 : stripZeros l = a :: r := by unfold stripZeros; rw [h]
    have h2 : (a :: r).dropWhile (· == '0') = a :: r := by rw [← h]; exact dropWhile_idem _ _
    rw [h1]; unfold stripZeros; rw [h2]

theorem stripTrail_idem (l : List Char) : stripTrail (stripTrail l) = stripTrail l := by
  unfold stripTrail
  rw [List.reverse_reverse, dropWhile_idem]

theorem stripTrail_digits {l : List Char} (h : l.all Char.isDigit = true) : (stripTrail l).all Char.isDigit = true := by
  unfold stripTrail
  rw [List.all_reverse]
  apply all_dropWhile
  rw [List.all_reverse]; exact h

theorem stripTrail_eq_nil_iff (l : List Char) : stripTrail l = [] ↔ l.all (· == '0') = true := by
  unfold stripTrail
  rw [List.reverse_eq_nil_iff, dropWhile_eq_nil_iff, ← List.all_eq_true, List.all_reverse]

theorem parseDec_digits {t : String} {d : Dec} (h : parseDec t = some d) :
    d.int.all Char.isDigit = true ∧ d.frac.all Char.isDigit = true := by
  unfold parseDec at h
  simp only [] at h
  split at h
  · split at h
    · simp at h
    · simp only [Option.some.injEq] at h
      subst h
      exact ⟨List.all_takeWhile, by simp⟩
  · split at h
    · rename_i hc
      simp only [Option.some.injEq] at h
      subst h
      simp only [Bool.and_eq_true] at hc
      exact ⟨List.all_takeWhile, hc.1⟩
    · simp at h
  · simp at h

-- Idea: split on whether the fraction is all zeros (`stripTrail d.frac = []`); in `"<int>[.<frac>]nt"` the reader's
-- `takeWhile isDigit` stops at `n` resp. at `.`, so it sees exactly the digits `fmtG` wrote.
theorem optOfParams_fmtG (d : Dec) (hi : d.int.all Char.isDigit = true) (hf : d.frac.all Char.isDigit = true) :
    Pil.optOfParams (some (String.ofList d.fmtG ++ "nt")) = optD d := by
  have hz := stripZeros_digits hi
  have hzne := stripZeros_ne_nil d.int
  have hzz := stripZeros_idem d.int
  have hfd := stripTrail_digits hf
  have hff := stripTrail_idem d.frac
  have hfn := stripTrail_eq_nil_iff d.frac
  have hn : Char.isDigit 'n' = false := by decide
  have hdot : Char.isDigit '.' = false := by decide
  generalize hzdef : stripZeros d.int = z at *
  generalize hfdef : stripTrail d.frac = f at *
  have hnt : ("nt" : String).toList = ['n', 't'] := by decide
  unfold Pil.optOfParams optD
  simp only []
  cases f with
  | nil =>
    have hall : d.frac.all (· == '0') = true := hfn.1 rfl
    have hG : d.fmtG = z := by unfold Dec.fmtG; rw [hfdef, hzdef]
    rw [hG, String.toList_append, String.toList_ofList, hnt,
      takeWhile_append_stop (List.all_eq_true.1 hz) hn, dropWhile_append_stop (List.all_eq_true.1 hz) hn, hall]
    have : z.isEmpty = false := by cases z with
      | nil => exact absurd rfl hzne
      | cons a r => rfl
    simp [this, hzdef]
  | cons a r =>
    have hall : d.frac.all (· == '0') = false := by
      cases hc : d.frac.all (· == '0') with
      | false => rfl
      | true => have := hfn.2 hc; simp at this
    have hG : d.fmtG = z ++ '.' :: a :: r := by unfold Dec.fmtG; rw [hfdef, hzdef]
    rw [hG, String.toList_append, String.toList_ofList, hnt, List.append_assoc, List.cons_append,
      takeWhile_append_stop (List.all_eq_true.1 hz) hdot, dropWhile_append_stop (List.all_eq_true.1 hz) hdot, hall]
    have hzE : z.isEmpty = false := by cases z with
      | nil => exact absurd rfl hzne
      | cons a r => rfl
    have hfr : ((a :: r) ++ ['n', 't']).takeWhile Char.isDigit = a :: r :=
      takeWhile_append_stop (List.all_eq_true.1 hfd) hn _
    have hst : (((a :: r).reverse.dropWhile (· == '0')).reverse) = a :: r := hff
    simp only [hfr, hst, hzE, Bool.false_and, Bool.false_eq_true, if_false, List.isEmpty_cons]
    congr 3

theorem opt_agree (opt : OptSrc) (optv : Dec) (h : optDec opt = some optv) :
    Denote.optOf opt = .ok (optD optv) ∧ Pil.optOfParams (some (String.ofList optv.fmtG ++ "nt")) = optD optv := by
  cases opt with
  | default =>
    simp only [optDec, Option.some.injEq] at h
    subst h
    exact ⟨by decide, optOfParams_fmtG _ (by decide) (by decide)⟩
  | noOpt =>
    simp only [optDec, Option.some.injEq] at h
    subst h
    exact ⟨by decide, optOfParams_fmtG _ (by decide) (by decide)⟩
  | value t =>
    simp only [optDec] at h
    obtain ⟨hi, hf⟩ := parseDec_digits h
    refine ⟨?_, optOfParams_fmtG _ hi hf⟩
    simp only [Denote.optOf, h, optD]
    split <;> rfl

end Pepper.Comp
