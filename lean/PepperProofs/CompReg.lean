import PepperProofs.CompBuild
import PepperProofs.CompFind
/-!
# `registerAnon` in closed form (C01)

The object an accepted `buildSuper` returns is a concatenation of
wildcard-free segments, each numbered from its own start (`BuildNF`, `buildSuper_nf`); for such an object
`registerAnon` appends exactly the segments' anonymous sequences (`registerAnon_nf`).  What is proved about such an
object is proved item by item, on the list `sgN` of its items with their numbers.  Without any hypothesis on the state:
`registerAnon_ind`.
-/
namespace Pepper.Comp
open Pepper.Constraint

/-- a built object is a concatenation of wildcard-free segments, each with its own first anonymous number -/
abbrev Segs := List (Nat × List CItem)

def sgRefs (sg : Segs) : List ItemRef := sg.flatMap (fun x => refsFrom x.1 x.2)
def sgBases (sg : Segs) : List BaseRef := sg.flatMap (fun x => basesFrom x.1 x.2)
def sgAnons (sg : Segs) : List SeqE := sg.flatMap (fun x => anonsFrom x.1 x.2)
def sgNums (sg : Segs) : List Nat := sg.flatMap (fun x => List.range' x.1 (nucCount x.2))
def sgLen (sg : Segs) : Nat := (sg.map (fun x => lenSum x.2)).sum
def sgItems (sg : Segs) : List CItem := sg.flatMap (·.2)

/-- The items of a built object one by one, each with an anonymous number (read for a quoted region only): every
    table of the object is a `map` / `flatMap` / `filterMap` of this list, so facts about it are facts about one item. -/
def numFrom (k : Nat) : List CItem → List (CItem × Nat)
  | [] => []
  | .obj i bs :: r => (.obj i bs, k) :: numFrom k r
  | .nuc p :: r => (.nuc p, k) :: numFrom (k + 1) r

def sgN (sg : Segs) : List (CItem × Nat) := sg.flatMap fun x => numFrom x.1 x.2

def nRef : CItem × Nat → ItemRef
  | (.obj i _, _) => i
  | (.nuc p, j) => ⟨anonName j, false, fixedSum p, false⟩

def nBases : CItem × Nat → List BaseRef
  | (.obj _ bs, _) => bs
  | (.nuc p, j) => [⟨anonName j, false, fixedSum p⟩]

def nAnon : CItem × Nat → Option SeqE
  | (.obj _ _, _) => none
  | (.nuc p, j) => some (mkAnon j (fixedSum p) (expand 0 p))

theorem numFrom_fst (k : Nat) (cs : List CItem) : (numFrom k cs).map (·.1) = cs := by
  induction cs generalizing k with
  | nil => rfl
  | cons c r ih => cases c <;> simp [numFrom, ih]

theorem refsFrom_eq (k : Nat) (cs : List CItem) : refsFrom k cs = (numFrom k cs).map nRef := by
  induction cs generalizing k with
  | nil => rfl
  | cons c r ih => cases c <;> simp [refsFrom, numFrom, nRef, ih]

theorem basesFrom_eq (k : Nat) (cs : List CItem) : basesFrom k cs = (numFrom k cs).flatMap nBases := by
  induction cs generalizing k with
  | nil => rfl
  | cons c r ih => cases c <;> simp [basesFrom, numFrom, nBases, ih]

theorem anonsFrom_eq (k : Nat) (cs : List CItem) : anonsFrom k cs = (numFrom k cs).filterMap nAnon := by
  induction cs generalizing k with
  | nil => rfl
  | cons c r ih => cases c <;> simp [anonsFrom, numFrom, nAnon, List.filterMap_cons, ih]

theorem sgRefs_eq (sg : Segs) : sgRefs sg = (sgN sg).map nRef := by
  simp only [sgRefs, sgN, List.map_flatMap, refsFrom_eq]

theorem sgBases_eq (sg : Segs) : sgBases sg = (sgN sg).flatMap nBases := by
  simp only [sgBases, sgN, List.flatMap_assoc, basesFrom_eq]

theorem sgAnons_eq (sg : Segs) : sgAnons sg = (sgN sg).filterMap nAnon := by
  simp only [sgAnons, sgN, List.filterMap_flatMap, anonsFrom_eq]

theorem sgItems_eq (sg : Segs) : sgItems sg = (sgN sg).map (·.1) := by
  simp only [sgItems, sgN, List.map_flatMap, numFrom_fst]

theorem sgItems_of_mem {sg : Segs} {x : CItem × Nat} (h : x ∈ sgN sg) : x.1 ∈ sgItems sg :=
  sgItems_eq sg ▸ List.mem_map_of_mem (f := (·.1)) h

theorem sgAnons_of_mem {sg : Segs} {p : List (Mult × Char)} {j : Nat} (h : (CItem.nuc p, j) ∈ sgN sg) :
    mkAnon j (fixedSum p) (expand 0 p) ∈ sgAnons sg := by
  rw [sgAnons_eq]
  exact List.mem_filterMap.mpr ⟨_, h, rfl⟩

theorem anonsFrom_names (k : Nat) (cs : List CItem) :
    (anonsFrom k cs).map (·.name) = (List.range' k (nucCount cs)).map anonName := by
  induction cs generalizing k with
  | nil => simp [anonsFrom, nucCount]
  | cons c r ih =>
    cases c with
    | obj i bs => simp [anonsFrom, nucCount, ih]
    | nuc p =>
      simp only [anonsFrom, nucCount, List.map_cons, ih]
      rw [List.range'_succ]
      simp [mkAnon]

theorem sgAnons_names (sg : Segs) : (sgAnons sg).map (·.name) = (sgNums sg).map anonName := by
  simp only [sgAnons, sgNums, List.map_flatMap, anonsFrom_names]

theorem sgAnons_name {sg : Segs} {e : SeqE} (h : e ∈ sgAnons sg) : ∃ j ∈ sgNums sg, e.name = anonName j := by
  have : e.name ∈ (sgAnons sg).map (·.name) := List.mem_map.mpr ⟨e, h, rfl⟩
  rw [sgAnons_names] at this
  obtain ⟨j, hj, hn⟩ := List.mem_map.mp this
  exact ⟨j, hj, hn.symm⟩

theorem nodup_wild_nums (a m n : Nat) :
    (List.range' a m ++ (List.range' (a+m+n) 1 ++ List.range' (a+m) n)).Nodup := by
  simp only [List.nodup_append, List.nodup_range' (step := 1), List.mem_range'_1, List.mem_append, true_and, ne_eq]
  refine ⟨fun x hx y hy => by omega, fun x hx y hy => by omega⟩

theorem nodup_names_of_nums {l : List Nat} (h : l.Nodup) : (l.map anonName).Nodup := by
  unfold List.Nodup at *
  exact List.Pairwise.map anonName (fun a b hab hn => hab (anonName_inj hn)) h

/-- `b` is the concatenation of the segments `sg`.  `memNew` is an iff, not an equation: the wildcard's sequence is
    created last but stands at its position among the items.  `nums`: the anonymous numbers used are distinct; `range`:
    they lie in `[a, b.anon)`; `le`: the counter does not go back. -/
structure BuildNF (a : Nat) (b : Built) (sg : Segs) : Prop where
  items : b.items = sgRefs sg
  bases : b.bases = sgBases sg
  len : b.len = sgLen sg
  free : ∀ x ∈ sg, wildFree x.2 = true
  memNew : ∀ e, e ∈ b.newAnon ↔ e ∈ sgAnons sg
  nodupNew : (b.newAnon.map (·.name)).Nodup
  nums : (sgNums sg).Nodup
  range : ∀ j ∈ sgNums sg, a ≤ j ∧ j < b.anon
  le : a ≤ b.anon

/-- the segments of an accepted `buildSuper a cs len`: the list itself, or the part before the wildcard region, the
    region with its `?` written out (numbered last), the part after it -/
def SgShape (a : Nat) (cs : List CItem) (len : Option Nat) (sg : Segs) : Prop :=
  (wildFree cs = true ∧ (len = none ∨ len = some (lenSum cs)) ∧ sg = [(a, cs)]) ∨
  (∃ pre w post L, cs = pre ++ .nuc w :: post ∧ wildFree pre = true ∧ wildCount w = 1 ∧ wildFree post = true ∧
    len = some L ∧ lenSum pre + lenSum post + fixedSum w ≤ L ∧
    sg = [(a, pre), (a + nucCount pre + nucCount post,
            [.nuc (explicit (L - (lenSum pre + lenSum post) - fixedSum w) w)]), (a + nucCount pre, post)])

theorem buildSuper_nf {a : Nat} {cs : List CItem} {len : Option Nat} {b : Built}
    (h : buildSuper a cs len = .ok b) :
    ∃ sg, BuildNF a b sg ∧ (∀ i bs, CItem.obj i bs ∈ sgItems sg → CItem.obj i bs ∈ cs) ∧
      (∀ p, CItem.nuc p ∈ sgItems sg → CItem.nuc p ∈ cs ∨ ∃ w x, CItem.nuc w ∈ cs ∧ p = explicit x w) ∧
      SgShape a cs len sg := by
  have hanon : a ≤ b.anon := buildSuper_anon h ▸ Nat.le_add_right a _
  rcases buildSuper_ok_cases h with ⟨hw, hlen, rfl⟩ | ⟨pre, w, post, L, rfl, hpre, hw, hpost, rfl, hle, hb⟩
  · refine ⟨[(a, cs)], ?_, by simp [sgItems], fun p hp => Or.inl (by simpa [sgItems] using hp),
      Or.inl ⟨hw, hlen, rfl⟩⟩
    exact {
      items := by simp [sgRefs]
      bases := by simp [sgBases]
      len := by simp [sgLen]
      free := by simpa using hw
      memNew := by simp [sgAnons]
      nodupNew := by
        simp only [anonsFrom_names]
        exact nodup_names_of_nums List.nodup_range'
      nums := by simp [sgNums, List.nodup_range' (step := 1)]
      range := by
        simp only [sgNums, List.flatMap_cons, List.flatMap_nil, List.append_nil, List.mem_range'_1]
        intro j hj
        omega
      le := hanon }
  · obtain ⟨-, hfree, hcnt, hlen, hrefs, hbases, hanons⟩ :=
      explicit_region hw (R := L - (lenSum pre + lenSum post)) (by omega) (a + nucCount pre + nucCount post)
    obtain ⟨sg, hsg⟩ : ∃ sg : Segs, sg = [(a, pre), (a + nucCount pre + nucCount post,
        [.nuc (explicit (L - (lenSum pre + lenSum post) - fixedSum w) w)]), (a + nucCount pre, post)] := ⟨_, rfl⟩
    have hperm : b.newAnon.Perm (sgAnons sg) := by
      simp only [hb, hsg, sgAnons, List.flatMap_cons, List.flatMap_nil, List.append_nil, hanons, List.append_assoc]
      exact List.Perm.append_left _ List.perm_append_comm
    have hnums : (sgNums sg).Nodup := by
      simp only [hsg, sgNums, hcnt, List.flatMap_cons, List.flatMap_nil, List.append_nil]
      exact nodup_wild_nums a (nucCount pre) (nucCount post)
    refine ⟨sg, ?_, ?_, ?_, Or.inr ⟨pre, w, post, L, rfl, hpre, hw, hpost, rfl, hle, hsg⟩⟩
    · exact {
        items := by
          simp only [hb, hsg, sgRefs, List.flatMap_cons, List.flatMap_nil, List.append_nil, hrefs, List.singleton_append]
        bases := by
          simp only [hb, hsg, sgBases, List.flatMap_cons, List.flatMap_nil, List.append_nil, hbases, List.singleton_append]
        len := by
          simp only [hb, hsg, sgLen, List.map_cons, List.map_nil, List.sum_cons, List.sum_nil, hlen]
          omega
        free := by
          intro x hx
          simp only [hsg, List.mem_cons, List.not_mem_nil, or_false] at hx
          rcases hx with rfl | rfl | rfl
          · exact hpre
          · exact hfree
          · exact hpost
        memNew := fun e => hperm.mem_iff
        nodupNew := by
          rw [(hperm.map _).nodup_iff, sgAnons_names]
          exact nodup_names_of_nums hnums
        nums := hnums
        range := by
          simp only [hb, hsg, sgNums, hcnt, List.flatMap_cons, List.flatMap_nil, List.append_nil, List.mem_append,
            List.mem_range'_1]
          intro j hj
          omega
        le := hanon }
    · intro i bs
      simp only [hsg, sgItems, List.flatMap_cons, List.flatMap_nil, List.append_nil, List.mem_append, List.mem_cons,
        List.not_mem_nil, or_false]
      rintro (h | h | h)
      · exact Or.inl h
      · simp at h
      · exact Or.inr (Or.inr h)
    · intro p
      simp only [hsg, sgItems, List.flatMap_cons, List.flatMap_nil, List.append_nil, List.mem_append, List.mem_cons,
        List.not_mem_nil, or_false]
      rintro (h | h | h)
      · exact Or.inl (Or.inl h)
      · simp only [CItem.nuc.injEq] at h
        exact Or.inr ⟨w, _, by simp, h⟩
      · exact Or.inl (Or.inr (Or.inr h))

/-- one step of `registerAnon`'s fold (`registerAnon_eq`) -/
def regStep (new : List SeqE) (s : St) (i : ItemRef) : St :=
  if (s.findSeq i.name).isSome then s
  else match new.find? (·.name == i.name) with
    | some e => { s with seqs := s.seqs ++ [e] }
    | none => s

theorem registerAnon_eq (s : St) (b : Built) : registerAnon s b = b.items.foldl (regStep b.newAnon) s := rfl

/-- Needs nothing of the state; under the invariant `registerAnon_nf` says which entries. -/
theorem registerAnon_ind {P : St → Prop} (b : Built)
    (hstep : ∀ (s : St) (e : SeqE), P s → e ∈ b.newAnon → findE s.seqs e.name = none →
      P { s with seqs := s.seqs ++ [e] })
    (s : St) (h0 : P s) : P (registerAnon s b) := by
  rw [registerAnon_eq]
  generalize b.items = its
  induction its generalizing s with
  | nil => exact h0
  | cons i r ih =>
    rw [List.foldl_cons, regStep]
    split
    · exact ih s h0
    · rename_i hs
      split
      · rename_i e he
        have hname : e.name = i.name := by simpa using List.find?_some he
        exact ih _ (hstep s e h0 (List.mem_of_find?_eq_some he)
          (hname ▸ Option.not_isSome_iff_eq_none.mp hs))
      · exact ih s h0

theorem registerAnon_fields (s : St) (b : Built) :
    (registerAnon s b).strands = s.strands ∧ (registerAnon s b).structs = s.structs ∧
      (registerAnon s b).kins = s.kins :=
  registerAnon_ind (P := fun t => t.strands = s.strands ∧ t.structs = s.structs ∧ t.kins = s.kins) b
    (fun _ _ h _ _ => h) s ⟨rfl, rfl, rfl⟩

theorem registerAnon_pfx (s : St) (b : Built) : (registerAnon s b).pfx = s.pfx :=
  registerAnon_ind (P := fun t => t.pfx = s.pfx) b (fun _ _ h _ _ => h) s rfl

theorem registerAnon_seqs (s : St) (b : Built) : ∀ e ∈ (registerAnon s b).seqs, e ∈ s.seqs ∨ e ∈ b.newAnon :=
  registerAnon_ind (P := fun t => ∀ e ∈ t.seqs, e ∈ s.seqs ∨ e ∈ b.newAnon) b
    (fun _ _ h he _ x hx => (List.mem_append.mp hx).elim (h x) fun hx => Or.inr (List.mem_singleton.mp hx ▸ he))
    s (fun _ => Or.inl)

theorem regFold_num (new : List SeqE) (ns : List (CItem × Nat)) (s : St)
    (hobj : ∀ i bs j, (CItem.obj i bs, j) ∈ ns → (findE s.seqs i.name).isSome = true)
    (hnd : ((ns.filterMap nAnon).map (·.name)).Nodup)
    (hfresh : ∀ e ∈ ns.filterMap nAnon, findE s.seqs e.name = none)
    (hnew : ∀ e ∈ ns.filterMap nAnon, new.find? (·.name == e.name) = some e) :
    (ns.map nRef).foldl (regStep new) s = { s with seqs := s.seqs ++ ns.filterMap nAnon } := by
  induction ns generalizing s with
  | nil => simp
  | cons x r ih =>
    obtain ⟨c, j⟩ := x
    cases c with
    | obj i bs =>
      have : regStep new s i = s := by simp [regStep, findSeq_eq, hobj i bs j List.mem_cons_self]
      rw [List.map_cons, List.foldl_cons, nRef, this]
      exact ih s (fun i bs j h => hobj i bs j (List.mem_cons_of_mem _ h)) hnd hfresh hnew
    | nuc p =>
      simp only [List.filterMap_cons, nAnon, List.map_cons, List.nodup_cons, List.forall_mem_cons] at hnd hfresh hnew
      have hstep : regStep new s ⟨anonName j, false, fixedSum p, false⟩ =
          { s with seqs := s.seqs ++ [mkAnon j (fixedSum p) (expand 0 p)] } := by
        have h1 := hfresh.1
        have h2 := hnew.1
        simp only [mkAnon] at h1 h2
        simp [regStep, findSeq_eq, h1, h2, mkAnon]
      rw [List.map_cons, List.foldl_cons, nRef, hstep, ih]
      · simp [List.filterMap_cons, nAnon]
      · intro i bs j' h
        rw [findE_append, Option.isSome_or, hobj i bs j' (List.mem_cons_of_mem _ h)]; rfl
      · exact hnd.2
      · intro e he
        rw [findE_append_of_none (hfresh.2 e he), findE_eq_none]
        exact List.forall_mem_singleton.mpr fun h => hnd.1 (List.mem_map.mpr ⟨e, he, h.symm⟩)
      · exact hnew.2

theorem registerAnon_nf {a : Nat} {b : Built} {sg : Segs} (nf : BuildNF a b sg) (s : St)
    (hobj : ∀ i bs, CItem.obj i bs ∈ sgItems sg → (findE s.seqs i.name).isSome = true)
    (hfresh : ∀ j, a ≤ j → findE s.seqs (anonName j) = none) :
    registerAnon s b = { s with seqs := s.seqs ++ sgAnons sg } := by
  rw [registerAnon_eq, nf.items, sgRefs_eq, sgAnons_eq]
  refine regFold_num b.newAnon (sgN sg) s
    (fun i bs j h => hobj i bs (sgItems_of_mem h)) ?_ ?_ ?_
  · rw [← sgAnons_eq, sgAnons_names]; exact nodup_names_of_nums nf.nums
  · intro e he
    obtain ⟨j, hj, hn⟩ := sgAnons_name (sgAnons_eq sg ▸ he)
    rw [hn]; exact hfresh j (nf.range j hj).1
  · exact fun e he => findE_of_mem nf.nodupNew ((nf.memNew e).mpr (sgAnons_eq sg ▸ he))

end Pepper.Comp
