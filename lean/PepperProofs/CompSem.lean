import PepperModel.Comp
import PepperModel.Pil
import PepperProofs.Basic
import PepperProofs.CompBasic
/-!
# Semantics of the compile path's object references (C01)

The nucleotides of `base_seqs` lists (`cnucs`), reversed views; which names a user may choose (`isAnonForm`, `endsOk`,
`okName`) and how an emitted item name splits into name and star (`fullName_split`).
-/
namespace Pepper

namespace Comp
open Pepper.Constraint

/-- the nucleotides a base reference denotes under prefix `p`; `cnucs`: of a `base_seqs` list -/
def nucsB (p : String) (b : BaseRef) : List Nuc :=
  if b.rev then rc (fwd (p ++ b.name) b.len) else fwd (p ++ b.name) b.len

def cnucs (p : String) (bs : List BaseRef) : List Nuc := bs.flatMap (nucsB p)

/-- the PIL-side reference of a base reference -/
def tb (p : String) (b : BaseRef) : Pil.BaseRef := ⟨p ++ b.name, b.rev, b.len⟩

theorem fwd_eq_cnucs (p n : String) (l : Nat) : fwd (p ++ n) l = cnucs p [⟨n, false, l⟩] := by
  simp [cnucs, nucsB]

@[simp] theorem cnucs_nil (p : String) : cnucs p [] = [] := rfl
@[simp] theorem cnucs_append (p : String) (a b : List BaseRef) : cnucs p (a ++ b) = cnucs p a ++ cnucs p b := by
  simp [cnucs]
@[simp] theorem cnucs_cons (p : String) (a : BaseRef) (b : List BaseRef) : cnucs p (a :: b) = nucsB p a ++ cnucs p b := by
  simp [cnucs]

theorem nucsB_length (p : String) (b : BaseRef) : (nucsB p b).length = b.len := by
  unfold nucsB; split <;> simp

theorem cnucs_length (p : String) (bs : List BaseRef) : (cnucs p bs).length = (bs.map (·.len)).sum := by
  induction bs with
  | nil => simp
  | cons b r ih => simp [nucsB_length, ih]

theorem nucsB_inv (p : String) (b : BaseRef) : nucsB p b.inv = rc (nucsB p b) := by
  cases b with | mk n r l => cases r <;> simp [nucsB, BaseRef.inv]

theorem cnucs_rev_inv (p : String) (bs : List BaseRef) :
    cnucs p (bs.reverse.map BaseRef.inv) = rc (cnucs p bs) := by
  simp only [cnucs, rc_flatMap, List.flatMap_map, nucsB_inv]

theorem nucsOfBase_tb (p : String) (b : BaseRef) : Pil.nucsOfBase (tb p b) = nucsB p b := rfl

theorem nucsOfBases_tb (p : String) (bs : List BaseRef) : Pil.nucsOfBases (bs.map (tb p)) = cnucs p bs := by
  simp [Pil.nucsOfBases, cnucs, List.flatMap_map, nucsOfBase_tb]

theorem nucsB_of_len_zero (p : String) (b : BaseRef) (h : b.len = 0) : nucsB p b = [] := by
  unfold nucsB; simp [h, rc]

theorem cnucs_filter (p : String) (bs : List BaseRef) : cnucs p (bs.filter (·.len != 0)) = cnucs p bs := by
  induction bs with
  | nil => simp
  | cons b r ih =>
    by_cases h : b.len = 0
    · simp [h, ih, nucsB_of_len_zero]
    · simp [h, ih]

theorem nucsOfBases_filter_tb (p : String) (bs : List BaseRef) :
    Pil.nucsOfBases ((bs.filter (·.len != 0)).map (tb p)) = cnucs p bs := by
  rw [nucsOfBases_tb, cnucs_filter]

theorem basesOfView_lens (e : SeqE) (r : Bool) :
    ((basesOfView e r).map (·.len)).sum = (e.bases.map (·.len)).sum := by
  cases r
  · simp [basesOfView]
  · simp only [basesOfView, if_true, List.map_map, List.map_reverse]
    rw [List.sum_reverse]
    rfl

theorem cnucs_basesOfView (p : String) (e : SeqE) (r : Bool) :
    cnucs p (basesOfView e r) = if r then rc (cnucs p e.bases) else cnucs p e.bases := by
  cases r
  · simp [basesOfView]
  · simp only [basesOfView, if_true, cnucs_rev_inv]

theorem basesOfView_not (e : SeqE) (r : Bool) :
    basesOfView e (!r) = (basesOfView e r).reverse.map BaseRef.inv := by
  cases r
  · simp [basesOfView]
  · simp [basesOfView, List.map_reverse, Function.comp_def, BaseRef.inv]

/-- the reserved form `_Anon<digits>` -/
def isAnonForm (n : String) : Bool :=
  n.toList.take 5 == "_Anon".toList && (n.toList.drop 5).all Char.isDigit && !(n.toList.drop 5).isEmpty

theorem isAnonForm_anonName (k : Nat) : isAnonForm (anonName k) = true := by
  unfold isAnonForm
  rw [anonName_toList]
  have h5 : "_Anon".toList.length = 5 := by decide
  simp only [List.take_left' h5, List.drop_left' h5]
  simp only [beq_self_eq_true, Bool.true_and, Bool.and_eq_true, List.all_eq_true, Bool.not_eq_true']
  refine ⟨(toDigits_ten_spec k).2, ?_⟩
  cases h : Nat.toDigits 10 k with
  | nil => exact absurd h (toDigits_ten_spec k).1
  | cons a r => rfl

/-- a name the `*`-suffix convention of PIL item names reads back correctly: non-empty, not ending in `*` -/
def endsOk (n : String) : Bool :=
  match n.toList.reverse with
  | [] => false
  | c :: _ => c != '*'

theorem endsOk_of_forall {n : String} (hne : n.toList ≠ []) (h : ∀ c ∈ n.toList, c ≠ '*') : endsOk n = true := by
  unfold endsOk
  cases hr : n.toList.reverse with
  | nil => exact absurd (List.reverse_eq_nil_iff.mp hr) hne
  | cons c r =>
    have hc : c ∈ n.toList := List.mem_reverse.mp (hr ▸ List.mem_cons_self ..)
    simpa using h c hc

theorem endsOk_anonName (k : Nat) : endsOk (anonName k) = true := by
  apply endsOk_of_forall <;> rw [anonName_toList]
  · simp
  · intro c hc
    rcases List.mem_append.mp hc with hc | hc
    · exact fun hs => absurd (hs ▸ hc) (by decide)
    · have hd := (toDigits_ten_spec k).2 c hc
      rintro rfl
      revert hd; decide

def okName (n : String) : Bool := !isAnonForm n && !n.toList.contains '*' && n.toList != []

theorem okName_ne_anon {n : String} (h : okName n = true) (k : Nat) : n ≠ anonName k := by
  rintro rfl
  simp [okName, isAnonForm_anonName] at h

theorem endsOk_of_okName {n : String} (h : okName n = true) : endsOk n = true := by
  unfold okName at h
  simp only [Bool.and_eq_true, Bool.not_eq_true', bne_iff_ne, ne_eq] at h
  exact endsOk_of_forall h.2 (fun c hc hs => by subst hs; simp [hc] at h)

/-- reading an emitted item name back (`Pil.resolveItem`'s split of a trailing `*`) -/
theorem fullName_split (p n : String) (rev : Bool) (h : endsOk n = true) :
    (match (fullName p n rev).toList.reverse with
      | '*' :: r => (String.ofList r.reverse, true)
      | _ => (fullName p n rev, false)) = (p ++ n, rev) := by
  unfold endsOk at h
  cases rev with
  | true =>
    simp only [fullName, if_true, String.toList_append, List.reverse_append]
    have : "*".toList.reverse = ['*'] := by decide
    simp only [this, List.cons_append, List.nil_append]
    rw [← List.reverse_append, List.reverse_reverse, ← String.toList_append, String.ofList_toList]
  | false =>
    have hfn : fullName p n false = p ++ n := by simp [fullName]
    rw [hfn]
    simp only [String.toList_append, List.reverse_append]
    cases hr : n.toList.reverse with
    | nil => simp [hr] at h
    | cons c r =>
      simp only [hr, bne_iff_ne, ne_eq] at h
      simp only [List.cons_append]
      split
      · rename_i r' heq
        simp only [List.cons.injEq] at heq
        exact absurd heq.1 h
      · rfl

end Comp
end Pepper
