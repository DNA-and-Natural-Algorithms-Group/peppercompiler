import PepperProofs.CompWF
import PepperProofs.CompAdd
import PepperProofs.Notation
/-!
# One step of the loader on a well-formed state (C01)

`Step s a stmt s' a'`: what an accepted statement does to a state satisfying `WF0`, one constructor per kind, the new
tables in closed form together with the facts about the region (`RegionNF`, `RegionFinal`); `addStmt_step` is the only
place where `addStmt` is read under the invariant.  Invariants of the loader are lemmas about a `Step` and one
induction (`load_steps0`; `load_steps` under `stmtNamesOk`, for `WF`).  The hypotheses on the source, `UserNamesOk` and `CodesOk`, are defined here too; for
a parsed source `ParseComp.userNamesOk_of_parseDocL` gives the first (given `noAnonNames`).
-/
namespace Pepper.Comp
open Pepper.Constraint

def itemNamesOk (items : List SrcItem) : Bool :=
  items.all fun
    | .nuc _ => true
    | .ref n _ => okName n
    | .domains n _ => okName n

def stmtNamesOk : Stmt → Bool
  | .seq name items _ => okName name && itemNamesOk items
  | .strand _ _ items _ => itemNamesOk items
  | _ => true

theorem StructWF.congr {ts ts' : List StrandE} {e : StructE} (h : StructWF ts e)
    (hl : ∀ n ∈ e.strands, (findT ts' n).map (·.len) = (findT ts n).map (·.len)) : StructWF ts' e := by
  refine ⟨fun n hn => ?_, ?_, h.bal⟩
  · have := congrArg Option.isSome (hl n hn)
    simpa [h.found n hn] using this
  · rw [List.map_congr_left (fun n hn => by rw [hl n hn])]
    exact h.sizes

theorem StructWF.append {ts : List StrandE} {e : StructE} (h : StructWF ts e) (x : List StrandE) :
    StructWF (ts ++ x) e := by
  refine h.congr (fun n hn => ?_)
  have := h.found n hn
  rw [findT_append]
  cases hh : findT ts n with
  | none => simp [hh] at this
  | some o => rfl

theorem StructWF.map {ts : List StrandE} {e : StructE} (h : StructWF ts e) (g : StrandE → StrandE)
    (hg : ∀ o, (g o).name = o.name ∧ (g o).len = o.len) : StructWF (ts.map g) e := by
  refine h.congr (fun n _ => ?_)
  rw [findT_map g (fun o => (hg o).1)]
  cases findT ts n with
  | none => rfl
  | some o => simp [(hg o).2]

theorem strands_mapM {s : St} {strands : List String} {objs : List StrandE}
    (h : strands.mapM (fun n => match s.findStrand n with
        | some o => (pure o : Except Err StrandE) | none => throw Err.undefinedStrand) = Except.ok objs) :
    (∀ n ∈ strands, (findT s.strands n).isSome = true) ∧ objs = strands.filterMap (findT s.strands) := by
  induction strands generalizing objs with
  | nil => cases h; exact ⟨by simp, rfl⟩
  | cons n r ih =>
    rw [List.mapM_cons] at h
    obtain ⟨o, ho, h⟩ := bind_ok h
    obtain ⟨os, hos, h⟩ := bind_ok h
    cases h
    obtain ⟨g1, g2⟩ := ih hos
    rw [findStrand_eq] at ho
    cases hf : findT s.strands n with
    | none => rw [hf] at ho; cases ho
    | some o' =>
      rw [hf] at ho
      cases ho
      refine ⟨fun m hm => ?_, by simp [hf, g2]⟩
      rcases List.mem_cons.mp hm with rfl | hm
      · simp [hf]
      · exact g1 m hm

theorem filterMap_findT_lens {ts : List StrandE} {strands : List String}
    (h : ∀ n ∈ strands, (findT ts n).isSome = true) :
    (strands.filterMap (findT ts)).map (·.len) = strands.map (fun n => ((findT ts n).map (·.len)).getD 0) := by
  induction strands with
  | nil => rfl
  | cons n r ih =>
    have hn := h n (by simp)
    cases hf : findT ts n with
    | none => simp [hf] at hn
    | some o =>
      simp only [List.filterMap_cons, hf, List.map_cons, Option.map_some, Option.getD_some]
      rw [ih (fun m hm => h m (by simp [hm]))]

theorem WF0_seq_base {s : St} {a : Nat} (hw : WF0 s a) {name : String} (hname : ∀ k, name ≠ anonName k)
    (hf : findE s.seqs name = none) {l : Nat} {c : List Char} (hc : c.length = l) :
    WF0 { s with seqs := s.seqs ++ [baseEntry name l c] } a := by
  have hnd : ((s.seqs ++ [baseEntry name l c]).map (·.name)).Nodup :=
    nodup_name_snoc SeqE.name hw.seqs.nodup hf
  refine { hw with seqs := ?_, strands := ?_ }
  · apply hw.seqs.extend (Nat.le_refl a) hnd
    · exact List.forall_mem_singleton.mpr ⟨by simp, fun _ => ⟨rfl, hc, rfl⟩, fun h => by simp at h⟩
    · exact List.forall_mem_singleton.mpr (fun i hi => by simp at hi)
    · simp
    · exact List.forall_mem_singleton.mpr (fun k _ => hname k)
  · intro t ht
    exact (hw.strands t ht).mono (Ext.append _ _)

section
variable {s : St} {a : Nat} {b : Built} {sg : Segs} {x : List SeqE} (F : RegionFinal s a b sg x)
include F

theorem RegionFinal.anons_noFwd : ∀ e ∈ sgAnons sg, ∀ e1, NoFwd e1 e := by
  intro e he e1 hs
  rw [(F.anons e he).2.1] at hs
  cases hs

theorem RegionFinal.anons_pairwise : (sgAnons sg).Pairwise NoFwd :=
  List.pairwise_of_forall_mem_list (fun e1 _ e2 h2 => F.anons_noFwd e2 h2 e1)

theorem RegionFinal.anons_irrefl : ∀ e ∈ sgAnons sg, ∀ i ∈ e.items, i.name ≠ e.name := by
  intro e he i hi
  rw [(F.anons e he).2.2.1] at hi
  cases hi

theorem RegionFinal.anons_fresh : ∀ e ∈ sgAnons sg, ∀ k, b.anon ≤ k → e.name ≠ anonName k := by
  intro e he k hk
  obtain ⟨j, _, hj2, hj3⟩ := (F.anons e he).2.2.2
  rw [hj3]
  intro h
  have := anonName_inj h
  omega

end

theorem WF0_seq_sup {s : St} {a : Nat} (hw : WF0 s a) {name : String} (hname : ∀ k, name ≠ anonName k)
    (hf : findE s.seqs name = none) {b : Built} {sg : Segs} (hle : a ≤ b.anon)
    (F : RegionFinal s a b sg [supEntry name b]) :
    WF0 { s with seqs := s.seqs ++ [supEntry name b] ++ sgAnons sg } b.anon := by
  refine ⟨?_, ?_, hw.strandNames, hw.structs, hw.structNames⟩
  · rw [List.append_assoc]
    apply hw.seqs.extend hle (by rw [← List.append_assoc]; exact F.nodup)
    · rw [← List.append_assoc]
      exact List.forall_mem_cons.mpr
        ⟨⟨F.lenB, fun h => by simp at h, fun _ => ⟨F.itemsOk, F.bases, F.len, rfl⟩⟩,
          fun e he => (F.anons e he).1⟩
    · refine List.forall_mem_cons.mpr ⟨fun i hi => ?_, F.anons_irrefl⟩
      rcases F.itemNames i hi with hm | ⟨j, _, hj⟩
      · obtain ⟨e0, he0, hn0⟩ := List.mem_map.mp hm
        rw [← hn0]
        exact findE_eq_none.mp hf e0 he0
      · rw [hj]; exact fun h => hname j h.symm
    · simp only [List.cons_append, List.nil_append, List.pairwise_cons]
      exact ⟨fun e he => F.anons_noFwd e he _, F.anons_pairwise⟩
    · exact List.forall_mem_cons.mpr ⟨fun k _ => hname k, F.anons_fresh⟩
  · intro t ht
    refine (hw.strands t ht).mono ?_
    rw [List.append_assoc]
    exact Ext.append _ _

theorem markFn_flagOnly (bs : List BaseRef) : FlagOnly (markFn bs) := by
  intro e
  unfold markFn
  split <;> rfl

theorem WF0_strand {s : St} {a : Nat} (hw : WF0 s a) {name : String} {dummy : Bool}
    (hf : findT s.strands name = none) {b : Built} {sg : Segs} (hle : a ≤ b.anon) (F : RegionFinal s a b sg []) :
    WF0 { s with seqs := (s.seqs ++ sgAnons sg).map (markFn b.bases),
                 strands := s.strands ++ [strandEntry name dummy b] } b.anon := by
  have hpw := F.anons_pairwise
  have hirr := F.anons_irrefl
  have hfr := F.anons_fresh
  obtain ⟨hnd, _, hanons, hitems, hbases, hlen, _, _, _⟩ := F
  simp only [List.append_nil] at hnd hanons hitems hbases
  refine ⟨?_, ?_, ?_, ?_, hw.structNames⟩
  · apply WFSeqs0.map (markFn_flagOnly _)
    apply hw.seqs.extend hle hnd
    · intro e he; exact (hanons e he).1
    · exact hirr
    · exact hpw
    · exact hfr
  · intro t ht
    apply StrandWF.map (markFn_flagOnly _)
    rcases List.mem_append.mp ht with ht | ht
    · exact (hw.strands t ht).mono (Ext.append _ _)
    · simp only [List.mem_singleton] at ht
      subst ht
      exact ⟨hitems, hbases, hlen⟩
  · exact nodup_name_snoc StrandE.name hw.strandNames hf
  · intro e he
    exact (hw.structs e he).append _

theorem WF0_struct {s : St} {a : Nat} (hw : WF0 s a) {name : String} (hf : s.findStruct name = none)
    {strands : List String} {objs : List StrandE} {full : List Char} {optv : Dec}
    (hfound : ∀ n ∈ strands, (findT s.strands n).isSome = true) (hobjs : objs = strands.filterMap (findT s.strands))
    (hsz : Notation.sizesOk full (objs.map (·.len)) = true) (hbal : Notation.balanced full = true) :
    WF0 { s with strands := s.strands.map (structFlag strands),
                 structs := s.structs ++ [⟨name, optv, strands, full, objs.flatMap (·.bases)⟩] } a := by
  have hg := structFlag_props strands
  refine ⟨hw.seqs, ?_, ?_, ?_, nodup_name_snoc StructE.name hw.structNames hf⟩
  · intro t ht
    obtain ⟨t0, ht0, rfl⟩ := List.mem_map.mp ht
    have := hw.strands t0 ht0
    rw [structFlag_eq]
    exact ⟨this.items, this.bases, this.len⟩
  · rw [List.map_map, show (fun x : StrandE => x.name) ∘ structFlag strands = (fun x => x.name) from
      funext fun o => (hg o).1]
    exact hw.strandNames
  · intro e he
    rcases List.mem_append.mp he with he | he
    · exact (hw.structs e he).map _ hg
    · rw [List.mem_singleton.mp he]
      apply StructWF.map _ _ hg
      refine ⟨hfound, ?_, hbal⟩
      simp only
      rw [← filterMap_findT_lens hfound, ← hobjs]
      exact hsz

inductive Step (s : St) (a : Nat) : Stmt → St → Nat → Prop
  | seqBase {name : String} {text : List Char} {len : Option Nat} {l : Nat} {c : List Char}
      (hf : findE s.seqs name = none) (hr : resolve (parseQuoted text) len = .ok (l, c))
      (hname : ∀ k, name ≠ anonName k) :
      Step s a (.seq name [.nuc text] len) { s with seqs := s.seqs ++ [baseEntry name l c] } a
  | seqSup {name : String} {items : List SrcItem} {len : Option Nat} {cs : List CItem} {b : Built} {sg : Segs}
      (hne : ∀ text, items ≠ [.nuc text]) (hf : findE s.seqs name = none)
      (R : RegionNF s a items len cs b sg) (F : RegionFinal s a b sg [supEntry name b])
      (hname : ∀ k, name ≠ anonName k) :
      Step s a (.seq name items len) { s with seqs := s.seqs ++ [supEntry name b] ++ sgAnons sg } b.anon
  | strand {dummy : Bool} {name : String} {items : List SrcItem} {len : Option Nat} {cs : List CItem} {b : Built}
      {sg : Segs} (hf : findT s.strands name = none) (R : RegionNF s a items len cs b sg)
      (F : RegionFinal s a b sg []) (hz : b.len ≠ 0) :
      Step s a (.strand dummy name items len)
        { s with seqs := (s.seqs ++ sgAnons sg).map (markFn b.bases),
                 strands := s.strands ++ [strandEntry name dummy b] } b.anon
  | struct {opt : OptSrc} {name : String} {strands : List String} {domain : Bool} {text dp full : List Char}
      {optv : Dec} {objs : List StrandE} (hf : s.findStruct name = none)
      (hfound : ∀ n ∈ strands, (findT s.strands n).isSome = true) (hobjs : objs = strands.filterMap (findT s.strands))
      (hdp : Notation.compileStruct text = some dp)
      (hfull : if domain then Notation.domainExpand dp (objs.map (fun o => o.items.map (·.len))) = some full
        else full = dp)
      (hsz : Notation.sizesOk full (objs.map (·.len)) = true) (hopt : optDec opt = some optv) :
      Step s a (.struct opt name strands domain text)
        { s with strands := s.strands.map (structFlag strands),
                 structs := s.structs ++ [⟨name, optv, strands, full, objs.flatMap (·.bases)⟩] } a
  | kinetic {low high : Option String} {ins outs : List String} {lo hi : Option Dec}
      (hall : (ins ++ outs).all (fun n => (s.findStruct n).isSome) = true)
      (hlo : decOpt low = some lo) (hhi : decOpt high = some hi) :
      Step s a (.kinetic low high ins outs)
        { s with kins := s.kins ++ [⟨"Kin" ++ toString s.kins.length, ins, outs, lo, hi⟩] } a

def defNotAnon : Stmt → Prop
  | .seq name _ _ => ∀ k, name ≠ anonName k
  | _ => True

theorem defNotAnon_of_namesOk {stmt : Stmt} (h : stmtNamesOk stmt = true) : defNotAnon stmt := by
  cases stmt with
  | seq name items len =>
    simp only [stmtNamesOk, Bool.and_eq_true] at h
    exact okName_ne_anon h.1
  | _ => trivial

theorem addStmt_step {s : St} {a : Nat} {stmt : Stmt} {s' : St} {a' : Nat} (hw : WF0 s a)
    (hok : defNotAnon stmt) (h : addStmt s a stmt = .ok (s', a')) : Step s a stmt s' a' := by
  cases addStmt_adds h with
  | seqBase hf hr => exact .seqBase hf hr hok
  | @seqSup name _ _ b hne hf hb =>
    obtain ⟨cs, hc, hbd⟩ := build_ok hb
    obtain ⟨sg, R⟩ := region_nf hw.seqs.entries hc hbd
    have F := region_final hw.seqs R [supEntry name b] (List.forall_mem_singleton.mpr hok)
      (nodup_name_snoc SeqE.name hw.seqs.nodup hf)
    rw [F.reg _ rfl]
    exact .seqSup hne hf R F hok
  | @strand dummy name _ _ b hf hb hz =>
    obtain ⟨cs, hc, hbd⟩ := build_ok hb
    obtain ⟨sg, R⟩ := region_nf hw.seqs.entries hc hbd
    have F := region_final hw.seqs R [] (fun _ he => nomatch he) (by rw [List.append_nil]; exact hw.seqs.nodup)
    rw [F.reg { s with strands := s.strands ++ [strandEntry name dummy b] } (List.append_nil _).symm, markInStrand_eq,
      List.append_nil]
    exact .strand hf R F hz
  | struct hf hobjs hchk =>
    obtain ⟨hfound, hobjs⟩ := strands_mapM hobjs
    obtain ⟨dp, hdp, hfull, hsz, hopt⟩ := structCheck_ok hchk
    exact .struct hf hfound hobjs hdp hfull hsz hopt
  | kinetic hk =>
    obtain ⟨hall, lo, hi, hlo, hhi, rfl⟩ := kinEntry_ok hk
    exact .kinetic hall hlo hhi

theorem Step.wf0 {s : St} {a : Nat} {stmt : Stmt} {s' : St} {a' : Nat} (hw : WF0 s a)
    (h : Step s a stmt s' a') : WF0 s' a' ∧ a ≤ a' := by
  cases h with
  | seqBase hf hr hok => exact ⟨WF0_seq_base hw hok hf (resolve_length hr), Nat.le_refl _⟩
  | seqSup _ hf R F hok => exact ⟨WF0_seq_sup hw hok hf R.nf.le F, R.nf.le⟩
  | strand hf R F _ => exact ⟨WF0_strand hw hf R.nf.le F, R.nf.le⟩
  | @struct _ _ _ domain _ _ _ _ _ hf hfound hobjs hdp hfull hsz _ =>
    refine ⟨WF0_struct hw hf hfound hobjs hsz ?_, Nat.le_refl _⟩
    cases domain with
    | false => simp only [Bool.false_eq_true, if_false] at hfull; subst hfull; exact Notation.compileStruct_balanced hdp
    | true => simp only [if_true] at hfull; exact (Notation.domainExpand_sound hfull).1
  | kinetic _ _ _ => exact ⟨{ hw with }, Nat.le_refl _⟩

def defEndsOk : Stmt → Prop
  | .seq name _ _ => endsOk name = true
  | _ => True

theorem defEndsOk_of_namesOk {stmt : Stmt} (h : stmtNamesOk stmt = true) : defEndsOk stmt := by
  cases stmt with
  | seq name items len =>
    simp only [stmtNamesOk, Bool.and_eq_true] at h
    exact endsOk_of_okName h.1
  | _ => trivial

/-- new names in `seqs` are the defined name and anonymous names -/
theorem Step.names {s : St} {a : Nat} {stmt : Stmt} {s' : St} {a' : Nat} (hn : ∀ e ∈ s.seqs, endsOk e.name = true)
    (hok : defEndsOk stmt) (h : Step s a stmt s' a') : ∀ e ∈ s'.seqs, endsOk e.name = true := by
  have hanon : ∀ {sg : Segs}, ∀ e ∈ sgAnons sg, endsOk e.name = true := fun e he => by
    obtain ⟨j, _, hj⟩ := sgAnons_name he
    rw [hj]; exact endsOk_anonName j
  cases h with
  | seqBase => exact List.forall_mem_append.mpr ⟨hn, List.forall_mem_singleton.mpr hok⟩
  | seqSup =>
    exact List.forall_mem_append.mpr ⟨List.forall_mem_append.mpr ⟨hn, List.forall_mem_singleton.mpr hok⟩, hanon⟩
  | strand =>
    refine List.forall_mem_map.mpr fun e he => ?_
    rw [(markFn_flagOnly _).name]
    exact List.forall_mem_append.mpr ⟨hn, hanon⟩ e he
  | struct => exact hn
  | kinetic => exact hn

theorem Step.wf {s : St} {a : Nat} {stmt : Stmt} {s' : St} {a' : Nat} (hw : WF s a)
    (hok : stmtNamesOk stmt = true) (h : Step s a stmt s' a') : WF s' a' ∧ a ≤ a' :=
  have h0 := h.wf0 hw.zero
  ⟨WF_iff.2 ⟨h0.1, h.names (WF_iff.1 hw).2 (defEndsOk_of_namesOk hok)⟩, h0.2⟩

theorem WF_init (name pfx : String) (params : List String) (a : Nat) :
    WF { name := name, pfx := pfx, params := params } a :=
  ⟨⟨by simp, by simp, by simp, by simp, by simp⟩, by simp, by simp, by simp, by simp⟩

/-- the induction over `load`: an invariant `P` kept by every `Step` from a `WF0` state holds, with `WF0`, of what
    `load` returns -/
theorem load_steps0 {P : St → Nat → Prop} {src : Src} {n : Nat} {pfx : String} {a : Nat} {st : St} {a' : Nat}
    (h : load src n pfx a = .ok (st, a')) (hn : ∀ stmt ∈ src.stmts, defNotAnon stmt)
    (h0 : P { name := src.name, pfx := pfx, params := src.params } a)
    (hstep : ∀ stmt ∈ src.stmts, ∀ {s a s' a'}, WF0 s a → P s a → Step s a stmt s' a' → P s' a')
    (hio : ∀ {s : St} {i1 o1 : List ItemRef} {i2 o2 : List (Option String)}, P s a' →
      P { s with inputSeqs := i1, inputStructs := i2, outputSeqs := o1, outputStructs := o2 } a') :
    WF0 st a' ∧ P st a' :=
  load_induct (P := fun s a => WF0 s a ∧ P s a) h ⟨(WF_init src.name pfx src.params a).zero, h0⟩
    (fun stmt hm _ _ _ _ hI hs =>
      have hst := addStmt_step hI.1 (hn stmt hm) hs
      ⟨(hst.wf0 hI.1).1, hstep stmt hm hI.1 hI.2 hst⟩)
    (fun hI => ⟨{ hI.1 with }, hio hI.2⟩)

theorem load_WF0 {src : Src} {n : Nat} {pfx : String} {a : Nat} {st : St} {a' : Nat}
    (h : load src n pfx a = .ok (st, a')) (hn : ∀ stmt ∈ src.stmts, defNotAnon stmt) : WF0 st a' :=
  (load_steps0 (P := fun _ _ => True) h hn trivial (fun _ _ _ _ _ _ _ _ _ => trivial) id).1

def partsCodesOk (tbl : CodeTable) (parts : List (Mult × Char)) : Bool := parts.all (fun mc => tbl.isCode mc.2)

def itemCodesOk (tbl : CodeTable) (items : List SrcItem) : Bool :=
  items.all fun
    | .nuc text => partsCodesOk tbl (parseQuoted text)
    | _ => true

def stmtCodesOk (tbl : CodeTable) : Stmt → Bool
  | .seq _ items _ => itemCodesOk tbl items
  | .strand _ _ items _ => itemCodesOk tbl items
  | _ => true

theorem expand_codes {tbl : CodeTable} {parts : List (Mult × Char)} (h : partsCodesOk tbl parts = true) (w : Nat) :
    (expand w parts).all tbl.isCode = true := by
  induction parts with
  | nil => rfl
  | cons q r ih =>
    obtain ⟨m, c⟩ := q
    simp only [partsCodesOk, List.all_cons, Bool.and_eq_true] at h ih
    cases m <;> simp [expand, h.1, ih h.2]

theorem resolve_codes {tbl : CodeTable} {parts : List (Mult × Char)} (h : partsCodesOk tbl parts = true)
    {len : Option Nat} {l : Nat} {c : List Char} (hr : resolve parts len = .ok (l, c)) : c.all tbl.isCode = true := by
  obtain ⟨w, rfl⟩ := resolve_eq_expand hr
  exact expand_codes h w

def CodesInv (tbl : CodeTable) (s : St) : Prop := ∀ e ∈ s.seqs, e.const.all tbl.isCode = true

theorem partsCodesOk_explicit {tbl : CodeTable} {parts : List (Mult × Char)} (h : partsCodesOk tbl parts = true) (x : Nat) :
    partsCodesOk tbl (explicit x parts) = true := by
  induction parts with
  | nil => rfl
  | cons q r ih =>
    obtain ⟨m, c⟩ := q
    simp only [partsCodesOk, List.all_cons, Bool.and_eq_true] at h ih ⊢
    cases m <;> simp [explicit, h.1, ih h.2]

theorem anons_codes {tbl : CodeTable} {s : St} {a : Nat} {items : List SrcItem} {len : Option Nat} {cs : List CItem}
    {b : Built} {sg : Segs} (R : RegionNF s a items len cs b sg) (hc : itemCodesOk tbl items = true) :
    ∀ e ∈ sgAnons sg, e.const.all tbl.isCode = true := by
  intro e he
  obtain ⟨q, j, hq, rfl⟩ := mem_sgAnons he
  obtain ⟨text, ht, hp⟩ := R.nucs q hq
  have htext : partsCodesOk tbl (parseQuoted text) = true := by
    have := (List.all_eq_true.mp hc) _ ht
    simpa using this
  simp only [mkAnon]
  rcases hp with rfl | ⟨x, rfl⟩
  · exact expand_codes htext 0
  · exact expand_codes (partsCodesOk_explicit htext x) 0

theorem Step.codes {tbl : CodeTable} {s : St} {a : Nat} {stmt : Stmt} {s' : St} {a' : Nat}
    (hci : CodesInv tbl s) (hco : stmtCodesOk tbl stmt = true) (h : Step s a stmt s' a') : CodesInv tbl s' := by
  cases h with
  | seqBase hf hr =>
    exact List.forall_mem_append.mpr
      ⟨hci, List.forall_mem_singleton.mpr (resolve_codes (by simpa [stmtCodesOk, itemCodesOk] using hco) hr)⟩
  | seqSup hne hf R F =>
    exact List.forall_mem_append.mpr
      ⟨List.forall_mem_append.mpr ⟨hci, List.forall_mem_singleton.mpr rfl⟩, anons_codes R hco⟩
  | strand hf R F hz =>
    refine List.forall_mem_map.mpr (fun e he => ?_)
    rw [(markFn_flagOnly _).const]
    exact List.forall_mem_append.mpr ⟨hci, anons_codes R hco⟩ e he
  | struct => exact hci
  | kinetic => exact hci

/-- no user-chosen sequence name (defined, mentioned in an item list or a port) has the reserved form
    `_Anon<digits>`, contains `*` or is empty -/
def UserNamesOk (src : Src) : Bool :=
  src.stmts.all stmtNamesOk && (src.inputs ++ src.outputs).all (fun p => okName p.seq)

/-- every code letter written in a quoted region of the source is a code of the table -/
def CodesOk (tbl : CodeTable) (src : Src) : Bool := src.stmts.all (stmtCodesOk tbl)

theorem userNamesOk_stmts {src : Src} (h : UserNamesOk src = true) : ∀ stmt ∈ src.stmts, stmtNamesOk stmt = true :=
  List.all_eq_true.mp (Bool.and_eq_true_iff.mp h).1

/-- `load_steps0` under `stmtNamesOk`: with the names' ends kept as well, `WF` -/
theorem load_steps {P : St → Nat → Prop} {src : Src} {n : Nat} {pfx : String} {a : Nat} {st : St} {a' : Nat}
    (h : load src n pfx a = .ok (st, a')) (hn : ∀ stmt ∈ src.stmts, stmtNamesOk stmt = true)
    (h0 : P { name := src.name, pfx := pfx, params := src.params } a)
    (hstep : ∀ stmt ∈ src.stmts, ∀ {s a s' a'}, WF0 s a → P s a → Step s a stmt s' a' → P s' a')
    (hio : ∀ {s : St} {i1 o1 : List ItemRef} {i2 o2 : List (Option String)}, P s a' →
      P { s with inputSeqs := i1, inputStructs := i2, outputSeqs := o1, outputStructs := o2 } a') :
    WF st a' ∧ P st a' :=
  have h1 := load_steps0 (P := fun s a => (∀ e ∈ s.seqs, endsOk e.name = true) ∧ P s a) h
    (fun stmt hm => defNotAnon_of_namesOk (hn stmt hm)) ⟨fun _ he => (nomatch he), h0⟩
    (fun stmt hm _ _ _ _ hw hI hst =>
      ⟨hst.names hI.1 (defEndsOk_of_namesOk (hn stmt hm)), hstep stmt hm hw hI.2 hst⟩)
    (fun hI => ⟨hI.1, hio hI.2⟩)
  ⟨WF_iff.2 ⟨h1.1, h1.2.1⟩, h1.2.2⟩

/-- `WF` and the codes invariant, for every table, by one walk -/
theorem load_WF_codes {src : Src} {n : Nat} {pfx : String} {a : Nat} {st : St} {a' : Nat}
    (h : load src n pfx a = .ok (st, a')) (hn : ∀ stmt ∈ src.stmts, stmtNamesOk stmt = true) :
    WF st a' ∧ ∀ tbl, CodesOk tbl src = true → CodesInv tbl st :=
  load_steps (P := fun s _ => ∀ tbl, CodesOk tbl src = true → CodesInv tbl s) h hn (fun _ _ _ he => nomatch he)
    (fun stmt hm _ _ _ _ _ hI hst tbl hc => hst.codes (hI tbl hc) (List.all_eq_true.mp hc stmt hm)) id

theorem load_WF {src : Src} {n : Nat} {pfx : String} {a : Nat} {st : St} {a' : Nat}
    (h : load src n pfx a = .ok (st, a')) (hn : ∀ stmt ∈ src.stmts, stmtNamesOk stmt = true) : WF st a' :=
  (load_WF_codes h hn).1

theorem Adds.pfx {s : St} {a : Nat} {stmt : Stmt} {s' : St} {a' : Nat} (h : Adds s a stmt s' a') : s'.pfx = s.pfx := by
  cases h with
  | seqBase => rfl
  | seqSup => exact registerAnon_pfx _ _
  | strand => exact registerAnon_pfx _ _
  | struct => rfl
  | kinetic => rfl

theorem load_pfx {src : Src} {n : Nat} {pfx : String} {a : Nat} {st : St} {a' : Nat}
    (h : load src n pfx a = .ok (st, a')) : st.pfx = pfx :=
  load_induct (P := fun s _ => s.pfx = pfx) h rfl (fun _ _ _ _ _ _ hp hs => (addStmt_adds hs).pfx.trans hp) id

end Pepper.Comp
