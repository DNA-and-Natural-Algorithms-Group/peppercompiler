import PepperProofs.CompReg
import PepperProofs.CompSem
/-!
# The well-formedness invariant of the component tables (C01)

`WF s a`: names are unique; an atomic entry is its own single base; a super-sequence / strand entry's
`base_seqs` is the concatenation of its items' views and its length their sum; every item resolves to an
entry of equal length; an entry never refers to a super-sequence defined later; anonymous names numbered
`≥ a` are unused.  The loader is followed with `WF0` (`WF` without the clause on how names end, `WF_iff`).

Then what the loader's region functions do to such tables, for `addStmt_step` (CompStep): `cleanConst` inverted
(`cleanConst_mem`), `RegionNF` / `region_nf` (an accepted region in normal form) and `RegionFinal` / `region_final` (the
tables after `registerAnon`; the content of `C01.invariant_preserved`).
-/
namespace Pepper.Comp
open Pepper.Constraint

/-- `base_seqs` of the view an item refers to -/
def viewBases (l : List SeqE) (i : ItemRef) : List BaseRef :=
  match findE l i.name with
  | some ie => basesOfView ie i.rev
  | none => []

def ItemOk (l : List SeqE) (i : ItemRef) : Prop := ∃ ie, findE l i.name = some ie ∧ i.len = ie.len

structure EntryWF (l : List SeqE) (e : SeqE) : Prop where
  lenB : e.len = (e.bases.map (·.len)).sum
  nameOk : endsOk e.name = true
  base : e.isSup = false → e.bases = [⟨e.name, false, e.len⟩] ∧ e.const.length = e.len ∧ e.items = []
  sup : e.isSup = true → (∀ i ∈ e.items, ItemOk l i) ∧ e.bases = e.items.flatMap (viewBases l) ∧
        e.len = (e.items.map (·.len)).sum ∧ e.const = []

/-- the order relation: an earlier entry never names a later super-sequence -/
def NoFwd (e1 e2 : SeqE) : Prop := e2.isSup = true → ∀ i ∈ e1.items, i.name ≠ e2.name

structure WFSeqs (a : Nat) (l : List SeqE) : Prop where
  nodup : (l.map (·.name)).Nodup
  entries : ∀ e ∈ l, EntryWF l e
  order : l.Pairwise NoFwd
  irrefl : ∀ e ∈ l, ∀ i ∈ e.items, i.name ≠ e.name
  fresh : ∀ e ∈ l, ∀ k, a ≤ k → e.name ≠ anonName k

structure StrandWF (l : List SeqE) (t : StrandE) : Prop where
  items : ∀ i ∈ t.items, ItemOk l i
  bases : t.bases = t.items.flatMap (viewBases l)
  len : t.len = (t.items.map (·.len)).sum

structure StructWF (ts : List StrandE) (e : StructE) : Prop where
  found : ∀ n ∈ e.strands, (findT ts n).isSome = true
  sizes : Notation.sizesOk e.struct (e.strands.map (fun n => ((findT ts n).map (·.len)).getD 0)) = true
  bal : Notation.balanced e.struct = true

structure WF (s : St) (a : Nat) : Prop where
  seqs : WFSeqs a s.seqs
  strands : ∀ t ∈ s.strands, StrandWF s.seqs t
  strandNames : (s.strands.map (·.name)).Nodup
  structs : ∀ e ∈ s.structs, StructWF s.strands e
  structNames : (s.structs.map (·.name)).Nodup

/-! The invariant the loader is followed with is `WF0`: `WF` without `EntryWF.nameOk`, which no step of the loader reads
(it is what reading the emitted PIL back needs).  `WF` is `WF0` and "every name ends well" (`WF_iff`). -/

structure EntryWF0 (l : List SeqE) (e : SeqE) : Prop where
  lenB : e.len = (e.bases.map (·.len)).sum
  base : e.isSup = false → e.bases = [⟨e.name, false, e.len⟩] ∧ e.const.length = e.len ∧ e.items = []
  sup : e.isSup = true → (∀ i ∈ e.items, ItemOk l i) ∧ e.bases = e.items.flatMap (viewBases l) ∧
        e.len = (e.items.map (·.len)).sum ∧ e.const = []

structure WFSeqs0 (a : Nat) (l : List SeqE) : Prop where
  nodup : (l.map (·.name)).Nodup
  entries : ∀ e ∈ l, EntryWF0 l e
  order : l.Pairwise NoFwd
  irrefl : ∀ e ∈ l, ∀ i ∈ e.items, i.name ≠ e.name
  fresh : ∀ e ∈ l, ∀ k, a ≤ k → e.name ≠ anonName k

structure WF0 (s : St) (a : Nat) : Prop where
  seqs : WFSeqs0 a s.seqs
  strands : ∀ t ∈ s.strands, StrandWF s.seqs t
  strandNames : (s.strands.map (·.name)).Nodup
  structs : ∀ e ∈ s.structs, StructWF s.strands e
  structNames : (s.structs.map (·.name)).Nodup

theorem EntryWF.zero {l : List SeqE} {e : SeqE} (h : EntryWF l e) : EntryWF0 l e := ⟨h.lenB, h.base, h.sup⟩

theorem WFSeqs_iff {a : Nat} {l : List SeqE} : WFSeqs a l ↔ WFSeqs0 a l ∧ ∀ e ∈ l, endsOk e.name = true :=
  ⟨fun h => ⟨⟨h.nodup, fun e he => (h.entries e he).zero, h.order, h.irrefl, h.fresh⟩, fun e he => (h.entries e he).nameOk⟩,
   fun ⟨h, hn⟩ => ⟨h.nodup, fun e he => ⟨(h.entries e he).lenB, hn e he, (h.entries e he).base, (h.entries e he).sup⟩,
     h.order, h.irrefl, h.fresh⟩⟩

theorem WF_iff {s : St} {a : Nat} : WF s a ↔ WF0 s a ∧ ∀ e ∈ s.seqs, endsOk e.name = true :=
  ⟨fun h => ⟨⟨(WFSeqs_iff.1 h.seqs).1, h.strands, h.strandNames, h.structs, h.structNames⟩, (WFSeqs_iff.1 h.seqs).2⟩,
   fun ⟨h, hn⟩ => ⟨WFSeqs_iff.2 ⟨h.seqs, hn⟩, h.strands, h.strandNames, h.structs, h.structNames⟩⟩

theorem WF.zero {s : St} {a : Nat} (h : WF s a) : WF0 s a := (WF_iff.1 h).1

def Ext (l l' : List SeqE) : Prop := ∀ n e, findE l n = some e → findE l' n = some e

theorem Ext.append (l x : List SeqE) : Ext l (l ++ x) := fun _ _ h => findE_append_of_some h x

theorem ItemOk.mono {l l' : List SeqE} (h : Ext l l') {i : ItemRef} (hi : ItemOk l i) : ItemOk l' i := by
  obtain ⟨ie, h1, h2⟩ := hi
  exact ⟨ie, h _ _ h1, h2⟩

theorem viewBases_mono {l l' : List SeqE} (h : Ext l l') {i : ItemRef} (hi : ItemOk l i) :
    viewBases l' i = viewBases l i := by
  obtain ⟨ie, h1, _⟩ := hi
  simp [viewBases, h1, h _ _ h1]

theorem flatMap_viewBases_mono {l l' : List SeqE} (h : Ext l l') {its : List ItemRef} (hi : ∀ i ∈ its, ItemOk l i) :
    its.flatMap (viewBases l') = its.flatMap (viewBases l) := by
  induction its with
  | nil => rfl
  | cons i r ih =>
    simp only [List.flatMap_cons]
    rw [viewBases_mono h (hi i (by simp)), ih (fun j hj => hi j (by simp [hj]))]

theorem EntryWF0.mono {l l' : List SeqE} (h : Ext l l') {e : SeqE} (he : EntryWF0 l e) : EntryWF0 l' e := by
  refine ⟨he.lenB, he.base, fun hs => ?_⟩
  obtain ⟨h1, h2, h3, h4⟩ := he.sup hs
  exact ⟨fun i hi => (h1 i hi).mono h, by rw [flatMap_viewBases_mono h h1]; exact h2, h3, h4⟩

theorem StrandWF.mono {l l' : List SeqE} (h : Ext l l') {t : StrandE} (ht : StrandWF l t) : StrandWF l' t :=
  ⟨fun i hi => (ht.items i hi).mono h, by rw [flatMap_viewBases_mono h ht.items]; exact ht.bases, ht.len⟩

theorem ItemOk.name_mem {l : List SeqE} {i : ItemRef} (hi : ItemOk l i) : i.name ∈ l.map (·.name) := by
  obtain ⟨ie, h1, _⟩ := hi
  obtain ⟨hm, hn⟩ := findE_some h1
  exact List.mem_map.mpr ⟨ie, hm, hn⟩

theorem EntryWF0.itemsOk {l : List SeqE} {e : SeqE} (he : EntryWF0 l e) : ∀ i ∈ e.items, ItemOk l i := by
  intro i hi
  cases hs : e.isSup with
  | false => rw [(he.base hs).2.2] at hi; cases hi
  | true => exact (he.sup hs).1 i hi

theorem items_names_mem {l : List SeqE} {e : SeqE} (he : EntryWF0 l e) : ∀ i ∈ e.items, i.name ∈ l.map (·.name) :=
  fun i hi => (he.itemsOk i hi).name_mem

theorem view_lens {l : List SeqE} {ie : SeqE} (he : EntryWF0 l ie) (r : Bool) :
    ((basesOfView ie r).map (·.len)).sum = ie.len := by
  rw [basesOfView_lens, ← he.lenB]

theorem viewBases_inv (l : List SeqE) (i : ItemRef) : viewBases l i.inv = (viewBases l i).reverse.map BaseRef.inv := by
  simp only [viewBases, ItemRef.inv]
  cases findE l i.name with
  | none => rfl
  | some ie => exact basesOfView_not ie i.rev

theorem flatMap_viewBases_lens {l : List SeqE} (hent : ∀ e ∈ l, EntryWF0 l e) {its : List ItemRef}
    (hi : ∀ i ∈ its, ItemOk l i) :
    ((its.flatMap (viewBases l)).map (·.len)).sum = (its.map (·.len)).sum := by
  induction its with
  | nil => rfl
  | cons i r ih =>
    obtain ⟨ie, h1, h2⟩ := hi i (by simp)
    simp only [List.flatMap_cons, List.map_append, List.sum_append, List.map_cons, List.sum_cons,
      ih (fun j hj => hi j (by simp [hj]))]
    simp only [viewBases, h1]
    rw [view_lens (hent ie (findE_some h1).1), h2]

theorem strand_lenB {l : List SeqE} (hent : ∀ e ∈ l, EntryWF0 l e) {t : StrandE} (ht : StrandWF l t) :
    (t.bases.map (·.len)).sum = t.len := by
  rw [ht.bases, ht.len, flatMap_viewBases_lens hent ht.items]

theorem WFSeqs0.extend {a a' : Nat} {l ns : List SeqE} (h : WFSeqs0 a l) (haa : a ≤ a')
    (hnd : ((l ++ ns).map (·.name)).Nodup)
    (hent : ∀ e ∈ ns, EntryWF0 (l ++ ns) e)
    (hirr : ∀ e ∈ ns, ∀ i ∈ e.items, i.name ≠ e.name)
    (hord : ns.Pairwise NoFwd)
    (hfresh : ∀ e ∈ ns, ∀ k, a' ≤ k → e.name ≠ anonName k) : WFSeqs0 a' (l ++ ns) := by
  have hdisj : ∀ e1 ∈ l, ∀ e2 ∈ ns, e1.name ≠ e2.name := by
    simp only [List.map_append, List.nodup_append, List.mem_map, forall_exists_index, and_imp] at hnd
    intro e1 h1 e2 h2
    exact hnd.2.2 _ e1 h1 rfl _ e2 h2 rfl
  refine ⟨hnd, ?_, ?_, ?_, ?_⟩
  · exact List.forall_mem_append.mpr ⟨fun e he => (h.entries e he).mono (Ext.append l ns), hent⟩
  · rw [List.pairwise_append]
    refine ⟨h.order, hord, ?_⟩
    intro e1 h1 e2 h2 _ i hi hn
    obtain ⟨e0, h0, hn0⟩ := List.mem_map.mp (items_names_mem (h.entries e1 h1) i hi)
    exact hdisj e0 h0 e2 h2 (hn0.trans hn)
  · exact List.forall_mem_append.mpr ⟨h.irrefl, hirr⟩
  · exact List.forall_mem_append.mpr ⟨fun e he k hk => h.fresh e he k (by omega), hfresh⟩

theorem WFSeqs.extend {a a' : Nat} {l ns : List SeqE} (h : WFSeqs a l) (haa : a ≤ a')
    (hnd : ((l ++ ns).map (·.name)).Nodup)
    (hent : ∀ e ∈ ns, EntryWF (l ++ ns) e)
    (hirr : ∀ e ∈ ns, ∀ i ∈ e.items, i.name ≠ e.name)
    (hord : ns.Pairwise NoFwd)
    (hfresh : ∀ e ∈ ns, ∀ k, a' ≤ k → e.name ≠ anonName k) : WFSeqs a' (l ++ ns) :=
  WFSeqs_iff.2 ⟨(WFSeqs_iff.1 h).1.extend haa hnd (fun e he => (hent e he).zero) hirr hord hfresh,
    List.forall_mem_append.mpr ⟨(WFSeqs_iff.1 h).2, fun e he => (hent e he).nameOk⟩⟩

def FlagOnly (f : SeqE → SeqE) : Prop := ∀ e, f e = { e with anon := (f e).anon, inStrand := (f e).inStrand }

namespace FlagOnly
variable {f : SeqE → SeqE} (hf : FlagOnly f) (e : SeqE)
include hf

theorem name : (f e).name = e.name := by rw [hf e]
theorem isSup : (f e).isSup = e.isSup := by rw [hf e]
theorem len : (f e).len = e.len := by rw [hf e]
theorem const : (f e).const = e.const := by rw [hf e]
theorem items : (f e).items = e.items := by rw [hf e]
theorem bases : (f e).bases = e.bases := by rw [hf e]

end FlagOnly

theorem viewBases_map {f : SeqE → SeqE} (hf : FlagOnly f) (l : List SeqE) (i : ItemRef) :
    viewBases (l.map f) i = viewBases l i := by
  simp only [viewBases, findE_map f hf.name]
  cases findE l i.name with
  | none => rfl
  | some ie => simp [basesOfView, hf.bases ie]

theorem ItemOk.map_iff {f : SeqE → SeqE} (hf : FlagOnly f) (l : List SeqE) (i : ItemRef) :
    ItemOk (l.map f) i ↔ ItemOk l i := by
  simp only [ItemOk, findE_map f hf.name]
  cases findE l i.name with
  | none => simp
  | some ie => simp [hf.len ie]

theorem EntryWF0.map {f : SeqE → SeqE} (hf : FlagOnly f) {l : List SeqE} {e : SeqE} (he : EntryWF0 l e) :
    EntryWF0 (l.map f) (f e) := by
  rw [hf e]
  refine ⟨he.lenB, he.base, fun hs => ?_⟩
  rw [show viewBases (l.map f) = viewBases l from funext (viewBases_map hf l)]
  simp only [ItemOk.map_iff hf]
  exact he.sup hs

theorem WFSeqs0.map {f : SeqE → SeqE} (hf : FlagOnly f) {a : Nat} {l : List SeqE} (h : WFSeqs0 a l) :
    WFSeqs0 a (l.map f) := by
  have hn := hf.name
  have hi := hf.items
  refine ⟨?_, ?_, ?_, ?_, ?_⟩
  · rw [List.map_map, show (fun x => x.name) ∘ f = (fun x => x.name) from funext hn]
    exact h.nodup
  · exact List.forall_mem_map.mpr (fun e he => EntryWF0.map hf (h.entries e he))
  · rw [List.pairwise_map]
    refine h.order.imp (fun {e1 e2} hr hs => ?_)
    rw [hi, hn]
    exact hr (hf.isSup e2 ▸ hs)
  · refine List.forall_mem_map.mpr (fun e he => ?_)
    rw [hi, hn]
    exact h.irrefl e he
  · refine List.forall_mem_map.mpr (fun e he => ?_)
    rw [hn]
    exact h.fresh e he

theorem StrandWF.map {f : SeqE → SeqE} (hf : FlagOnly f) {l : List SeqE} {t : StrandE} (ht : StrandWF l t) :
    StrandWF (l.map f) t := by
  refine ⟨fun i hi => (ItemOk.map_iff hf l i).mpr (ht.items i hi), ?_, ht.len⟩
  rw [show viewBases (l.map f) = viewBases l from funext (viewBases_map hf l)]
  exact ht.bases

/-- what `cleanConst` guarantees of an object item -/
def CObjOk (l : List SeqE) (i : ItemRef) (bs : List BaseRef) : Prop :=
  ∃ ie, findE l i.name = some ie ∧ i.len = ie.len ∧ bs = basesOfView ie i.rev

theorem CObjOk.mono {l l' : List SeqE} (h : Ext l l') {i : ItemRef} {bs : List BaseRef} (hi : CObjOk l i bs) :
    CObjOk l' i bs := by
  obtain ⟨ie, h1, h2, h3⟩ := hi
  exact ⟨ie, h _ _ h1, h2, h3⟩

theorem cleanConst_ref {s : St} {n : String} {st : Bool} {r : List SrcItem} {cs : List CItem}
    (h : cleanConst s (.ref n st :: r) = .ok cs) :
    ∃ e rest, findE s.seqs n = some e ∧ cleanConst s r = .ok rest ∧
      cs = .obj ⟨e.name, st, e.len, e.isSup⟩ (basesOfView e st) :: rest := by
  rw [cleanConst] at h
  cases he : s.findSeq n with
  | none => rw [he] at h; cases h
  | some e =>
    rw [he] at h
    obtain ⟨rest, hr, h⟩ := bind_ok h
    cases h
    exact ⟨e, rest, he, hr, rfl⟩

theorem cleanConst_nuc {s : St} {text : List Char} {r : List SrcItem} {cs : List CItem}
    (h : cleanConst s (.nuc text :: r) = .ok cs) :
    ∃ rest, cleanConst s r = .ok rest ∧ cs = .nuc (parseQuoted text) :: rest := by
  rw [cleanConst] at h
  obtain ⟨rest, hr, h⟩ := bind_ok h
  cases h
  exact ⟨rest, hr, rfl⟩

theorem cleanConst_domains {s : St} {n : String} {st : Bool} {r : List SrcItem} {cs : List CItem}
    (h : cleanConst s (.domains n st :: r) = .ok cs) :
    ∃ e objs rest, findE s.seqs n = some e ∧ e.isSup = true ∧
      (itemsOfView e st).mapM (fun (i : ItemRef) => match s.findSeq i.name with
        | some ie => (pure (CItem.obj i (basesOfView ie i.rev)) : Except Err CItem)
        | none => throw Err.other) = .ok objs ∧
      cleanConst s r = .ok rest ∧ cs = objs ++ rest := by
  rw [cleanConst] at h
  cases he : s.findSeq n with
  | none => rw [he] at h; cases h
  | some e =>
    rw [he] at h
    obtain ⟨hs, h⟩ := ite_ok h
    obtain ⟨objs, hobjs, h⟩ := bind_ok h
    obtain ⟨rest, hr, h⟩ := bind_ok h
    cases h
    exact ⟨e, objs, rest, he, by simpa using hs, hobjs, hr, rfl⟩

theorem mem_itemsOfView {e : SeqE} {st : Bool} {i : ItemRef} (h : i ∈ itemsOfView e st) :
    ∃ j ∈ e.items, i.name = j.name ∧ i.len = j.len ∧ i.isSup = j.isSup := by
  cases st with
  | false => exact ⟨i, h, rfl, rfl, rfl⟩
  | true =>
    obtain ⟨j, hj, rfl⟩ := List.mem_map.mp h
    exact ⟨j, List.mem_reverse.mp hj, rfl, rfl, rfl⟩

/-- One induction for what `cleanConst` guarantees of object items: `Q` is any relation between an entry and an item
    that holds of a direct reference, of the items of every super-sequence entry, and only reads name, length and kind
    of the item (so survives taking a view); `cleanConst_ok` takes the length, `LoadInv.cleanConst_kind` the kind. -/
theorem cleanConst_mem {s : St} {items : List SrcItem} {cs : List CItem} (h : cleanConst s items = .ok cs) :
    (∀ Q : SeqE → ItemRef → Prop, (∀ e st, Q e ⟨e.name, st, e.len, e.isSup⟩) →
      (∀ ie i j, i.name = j.name → i.len = j.len → i.isSup = j.isSup → Q ie j → Q ie i) →
      (∀ e ∈ s.seqs, e.isSup = true → ∀ j ∈ e.items, ∃ ie, findE s.seqs j.name = some ie ∧ Q ie j) →
      ∀ i bs, CItem.obj i bs ∈ cs → ∃ ie, findE s.seqs i.name = some ie ∧ Q ie i ∧ bs = basesOfView ie i.rev) ∧
    ∀ p, CItem.nuc p ∈ cs → ∃ text, SrcItem.nuc text ∈ items ∧ p = parseQuoted text := by
  induction items generalizing cs with
  | nil => cases h; simp
  | cons it r ih =>
    have tail : ∀ {rest}, cleanConst s r = .ok rest →
        ∀ p, CItem.nuc p ∈ rest → ∃ text, SrcItem.nuc text ∈ it :: r ∧ p = parseQuoted text := by
      intro rest hr p hm
      obtain ⟨t, ht, hp⟩ := (ih hr).2 p hm
      exact ⟨t, List.mem_cons_of_mem _ ht, hp⟩
    cases it with
    | nuc text =>
      obtain ⟨rest, hr, rfl⟩ := cleanConst_nuc h
      refine ⟨fun Q h1 h2 h3 i bs hm => (ih hr).1 Q h1 h2 h3 i bs (by simpa using hm), fun p hm => ?_⟩
      rcases List.mem_cons.mp hm with hm | hm
      · cases hm; exact ⟨text, by simp, rfl⟩
      · exact tail hr p hm
    | ref n st =>
      obtain ⟨e, rest, he, hr, rfl⟩ := cleanConst_ref h
      refine ⟨fun Q h1 h2 h3 i bs hm => ?_, fun p hm => tail hr p (by simpa using hm)⟩
      rcases List.mem_cons.mp hm with hm | hm
      · cases hm
        exact ⟨e, by simpa [(findE_some he).2] using he, h1 e st, rfl⟩
      · exact (ih hr).1 Q h1 h2 h3 i bs hm
    | domains n st =>
      obtain ⟨e, objs, rest, he, hs, hobjs, hr, rfl⟩ := cleanConst_domains h
      refine ⟨fun Q h1 h2 h3 i bs hm => ?_, fun p hm => ?_⟩
      · rcases List.mem_append.mp hm with hm | hm
        · -- the object is an item of the view, which has the name, length and kind of an item of `e`
          obtain ⟨i0, hi0, hf⟩ := mapM_mem hobjs _ hm
          obtain ⟨j, hj, hjn, hjl, hjs⟩ := mem_itemsOfView hi0
          obtain ⟨ie, hie, hq⟩ := h3 e (findE_some he).1 hs j hj
          rw [findSeq_eq, hjn, hie] at hf
          cases hf
          exact ⟨ie, by rw [hjn]; exact hie, h2 ie _ j hjn hjl hjs hq, rfl⟩
        · exact (ih hr).1 Q h1 h2 h3 i bs hm
      · rcases List.mem_append.mp hm with hm | hm
        · obtain ⟨i0, _, hf⟩ := mapM_mem hobjs _ hm
          split at hf <;> cases hf
        · exact tail hr p hm

theorem cleanConst_ok {s : St} (hent : ∀ e ∈ s.seqs, EntryWF0 s.seqs e) {items : List SrcItem} {cs : List CItem}
    (h : cleanConst s items = .ok cs) : ∀ i bs, CItem.obj i bs ∈ cs → CObjOk s.seqs i bs :=
  (cleanConst_mem h).1 (fun ie i => i.len = ie.len) (fun _ _ => rfl) (fun _ _ _ _ hl _ hq => hl.trans hq)
    (fun e he hs => ((hent e he).sup hs).1)

theorem cleanConst_nucs {s : St} {items : List SrcItem} {cs : List CItem}
    (h : cleanConst s items = .ok cs) : ∀ p, CItem.nuc p ∈ cs → ∃ text, SrcItem.nuc text ∈ items ∧ p = parseQuoted text :=
  (cleanConst_mem h).2

/-- an item of a built object resolves in the table `l'`: an object item as `cleanConst` left it, a quoted region to
    its anonymous sequence -/
def NOk (l' : List SeqE) : CItem × Nat → Prop
  | (.obj i bs, _) => CObjOk l' i bs
  | (.nuc p, j) => findE l' (anonName j) = some (mkAnon j (fixedSum p) (expand 0 p))

theorem NOk.view {l' : List SeqE} {x : CItem × Nat} (h : NOk l' x) :
    ItemOk l' (nRef x) ∧ viewBases l' (nRef x) = nBases x := by
  obtain ⟨c, j⟩ := x
  cases c with
  | obj i bs =>
    obtain ⟨ie, h1, h2, h3⟩ := h
    exact ⟨⟨ie, h1, h2⟩, by simp [nRef, nBases, viewBases, h1, h3]⟩
  | nuc p =>
    have h : findE l' (anonName j) = some (mkAnon j (fixedSum p) (expand 0 p)) := h
    exact ⟨⟨_, h, rfl⟩, by simp [nRef, nBases, viewBases, h, basesOfView, mkAnon]⟩

theorem basesFrom_lens {k : Nat} {cs : List CItem}
    (h : ∀ i bs, CItem.obj i bs ∈ cs → (bs.map (·.len)).sum = i.len) :
    ((basesFrom k cs).map (·.len)).sum = lenSum cs := by
  induction cs generalizing k with
  | nil => simp [basesFrom, lenSum]
  | cons c r ih =>
    cases c with
    | obj i bs =>
      simp only [basesFrom, lenSum, List.map_append, List.sum_append,
        ih (fun j b hj => h j b (List.mem_cons_of_mem _ hj)), h i bs (by simp)]
    | nuc p => simp [basesFrom, lenSum, ih (fun j b hj => h j b (List.mem_cons_of_mem _ hj))]

theorem sgRefs_itemOk {l' : List SeqE} {sg : Segs} (h : ∀ x ∈ sgN sg, NOk l' x) : ∀ i ∈ sgRefs sg, ItemOk l' i := by
  rw [sgRefs_eq]
  exact List.forall_mem_map.mpr fun x hx => (h x hx).view.1

theorem sgRefs_viewBases {l' : List SeqE} {sg : Segs} (h : ∀ x ∈ sgN sg, NOk l' x) :
    (sgRefs sg).flatMap (viewBases l') = sgBases sg := by
  rw [sgRefs_eq, sgBases_eq, List.flatMap_map]
  exact flatMap_congr_mem fun x hx => (h x hx).view.2

theorem sgBases_lens {sg : Segs} (h : ∀ i bs, CItem.obj i bs ∈ sgItems sg → (bs.map (·.len)).sum = i.len) :
    ((sgBases sg).map (·.len)).sum = sgLen sg := by
  induction sg with
  | nil => rfl
  | cons x r ih =>
    simp only [sgBases, sgLen, sgItems, List.flatMap_cons, List.map_append, List.sum_append, List.map_cons,
      List.sum_cons, List.mem_append] at ih h ⊢
    rw [basesFrom_lens (fun i bs hi => h i bs (Or.inl hi)), ih (fun i bs hi => h i bs (Or.inr hi))]

theorem sgRefs_lens (sg : Segs) : ((sgRefs sg).map (·.len)).sum = sgLen sg := by
  induction sg with
  | nil => rfl
  | cons x r ih =>
    simp only [sgRefs, sgLen, List.flatMap_cons, List.map_append, List.sum_append, List.map_cons, List.sum_cons] at ih ⊢
    rw [refsFrom_lenSum, ih]

/-- `cs` the cleaned items, `b` the built object, `sg` its normal form; in `nucs` the wildcard region appears with its
    `?` written out (`explicit x`) -/
structure RegionNF (s : St) (a : Nat) (items : List SrcItem) (len : Option Nat) (cs : List CItem) (b : Built)
    (sg : Segs) : Prop where
  clean : cleanConst s items = .ok cs
  build : buildSuper a cs len = .ok b
  nf : BuildNF a b sg
  sub : ∀ i bs, CItem.obj i bs ∈ sgItems sg → CItem.obj i bs ∈ cs
  objs : ∀ i bs, CItem.obj i bs ∈ sgItems sg → CObjOk s.seqs i bs
  nucs : ∀ p, CItem.nuc p ∈ sgItems sg → ∃ text, SrcItem.nuc text ∈ items ∧
    (p = parseQuoted text ∨ ∃ x, p = explicit x (parseQuoted text))
  shape : SgShape a cs len sg

theorem region_nf {s : St} {a : Nat} (hent : ∀ e ∈ s.seqs, EntryWF0 s.seqs e) {items : List SrcItem}
    {len : Option Nat} {cs : List CItem} {b : Built}
    (hc : cleanConst s items = .ok cs) (hb : buildSuper a cs len = .ok b) : ∃ sg, RegionNF s a items len cs b sg := by
  obtain ⟨sg, nf, hobj, hnuc, hshape⟩ := buildSuper_nf hb
  refine ⟨sg, hc, hb, nf, hobj, fun i bs h => cleanConst_ok hent hc i bs (hobj i bs h), ?_, hshape⟩
  intro p hp
  rcases hnuc p hp with h | ⟨w, x, hw, rfl⟩
  · obtain ⟨t, ht, rfl⟩ := cleanConst_nucs hc p h
    exact ⟨t, ht, Or.inl rfl⟩
  · obtain ⟨t, ht, rfl⟩ := cleanConst_nucs hc w hw
    exact ⟨t, ht, Or.inr ⟨x, rfl⟩⟩

theorem mem_sgAnons {sg : Segs} {e : SeqE} (h : e ∈ sgAnons sg) :
    ∃ p j, CItem.nuc p ∈ sgItems sg ∧ e = mkAnon j (fixedSum p) (expand 0 p) := by
  rw [sgAnons_eq] at h
  obtain ⟨⟨c, j⟩, hx, he⟩ := List.mem_filterMap.mp h
  cases c with
  | obj => cases he
  | nuc p => exact ⟨p, j, sgItems_of_mem hx, (Option.some.inj he).symm⟩

/-- the table after the anonymous sequences of a region were registered (`x` = the entries appended before them:
    nothing, or the new super-sequence; for a strand the fields read `s.seqs ++ [] ++ …`, one `List.append_nil` away
    from the table) -/
structure RegionFinal (s : St) (a : Nat) (b : Built) (sg : Segs) (x : List SeqE) : Prop where
  nodup : ((s.seqs ++ x ++ sgAnons sg).map (·.name)).Nodup
  ok : ∀ y ∈ sgN sg, NOk (s.seqs ++ x ++ sgAnons sg) y
  anons : ∀ e ∈ sgAnons sg, EntryWF0 (s.seqs ++ x ++ sgAnons sg) e ∧ e.isSup = false ∧ e.items = [] ∧
    ∃ j, a ≤ j ∧ j < b.anon ∧ e.name = anonName j
  itemsOk : ∀ i ∈ b.items, ItemOk (s.seqs ++ x ++ sgAnons sg) i
  bases : b.bases = b.items.flatMap (viewBases (s.seqs ++ x ++ sgAnons sg))
  len : b.len = (b.items.map (·.len)).sum
  lenB : b.len = (b.bases.map (·.len)).sum
  reg : ∀ s1 : St, s1.seqs = s.seqs ++ x → registerAnon s1 b = { s1 with seqs := s.seqs ++ x ++ sgAnons sg }
  itemNames : ∀ i ∈ b.items, i.name ∈ s.seqs.map (·.name) ∨ ∃ j, a ≤ j ∧ i.name = anonName j

theorem region_final {s : St} {a : Nat} (hw : WFSeqs0 a s.seqs) {items : List SrcItem} {len : Option Nat}
    {cs : List CItem} {b : Built} {sg : Segs} (R : RegionNF s a items len cs b sg) (x : List SeqE)
    (hx : ∀ e ∈ x, ∀ k, e.name ≠ anonName k) (hnd : ((s.seqs ++ x).map (·.name)).Nodup) :
    RegionFinal s a b sg x := by
  have hnd' : ((s.seqs ++ x ++ sgAnons sg).map (·.name)).Nodup := by
    rw [List.map_append, List.nodup_append]
    refine ⟨hnd, ?_, ?_⟩
    · rw [sgAnons_names]; exact nodup_names_of_nums R.nf.nums
    · intro n1 h1 n2 h2 hn
      obtain ⟨e2, he2, rfl⟩ := List.mem_map.mp h2
      obtain ⟨j, hj, hnj⟩ := sgAnons_name he2
      obtain ⟨e1, he1, rfl⟩ := List.mem_map.mp h1
      rcases List.mem_append.mp he1 with he1 | he1
      · exact hw.fresh e1 he1 j (R.nf.range j hj).1 (hn.trans hnj)
      · exact hx e1 he1 j (hn.trans hnj)
  have hext : Ext s.seqs (s.seqs ++ x ++ sgAnons sg) := by
    rw [List.append_assoc]; exact Ext.append _ _
  have hsegs : ∀ y ∈ sgN sg, NOk (s.seqs ++ x ++ sgAnons sg) y := by
    rintro ⟨c, j⟩ hy
    cases c with
    | obj i bs => exact (R.objs i bs (sgItems_of_mem hy)).mono hext
    | nuc p => exact findE_of_mem hnd' (e := mkAnon j _ _) (List.mem_append_right _ (sgAnons_of_mem hy))
  have hobjlen : ∀ i bs, CItem.obj i bs ∈ sgItems sg → (bs.map (·.len)).sum = i.len := by
    intro i bs hi
    obtain ⟨ie, h1, h2, h3⟩ := R.objs i bs hi
    rw [h3, view_lens (hw.entries ie (findE_some h1).1), h2]
  refine ⟨hnd', hsegs, ?_, ?_, ?_, ?_, ?_, ?_, ?_⟩
  · intro e he
    obtain ⟨j', hj', hn⟩ := sgAnons_name he
    obtain ⟨p, j, hp, rfl⟩ := mem_sgAnons he
    obtain ⟨y, hy, h3⟩ := List.mem_flatMap.mp hp
    have hw0 := wildFree_mem (R.nf.free y hy) h3
    refine ⟨?_, rfl, rfl, j', (R.nf.range j' hj').1, (R.nf.range j' hj').2, hn⟩
    exact {
      lenB := by simp [mkAnon]
      base := fun _ => ⟨rfl, by simp [mkAnon, hw0], rfl⟩
      sup := fun h => by simp [mkAnon] at h }
  · rw [R.nf.items]; exact sgRefs_itemOk hsegs
  · rw [R.nf.items, R.nf.bases, sgRefs_viewBases hsegs]
  · rw [R.nf.items, R.nf.len, sgRefs_lens]
  · rw [R.nf.bases, R.nf.len, sgBases_lens hobjlen]
  · intro s1 hs1
    rw [registerAnon_nf R.nf s1, hs1]
    · intro i bs hi
      obtain ⟨ie, h1, _⟩ := R.objs i bs hi
      rw [hs1, findE_append_of_some h1]; rfl
    · intro j hj
      rw [hs1, findE_eq_none]
      exact List.forall_mem_append.mpr ⟨fun e he => hw.fresh e he j hj, fun e he => hx e he j⟩
  · intro i hi
    rw [R.nf.items, sgRefs_eq] at hi
    obtain ⟨⟨c, j⟩, hx, rfl⟩ := List.mem_map.mp hi
    cases c with
    | obj i bs =>
      obtain ⟨ie, h1, _⟩ := R.objs i bs (sgItems_of_mem hx)
      obtain ⟨hm, hn⟩ := findE_some h1
      exact Or.inl (List.mem_map.mpr ⟨ie, hm, hn⟩)
    | nuc p =>
      obtain ⟨j', hj', hn⟩ := sgAnons_name (sgAnons_of_mem hx)
      exact Or.inr ⟨j', (R.nf.range j' hj').1, hn⟩

end Pepper.Comp
