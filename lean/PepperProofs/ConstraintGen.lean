import PepperModel.ConstraintGen
/-!
# The satisfiability criterion on the specification side (`LinkSpec`)

A relation with a parity that is reflexive, symmetric and transitive (classes with partner classes) has a satisfying
assignment iff no item is its own partner and every class has a common base (`core`).  Parity reachability in the link
graph of a design is such a relation and `Sat` says that it is respected, which gives `satisfiable_iff`, the
specification side of C15; `Seeded.graphSat_iff` (ConstraintGenComp) ties it to the seeded graph.
-/
namespace Pepper.LinkSpec
open Pepper

def flipB (b : Base) (p : Bool) : Base := if p then b.compl else b

theorem flipB_false (b : Base) : flipB b false = b := rfl
theorem flipB_true (b : Base) : flipB b true = b.compl := rfl

theorem Base.compl_compl (b : Base) : b.compl.compl = b := by cases b <;> rfl
theorem Base.compl_ne (b : Base) : b.compl ≠ b := by cases b <;> decide

theorem flipB_flipB (b : Base) (p q : Bool) : flipB (flipB b p) q = flipB b (p ^^ q) := by
  cases p <;> cases q <;> simp [flipB, Base.compl_compl]

theorem flipB_true_ne (b : Base) : flipB b true ≠ b := by simpa [flipB] using Base.compl_ne b

/-- an equivalence relation with a parity: what parity reachability is on any symmetric link graph -/
structure ParityEquiv {α : Type} (R : α → Bool → α → Prop) : Prop where
  refl : ∀ x, R x false x
  symm : ∀ {x y p}, R x p y → R y p x
  trans : ∀ {x y z p q}, R x p y → R y q z → R x (p ^^ q) z

section Core
variable {α : Type} {R : α → Bool → α → Prop} {ok : α → Base → Prop}

/-- an assignment respects the relation (`R x p y` forces `a y = a x` flipped `p` times) and the
    per-item constraint `ok` -/
def ASat (R : α → Bool → α → Prop) (ok : α → Base → Prop) (a : α → Base) : Prop :=
  (∀ x, ok x (a x)) ∧ ∀ x p y, R x p y → a y = flipB (a x) p

theorem choose_congr {P Q : α → Prop} (h : P = Q) (hp : ∃ y, P y) (hq : ∃ y, Q y) :
    Classical.choose hp = Classical.choose hq := by
  subst h; rfl

/-- **Abstract core of C15.**  A satisfying assignment exists iff no item is its own partner and every
    class has a base that suits all of its members (flipped on the partner side). -/
theorem core (E : ParityEquiv R) :
    (∃ a, ASat R ok a) ↔ (∀ x, ¬ R x true x) ∧ ∀ x, ∃ b, ∀ y p, R x p y → ok y (flipB b p) := by
  constructor
  · rintro ⟨a, hok, hR⟩
    refine ⟨fun x hx => ?_, fun x => ⟨a x, fun y p hy => ?_⟩⟩
    · have := hR x true x hx
      exact flipB_true_ne (a x) this.symm
    · rw [← hR x p y hy]; exact hok y
  · rintro ⟨hself, hcom⟩
    -- a representative of every class, the same for all members
    let mem : α → α → Prop := fun x y => ∃ p, R x p y
    have hmem : ∀ x, ∃ y, mem x y := fun x => ⟨x, false, E.refl x⟩
    let rep : α → α := fun x => Classical.choose (hmem x)
    have rep_mem : ∀ x, mem x (rep x) := fun x => Classical.choose_spec (hmem x)
    have mem_eq : ∀ x y, mem x y → mem x = mem y := by
      intro x y ⟨p, hp⟩
      funext z
      apply propext
      constructor
      · rintro ⟨q, hq⟩; exact ⟨_, E.trans (E.symm hp) hq⟩
      · rintro ⟨q, hq⟩; exact ⟨_, E.trans hp hq⟩
    have rep_eq : ∀ x y, mem x y → rep x = rep y := fun x y h => choose_congr (mem_eq x y h) _ _
    -- the base of the class, read at the representative
    let base : α → Base := fun r => Classical.choose (hcom r)
    have base_ok : ∀ r y p, R r p y → ok y (flipB (base r) p) := fun r => Classical.choose_spec (hcom r)
    -- the parity of an item relative to its representative is unique
    have par_unique : ∀ r x p q, R r p x → R r q x → p = q := by
      intro r x p q hp hq
      cases p <;> cases q <;> try rfl
      · exact absurd (by simpa using E.trans hp (E.symm hq)) (hself r)
      · exact absurd (by simpa using E.trans hp (E.symm hq)) (hself r)
    have hpar : ∀ x, ∃ p, R (rep x) p x := fun x => by
      obtain ⟨p, hp⟩ := rep_mem x
      exact ⟨p, E.symm hp⟩
    let par : α → Bool := fun x => Classical.choose (hpar x)
    have par_spec : ∀ x, R (rep x) (par x) x := fun x => Classical.choose_spec (hpar x)
    refine ⟨fun x => flipB (base (rep x)) (par x), fun x => base_ok _ _ _ (par_spec x), ?_⟩
    intro x p y hxy
    have hr : rep x = rep y := rep_eq x y ⟨p, hxy⟩
    have h1 : R (rep y) (par x ^^ p) y := by
      have := E.trans (par_spec x) hxy
      rwa [hr] at this
    have h2 := par_unique _ _ _ _ h1 (par_spec y)
    show flipB (base (rep y)) (par y) = flipB (flipB (base (rep x)) (par x)) p
    rw [flipB_flipB, hr, h2]

end Core

theorem bne_eq_xor' (p q : Bool) : (p != q) = (p ^^ q) := rfl

theorem xor_bne (p q o : Bool) : ((p ^^ q) != o) = (p ^^ (q != o)) := Bool.xor_assoc p q o

theorem ParityReach.trans {d : Design} {u v w : Var} {p q : Bool}
    (h1 : ParityReach d u p v) (h2 : ParityReach d v q w) : ParityReach d u (p ^^ q) w := by
  induction h2 with
  | refl => simpa using h1
  | fwd e _ he ha ih => exact xor_bne p _ e.odd ▸ ParityReach.fwd e ih he ha
  | bwd e _ he hb ih => exact xor_bne p _ e.odd ▸ ParityReach.bwd e ih he hb

theorem ParityReach.symm {d : Design} {u v : Var} {p : Bool}
    (h : ParityReach d u p v) : ParityReach d v p u := by
  -- the last link taken backwards, then the rest of the path
  have e2 : ∀ q o : Bool, ((false != o) ^^ q) = (q != o) := by intro q o; cases q <;> cases o <;> rfl
  induction h with
  | refl => exact ParityReach.refl
  | @fwd _ q e _ he ha ih =>
    exact e2 q e.odd ▸ (ParityReach.bwd e ParityReach.refl he rfl).trans (ha ▸ ih)
  | @bwd _ q e _ he hb ih =>
    exact e2 q e.odd ▸ (ParityReach.fwd e ParityReach.refl he rfl).trans (hb ▸ ih)

theorem parityEquiv (d : Design) : ParityEquiv (ParityReach d) :=
  ⟨fun _ => ParityReach.refl, ParityReach.symm, ParityReach.trans⟩

theorem val_eq (a : Var → Base) (n : Nuc) : val a n = flipB (a n.var) n.comp := by
  unfold val flipB; rfl

theorem NucReach.refl (d : Design) (m : Nuc) : NucReach d m false m := by
  unfold NucReach
  have : ((false != m.comp) != m.comp) = false := by cases m.comp <;> rfl
  rw [this]; exact ParityReach.refl

theorem NucReach.trans {d : Design} {m n l : Nuc} {p q : Bool} (h1 : NucReach d m p n) (h2 : NucReach d n q l) :
    NucReach d m (p ^^ q) l := by
  unfold NucReach at *
  have := ParityReach.trans h1 h2
  have e : (((p != m.comp) != n.comp) ^^ ((q != n.comp) != l.comp)) = (((p ^^ q) != m.comp) != l.comp) := by
    cases p <;> cases q <;> cases m.comp <;> cases n.comp <;> cases l.comp <;> rfl
  rwa [e] at this

theorem NucReach.symm {d : Design} {m n : Nuc} {p : Bool} (h : NucReach d m p n) : NucReach d n p m := by
  unfold NucReach at *
  have := ParityReach.symm h
  have e : ((p != m.comp) != n.comp) = ((p != n.comp) != m.comp) := by
    cases p <;> cases m.comp <;> cases n.comp <;> rfl
  rwa [e] at this

theorem nucReach_flip (d : Design) (n : Nuc) : NucReach d n.flip true n := by
  unfold NucReach Nuc.flip
  have : ((true != !n.comp) != n.comp) = false := by cases n.comp <;> rfl
  simp only [this]; exact ParityReach.refl

theorem nucReach_of_equalLink {d : Design} {m n : Nuc}
    (h : (⟨m.var, n.var, m.comp != n.comp⟩ : Link) ∈ links d) : NucReach d m false n := by
  unfold NucReach
  have := ParityReach.fwd (v := m.var) _ ParityReach.refl h rfl
  have e : (false != (m.comp != n.comp)) = ((false != m.comp) != n.comp) := by
    cases m.comp <;> cases n.comp <;> rfl
  simpa [e] using this

theorem nucReach_of_pairLink {d : Design} {m n : Nuc}
    (h : (⟨m.var, n.var, m.comp == n.comp⟩ : Link) ∈ links d) : NucReach d m true n := by
  unfold NucReach
  have := ParityReach.fwd (v := m.var) _ ParityReach.refl h rfl
  have e : (false != (m.comp == n.comp)) = ((true != m.comp) != n.comp) := by
    cases m.comp <;> cases n.comp <;> rfl
  simp only at this
  rw [e] at this
  exact this

/-- every link is respected: the link-level reading of `Sat.equal` / `Sat.pair` -/
def LinkSat (d : Design) (a : Var → Base) : Prop := ∀ e ∈ links d, a e.b = flipB (a e.a) e.odd

theorem flipB_cancel (b : Base) (c : Bool) : flipB (flipB b c) c = b := by
  rw [flipB_flipB, Bool.xor_self]; rfl

theorem flipB_eq_iff (x z : Base) (c : Bool) : flipB x c = z ↔ x = flipB z c := by
  constructor
  · rintro rfl; exact (flipB_cancel x c).symm
  · rintro rfl; exact flipB_cancel z c

theorem flipB_eq_flipB_iff (x y : Base) (c e : Bool) : flipB x c = flipB y e ↔ y = flipB x (c != e) := by
  rw [eq_comm, flipB_eq_iff, flipB_flipB, bne_eq_xor']

theorem flipB_eq_compl_iff (x y : Base) (c e : Bool) : flipB x c = (flipB y e).compl ↔ y = flipB x (c == e) := by
  have : (c != (e ^^ true)) = (c == e) := by cases c <;> cases e <;> rfl
  rw [← this, ← flipB_eq_flipB_iff, ← flipB_flipB]
  rfl

theorem mem_zip_iff_getElem? {β γ : Type} {r : List β} {s : List γ} {m : β} {n : γ} :
    (m, n) ∈ r.zip s ↔ ∃ k : Nat, r[k]? = some m ∧ s[k]? = some n :=
  List.mem_iff_getElem?.trans (exists_congr fun _ => List.getElem?_zip_eq_some)

theorem mem_equalLinks {d : Design} {l : Link} : l ∈ equalLinks d ↔
    ∃ e ∈ d.equals, ∃ r ∈ e, ∃ s ∈ e, ∃ (k : Nat) (m n : Nuc), r[k]? = some m ∧ s[k]? = some n ∧
      l = ⟨m.var, n.var, m.comp != n.comp⟩ := by
  simp only [equalLinks, regionLinks, List.mem_flatMap, List.mem_map]
  constructor
  · rintro ⟨e, he, r, hr, s, hs, ⟨m, n⟩, hz, rfl⟩
    obtain ⟨k, hm, hn⟩ := mem_zip_iff_getElem?.1 hz
    exact ⟨e, he, r, hr, s, hs, k, m, n, hm, hn, rfl⟩
  · rintro ⟨e, he, r, hr, s, hs, k, m, n, hm, hn, rfl⟩
    exact ⟨e, he, r, hr, s, hs, (m, n), mem_zip_iff_getElem?.2 ⟨k, hm, hn⟩, rfl⟩

theorem mem_pairLinks {d : Design} {l : Link} : l ∈ pairLinks d ↔
    ∃ s ∈ d.structs, ∃ ij ∈ pairs s.struct, ∃ (m n : Nuc), (structNucs d s)[ij.1]? = some m ∧
      (structNucs d s)[ij.2]? = some n ∧ l = ⟨m.var, n.var, m.comp == n.comp⟩ := by
  simp only [pairLinks, List.mem_flatMap, List.mem_filterMap]
  constructor
  · rintro ⟨s, hs, ij, hij, hl⟩
    split at hl
    · rename_i m n hm hn
      exact ⟨s, hs, ij, hij, m, n, hm, hn, (Option.some.inj hl).symm⟩
    · cases hl
  · rintro ⟨s, hs, ij, hij, m, n, hm, hn, rfl⟩
    exact ⟨s, hs, ij, hij, by simp [hm, hn]⟩

theorem linkSat_iff (d : Design) (a : Var → Base) :
    LinkSat d a ↔
      (∀ e ∈ d.equals, ∀ r ∈ e, ∀ s ∈ e, ∀ (k : Nat) (m n : Nuc), r[k]? = some m → s[k]? = some n → val a m = val a n) ∧
      (∀ s ∈ d.structs, ∀ ij ∈ pairs s.struct, ∀ (m n : Nuc),
        (structNucs d s)[ij.1]? = some m → (structNucs d s)[ij.2]? = some n → val a m = (val a n).compl) := by
  simp only [LinkSat, links, List.forall_mem_append, val_eq, flipB_eq_flipB_iff, flipB_eq_compl_iff]
  refine and_congr ⟨fun h e he r hr s hs k m n hm hn => h _ (mem_equalLinks.2 ⟨e, he, r, hr, s, hs, k, m, n, hm, hn, rfl⟩),
      fun h l hl => ?_⟩ ⟨fun h s hs ij hij m n hm hn => h _ (mem_pairLinks.2 ⟨s, hs, ij, hij, m, n, hm, hn, rfl⟩),
      fun h l hl => ?_⟩
  · obtain ⟨e, he, r, hr, s, hs, k, m, n, hm, hn, rfl⟩ := mem_equalLinks.1 hl
    exact h e he r hr s hs k m n hm hn
  · obtain ⟨s, hs, ij, hij, m, n, hm, hn, rfl⟩ := mem_pairLinks.1 hl
    exact h s hs ij hij m n hm hn

theorem linkSat_iff_reach {d : Design} {a : Var → Base} :
    LinkSat d a ↔ ∀ v p w, ParityReach d v p w → a w = flipB (a v) p := by
  constructor
  · intro h v p w hr
    induction hr with
    | refl => rfl
    | fwd e _ he ha ih => rw [h e he, ha, ih, flipB_flipB, bne_eq_xor']
    | bwd e _ he hb ih => rw [(flipB_eq_iff _ _ _).1 (h e he).symm, hb, ih, flipB_flipB, bne_eq_xor']
  · intro h e he
    simpa using h e.a (false != e.odd) e.b (ParityReach.fwd e ParityReach.refl he rfl)

/-- the per-position constraint: the base is allowed by the template of the position (no constraint on a
    position that is not declared) -/
def okVar (tbl : CodeTable) (d : Design) (v : Var) (b : Base) : Prop :=
  ∀ p ∈ d.domains, p.1 = v.dom → ∀ c, p.2[v.idx]? = some c → allows tbl c b

theorem sat_iff_asat (tbl : CodeTable) (d : Design) (a : Var → Base) :
    Sat tbl d a ↔ ASat (ParityReach d) (okVar tbl d) a := by
  constructor
  · intro h
    refine ⟨fun v p hp hn c hc => ?_, fun v p w hr => ?_⟩
    · have := h.tmpl p hp v.idx c hc
      rw [hn] at this
      exact this
    · exact linkSat_iff_reach.1 ((linkSat_iff d a).2 ⟨h.equal, h.pair⟩) v p w hr
  · rintro ⟨h1, h2⟩
    have hl := (linkSat_iff d a).1 (linkSat_iff_reach.2 h2)
    exact ⟨fun p hp k c hc => h1 ⟨p.1, k⟩ p hp rfl c hc, hl.1, hl.2⟩

/-- **C15 on the specification side.**  A design is satisfiable iff no position is linked to itself with odd
    parity and, for every position, some base suits every template linked to it (complemented at odd parity). -/
theorem satisfiable_iff (tbl : CodeTable) (d : Design) :
    Satisfiable tbl d ↔
      (∀ v, ¬ ParityReach d v true v) ∧
      ∀ v, ∃ b, ∀ w p, ParityReach d v p w → okVar tbl d w (flipB b p) := by
  rw [← core (parityEquiv d)]
  constructor
  · rintro ⟨a, ha⟩; exact ⟨a, (sat_iff_asat tbl d a).1 ha⟩
  · rintro ⟨a, ha⟩; exact ⟨a, (sat_iff_asat tbl d a).2 ha⟩

end Pepper.LinkSpec
