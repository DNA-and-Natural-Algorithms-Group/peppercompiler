import PepperProofs.ConstraintGenSimT
/-!
# Completeness of the seeding, and the arrays read in the design

Every node of the seeded graph is connected to the *canonical node* of the domain position it stands for (the
forward view of the base sequence), with the parity of its `comp` flag; every link of the semantic link graph is
realised between canonical nodes.  Hence `NucReach` between the nucleotides of two nodes implies parity
reachability between the nodes (`graph_complete`, `Seeded.reach_iff_nucReach`).  Then: a seeded graph that is not
over-constrained gives a satisfying assignment, hence `Seeded.graphSat_iff : GraphSat tbl c ↔ Satisfiable …`, and the arrays are exactly what the design forces
(`SemMin`, `Seeded.arrays_exact`, `eq_iff_forced_equal`: the exactness statement of C04).
-/
namespace Pepper.ConstraintGen
open Pepper Pepper.Pil Pepper.Closure Pepper.LinkSpec

variable {tbl : CodeTable} {mode : Layout} {spec : Spec} {s : Seeds} {c : Cons}

theorem viewEdges_has (e : Enc) {j : Nat} {o : SeqObj} (hjo : (j, o) ∈ enum (allSeqs spec)) {x : Nat} (hx : x < o.len) :
    (e.sq (2 * j + 1) x, e.sq (2 * j) (o.len - x - 1)) ∈ viewEdges spec e := by
  rw [viewEdges_eq]
  exact List.mem_flatMap.2 ⟨(j, o), hjo, List.mem_map.2 ⟨x, List.mem_range.2 hx, rfl⟩⟩

theorem Seeded.links (S : Seeded tbl mode spec s c) :
    Laid (layOf mode spec) spec ∧ s = seedsOf mode spec ∧
    (∀ x y, (x, y) ∈ s.eqE → GR c x false y) ∧ ∀ x y, (x, y) ∈ s.wcE → GR c x true y := by
  obtain ⟨L, hseq⟩ := (seeds_iff S.wf).1 S.hs
  exact ⟨L, hseq, fun x y h => Reach.eqStep Reach.refl ((S.built.nbEq x y).2 (Or.inl h)),
    fun x y h => Reach.wcStep (p := false) Reach.refl ((S.built.nbWc x y).2 (Or.inl h))⟩

/-- `cn` is the canonical node (forward view of the base sequence) of the domain position of `n` -/
def Canon (spec : Spec) (e : Enc) (n : Nuc) (cn : Nat) : Prop :=
  ∃ k ob, (k, ob) ∈ enum spec.baseSeqs ∧ ob.name = n.var.dom ∧ n.var.idx < ob.len ∧ cn = e.sq (2 * k) n.var.idx

/-- **Connection, sequence nodes**: the node `(num, x)` of any view of any defined object is connected to the
    canonical node of its nucleotide, with the parity of the nucleotide's `comp` flag.  By induction on the
    order of definition (items of a super-sequence are defined earlier). -/
theorem conn_seq (S : Seeded tbl mode spec s c) :
    ∀ (i : Nat) (o : SeqObj), spec.seqs[i]? = some o → ∀ (num x : Nat) (n : Nuc), objOfNum spec num = some o →
      (viewNucs o (revOfNum num))[x]? = some n →
      ∃ cn, Canon spec (encOf spec (layOf mode spec)) n cn ∧
        GR c ((encOf spec (layOf mode spec)).sq num x) n.comp cn := by
  have wf := S.wf
  obtain ⟨_, rfl, eqStep, wcStep⟩ := S.links
  intro i
  induction i using Nat.strongRecOn with
  | _ i ih =>
    intro o hio
    have ho : o ∈ spec.seqs := List.mem_of_getElem? hio
    have hlenv := wf.seqLen o ho
    have fwdCase : ∀ j, (j, o) ∈ enum (allSeqs spec) → ∀ (x : Nat) (n : Nuc), (viewNucs o false)[x]? = some n →
        ∃ cn, Canon spec (encOf spec (layOf mode spec)) n cn ∧
          GR c ((encOf spec (layOf mode spec)).sq (2 * j) x) n.comp cn := by
      intro j hj x n hn
      have hxl : x < o.len := by rw [← hlenv]; exact getElem?_lt hn
      rcases mem_enum_allSeqs.1 hj with hk | ⟨k, hk, rfl⟩
      · -- a base sequence: the node is canonical itself
        rw [(wf.base o ho (mem_baseSeqs (mem_enum hk).1).2).2, fwd_getElem? _ _ _ hxl] at hn
        cases hn
        exact ⟨_, ⟨j, o, hk, rfl, hxl, rfl⟩, Reach.refl⟩
      · -- a super-sequence: go down to the item that covers `x`
        have hsup := (mem_supSeqs (mem_enum hk).1).2
        have okI := wf.sup o ho hsup
        have hsum : (o.items.map (lenOf spec)).sum = o.len := by
          rw [sum_lenOf_items wf okI, ← viewNucs_false, hlenv]
        obtain ⟨off, it, x', hoff, hx', rfl⟩ := withOffsets_cover (lenOf spec) o.items (y := x)
          (by rw [hsum]; exact hxl)
        obtain ⟨numIt, hnumIt⟩ := numOf_isSome (okI.resolve it (withOffsets_mem hoff))
        have hedge := mem_eqE_seedsOf (mode := mode).2 (Or.inr (Or.inr (Or.inl (List.mem_flatMap.2 ⟨_, hk,
          List.mem_flatMap.2 ⟨_, hoff, List.mem_map.2 ⟨x', List.mem_range.2 hx', rfl⟩⟩⟩))))
        simp only [hnumIt, Option.getD_some, ← Nat.mul_add] at hedge
        obtain ⟨hidx, _⟩ := items_index wf okI hoff hx'
        rw [← viewNucs_false, hn] at hidx
        obtain ⟨o', ho', hrev, hf⟩ := numOf_spec wf hnumIt
        obtain ⟨j', o'', hji, hjo, hf'⟩ := wf.supEarlier i o hio hsup it (withOffsets_mem hoff)
        have hoo : o'' = o' := Option.some.inj (hf'.symm.trans hf)
        subst hoo
        have hnit : (viewNucs o'' (revOfNum numIt))[x']? = some n := by
          rw [hrev, hidx, nucsOfItem_of_find hf]
        obtain ⟨cn, hcan, hreach⟩ := ih j' hji o'' hjo numIt x' n ho' hnit
        exact ⟨cn, hcan, by simpa using (eqStep _ _ hedge).trans hreach⟩
    intro num x n hnum hn
    have hjo := objOfNum_enum hnum
    obtain ⟨_, _, r0, r1⟩ := objOfNum_views hjo
    rcases (by omega : num = 2 * (num / 2) ∨ num = 2 * (num / 2) + 1) with e | e
    · rw [e] at hn ⊢
      rw [r0] at hn
      exact fwdCase _ hjo x n hn
    · rw [e] at hn ⊢
      rw [r1, viewNucs_true] at hn
      have hxl : x < (viewNucs o false).length := by
        have := getElem?_lt hn; rwa [rc_length] at this
      rw [rc_getElem? _ _ hxl] at hn
      cases hf : (viewNucs o false)[(viewNucs o false).length - 1 - x]? with
      | none => simp [hf] at hn
      | some nf =>
        simp only [hf, Option.map_some, Option.some.injEq] at hn
        subst hn
        obtain ⟨cn, hcan, hreach⟩ := fwdCase _ hjo _ nf hf
        have hedge := viewEdges_has (encOf spec (layOf mode spec)) hjo (x := x) (by rw [← hlenv]; exact hxl)
        have e2 : o.len - x - 1 = (viewNucs o false).length - 1 - x := by rw [hlenv]; omega
        rw [e2] at hedge
        refine ⟨cn, hcan, ?_⟩
        have := (wcStep _ _ (List.mem_append_right _ hedge)).trans hreach
        have e3 : (true ^^ nf.comp) = nf.flip.comp := by simp [Nuc.flip]
        rw [e3] at this
        exact this

theorem conn_item (S : Seeded tbl mode spec s c) {it : ItemRef} {num : Nat} (hnum : numOf spec it = some num)
    {x : Nat} {n : Nuc} (hn : (nucsOfItem spec it)[x]? = some n) :
    ∃ cn, Canon spec (encOf spec (layOf mode spec)) n cn ∧
      GR c ((encOf spec (layOf mode spec)).sq num x) n.comp cn := by
  obtain ⟨o, ho, hrev, hf⟩ := numOf_spec S.wf hnum
  obtain ⟨j, hj⟩ := List.mem_iff_getElem?.1 (findSeq_mem hf).1
  have hv := nucsOfItem_of_find hf
  exact conn_seq S j o hj num x n ho (by rw [hrev, ← hv]; exact hn)

theorem conn_strandPos (S : Seeded tbl mode spec s c) {k : Nat} {o : StrandObj} (hko : (k, o) ∈ enum spec.strands)
    {y : Nat} (hy : y < o.len) {n : Nuc} (hn : (nucsOfBases o.bases)[y]? = some n) :
    ∃ a cn, getIndexStrand (layOf mode spec) k o.len y = .ok a ∧ Canon spec (encOf spec (layOf mode spec)) n cn ∧
      GR c a n.comp cn := by
  have wf := S.wf
  obtain ⟨L, rfl, eqStep, _⟩ := S.links
  have hmem : o ∈ spec.strands := (mem_enum hko).1
  have okI := wf.strand o hmem
  have hsum : (o.items.map (lenOf spec)).sum = o.len := by
    rw [sum_lenOf_items wf okI, wf.strandLen o hmem]
  obtain ⟨off, it, x, hoff, hx', rfl⟩ := withOffsets_cover (lenOf spec) o.items (y := y) (by rw [hsum]; exact hy)
  obtain ⟨num, hnum⟩ := numOf_isSome (okI.resolve it (withOffsets_mem hoff))
  have ha := getIndexStrand_iff.2 ⟨hy, L _ hko (by simp only; omega), rfl⟩
  have hedge := mem_eqE_seedsOf (mode := mode).2 (Or.inr (Or.inr (Or.inr (List.mem_flatMap.2 ⟨_, hko,
    List.mem_flatMap.2 ⟨_, hoff, List.mem_map.2 ⟨x, List.mem_range.2 hx', rfl⟩⟩⟩))))
  simp only [hnum, Option.getD_some] at hedge
  obtain ⟨hidx, _⟩ := items_index wf okI hoff hx'
  rw [hn] at hidx
  obtain ⟨cn, hcan, hreach⟩ := conn_item S hnum hidx.symm
  refine ⟨_, cn, ha, hcan, ?_⟩
  have := (eqStep _ _ hedge).trans hreach
  simpa using this

theorem conn_pos (S : Seeded tbl mode spec s c) {p : Nat} {m : Nuc} (hpm : (p, m) ∈ posTabOf mode spec) :
    ∃ cn, Canon spec (encOf spec (layOf mode spec)) m cn ∧ GR c p m.comp cn := by
  have wf := S.wf
  cases mode with
  | strand =>
    obtain ⟨⟨k, o⟩, hko, y, hyl, rfl, rfl⟩ := mem_posTabStrand.1 hpm
    obtain ⟨n, hn⟩ := getElem?_some_of_lt (l := nucsOfBases o.bases) (i := y)
      (by rw [wf.strandLen o (mem_enum hko).1]; exact hyl)
    have hgd : (nucsOfBases o.bases).getD y dfltNuc = n := by simp [List.getD_eq_getElem?_getD, hn]
    rw [hgd]
    obtain ⟨a, cn, ha, hcan, hreach⟩ := conn_strandPos S hko hyl hn
    rw [layOf_strand, getIndexStrand_strand spec (mem_enum_lt hko) hyl] at ha
    cases ha
    exact ⟨cn, hcan, hreach⟩
  | struct =>
    obtain ⟨_, rfl, eqStep, _⟩ := S.links
    obtain ⟨⟨j, so⟩, hjso, y, hyl, rfl, rfl⟩ := mem_posTabStruct.1 hpm
    have hso : so ∈ spec.structs := (mem_enum hjso).1
    obtain ⟨off', ⟨k, o⟩, x, hoff', hy', rfl⟩ := withOffsets_cover (fun (q : Nat × StrandObj) => q.2.len)
      (structStrands spec so) (y := y) (by rw [← wf.structLen so hso]; exact hyl)
    simp only at hy'
    have hko : (k, o) ∈ enum spec.strands := structStrands_mem wf (withOffsets_mem hoff')
    have hedge := mem_eqE_seedsOf (mode := .struct).2 (Or.inl (List.mem_flatMap.2 ⟨_, hjso,
      List.mem_flatMap.2 ⟨_, hoff', List.mem_map.2 ⟨x, List.mem_range.2 hy', rfl⟩⟩⟩))
    obtain ⟨hidx, _⟩ := structNucsM_index wf hso hoff' hy'
    obtain ⟨n, hn⟩ := getElem?_some_of_lt (l := nucsOfBases o.bases) (i := x)
      (by rw [wf.strandLen o (mem_enum hko).1]; exact hy')
    have hgd : (structNucsM spec so).getD (off' + x) dfltNuc = n := by
      simp [List.getD_eq_getElem?_getD, hidx, hn]
    rw [hgd]
    obtain ⟨a, cn, ha, hcan, hreach⟩ := conn_strandPos S hko hy' hn
    cases (getIndexStrand_iff.1 ha).2.2
    have := (S.pre.reach_symm (eqStep _ _ hedge)).trans hreach
    rw [Bool.false_xor] at this
    exact ⟨cn, hcan, this⟩

def CanonV (spec : Spec) (e : Enc) (v : Var) (cn : Nat) : Prop :=
  ∃ k ob, (k, ob) ∈ enum spec.baseSeqs ∧ ob.name = v.dom ∧ v.idx < ob.len ∧ cn = e.sq (2 * k) v.idx

theorem canon_iff (e : Enc) (n : Nuc) (cn : Nat) : Canon spec e n cn ↔ CanonV spec e n.var cn := Iff.rfl

theorem baseSeqs_index_unique (wf : SpecWF spec) {k k' : Nat} {ob ob' : SeqObj} (h : (k, ob) ∈ enum spec.baseSeqs)
    (h' : (k', ob') ∈ enum spec.baseSeqs) (hn : ob.name = ob'.name) : k = k' := by
  have e1 := enum_getElem? h
  have e2 := enum_getElem? h'
  simp only at e1 e2
  have hob : ob = ob' := nodup_map_inj wf.seqNames (mem_baseSeqs (List.mem_of_getElem? e1)).1
    (mem_baseSeqs (List.mem_of_getElem? e2)).1 hn
  subst hob
  have hnd : spec.baseSeqs.Nodup := by
    unfold Spec.baseSeqs
    exact List.Nodup.sublist List.filter_sublist (nodup_of_map _ wf.seqNames)
  exact nodup_index_unique hnd e1 e2

theorem canonV_unique (wf : SpecWF spec) (e : Enc) {v : Var} {c1 c2 : Nat} (h1 : CanonV spec e v c1)
    (h2 : CanonV spec e v c2) : c1 = c2 := by
  obtain ⟨k, ob, hk, hn, _, rfl⟩ := h1
  obtain ⟨k', ob', hk', hn', _, rfl⟩ := h2
  cases baseSeqs_index_unique wf hk hk' (hn.trans hn'.symm)
  rfl

theorem equal_node (S : Seeded tbl mode spec s c) {first : ItemRef} {rest : List ItemRef}
    (hits : first :: rest ∈ spec.equals) {i : ItemRef} (hi : i ∈ first :: rest) {k : Nat} (hk : k < lenOf spec i) :
    ∃ numF numI, numOf spec first = some numF ∧ numOf spec i = some numI ∧
      GR c ((encOf spec (layOf mode spec)).sq numF k) false ((encOf spec (layOf mode spec)).sq numI k) := by
  obtain ⟨_, rfl, eqStep, _⟩ := S.links
  rcases List.mem_cons.1 hi with rfl | hir
  · obtain ⟨num, hnum⟩ := numOf_isSome (S.wf.equal _ hits i List.mem_cons_self)
    exact ⟨num, num, hnum, hnum, Reach.refl⟩
  · obtain ⟨na, hna⟩ := numOf_isSome (S.wf.equal _ hits first List.mem_cons_self)
    obtain ⟨nb, hnb⟩ := numOf_isSome (S.wf.equal _ hits i hi)
    have hedge := mem_eqE_seedsOf (mode := mode).2 (Or.inr (Or.inl (List.mem_flatMap.2 ⟨_, hits,
      List.mem_flatMap.2 ⟨i, hir, List.mem_map.2 ⟨k, List.mem_range.2 hk, rfl⟩⟩⟩)))
    simp only [hna, hnb, Option.getD_some] at hedge
    exact ⟨na, nb, hna, hnb, eqStep _ _ hedge⟩

theorem link_realised (S : Seeded tbl mode spec s c) {e : Link} (he : e ∈ links (Pil.denote spec)) :
    ∃ ca cb, CanonV spec (encOf spec (layOf mode spec)) e.a ca ∧ CanonV spec (encOf spec (layOf mode spec)) e.b cb ∧
      GR c ca e.odd cb := by
  have wf := S.wf
  rcases List.mem_append.1 he with he | he
  · -- a link of an `equal` line
    obtain ⟨its, hits, i1, hi1, i2, hi2, k, m, n, hm, hn, rfl⟩ := (equalLink_iff wf).1 he
    have hk1 : k < lenOf spec i1 := by rw [← nucsOfItem_length wf]; exact getElem?_lt hm
    have hk2 : k < lenOf spec i2 := by rw [← nucsOfItem_length wf]; exact getElem?_lt hn
    cases its with
    | nil => cases hi1
    | cons first rest =>
      obtain ⟨numF, num1, hF, h1, g1⟩ := equal_node S hits hi1 hk1
      obtain ⟨numF', num2, hF', h2, g2⟩ := equal_node S hits hi2 hk2
      rw [hF] at hF'; cases hF'
      obtain ⟨c1, hc1, gr1⟩ := conn_item S h1 hm
      obtain ⟨c2, hc2, gr2⟩ := conn_item S h2 hn
      refine ⟨c1, c2, hc1, hc2, ?_⟩
      have := ((S.pre.reach_symm gr1).trans ((S.pre.reach_symm g1).trans g2)).trans gr2
      simp only at this ⊢
      have e : ((m.comp ^^ (false ^^ false)) ^^ n.comp) = (m.comp != n.comp) := by
        cases m.comp <;> cases n.comp <;> rfl
      rw [e] at this
      exact this
  · -- a base pair
    obtain ⟨_, rfl, _, wcStep⟩ := S.links
    obtain ⟨so, hso, ⟨x, y⟩, hxy, m, n, hm, hn, rfl⟩ := (pairLink_iff wf).1 he
    obtain ⟨j, hjso⟩ : ∃ j, (j, so) ∈ enum spec.structs := mem_zip_range hso
    obtain ⟨hx, hy⟩ := wf.bondsLt so hso _ hxy
    obtain ⟨m', hm', rm⟩ := tPos_row (mode := mode) wf hjso hx
    obtain ⟨n', hn', rn⟩ := tPos_row (mode := mode) wf hjso hy
    cases Option.some.inj (hm'.symm.trans hm)
    cases Option.some.inj (hn'.symm.trans hn)
    have hedge : (_, _) ∈ (seedsOf mode spec).wcE :=
      List.mem_append_left _ (List.mem_flatMap.2 ⟨_, hjso, List.mem_map.2 ⟨_, hxy, rfl⟩⟩)
    obtain ⟨c1, hc1, gr1⟩ := conn_pos S rm
    obtain ⟨c2, hc2, gr2⟩ := conn_pos S rn
    refine ⟨c1, c2, hc1, hc2, ?_⟩
    have := ((S.pre.reach_symm gr1).trans (wcStep _ _ hedge)).trans gr2
    simp only at this ⊢
    have e : ((m.comp ^^ true) ^^ n.comp) = (m.comp == n.comp) := by
      cases m.comp <;> cases n.comp <;> rfl
    rw [e] at this
    exact this

theorem parityReach_graph (S : Seeded tbl mode spec s c) {v w : Var} {p : Bool}
    (h : ParityReach (Pil.denote spec) v p w) {cv : Nat} (hv : CanonV spec (encOf spec (layOf mode spec)) v cv) :
    ∃ cw, CanonV spec (encOf spec (layOf mode spec)) w cw ∧ GR c cv p cw := by
  induction h with
  | refl => exact ⟨cv, hv, Reach.refl⟩
  | @fwd w' q e _ he ha ih =>
    obtain ⟨cw, hcw, hr⟩ := ih
    obtain ⟨ca, cb, hca, hcb, hl⟩ := link_realised S he
    rw [ha] at hca
    have := canonV_unique S.wf _ hca hcw
    subst this
    exact ⟨cb, hcb, by rw [bne_eq_xor']; exact hr.trans hl⟩
  | @bwd w' q e _ he hb ih =>
    obtain ⟨cw, hcw, hr⟩ := ih
    obtain ⟨ca, cb, hca, hcb, hl⟩ := link_realised S he
    rw [hb] at hcb
    have := canonV_unique S.wf _ hcb hcw
    subst this
    exact ⟨ca, hca, by rw [bne_eq_xor']; exact hr.trans (S.pre.reach_symm hl)⟩

theorem conn_key (S : Seeded tbl mode spec s c) {y : Nat} (hy : y ∈ c.keys) {n : Nuc}
    (hn : denOf mode spec y = some n) :
    ∃ cn, Canon spec (encOf spec (layOf mode spec)) n cn ∧ GR c y n.comp cn := by
  have wf := S.wf
  have SS := S.sound
  rw [SS.keys] at hy
  unfold denOf at hn
  rcases List.mem_append.1 hy with hy | hy
  · obtain ⟨⟨p, m⟩, hpm, rfl⟩ := List.mem_map.1 hy
    rw [den_pos SS.D hpm] at hn
    cases hn
    exact conn_pos S hpm
  · obtain ⟨p, hp, rfl⟩ := List.mem_map.1 hy
    obtain ⟨num, o, x, hpx, ho, hmem, hx, _⟩ := seqInits_mem wf _ hp
    rw [hpx, den_sq wf SS.D ho hx] at hn
    obtain ⟨j, hj⟩ := List.mem_iff_getElem?.1 hmem
    rw [hpx]
    exact conn_seq S j o hj num x n ho hn

/-- **Completeness of the seeding**: nucleotides the design forces equal / complementary sit on nodes that are
    connected with that parity in the seeded graph -/
theorem graph_complete (S : Seeded tbl mode spec s c) {x y : Nat} (hx : x ∈ c.keys) (hy : y ∈ c.keys)
    {m n : Nuc} (hm : denOf mode spec x = some m) (hn : denOf mode spec y = some n) {p : Bool}
    (h : NucReach (Pil.denote spec) m p n) : GR c x p y := by
  obtain ⟨cm, hcm, grm⟩ := conn_key S hx hm
  obtain ⟨cn, hcn, grn⟩ := conn_key S hy hn
  obtain ⟨cw, hcw, gr⟩ := parityReach_graph S h hcm
  have := canonV_unique S.wf _ hcw hcn
  subst this
  have := (grm.trans gr).trans (S.pre.reach_symm grn)
  have e : ((m.comp ^^ ((p != m.comp) != n.comp)) ^^ n.comp) = p := by
    cases p <;> cases m.comp <;> cases n.comp <;> rfl
  rw [e] at this
  exact this

theorem canon_template (S : Seeded tbl mode spec s c) {v : Var} {cv : Nat}
    (h : CanonV spec (encOf spec (layOf mode spec)) v cv) :
    cv ∈ c.keys ∧ ∀ b, hasB (stMask tbl c.st cv) b → okVar tbl (Pil.denote spec) v b := by
  have wf := S.wf
  obtain ⟨k, ob, hk, hname, hidx, rfl⟩ := h
  have hmem := mem_baseSeqs (mem_enum hk).1
  simp only at hmem
  have hb := wf.base ob hmem.1 hmem.2
  have hidx' : v.idx < ob.template.length := by rw [hb.1]; exact hidx
  obtain ⟨_, hseq⟩ := (seeds_iff wf).1 S.hs
  have hkeys := S.built.keys
  have hst := S.built.st
  have hin : ((encOf spec (layOf mode spec)).sq (2 * k) v.idx, ob.template[v.idx]) ∈ s.inits := by
    rw [hseq]
    apply List.mem_append_right
    unfold seqInits
    apply List.mem_append_left
    refine List.mem_flatMap.2 ⟨(k, ob), hk, ?_⟩
    apply List.mem_append_left
    refine List.mem_map.2 ⟨(v.idx, ob.template[v.idx]), ?_, rfl⟩
    exact mem_enum_of_getElem? (List.getElem?_eq_getElem hidx')
  refine ⟨by rw [hkeys]; exact List.mem_map.2 ⟨_, hin, rfl⟩, ?_⟩
  intro b hbit dom hdom hdn ch hch
  have hstv : stMask tbl c.st ((encOf spec (layOf mode spec)).sq (2 * k) v.idx) = tbl.maskC ob.template[v.idx] := by
    simp [stMask, hst _ hin]
  rw [hstv] at hbit
  simp only [Pil.denote, List.mem_map, List.mem_filter] at hdom
  obtain ⟨o', ⟨ho', _⟩, rfl⟩ := hdom
  have : o' = ob := nodup_map_inj wf.seqNames (mem_baseSeqs ho').1 hmem.1 (by simp only at hdn; rw [hdn, hname])
  subst this
  simp only at hch
  rw [List.getElem?_eq_getElem hidx'] at hch
  cases hch
  exact hbit

theorem undeclared_isolated (S : Seeded tbl mode spec s c) {v : Var}
    (hv : ¬ ∃ cv, CanonV spec (encOf spec (layOf mode spec)) v cv) :
    (∀ p w, ParityReach (Pil.denote spec) v p w → w = v ∧ p = false) ∧ ∀ b, okVar tbl (Pil.denote spec) v b := by
  have wf := S.wf
  constructor
  · intro p w h
    induction h with
    | refl => exact ⟨rfl, rfl⟩
    | @fwd w' q e _ he ha ih =>
      obtain ⟨rfl, _⟩ := ih
      obtain ⟨ca, _, hca, _, _⟩ := link_realised S he
      exact absurd ⟨ca, ha ▸ hca⟩ hv
    | @bwd w' q e _ he hb ih =>
      obtain ⟨rfl, _⟩ := ih
      obtain ⟨_, cb, _, hcb, _⟩ := link_realised S he
      exact absurd ⟨cb, hb ▸ hcb⟩ hv
  · intro b dom hdom hdn ch hch
    exfalso
    simp only [Pil.denote, List.mem_map, List.mem_filter] at hdom
    obtain ⟨o', ⟨ho', _⟩, rfl⟩ := hdom
    obtain ⟨j, hk⟩ : ∃ j, (j, o') ∈ enum spec.baseSeqs := mem_zip_range ho'
    have hb := wf.base o' (mem_baseSeqs ho').1 (mem_baseSeqs ho').2
    simp only at hch hdn
    have hidx : v.idx < o'.len := by rw [← hb.1]; exact getElem?_lt hch
    exact hv ⟨_, j, o', hk, hdn, hidx, rfl⟩

/-- **Completeness for satisfiability**: if the seeded graph is not over-constrained, the design meets the criterion
    of `LinkSpec.satisfiable_iff` at every variable -/
theorem Seeded.classes_of_graphSat (S : Seeded tbl mode spec s c) (hsat : GraphSat tbl c) (v : Var) :
    ¬ ParityReach (Pil.denote spec) v true v ∧
      ∃ b, ∀ w p, ParityReach (Pil.denote spec) v p w → okVar tbl (Pil.denote spec) w (flipB b p) := by
  cases Classical.em (∃ cv, CanonV spec (encOf spec (layOf mode spec)) v cv) with
  | inl hc =>
    obtain ⟨cv, hcv⟩ := hc
    obtain ⟨hns, b, hb⟩ := hsat cv (canon_template S hcv).1
    refine ⟨fun hself => ?_, b, fun w p hr => ?_⟩
    · obtain ⟨cw, hcw, gr⟩ := parityReach_graph S hself hcv
      cases canonV_unique S.wf _ hcw hcv
      exact hns gr
    · obtain ⟨cw, hcw, gr⟩ := parityReach_graph S hr hcv
      exact (canon_template S hcw).2 _ (hb cw p gr)
  | inr hc =>
    obtain ⟨alone, free⟩ := undeclared_isolated S hc
    refine ⟨fun hself => Bool.noConfusion (alone _ _ hself).2, .A, fun w p hr => ?_⟩
    obtain ⟨rfl, rfl⟩ := alone _ _ hr
    exact free _

/-- **The seeded graph is not over-constrained exactly when the design is satisfiable** (⇒ is the criterion of
    `LinkSpec.satisfiable_iff`, checked by `Seeded.classes_of_graphSat`; ⇐ is `graphSat_of_satisfiable`,
    ConstraintGenSimT, by `reach_key_den`) -/
theorem Seeded.graphSat_iff (S : Seeded tbl mode spec s c) (hN : tbl.maskC 'N' = 15) :
    GraphSat tbl c ↔ Satisfiable tbl (Pil.denote spec) :=
  ⟨fun h => (satisfiable_iff tbl _).2 (forall_and.1 (S.classes_of_graphSat h)), graphSat_of_satisfiable S hN⟩

theorem Seeded.reach_iff_nucReach (S : Seeded tbl mode spec s c) {x y : Nat} (hx : x ∈ c.keys) (hy : y ∈ c.keys)
    {m n : Nuc} (hm : denOf mode spec x = some m) (hn : denOf mode spec y = some n) (p : Bool) :
    GR c x p y ↔ NucReach (Pil.denote spec) m p n := by
  constructor
  · intro h
    obtain ⟨n', hn', hr⟩ := Seeded.reach_sound S h hm
    rw [hn] at hn'; cases hn'
    exact hr
  · exact graph_complete S hx hy hm hn

/-- `IsMin` over the classes of the seeded graph, read in the design: the lowest non-blank index whose nucleotide
    the design forces equal (`p = false`) / complementary (`p = true`) to `m` -/
def SemMin (mode : Layout) (spec : Spec) (a : Arrays) (m : Nuc) (p : Bool) (o : Option Nat) : Prop :=
  match o with
  | some r => (∃ ch n, a.2.2[r]? = some (some ch) ∧ denOf mode spec r = some n ∧ NucReach (Pil.denote spec) m p n) ∧
      ∀ j ch n, a.2.2[j]? = some (some ch) → denOf mode spec j = some n → NucReach (Pil.denote spec) m p n → r ≤ j
  | none => ∀ j ch n, a.2.2[j]? = some (some ch) → denOf mode spec j = some n → ¬ NucReach (Pil.denote spec) m p n

theorem semMin_of_isMin (S : Seeded tbl mode spec s c) (hN : tbl.maskC 'N' = 15) {a : Arrays}
    (G : GraphExact tbl c s.P a) {i : Nat} (hk : i ∈ c.keys) {m : Nuc}
    (hm : denOf mode spec i = some m) {p : Bool} {o : Option Nat} (h : IsMin s.P (GR c i p) o) :
    SemMin mode spec a m p o := by
  cases o with
  | some r =>
    obtain ⟨h1, h2, h3⟩ := h
    have hrk := reach_mem_keys S.pre hk h1
    have hrn : r < a.1.length := G.bound r hrk h2
    obtain ⟨_, _, ch, hch, _⟩ := G.key r hrn hrk
    obtain ⟨n, hn, _⟩ := Seeded.key_den S hN hrk
    refine ⟨⟨ch, n, hch, hn, (S.reach_iff_nucReach hk hrk hm hn p).1 h1⟩, ?_⟩
    intro j chj nj hj hnj hr
    obtain ⟨hjn, hjk⟩ := key_of_letter G hj
    exact h3 j ((S.reach_iff_nucReach hk hjk hm hnj p).2 hr) (Nat.lt_of_lt_of_le hjn G.le_P)
  | none =>
    intro j chj nj hj hnj hr
    obtain ⟨hjn, hjk⟩ := key_of_letter G hj
    exact h j ((S.reach_iff_nucReach hk hjk hm hnj p).2 hr) (Nat.lt_of_lt_of_le hjn G.le_P)

section At
variable (S : Seeded tbl mode spec s c) (hN : tbl.maskC 'N' = 15) {a : Arrays} (G : GraphExact tbl c s.P a)
  {i : Nat} {ch : Char} (hi : a.2.2[i]? = some (some ch)) {m : Nuc} (hm : denOf mode spec i = some m)
include S hN G hi hm

/-- at a non-blank index `i` that denotes `m`: `eq[i]` is the lowest index forced equal to `m` -/
theorem Seeded.eq_semMin : ∃ v, a.1[i]? = some v ∧ SemMin mode spec a m false v := by
  obtain ⟨hlt, hk⟩ := key_of_letter G hi
  obtain ⟨⟨v, hv, hvmin⟩, _⟩ := G.key i hlt hk
  exact ⟨v, hv, semMin_of_isMin S hN G hk hm hvmin⟩

/-- `wc[i]` is the lowest index forced complementary to `m` -/
theorem Seeded.wc_semMin : ∃ w, a.2.1[i]? = some w ∧ SemMin mode spec a m true w := by
  obtain ⟨hlt, hk⟩ := key_of_letter G hi
  obtain ⟨_, ⟨w, hw, hwmin⟩, _⟩ := G.key i hlt hk
  exact ⟨w, hw, semMin_of_isMin S hN G hk hm hwmin⟩

/-- the bases of `st[i]` are those every template linked to `m` allows -/
theorem Seeded.template_bits (b : Base) : hasB (tbl.maskC ch) b ↔
    ∀ u q, ParityReach (Pil.denote spec) m.var q u → okVar tbl (Pil.denote spec) u (flipB (flipB b m.comp) q) := by
  obtain ⟨hlt, hk⟩ := key_of_letter G hi
  constructor
  · intro hb u q hr
    obtain ⟨_, _, ch', hch', _, hbits⟩ := G.key i hlt hk
    rw [hi] at hch'; cases hch'
    obtain ⟨cm, hcm, grm⟩ := conn_key S hk hm
    obtain ⟨cu, hcu, gr⟩ := parityReach_graph S hr hcm
    have := (hbits b).1 hb cu _ (grm.trans gr)
    have := (canon_template S hcu).2 _ this
    rwa [← flipB_flipB] at this
  · intro hsem
    obtain ⟨m', hm', _, _, h3⟩ := Seeded.arrays_sound S hN G hlt hk
    rw [hm] at hm'; cases hm'
    exact h3 ch hi b hsem

end At

/-- **Exactness of the arrays in terms of the design** (both layouts), for a non-blank index `i`: `Seeded.eq_semMin`,
    `wc_semMin`, `template_bits` at the nucleotide `i` denotes -/
theorem Seeded.arrays_exact (S : Seeded tbl mode spec s c) (hN : tbl.maskC 'N' = 15) {a : Arrays}
    (G : GraphExact tbl c s.P a) {i : Nat} {ch : Char} (hi : a.2.2[i]? = some (some ch)) :
    ∃ m v w, denOf mode spec i = some m ∧ a.1[i]? = some v ∧ a.2.1[i]? = some w ∧
      SemMin mode spec a m false v ∧ SemMin mode spec a m true w ∧
      (∀ b, hasB (tbl.maskC ch) b ↔
        ∀ u q, ParityReach (Pil.denote spec) m.var q u →
          okVar tbl (Pil.denote spec) u (flipB (flipB b m.comp) q)) := by
  obtain ⟨m, hm, _⟩ := Seeded.key_den S hN (key_of_letter G hi).2
  obtain ⟨v, hv, sv⟩ := S.eq_semMin hN G hi hm
  obtain ⟨w, hw, sw⟩ := S.wc_semMin hN G hi hm
  exact ⟨m, v, w, hm, hv, hw, sv, sw, S.template_bits hN G hi hm⟩

theorem semMin_unique {a : Arrays} {m : Nuc} {p : Bool} {o o' : Option Nat}
    (h : SemMin mode spec a m p o) (h' : SemMin mode spec a m p o') : o = o' := by
  cases o <;> cases o'
  · rfl
  · obtain ⟨⟨ch, n, h1, h2, h3⟩, _⟩ := h'
    exact absurd h3 (h _ ch n h1 h2)
  · obtain ⟨⟨ch, n, h1, h2, h3⟩, _⟩ := h
    exact absurd h3 (h' _ ch n h1 h2)
  · rename_i r r'
    obtain ⟨⟨ch, n, h1, h2, h3⟩, hmin⟩ := h
    obtain ⟨⟨ch', n', h1', h2', h3'⟩, hmin'⟩ := h'
    have := hmin _ ch' n' h1' h2' h3'
    have := hmin' _ ch n h1 h2 h3
    simp only [Option.some.injEq]; omega

theorem semMin_congr {a : Arrays} {m m' : Nuc} {p : Bool} {o : Option Nat}
    (hmm : NucReach (Pil.denote spec) m' false m) (h : SemMin mode spec a m p o) : SemMin mode spec a m' p o := by
  have fwd : ∀ n, NucReach (Pil.denote spec) m p n → NucReach (Pil.denote spec) m' p n := by
    intro n hn; have := NucReach.trans hmm hn; simpa using this
  have bwd : ∀ n, NucReach (Pil.denote spec) m' p n → NucReach (Pil.denote spec) m p n := by
    intro n hn; have := NucReach.trans (NucReach.symm hmm) hn; simpa using this
  cases o with
  | some r =>
    obtain ⟨⟨ch, n, h1, h2, h3⟩, hmin⟩ := h
    exact ⟨⟨ch, n, h1, h2, fwd n h3⟩, fun j chj nj hj hnj hr => hmin j chj nj hj hnj (bwd nj hr)⟩
  | none =>
    exact fun j chj nj hj hnj hr => h j chj nj hj hnj (bwd nj hr)

theorem eq_iff_forced_equal (S : Seeded tbl mode spec s c) (hN : tbl.maskC 'N' = 15) {a : Arrays}
    (G : GraphExact tbl c s.P a) {i j : Nat} {ci cj : Char} (hi : a.2.2[i]? = some (some ci))
    (hj : a.2.2[j]? = some (some cj)) {m n : Nuc} (hm : denOf mode spec i = some m) (hn : denOf mode spec j = some n) :
    a.1[i]? = a.1[j]? ↔ NucReach (Pil.denote spec) m false n := by
  obtain ⟨vi, hvi, hsi⟩ := S.eq_semMin hN G hi hm
  obtain ⟨vj, hvj, hsj⟩ := S.eq_semMin hN G hj hn
  rw [hvi, hvj]
  constructor
  · intro e
    simp only [Option.some.injEq] at e
    subst e
    cases vi with
    | none => exact absurd (NucReach.refl _ m) (hsi i ci m hi hm)
    | some r =>
      obtain ⟨⟨_, nr, _, hnr, h3⟩, _⟩ := hsi
      obtain ⟨⟨_, nr', _, hnr', h3'⟩, _⟩ := hsj
      rw [hnr] at hnr'; cases hnr'
      have := NucReach.trans h3 (NucReach.symm h3')
      simpa using this
  · intro hr
    have := semMin_unique hsi (semMin_congr hr hsj)
    rw [this]

end Pepper.ConstraintGen
