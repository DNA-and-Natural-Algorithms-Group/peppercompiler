import PepperProofs.ConstraintGenGraph
import PepperProofs.GenTables
import PepperProofs.Ssm
/-!
# The files written by `design()` and read by `load_input_files`

What the C reader gets back (`readTriple_ssmFiles`): the printed numbers parse to themselves, and `load_input_files`
leaves a triple that satisfies the contract as it is.  Graph-level exactness of the arrays (`GraphExact`) makes them
functions of the class (`GraphExact.shift`, ConstraintGenGraph), which is what the documented contract `Ssm.Contract` says of the
representative's and the partner's entries (`contract_of_exact`), and the contract gives acceptance by the C
program's own test on the start sequence it draws (`consistent_of_contract`).  `contract_of_exact` is where this side
meets the proofs about the program, which take the contract as `Contract.toF` (PepperProofs/Ssm) / `Bounds.of_contract` (PepperProofs/SsmChecked).
-/
namespace Pepper.ConstraintGen
open Pepper Pepper.Closure Pepper.LinkSpec

theorem map_range_getD {α β : Type} (f : α → β) (l : List α) (c : Nat → Bool) (d : β) (e : α) {n : Nat}
    (hn : l.length = n) (h : ∀ i (hi : i < l.length), c i = true → f l[i] = d) :
    (List.range n).map (fun i => if c i then d else f (l.getD i e)) = l.map f := by
  subst hn
  apply List.ext_getElem (by simp)
  intro i h1 h2
  have hi : i < l.length := by simpa using h1
  simp only [List.getElem_map, List.getElem_range, List.getD_eq_getElem?_getD, List.getElem?_eq_getElem hi,
    Option.getD_some]
  split
  · exact (h i hi ‹_›).symm
  · rfl

def decVal (l : List Char) : Nat := l.foldl (fun a c => a * 10 + (c.toNat - 48)) 0

theorem isDigit_plain {c : Char} (h : c.isDigit = true) : isWs c = false ∧ c ≠ '-' ∧ c ≠ '+' := by
  refine ⟨?_, ?_, ?_⟩
  · cases hw : isWs c with
    | false => rfl
    | true =>
      simp only [isWs, Bool.or_eq_true, beq_iff_eq] at hw
      rcases hw with ((((rfl | rfl) | rfl) | rfl) | rfl) | rfl <;> exact absurd h (by decide)
  · rintro rfl; exact absurd h (by decide)
  · rintro rfl; exact absurd h (by decide)

theorem showNat_eq : ∀ n, showNat n = Nat.toDigits 10 n :=
  eq_toDigits fun n => by rw [showNat]; split <;> rfl

theorem showNat_spec (n : Nat) :
    showNat n ≠ [] ∧ (showNat n).all Char.isDigit = true ∧ decVal (showNat n) = n := by
  rw [showNat_eq]
  exact ⟨Nat.toDigits_ne_nil, List.all_eq_true.2 (toDigits_ten_spec n).2,
    (foldl_digits_eq _ 0).trans Nat.ofDigitChars_ten_toDigits⟩

theorem parseInt_digits {ds : List Char} (hne : ds ≠ []) (hd : ds.all Char.isDigit = true) :
    parseInt ds = some (decVal ds : Nat) ∧ parseInt ('-' :: ds) = some (-(decVal ds : Nat) : Int) := by
  have he : ds.isEmpty = false := by cases ds; exact absurd rfl hne; rfl
  constructor
  · cases ds with
    | nil => exact absurd rfl hne
    | cons a r =>
      obtain ⟨_, h1, h2⟩ := isDigit_plain (by rw [List.all_cons, Bool.and_eq_true] at hd; exact hd.1 : a.isDigit = true)
      unfold parseInt decVal
      split
      · rename_i neg ds heq
        split at heq
        · rename_i r' hh; simp at hh; exact absurd hh.1 h1
        · rename_i r' hh; simp at hh; exact absurd hh.1 h2
        · simp only [Prod.mk.injEq] at heq
          obtain ⟨rfl, rfl⟩ := heq
          simp [hd]
  · unfold parseInt decVal
    simp [hd, he]

theorem parseInt_showInt (x : Int) : parseInt (showInt x) = some x := by
  cases x with
  | ofNat n =>
    obtain ⟨h1, h2, h3⟩ := showNat_spec n
    exact (parseInt_digits h1 h2).1.trans (by rw [h3]; rfl)
  | negSucc n =>
    obtain ⟨h1, h2, h3⟩ := showNat_spec (n + 1)
    exact (parseInt_digits h1 h2).2.trans (by rw [h3]; rfl)

theorem showInt_tok (x : Int) : showInt x ≠ [] ∧ ∀ c ∈ showInt x, isWs c = false := by
  have dig : ∀ n, ∀ c ∈ showNat n, isWs c = false := fun n c hc =>
    (isDigit_plain (List.all_eq_true.1 (showNat_spec n).2.1 c hc)).1
  cases x with
  | ofNat n => exact ⟨(showNat_spec n).1, dig n⟩
  | negSucc n =>
    refine ⟨List.cons_ne_nil _ _, fun c hc => ?_⟩
    rcases List.mem_cons.1 hc with rfl | hc
    · decide
    · exact dig _ c hc

theorem splitWs_tok (t : List Char) (ht : ∀ c ∈ t, isWs c = false) (rest cur : List Char)
    (hne : t ≠ [] ∨ cur ≠ []) :
    splitWs (t ++ ' ' :: rest) cur = (cur.reverse ++ t) :: splitWs rest [] := by
  induction t generalizing cur with
  | nil =>
    have hc : cur ≠ [] := by rcases hne with h | h; exact absurd rfl h; exact h
    have : cur.isEmpty = false := by cases cur; exact absurd rfl hc; rfl
    simp [splitWs, isWs, this]
  | cons a t ih =>
    have ha : isWs a = false := ht a List.mem_cons_self
    simp only [List.cons_append, splitWs, ha]
    rw [ih (fun c hc => ht c (List.mem_cons_of_mem _ hc)) (a :: cur) (Or.inr (by simp))]
    simp

theorem readInts_go_all (l : List Int) : readInts.go (l.map showInt) = l := by
  induction l with
  | nil => rfl
  | cons x l ih => simp [readInts.go, parseInt_showInt, ih]

theorem splitWs_printed (l : List Int) :
    splitWs (l.flatMap (fun x => showInt x ++ [' '])) [] = l.map showInt := by
  induction l with
  | nil => rfl
  | cons x l ih =>
    simp only [List.flatMap_cons, List.map_cons, List.append_assoc, List.singleton_append]
    rw [splitWs_tok _ (showInt_tok x).2 _ [] (Or.inl (showInt_tok x).1), ih]
    simp

theorem readInts_printInts (l : List Int) : readInts (printInts l) = l := by
  unfold readInts printInts
  rw [String.toList_ofList, splitWs_printed, readInts_go_all]

theorem stripTrailing_id {α : Type} (p : α → Bool) (l : List α) (h : ∀ a, l.getLast? = some a → p a = false) :
    stripTrailing p l = l :=
  reverse_dropWhile_reverse_id p l h

theorem readTemplate_written (cs : List Char) (hc : ∀ c ∈ cs, c ∈ templateChars)
    (hlast : ∀ a, cs.getLast? = some a → a ≠ ' ') : readTemplate (String.ofList cs) = cs := by
  unfold readTemplate
  rw [String.toList_ofList]
  have : cs.filter templateChars.contains = cs := by
    apply List.filter_eq_self.2
    intro c hc'
    simpa using hc c hc'
  rw [this]
  exact stripTrailing_id _ _ (fun a ha => by simpa using hlast a ha)

/-- `load_input_files`, once the three files are scanned, leaves a triple that satisfies the contract as it is:
    nothing is stripped, trimmed or corrected -/
theorem reconcile_of_contract {t : Ssm.Triple} (c : Ssm.Contract t) :
    reconcile t.st t.wc (t.eq.map Nat.cast) = some t := by
  obtain ⟨st, eq, wc⟩ := t
  have hn := c.pos
  have heq := c.eqLen
  have hwc := c.wcLen
  have hlast := c.last
  simp only [Ssm.Triple.N, Ssm.Triple.stAt] at hn heq hwc hlast
  have eqlast : eq.getD (st.length - 1) 0 ≠ 0 := fun h =>
    hlast ((c.blank (show st.length - 1 < st.length by omega)).1.2 h)
  have h1 : wc.any (fun v => v == 0 || decide (v < -1)) = false := by
    rw [List.any_eq_false]
    intro v hv
    obtain ⟨i, hi, rfl⟩ := List.getElem_of_mem hv
    have := c.wc (i := i) (show i < st.length from hwc ▸ hi)
    simp only [Ssm.ContractWc, Ssm.Triple.wcAt, getD_eq_getElem hi] at this
    simp only [Bool.or_eq_true, beq_iff_eq, decide_eq_true_eq]
    omega
  have h2 : stripTrailing (· == (0 : Int)) (eq.map Nat.cast) = eq.map Nat.cast := by
    apply stripTrailing_id
    intro v hv
    rw [List.getLast?_map, List.getLast?_eq_getElem?, heq, List.getElem?_eq_getElem (by omega)] at hv
    rw [getD_eq_getElem (by omega)] at eqlast
    cases hv
    simpa using eqlast
  have h3 : (eq.map (Nat.cast : Nat → Int)).any (· < 0) = false := by
    rw [List.any_eq_false]
    intro v hv
    obtain ⟨n, _, rfl⟩ := List.mem_map.1 hv
    simp
  unfold reconcile
  have h4 : wc.drop st.length = [] := by rw [← hwc, List.drop_length]
  have h5 : wc.take st.length = wc := by rw [← hwc, List.take_length]
  have hz : (st.length == 0) = false := by rw [beq_eq_false_iff_ne]; omega
  simp only [h1, h2, h3, List.length_map, heq, Nat.max_self, gt_iff_lt, hn, if_true, h4, h5, hwc, hz, List.any_nil,
    Bool.and_false, Bool.false_eq_true, if_false, bne_self_eq_false, Bool.or_false]
  -- where the "correction for ' ' separators" applies, the entries are what it writes
  have blank : ∀ i (hi : i < st.length),
      (!Ssm.isCode (st.getD i ' ') || (eq.map Nat.cast).getD i 0 == (0 : Int)) = true →
      st[i] = ' ' ∧ eq[i]'(heq ▸ hi) = 0 ∧ wc[i]'(hwc ▸ hi) = -1 := by
    intro i hi hb
    obtain ⟨b1, b2, b3⟩ := c.blank (i := i) hi
    simp only [Ssm.Triple.stAt, Ssm.Triple.eqAt, Ssm.Triple.wcAt, getD_eq_getElem hi, getD_eq_getElem (heq ▸ hi),
      getD_eq_getElem (hwc ▸ hi)] at b1 b2 b3
    have e0 : eq[i]'(heq ▸ hi) = 0 := by
      rw [Bool.or_eq_true, Bool.not_eq_true', beq_iff_eq, getD_eq_getElem hi,
        getD_eq_getElem (by rw [List.length_map, heq]; exact hi), List.getElem_map] at hb
      rcases hb with hb | hb
      · exact b1.1 (Decidable.byContradiction fun hne => by rw [b2 hne] at hb; cases hb)
      · exact Int.ofNat.inj hb
    exact ⟨b1.2 e0, e0, b3 e0⟩
  congr 2
  · exact (map_range_getD id st _ ' ' ' ' rfl (fun i hi h => (blank i hi h).1)).trans (List.map_id _)
  · refine (map_range_getD Int.toNat (eq.map Nat.cast) _ 0 0 (by rw [List.length_map, heq]) ?_).trans ?_
    · intro i hi h
      rw [List.getElem_map, Int.toNat_natCast]
      exact (blank i (by simpa [heq] using hi) h).2.1
    · rw [List.map_map]; simp only [Function.comp_def, Int.toNat_natCast, List.map_id']
  · exact (map_range_getD id wc _ (-1) (-1) hwc (fun i hi h => (blank i (hwc ▸ hi) h).2.2)).trans (List.map_id _)

theorem readTriple_written {t : Ssm.Triple} (c : Ssm.Contract t) :
    readTriple ⟨String.ofList t.st, printInts (t.eq.map Nat.cast), printInts t.wc⟩ = some t := by
  have hst : readTemplate (String.ofList t.st) = t.st := by
    have hlast := c.last
    apply readTemplate_written
    · intro ch hc
      obtain ⟨i, hi, rfl⟩ := List.getElem_of_mem hc
      by_cases hb : t.st[i] = ' '
      · rw [hb]; exact templateChars_ok.1
      · have hcode := (c.blank hi).2.1
        rw [Ssm.Triple.stAt, getD_eq_getElem hi] at hcode
        obtain ⟨g, hg⟩ := Ssm.isCode_unpack (hcode hb)
        exact templateChars_ok.2 _ hg
    · intro ch hc e
      rw [List.getLast?_eq_getElem?] at hc
      apply hlast
      rw [Ssm.Triple.stAt, List.getD_eq_getElem?_getD, Ssm.Triple.N, hc, e]
      rfl
  unfold readTriple
  rw [hst, readInts_printInts, readInts_printInts]
  exact reconcile_of_contract c

theorem eqMap_nonneg (o : Option Nat) : 0 ≤ eqMap o := by
  cases o with
  | none => exact Int.le_refl 0
  | some x => exact Int.le_add_one (Int.natCast_nonneg x)

/-- **Read-back.**  The three files written from the arrays are read by the model of `load_input_files`
    as the arrays themselves (1-based), with no entry dropped or altered. -/
theorem readTriple_ssmFiles {a : Arrays} (c : Ssm.Contract (tripleOf a)) :
    readTriple (ssmFiles a) = some (tripleOf a) := by
  have e : a.1.map eqMap = (tripleOf a).eq.map Nat.cast := by
    unfold tripleOf
    rw [List.map_map]
    exact List.map_congr_left fun o _ => (Int.toNat_of_nonneg (eqMap_nonneg o)).symm
  have h := readTriple_written c
  rw [← e] at h
  exact h

/-- what the contract needs of the designer's table: lawful, its codes are codes of spuriousSSM, and its complement
    is spuriousSSM's `WC` (`pil_lawful`, `pil_codes`, `pil_compl` for the generated table) -/
structure SsmTable (tbl : CodeTable) : Prop where
  lawful : tbl.lawful = true
  codes : ∀ p ∈ tbl.group, Ssm.isCode p.1 = true
  compl : ∀ p ∈ tbl.compl, Ssm.WC p.1 = p.2

theorem SsmTable.isCode {tbl : CodeTable} (T : SsmTable tbl) {ch : Char} (h : tbl.isCode ch = true) :
    Ssm.isCode ch = true := by
  obtain ⟨g, hg⟩ := CodeTable.isCode_iff.1 h
  exact T.codes (ch, g) (CodeTable.groupOf_mem hg)

theorem pil_ssmTable : SsmTable Generated.pilTable := ⟨pil_lawful, pil_codes, pil_compl⟩

theorem tripleOf_N (a : Arrays) : (tripleOf a).N = a.2.2.length := by simp [tripleOf, Ssm.Triple.N]

theorem tripleOf_stAt {a : Arrays} {i : Nat} {o : Option Char} (h : a.2.2[i]? = some o) :
    (tripleOf a).stAt i = stMap o := by
  simp [tripleOf, Ssm.Triple.stAt, List.getD_eq_getElem?_getD, h]

theorem tripleOf_eqAt {a : Arrays} {i : Nat} {o : Option Nat} (h : a.1[i]? = some o) :
    (tripleOf a).eqAt i = (eqMap o).toNat := by
  simp [tripleOf, Ssm.Triple.eqAt, List.getD_eq_getElem?_getD, h]

theorem tripleOf_wcAt {a : Arrays} {i : Nat} {o : Option Nat} (h : a.2.1[i]? = some o) :
    (tripleOf a).wcAt i = wcMap o := by
  simp [tripleOf, Ssm.Triple.wcAt, List.getD_eq_getElem?_getD, h]

theorem eqMap_toNat_some (m : Nat) : (eqMap (some m)).toNat = m + 1 := by simp [eqMap]
theorem eqMap_toNat_none : (eqMap none).toNat = 0 := by simp [eqMap]

theorem contract_of_exact {tbl : CodeTable} (T : SsmTable tbl) {c : Cons} {P : Nat} {a : Arrays}
    (hp : Pre (adjOf c.keys c.eq) (adjOf c.keys c.wc)) (G : GraphExact tbl c P a) : Ssm.Contract (tripleOf a) := by
  have hl := T.lawful
  have hn := G.n_pos
  have hN : (tripleOf a).N = a.1.length := by rw [tripleOf_N, G.len_st]
  have klast : a.1.length - 1 < a.1.length := by omega
  refine ⟨by rw [hN]; exact hn, by rw [hN]; simp [tripleOf], by rw [hN]; simp [tripleOf, G.len_wc], ?_, ?_⟩
  · rw [hN]
    obtain ⟨_, _, ch, hch, hcode, _⟩ := G.key _ klast G.last
    rw [tripleOf_stAt hch]
    exact Ssm.isCode_ne_blank (T.isCode hcode)
  · intro i hi
    rw [hN] at hi
    by_cases hk : i ∈ c.keys
    · obtain ⟨m, hem, hmi, hmk, hmn, hrm, hmin⟩ := key_info hp G hi hk
      obtain ⟨_, ⟨w, hw, hwmin⟩, ch, hch, hcode, _⟩ := G.key i hi hk
      -- the representative's entries are those of `i`
      obtain ⟨hem', hwm, chm, hchm, hcodem, hbm⟩ := G.shift hp hi hk hrm hmn hem hw hch
      simp only [Bool.false_eq_true, if_false] at hem' hwm
      cases code_eq_of_bits hl hcodem hcode hbm
      refine ⟨⟨?_, ?_, ?_⟩, ?_, ?_⟩
      · rw [tripleOf_stAt hch, tripleOf_eqAt hem, eqMap_toNat_some]
        simp only [stMap]
        constructor
        · intro h; exact absurd h (Ssm.isCode_ne_blank (T.isCode hcode))
        · intro h; omega
      · intro _
        rw [tripleOf_stAt hch]; exact T.isCode hcode
      · rw [tripleOf_eqAt hem, eqMap_toNat_some]; intro h; omega
      · intro _
        rw [tripleOf_eqAt hem, eqMap_toNat_some]
        simp only [Nat.add_sub_cancel]
        rw [tripleOf_eqAt hem', eqMap_toNat_some, tripleOf_wcAt hwm, tripleOf_wcAt hw, tripleOf_stAt hchm, tripleOf_stAt hch]
        exact ⟨by omega, rfl, rfl, rfl⟩
      · intro hne
        rw [tripleOf_wcAt hw] at hne
        cases w with
        | none => exact absurd rfl hne
        | some w =>
          obtain ⟨hrw, hwP, _⟩ := hwmin
          have hwn : w < a.1.length := G.bound w (reach_mem_keys hp hk hrw) hwP
          -- the partner's entries are those of `i` with the two representatives changing places
          obtain ⟨hew', hww, chw, hchw, hcodew, hbw⟩ := G.shift hp hi hk hrw hwn hem hw hch
          simp only [if_true] at hew' hww
          have hwm : w ≠ m := by
            intro e
            rw [e] at hrw
            have := hrw.trans (hp.reach_symm hrm)
            simp at this
            exact G.noself i hk this
          -- the codes are complementary
          obtain ⟨dw, hdw, hdwcode⟩ := CodeTable.isCode_compl hl hcodew
          have hcomp : ch = dw := by
            apply code_eq_of_bits hl hcode hdwcode
            intro b
            rw [CodeTable.complOf_mask hl hdw, hasB_compl (maskC_lt16 _ _), hbw]
            simp [flipB, Base.compl_compl]
          have hWC : Ssm.WC chw = dw := T.compl (chw, dw) (assoc_mem hdw)
          have hix : (tripleOf a).wcIx i = w := by
            simp [Ssm.Triple.wcIx, tripleOf_wcAt hw, wcMap]
          rw [hix, tripleOf_wcAt hw, tripleOf_eqAt hem, eqMap_toNat_some, tripleOf_eqAt hew', eqMap_toNat_some, tripleOf_wcAt hww, tripleOf_stAt hch,
            tripleOf_stAt hchw, hN]
          simp only [wcMap, stMap]
          exact ⟨Int.le_add_of_nonneg_left (Int.natCast_nonneg w), Int.ofNat_le.2 hwn,
            fun e => hwm (Nat.succ.inj (Int.ofNat.inj e)), rfl, rfl, by rw [hWC, hcomp]⟩
    · obtain ⟨h1, h2, h3⟩ := G.blank i hi hk
      refine ⟨⟨?_, ?_, ?_⟩, ?_, ?_⟩
      · rw [tripleOf_stAt h3, tripleOf_eqAt h1, eqMap_toNat_none]; simp [stMap]
      · rw [tripleOf_stAt h3]; intro h; exact absurd rfl h
      · intro _; rw [tripleOf_wcAt h2]; rfl
      · intro h; rw [tripleOf_eqAt h1, eqMap_toNat_none] at h; exact absurd rfl h
      · intro h; rw [tripleOf_wcAt h2] at h; exact absurd rfl h

theorem st_code_of_exact {tbl : CodeTable} (T : SsmTable tbl) {c : Cons} {P : Nat} {a : Arrays} (G : GraphExact tbl c P a)
    {i : Nat} {ch : Char} (h : a.2.2[i]? = some (some ch)) : Ssm.isCode ch = true := by
  obtain ⟨hi, hk⟩ := key_of_letter G h
  obtain ⟨_, _, ch', hch', hcode, _⟩ := G.key i hi hk
  cases hch'.symm.trans h
  exact T.isCode hcode

theorem sAt_startOf (t : Ssm.Triple) (pick : Nat → Nat) {i : Nat} (hi : i < t.N) :
    Ssm.sAt (startOf t pick) i =
      (Ssm.choices (t.stAt i)).getD (pick i % (Ssm.choices (t.stAt i)).length) ' ' := by
  unfold Ssm.sAt startOf
  rw [List.getD_eq_getElem?_getD, List.getElem?_map, List.getElem?_range hi]
  rfl

theorem startOf_ok {t : Ssm.Triple} (c : Ssm.Contract t) (pick : Nat → Nat) : Ssm.StartOK t (startOf t pick) := by
  refine ⟨by simp [startOf], fun i hi => ⟨?_, ?_⟩⟩
  · intro hb
    rw [sAt_startOf t pick hi, hb, choices_blank]
    have : pick i % [' '].length = 0 := Nat.mod_one _
    rw [this]; rfl
  · intro hrep
    have hcode := c.toF.code i i (Ssm.freeF_of_isClassRep hrep).1
    rw [sAt_startOf t pick hi]
    apply Ssm.choices_memCode hcode
    obtain ⟨g, hg⟩ := Ssm.isCode_unpack hcode
    have hne := choices_ne_nil _ hg
    have hlen : 0 < (Ssm.choices (t.stAt i)).length := List.length_pos_iff.2 hne
    exact getD_mem (Nat.mod_lt (pick i) hlen) ' '

/-- the C program's own acceptance test passes on the constrained start sequence -/
theorem consistent_of_contract {t : Ssm.Triple} (c : Ssm.Contract t) (pick : Nat → Nat) :
    Ssm.testConsistency t (Ssm.constrain t (startOf t pick)) = true :=
  Ssm.testConsistency_of_good c (Ssm.good_constrain c.toF (startOf_ok c pick))

end Pepper.ConstraintGen
