import PepperProofs.ConstraintGen
import PepperProofs.Closure
import PepperProofs.Codes
/-!
# The seeded graph: `Tab` laws, base masks, `build`, and correctness of `propagate_templates`, `get_reps`, `dump`

For any seeded `Cons` that satisfies the precondition of `propagate_constraints` (`Cons.WF`): the part of
`get_constraints` after the seeding (`finish`) fails with `overconstrained` exactly when some item is linked
to itself with odd parity or some class has no common base; otherwise it returns, for every position, the
lowest position of its class, the lowest position of the partner class, and the code of the intersection of
the class's templates (`finish_spec`).  `build` writes the seeded links as adjacency tables that satisfy the
precondition (`build_spec`).  Built on `propagate_closed` (PepperProofs/Closure).
-/
namespace Pepper.ConstraintGen
open Pepper Pepper.Closure Pepper.LinkSpec

theorem Tab.get_set {α} (t : Tab α) (k j : Nat) (v : α) :
    (t.set k v).get j = if j = k then some v else t.get j := by
  unfold Tab.get Tab.set
  by_cases h : k < t.size
  · rw [if_pos h, Array.getElem?_setIfInBounds]
    by_cases hjk : j = k
    · simp [hjk, h]
    · simp [hjk, Ne.symm hjk]
  · -- beyond the end: the array is padded with `none` up to `k`
    rw [if_neg h, Array.getElem?_push, Array.size_append, Array.size_replicate, Array.getElem?_append,
      Array.getElem?_replicate]
    by_cases hjk : j = k
    · rw [if_pos (by omega), if_pos hjk]
    · rw [if_neg (by omega), if_neg hjk]
      by_cases h2 : j < t.size
      · rw [if_pos h2]
      · rw [if_neg h2, Array.getElem?_eq_none (Nat.le_of_not_lt h2)]
        by_cases h4 : j - t.size < k - t.size
        · rw [if_pos h4]
        · rw [if_neg h4]

theorem Tab.get_empty {α} (k : Nat) : (Tab.empty : Tab α).get k = none := by
  simp [Tab.get, Tab.empty]

theorem Tab.has_set {α} (t : Tab α) (k j : Nat) (v : α) :
    (t.set k v).has j = (decide (j = k) || t.has j) := by
  unfold Tab.has
  rw [Tab.get_set]
  by_cases h : j = k <;> simp [h]

def hasB (m : Nat) (b : Base) : Prop := m &&& b.bit ≠ 0

instance (m : Nat) (b : Base) : Decidable (hasB m b) := by unfold hasB; infer_instance

theorem and_two_pow_ne_zero (m i : Nat) : m &&& 2 ^ i ≠ 0 ↔ m.testBit i = true := by
  constructor
  · intro h
    obtain ⟨j, hj⟩ := Nat.exists_testBit_of_ne_zero h
    rw [Nat.testBit_and, Nat.testBit_two_pow, Bool.and_eq_true, decide_eq_true_eq] at hj
    exact hj.2 ▸ hj.1
  · intro h h0
    have := congrArg (·.testBit i) h0
    simp [h] at this

def bitIdx : Base → Nat
  | .A => 0 | .C => 1 | .G => 2 | .T => 3

theorem hasB_iff_testBit (m : Nat) (b : Base) : hasB m b ↔ m.testBit (bitIdx b) = true := by
  cases b
  · exact and_two_pow_ne_zero m 0
  · exact and_two_pow_ne_zero m 1
  · exact and_two_pow_ne_zero m 2
  · exact and_two_pow_ne_zero m 3

theorem hasB_and (m n : Nat) (b : Base) : hasB (m &&& n) b ↔ hasB m b ∧ hasB n b := by
  simp only [hasB_iff_testBit, Nat.testBit_and, Bool.and_eq_true]

theorem hasB_compl {m : Nat} (hm : m < 16) (b : Base) : hasB (complMask m) b ↔ hasB m b.compl := by
  unfold hasB
  cases b
  · exact (by decide : ∀ m : Fin 16, complMask m.val &&& Base.A.bit ≠ 0 ↔ m.val &&& Base.A.compl.bit ≠ 0) ⟨m, hm⟩
  · exact (by decide : ∀ m : Fin 16, complMask m.val &&& Base.C.bit ≠ 0 ↔ m.val &&& Base.C.compl.bit ≠ 0) ⟨m, hm⟩
  · exact (by decide : ∀ m : Fin 16, complMask m.val &&& Base.G.bit ≠ 0 ↔ m.val &&& Base.G.compl.bit ≠ 0) ⟨m, hm⟩
  · exact (by decide : ∀ m : Fin 16, complMask m.val &&& Base.T.bit ≠ 0 ↔ m.val &&& Base.T.compl.bit ≠ 0) ⟨m, hm⟩

theorem mask_ne_zero_iff {m : Nat} (hm : m < 16) : m ≠ 0 ↔ ∃ b : Base, hasB m b := by
  constructor
  · intro h
    have := (by decide : ∀ m : Fin 16, m.val ≠ 0 →
      (m.val &&& Base.A.bit ≠ 0 ∨ m.val &&& Base.C.bit ≠ 0 ∨ m.val &&& Base.G.bit ≠ 0 ∨ m.val &&& Base.T.bit ≠ 0)) ⟨m, hm⟩ h
    rcases this with h | h | h | h
    · exact ⟨.A, h⟩
    · exact ⟨.C, h⟩
    · exact ⟨.G, h⟩
    · exact ⟨.T, h⟩
  · rintro ⟨b, hb⟩ rfl
    exact hb (Nat.zero_and _)

theorem complMask_lt16 (m : Nat) : complMask m < 16 := by
  unfold complMask
  refine Nat.or_lt_two_pow (n := 4) (Nat.or_lt_two_pow (Nat.or_lt_two_pow ?_ ?_) ?_) ?_ <;> split <;> decide

theorem hasB_15 (b : Base) : hasB 15 b := by cases b <;> decide

theorem hasB_flip {m : Nat} (hm : m < 16) (b : Base) (p : Bool) :
    hasB (if p then complMask m else m) b ↔ hasB m (flipB b p) := by
  cases p
  · exact Iff.rfl
  · exact hasB_compl hm b

def IsMin (P : Nat) (S : Nat → Prop) (o : Option Nat) : Prop :=
  match o with
  | some m => S m ∧ m < P ∧ ∀ y, S y → y < P → m ≤ y
  | none => ∀ y, S y → ¬ y < P

theorem IsMin.unique {P : Nat} {S : Nat → Prop} {o o' : Option Nat} (h : IsMin P S o) (h' : IsMin P S o') :
    o = o' := by
  cases o <;> cases o'
  · rfl
  · exact absurd h'.2.1 (h _ h'.1)
  · exact absurd h.2.1 (h' _ h.1)
  · exact congrArg some (Nat.le_antisymm (h.2.2 _ h'.1 h'.2.1) (h'.2.2 _ h.1 h.2.1))

theorem IsMin.congr {P : Nat} {S S' : Nat → Prop} {o : Option Nat} (hs : ∀ y, S y ↔ S' y)
    (h : IsMin P S o) : IsMin P S' o := by
  rwa [show S' = S from funext fun y => propext (hs y).symm]

/-- the step function inside the model's `minValid` (equal by unfolding, which `minValid_spec` uses) -/
def mvStep (P : Nat) (m : Option Nat) (y : Nat) : Option Nat :=
  if y < P then (match m with | none => some y | some v => some (min v y)) else m

theorem mvStep_spec (P : Nat) (S0 : Nat → Prop) (acc : Option Nat) (a : Nat) (hacc : IsMin P S0 acc) :
    IsMin P (fun y => S0 y ∨ y = a) (mvStep P acc a) := by
  unfold mvStep
  split
  · rename_i ha
    cases acc with
    | none =>
      exact ⟨Or.inr rfl, ha, fun y hy hyP =>
        hy.elim (fun h => absurd hyP (hacc y h)) (fun h => h ▸ Nat.le_refl _)⟩
    | some v =>
      obtain ⟨h1, h2, h3⟩ := hacc
      have hmin : min v a = v ∨ min v a = a := by omega
      refine ⟨hmin.elim (fun e => Or.inl (e.symm ▸ h1)) Or.inr, by omega, fun y hy hyP => ?_⟩
      rcases hy with hy | rfl
      · exact Nat.le_trans (Nat.min_le_left _ _) (h3 y hy hyP)
      · exact Nat.min_le_right _ _
  · rename_i ha
    cases acc with
    | none => exact fun y hy => hy.elim (hacc y) (fun h => h ▸ ha)
    | some v =>
      exact ⟨Or.inl hacc.1, hacc.2.1, fun y hy hyP =>
        hy.elim (fun h => hacc.2.2 y h hyP) (fun h => absurd (h ▸ hyP) ha)⟩

theorem minValid_foldl (P : Nat) (l : List Nat) (acc : Option Nat) (S0 : Nat → Prop)
    (hacc : IsMin P S0 acc) :
    IsMin P (fun y => S0 y ∨ y ∈ l) (l.foldl (mvStep P) acc) := by
  induction l generalizing acc S0 with
  | nil => simpa using hacc
  | cons a l ih =>
    refine IsMin.congr (fun y => ?_) (ih _ _ (mvStep_spec P S0 acc a hacc))
    rw [List.mem_cons, or_assoc]

theorem minValid_spec (P : Nat) (l : List Nat) : IsMin P (· ∈ l) (minValid P l) :=
  IsMin.congr (fun y => by rw [false_or]) (minValid_foldl P l none (fun _ => False) (fun _ hy => hy.elim))

def stMask (tbl : CodeTable) (st : Tab Char) (y : Nat) : Nat :=
  match st.get y with
  | some c => tbl.maskC c
  | none => 0

theorem maskC_lt16 (tbl : CodeTable) (c : Char) : tbl.maskC c < 16 := by
  unfold CodeTable.maskC
  split
  · exact maskOf_lt _
  · decide

theorem stMask_lt16 (tbl : CodeTable) (st : Tab Char) (y : Nat) : stMask tbl st y < 16 := by
  unfold stMask
  split
  · exact maskC_lt16 _ _
  · decide

theorem foldl_set_get {α} (l : List Nat) (v : α) (t : Tab α) (z : Nat) :
    (l.foldl (fun t y => t.set y v) t).get z = if z ∈ l then some v else t.get z := by
  induction l generalizing t with
  | nil => simp
  | cons a l ih =>
    simp only [List.foldl_cons, ih, Tab.get_set, List.mem_cons]
    by_cases h1 : z ∈ l <;> by_cases h2 : z = a <;> simp [h1, h2]

theorem applyTo_eq (s : PT) (c : Char) (l : List Nat) :
    applyTo s c l = ⟨l.foldl (fun t y => t.set y c) s.st, l.foldl (fun t y => t.set y ()) s.done⟩ := by
  unfold applyTo
  induction l generalizing s with
  | nil => rfl
  | cons a l ih => exact ih _

theorem applyTo_st (s : PT) (c : Char) (l : List Nat) (z : Nat) :
    (applyTo s c l).st.get z = if z ∈ l then some c else s.st.get z := by
  rw [applyTo_eq, foldl_set_get]

theorem applyTo_done (s : PT) (c : Char) (l : List Nat) (z : Nat) :
    (applyTo s c l).done.has z = (decide (z ∈ l) || s.done.has z) := by
  unfold Tab.has
  rw [applyTo_eq, foldl_set_get]
  by_cases h : z ∈ l <;> simp [h]

/-- running intersection of the templates of `l` as they constrain an item at parity `p` from them:
    `meetEq` (`p = false`) intersects the templates, `meetWc` (`p = true`) their complements -/
def maskL (tbl : CodeTable) (st : Tab Char) (p : Bool) (l : List Nat) (m : Nat) : Nat :=
  l.foldl (fun m y => m &&& if p then complMask (stMask tbl st y) else stMask tbl st y) m

theorem maskL_zero (tbl : CodeTable) (st : Tab Char) (p : Bool) (l : List Nat) : maskL tbl st p l 0 = 0 := by
  unfold maskL
  induction l with
  | nil => rfl
  | cons a l ih => rwa [List.foldl_cons, Nat.zero_and]

theorem hasB_maskL (tbl : CodeTable) (st : Tab Char) (p : Bool) (l : List Nat) (m : Nat) (b : Base) :
    hasB (maskL tbl st p l m) b ↔ hasB m b ∧ ∀ y ∈ l, hasB (stMask tbl st y) (flipB b p) := by
  unfold maskL
  induction l generalizing m with
  | nil => simp
  | cons a l ih =>
    rw [List.foldl_cons, ih, hasB_and, hasB_flip (stMask_lt16 _ _ _), List.forall_mem_cons, and_assoc]

theorem maskL_congr {tbl : CodeTable} {st st' : Tab Char} {p : Bool} {l : List Nat}
    (h : ∀ y ∈ l, st.get y = st'.get y) (m : Nat) : maskL tbl st p l m = maskL tbl st' p l m := by
  unfold maskL
  induction l generalizing m with
  | nil => rfl
  | cons a l ih =>
    rw [List.foldl_cons, List.foldl_cons, stMask, stMask, h a List.mem_cons_self]
    exact ih (fun y hy => h y (List.mem_cons_of_mem _ hy)) _

/-- a loop of `intersect_groups` ended with the code of the mask `M`, or `M` is empty and it raised `ValueError` -/
def MeetOK (tbl : CodeTable) (r : Except Err Char) (M : Nat) : Prop :=
  (M = 0 ∧ r = .error .overconstrained) ∨ ∃ c, r = .ok c ∧ tbl.isCode c = true ∧ tbl.maskC c = M

theorem MeetOK.step {tbl : CodeTable} (hl : tbl.lawful = true) {c d : Char} (hc : tbl.isCode c = true)
    (hd : tbl.isCode d = true) {K : Char → Except Err Char} {F : Nat → Nat} (hF : F 0 = 0)
    (hK : ∀ e, tbl.isCode e = true → MeetOK tbl (K e) (F (tbl.maskC e))) :
    MeetOK tbl (match isect tbl c d with | .error e => .error e | .ok c' => K c')
      (F (tbl.maskC c &&& tbl.maskC d)) := by
  unfold isect
  by_cases h0 : tbl.maskC c &&& tbl.maskC d = 0
  · rw [CodeTable.intersect_empty hl hc hd h0, h0, hF]
    exact Or.inl ⟨rfl, rfl⟩
  · obtain ⟨e, he, hm⟩ := CodeTable.intersect_ok hl hc hd h0
    rw [he, ← hm]
    exact hK e (CodeTable.isCode_of_maskC_ne_zero (hm ▸ h0))

theorem meetEq_spec {tbl : CodeTable} (hl : tbl.lawful = true) (s : PT) (l : List Nat) (c : Char)
    (hc : tbl.isCode c = true)
    (hy : ∀ y ∈ l, s.done.has y = false ∧ ∃ cy, s.st.get y = some cy ∧ tbl.isCode cy = true) :
    MeetOK tbl (meetEq tbl s l c) (maskL tbl s.st false l (tbl.maskC c)) := by
  induction l generalizing c with
  | nil => exact Or.inr ⟨c, rfl, hc, rfl⟩
  | cons a l ih =>
    obtain ⟨hd, cy, hcy, hcode⟩ := hy a List.mem_cons_self
    have hm : ∀ m, maskL tbl s.st false (a :: l) m = maskL tbl s.st false l (m &&& tbl.maskC cy) := by
      simp [maskL, stMask, hcy]
    simp only [meetEq, hd, hcy, hm]
    exact MeetOK.step hl hc hcode (maskL_zero ..)
      (fun e he => ih e he (fun y hy' => hy y (List.mem_cons_of_mem _ hy')))

theorem meetWc_spec {tbl : CodeTable} (hl : tbl.lawful = true) (s : PT) (l : List Nat) (c : Char)
    (hc : tbl.isCode c = true)
    (hy : ∀ y ∈ l, s.done.has y = false ∧ ∃ cy, s.st.get y = some cy ∧ tbl.isCode cy = true) :
    MeetOK tbl (meetWc tbl s l c) (maskL tbl s.st true l (tbl.maskC c)) := by
  induction l generalizing c with
  | nil => exact Or.inr ⟨c, rfl, hc, rfl⟩
  | cons a l ih =>
    obtain ⟨hd, cy, hcy, hcode⟩ := hy a List.mem_cons_self
    obtain ⟨dy, hdy, hdcode⟩ := CodeTable.isCode_compl hl hcode
    have hm : ∀ m, maskL tbl s.st true (a :: l) m = maskL tbl s.st true l (m &&& tbl.maskC dy) := by
      simp [maskL, stMask, hcy, CodeTable.complOf_mask hl hdy]
    simp only [meetWc, hd, hcy, hdy, hm]
    exact MeetOK.step hl hc hdcode (maskL_zero ..)
      (fun e he => ih e he (fun y hy' => hy y (List.mem_cons_of_mem _ hy')))

structure Ctx (tbl : CodeTable) (eq wc : Adj) (r : Res) (st0 : Tab Char) : Prop where
  lawful : tbl.lawful = true
  pre : Pre eq wc
  inv : OInv eq wc r
  all : ∀ x ∈ keys eq, r.has x = true
  codes : ∀ x ∈ keys eq, ∃ ch, st0.get x = some ch ∧ tbl.isCode ch = true

def Common (tbl : CodeTable) (eq wc : Adj) (st0 : Tab Char) (x : Nat) (b : Base) : Prop :=
  ∀ y p, Reach eq wc x p y → hasB (stMask tbl st0 y) (flipB b p)

theorem xor_assoc' (p q r : Bool) : ((p ^^ q) ^^ r) = (p ^^ (q ^^ r)) := Bool.xor_assoc p q r

theorem Common.shift {tbl : CodeTable} {eq wc : Adj} {st0 : Tab Char} (hp : Pre eq wc) {x z : Nat} {q : Bool}
    (h : Reach eq wc x q z) (b : Base) : Common tbl eq wc st0 z b ↔ Common tbl eq wc st0 x (flipB b q) := by
  constructor
  · intro hc y p hy
    rw [flipB_flipB]
    exact hc y _ ((hp.reach_symm h).trans hy)
  · intro hc y p hy
    have := hc y _ (h.trans hy)
    rwa [flipB_flipB, xor_cancel] at this

/-- invariant of the loop of `propagate_templates` -/
structure PInv (tbl : CodeTable) (eq wc : Adj) (st0 : Tab Char) (s : PT) : Prop where
  closed : ∀ y, s.done.has y = true → ∀ p z, Reach eq wc y p z → s.done.has z = true
  isKey : ∀ y, s.done.has y = true → y ∈ keys eq
  keep : ∀ y, s.done.has y = false → s.st.get y = st0.get y
  val : ∀ y, s.done.has y = true → ∃ c, s.st.get y = some c ∧ tbl.isCode c = true ∧
    ∀ b, hasB (tbl.maskC c) b ↔ Common tbl eq wc st0 y b
  noself : ∀ y, s.done.has y = true → ¬ Reach eq wc y true y

/-- writing `c` on the equals and `cc` on the complements of a class that is not its own partner -/
theorem pinv_applyClass {tbl : CodeTable} {eq wc : Adj} {st0 : Tab Char} (hp : Pre eq wc) {s : PT}
    (I : PInv tbl eq wc st0 s) {x : Nat} (hx : x ∈ keys eq) {E W : List Nat}
    (hEx : ∀ y, y ∈ E ↔ Reach eq wc x false y) (hWx : ∀ y, y ∈ W ↔ Reach eq wc x true y)
    (hnself : ¬ Reach eq wc x true x) {c cc : Char} (hc : tbl.isCode c = true) (hcc : tbl.isCode cc = true)
    (hcb : ∀ b, hasB (tbl.maskC c) b ↔ Common tbl eq wc st0 x b)
    (hccb : ∀ b, hasB (tbl.maskC cc) b ↔ Common tbl eq wc st0 x b.compl) :
    PInv tbl eq wc st0 (applyTo (applyTo s c E) cc W) ∧
    ∀ z, (applyTo (applyTo s c E) cc W).done.has z = true ↔
      (∃ q, Reach eq wc x q z) ∨ s.done.has z = true := by
  have dn : ∀ z, (applyTo (applyTo s c E) cc W).done.has z = true ↔
      (∃ q, Reach eq wc x q z) ∨ s.done.has z = true := by
    intro z
    rw [applyTo_done, applyTo_done, ← Bool.or_assoc, Bool.or_eq_true, Bool.or_eq_true, decide_eq_true_eq,
      decide_eq_true_eq, hEx, hWx]
    exact or_congr_left ⟨fun h => h.elim (fun h => ⟨_, h⟩) (fun h => ⟨_, h⟩),
      fun ⟨q, hq⟩ => by cases q; exact Or.inr hq; exact Or.inl hq⟩
  refine ⟨⟨?_, ?_, ?_, ?_, ?_⟩, dn⟩
  · intro y hy p z hyz
    rw [dn] at hy ⊢
    exact hy.imp (fun ⟨q, hq⟩ => ⟨_, hq.trans hyz⟩) (fun hy => I.closed y hy p z hyz)
  · intro y hy
    exact ((dn y).1 hy).elim (fun ⟨q, hq⟩ => hq.mem_keys hp.keyClosed hx) (I.isKey y)
  · intro y hy
    have hy' : ¬ ((∃ q, Reach eq wc x q y) ∨ s.done.has y = true) := fun h => by simp [(dn y).2 h] at hy
    have h1 : y ∉ W := fun h => hy' (Or.inl ⟨_, (hWx y).1 h⟩)
    have h2 : y ∉ E := fun h => hy' (Or.inl ⟨_, (hEx y).1 h⟩)
    rw [applyTo_st, applyTo_st, if_neg h1, if_neg h2]
    exact I.keep y (by simpa using fun h => hy' (Or.inr h))
  · intro y hy
    rw [applyTo_st, applyTo_st]
    by_cases h1 : y ∈ W
    · refine ⟨cc, if_pos h1, hcc, fun b => ?_⟩
      rw [hccb, Common.shift hp ((hWx y).1 h1) b]
      rfl
    · rw [if_neg h1]
      by_cases h2 : y ∈ E
      · refine ⟨c, if_pos h2, hc, fun b => ?_⟩
        rw [hcb, Common.shift hp ((hEx y).1 h2) b]
        rfl
      · rw [if_neg h2]
        refine I.val y (((dn y).1 hy).resolve_left ?_)
        rintro ⟨q, hq⟩
        cases q
        · exact h2 ((hEx y).2 hq)
        · exact h1 ((hWx y).2 hq)
  · intro y hy hyy
    rcases (dn y).1 hy with ⟨q, hq⟩ | hy
    · have := (hq.trans hyy).trans (hp.reach_symm hq)
      rw [show ((q ^^ true) ^^ q) = true by cases q <;> rfl] at this
      exact hnself this
    · exact I.noself y hy hyy

theorem ptStep_spec {tbl : CodeTable} {eq wc : Adj} {r : Res} {st0 : Tab Char} (C : Ctx tbl eq wc r st0)
    {s : PT} (I : PInv tbl eq wc st0 s) {x : Nat} {letter : Char} (hx : x ∈ keys eq)
    (hletter : st0.get x = some letter) :
    (∃ s', ptStep tbl r s (x, letter) = .ok s' ∧ PInv tbl eq wc st0 s' ∧ s'.done.has x = true ∧
        ∀ z, s.done.has z = true → s'.done.has z = true) ∨
    (ptStep tbl r s (x, letter) = .error .overconstrained ∧
        (Reach eq wc x true x ∨ ∀ b, ¬ Common tbl eq wc st0 x b)) := by
  have hl := C.lawful
  by_cases hdx : s.done.has x = true
  · exact Or.inl ⟨s, by simp [ptStep, hdx], I, hdx, fun _ h => h⟩
  have hdx' : s.done.has x = false := by simpa using hdx
  obtain ⟨E, W, hg, hEx, hWx⟩ := C.inv.get (C.all x hx)
  have hlcode : tbl.isCode letter = true := by
    obtain ⟨lc, hlc, h⟩ := C.codes x hx
    cases hletter.symm.trans hlc
    exact h
  by_cases hself : x ∈ W
  · exact Or.inr ⟨by simp [ptStep, hdx', hg, hself], Or.inl ((hWx x).1 hself)⟩
  have hnself : ¬ Reach eq wc x true x := fun h => hself ((hWx x).2 h)
  have hmem : ∀ y p, Reach eq wc x p y → s.done.has y = false ∧
      ∃ cy, s.st.get y = some cy ∧ tbl.isCode cy = true := by
    intro y p hy
    have hnd : s.done.has y = false := by
      cases hd : s.done.has y with
      | false => rfl
      | true => exact absurd (I.closed y hd p x (C.pre.reach_symm hy)) hdx
    obtain ⟨cy, h1, h2⟩ := C.codes y (hy.mem_keys C.pre.keyClosed hx)
    exact ⟨hnd, cy, (I.keep y hnd).trans h1, h2⟩
  have hmE := fun y hy => hmem y false ((hEx y).1 hy)
  have hmW := fun y hy => hmem y true ((hWx y).1 hy)
  -- the two loops compute the intersection `M` over the whole class, whose bases are the common ones
  obtain ⟨M, hM⟩ : ∃ M, M = maskL tbl s.st true W (maskL tbl s.st false E (tbl.maskC letter)) := ⟨_, rfl⟩
  have bits : ∀ b, hasB M b ↔ Common tbl eq wc st0 x b := by
    intro b
    rw [hM, maskL_congr (fun y hy => I.keep y (hmW y hy).1), maskL_congr (fun y hy => I.keep y (hmE y hy).1),
      hasB_maskL, hasB_maskL]
    constructor
    · rintro ⟨⟨_, h1⟩, h2⟩ y p hy
      cases p
      · exact h1 y ((hEx y).2 hy)
      · exact h2 y ((hWx y).2 hy)
    · intro h
      have hxl := h x false Reach.refl
      rw [stMask, hletter] at hxl
      exact ⟨⟨hxl, fun y hy => h y false ((hEx y).1 hy)⟩, fun y hy => h y true ((hWx y).1 hy)⟩
  have none_common : M = 0 → ∀ b, ¬ Common tbl eq wc st0 x b := fun h0 b hb =>
    (h0 ▸ (bits b).2 hb) (Nat.zero_and _)
  rcases meetEq_spec hl s E letter hlcode hmE with ⟨h0, he⟩ | ⟨c1, he1, hc1, hm1⟩
  · exact Or.inr ⟨by simp [ptStep, hdx', hg, hself, he], Or.inr (none_common (by rw [hM, h0, maskL_zero]))⟩
  rcases meetWc_spec hl s W c1 hc1 hmW with ⟨h0, he⟩ | ⟨c, he2, hc, hm2⟩
  · exact Or.inr ⟨by simp [ptStep, hdx', hg, hself, he1, he], Or.inr (none_common (by rw [hM, ← hm1, h0]))⟩
  have hcbits : ∀ b, hasB (tbl.maskC c) b ↔ Common tbl eq wc st0 x b := fun b => by
    rw [hm2, hm1, ← hM]
    exact bits b
  obtain ⟨cc, hcc, hcccode⟩ := CodeTable.isCode_compl hl hc
  have hccm := CodeTable.complOf_mask hl hcc
  -- the new state, uniformly in whether `W` is empty
  have hres : ptStep tbl r s (x, letter) = .ok (applyTo (applyTo s c E) cc W) := by
    cases W with
    | nil => simp [ptStep, hdx', hg, he1, he2, applyTo]
    | cons w W' => simp [ptStep, hdx', hg, hself, he1, he2, hcc]
  obtain ⟨I', dn⟩ := pinv_applyClass C.pre I hx hEx hWx hnself hc hcccode hcbits
    (fun b => by rw [hccm, hasB_compl (maskC_lt16 _ _), hcbits])
  exact Or.inl ⟨_, hres, I', (dn x).2 (Or.inl ⟨_, Reach.refl⟩), fun z hz => (dn z).2 (Or.inr hz)⟩

theorem ptLoop_spec {tbl : CodeTable} {eq wc : Adj} {r : Res} {st0 : Tab Char} (C : Ctx tbl eq wc r st0)
    (ks : List Nat) (hks : ∀ k ∈ ks, k ∈ keys eq) {s : PT} (I : PInv tbl eq wc st0 s) :
    (∃ s', ptLoop tbl r (ks.filterMap (fun k => (st0.get k).map (fun c => (k, c)))) s = .ok s' ∧
        PInv tbl eq wc st0 s' ∧ (∀ k ∈ ks, s'.done.has k = true) ∧
        ∀ z, s.done.has z = true → s'.done.has z = true) ∨
    (ptLoop tbl r (ks.filterMap (fun k => (st0.get k).map (fun c => (k, c)))) s = .error .overconstrained ∧
        ∃ x ∈ keys eq, Reach eq wc x true x ∨ ∀ b, ¬ Common tbl eq wc st0 x b) := by
  induction ks generalizing s with
  | nil => exact Or.inl ⟨s, rfl, I, fun _ h => (nomatch h), fun _ h => h⟩
  | cons x ks ih =>
    have hx := hks x List.mem_cons_self
    obtain ⟨letter, hletter, _⟩ := C.codes x hx
    rw [List.filterMap_cons, hletter]
    simp only [Option.map_some, ptLoop]
    rcases ptStep_spec C I hx hletter with ⟨s1, e1, I1, hx1, m1⟩ | ⟨e1, hbad⟩
    · rw [e1]
      rcases ih (fun k h => hks k (List.mem_cons_of_mem _ h)) I1 with ⟨s2, e2, I2, h2, m2⟩ | ⟨e2, hbad⟩
      · refine Or.inl ⟨s2, e2, I2, fun k hk => ?_, fun z hz => m2 z (m1 z hz)⟩
        rcases List.mem_cons.1 hk with rfl | h
        · exact m2 _ hx1
        · exact h2 k h
      · exact Or.inr ⟨e2, hbad⟩
    · rw [e1]
      exact Or.inr ⟨rfl, x, hx, hbad⟩

theorem propagateTemplates_spec {tbl : CodeTable} {eq wc : Adj} {r : Res} {st0 : Tab Char}
    (C : Ctx tbl eq wc r st0) :
    (∃ st', propagateTemplates tbl (keys eq) r st0 = .ok st' ∧
        (∀ y ∈ keys eq, ¬ Reach eq wc y true y ∧ ∃ c, st'.get y = some c ∧ tbl.isCode c = true ∧
          ∀ b, hasB (tbl.maskC c) b ↔ Common tbl eq wc st0 y b) ∧
        (∀ y, y ∉ keys eq → st'.get y = st0.get y)) ∨
    (propagateTemplates tbl (keys eq) r st0 = .error .overconstrained ∧
        ∃ x ∈ keys eq, Reach eq wc x true x ∨ ∀ b, ¬ Common tbl eq wc st0 x b) := by
  have hsk : sameKeys (keys eq) (r.map (·.1)) = true := by
    unfold sameKeys
    simp only [Bool.and_eq_true, List.all_eq_true, List.contains_iff_mem]
    exact ⟨fun x hx => (C.inv.mem_keys C.all x).2 hx, fun x hx => (C.inv.mem_keys C.all x).1 hx⟩
  unfold propagateTemplates
  simp only [hsk, Bool.not_true, Bool.false_eq_true, if_false]
  rcases ptLoop_spec C (keys eq) (fun _ h => h) (s := ⟨st0, Tab.empty⟩)
      ⟨fun _ h => (nomatch h), fun _ h => (nomatch h), fun _ _ => rfl, fun _ h => (nomatch h), fun _ h => (nomatch h)⟩ with ⟨s', e, I, hd, _⟩ | ⟨e, hbad⟩
  · rw [e]
    refine Or.inl ⟨s'.st, rfl, fun y hy => ⟨I.noself _ (hd y hy), I.val _ (hd y hy)⟩, fun y hy => I.keep y ?_⟩
    cases h : s'.done.has y with
    | false => rfl
    | true => exact absurd (I.isKey y h) hy
  · rw [e]
    exact Or.inr ⟨rfl, hbad⟩

theorem repGet_set (t : Tab (Option Nat)) (k j : Nat) (v : Option Nat) :
    repGet (t.set k v) j = if j = k then v else repGet t j := by
  unfold repGet
  rw [Tab.get_set]
  by_cases h : j = k <;> simp [h]

theorem repLoopE (x : Nat) (mE mW : Option Nat) (E : List Nat) (s : Reps)
    (h1 : repGet s.eqRep x = mE) (h2 : repGet s.wcRep x = mW) :
    E.foldl (fun (s : Reps) y =>
        let e1 := s.eqRep.set y (repGet s.eqRep x)
        ⟨e1, s.wcRep.set y (repGet s.wcRep x)⟩) s
      = ⟨E.foldl (fun t y => t.set y mE) s.eqRep, E.foldl (fun t y => t.set y mW) s.wcRep⟩ := by
  induction E generalizing s with
  | nil => rfl
  | cons a E ih =>
    simp only [List.foldl_cons]
    rw [ih]
    · simp only [h1, h2]
    · simp only [repGet_set, h1]; split <;> rfl
    · simp only [repGet_set, h2]; split <;> rfl

/-- the loop over `wc[x]` of `get_reps` in closed form (when `x` is not its own partner) -/
theorem repLoopW (x : Nat) (mE mW : Option Nat) (W : List Nat) (hx : x ∉ W) (s : Reps)
    (h1 : repGet s.eqRep x = mE) (h2 : repGet s.wcRep x = mW) :
    W.foldl (fun (s : Reps) y =>
        let e1 := s.eqRep.set y (repGet s.wcRep x)
        ⟨e1, s.wcRep.set y (repGet e1 x)⟩) s
      = ⟨W.foldl (fun t y => t.set y mW) s.eqRep, W.foldl (fun t y => t.set y mE) s.wcRep⟩ := by
  induction W generalizing s with
  | nil => rfl
  | cons a W ih =>
    have hxa : x ≠ a := fun e => hx (e ▸ List.mem_cons_self)
    have hxW : x ∉ W := fun h => hx (List.mem_cons_of_mem _ h)
    simp only [List.foldl_cons]
    rw [ih hxW]
    · simp only [h2, repGet_set, hxa, if_false, h1]
    · simp only [repGet_set, hxa, if_false, h1]
    · simp only [repGet_set, hxa, if_false, h2]

def Reps.tab (s : Reps) : Bool → Tab (Option Nat)
  | false => s.eqRep
  | true => s.wcRep

theorem repStep_get (P : Nat) (s : Reps) (x : Nat) (E W : List Nat) (hxE : x ∈ E) (hxW : x ∉ W) (p : Bool)
    (z : Nat) :
    ((repStep P s (x, E, W)).tab p).get z =
      if z ∈ W then some (minValid P (if !p then W else E))
      else if z ∈ E then some (minValid P (if p then W else E)) else (s.tab p).get z := by
  unfold repStep
  simp only
  rw [repLoopE x (minValid P E) (minValid P W) E _ (by simp [repGet_set]) (by simp [repGet_set]),
    repLoopW x (minValid P E) (minValid P W) W hxW]
  · cases p
    all_goals
      simp only [Reps.tab, foldl_set_get, Tab.get_set]
      by_cases hz : z = x
      · simp [hz, hxE]
      · simp [hz]
  · simp [repGet, foldl_set_get, hxE]
  · simp [repGet, foldl_set_get, hxE]

/-- invariant of the loop of `get_reps`: every value already written is the right one -/
structure RInv (P : Nat) (eq wc : Adj) (s : Reps) : Prop where
  val : ∀ p y, (s.tab p).get y ≠ none → y ∈ keys eq ∧ IsMin P (Reach eq wc y p) (repGet (s.tab p) y)

theorem repStep_spec {P : Nat} {eq wc : Adj} (hp : Pre eq wc) {s : Reps} (I : RInv P eq wc s)
    {x : Nat} {E W : List Nat} (hx : x ∈ keys eq)
    (hE : ∀ y, y ∈ E ↔ Reach eq wc x false y) (hW : ∀ y, y ∈ W ↔ Reach eq wc x true y)
    (hns : ¬ Reach eq wc x true x) :
    RInv P eq wc (repStep P s (x, E, W)) ∧
    ∀ p z, z = x ∨ (s.tab p).get z ≠ none → ((repStep P s (x, E, W)).tab p).get z ≠ none := by
  have hxE : x ∈ E := (hE x).2 Reach.refl
  have g := repStep_get P s x E W hxE (fun h => hns ((hW x).1 h))
  have cls : ∀ b w, w ∈ (if b then W else E) ↔ Reach eq wc x b w := fun b w => by
    cases b
    · exact hE w
    · exact hW w
  -- for a member `z` at parity `q`, the items at parity `q ^^ p` are its class of parity `p`
  have own : ∀ {q z}, Reach eq wc x q z → ∀ p,
      z ∈ keys eq ∧ IsMin P (Reach eq wc z p) (minValid P (if q ^^ p then W else E)) := fun hz p =>
    ⟨hz.mem_keys hp.keyClosed hx,
      IsMin.congr (fun w => by rw [hp.reach_shift hz]; exact cls _ w) (minValid_spec P _)⟩
  refine ⟨⟨fun p y hy => ?_⟩, fun p z hz => ?_⟩
  · unfold repGet
    rw [g] at hy ⊢
    split
    · have := own ((hW y).1 ‹_›) p
      rwa [Bool.true_xor] at this
    · split
      · have := own ((hE y).1 ‹_›) p
        rwa [Bool.false_xor] at this
      · rw [if_neg ‹_›, if_neg ‹_›] at hy
        exact I.val p y hy
  · rw [g]
    split
    · exact Option.some_ne_none _
    · split
      · exact Option.some_ne_none _
      · exact hz.resolve_left (fun e => ‹z ∉ E› (e ▸ hxE))

theorem getReps_loop {P : Nat} {eq wc : Adj} (hp : Pre eq wc) (l : List (Nat × List Nat × List Nat))
    (hl : ∀ e ∈ l, e.1 ∈ keys eq ∧ (∀ y, y ∈ e.2.1 ↔ Reach eq wc e.1 false y) ∧
      (∀ y, y ∈ e.2.2 ↔ Reach eq wc e.1 true y) ∧ ¬ Reach eq wc e.1 true e.1)
    {s : Reps} (I : RInv P eq wc s) :
    RInv P eq wc (l.foldl (repStep P) s) ∧
    ∀ p z, z ∈ l.map (·.1) ∨ (s.tab p).get z ≠ none → ((l.foldl (repStep P) s).tab p).get z ≠ none := by
  induction l generalizing s with
  | nil => exact ⟨I, fun _ _ h => h.resolve_left (nomatch ·)⟩
  | cons a l ih =>
    obtain ⟨x, E, W⟩ := a
    obtain ⟨hx, hE, hW, hns⟩ := hl (x, E, W) List.mem_cons_self
    obtain ⟨I1, m1⟩ := repStep_spec hp I hx hE hW hns
    obtain ⟨I2, n1⟩ := ih (fun e he => hl e (List.mem_cons_of_mem _ he)) I1
    refine ⟨I2, fun p z hz => n1 p z ?_⟩
    rw [List.map_cons, List.mem_cons, or_assoc, or_left_comm] at hz
    exact hz.imp_right (m1 p z)

theorem getReps_spec {P : Nat} {eq wc : Adj} {r : Res} (hp : Pre eq wc) (K : Closed eq wc r)
    (hns : ∀ x ∈ keys eq, ¬ Reach eq wc x true x) (p : Bool) :
    (∀ x ∈ keys eq, IsMin P (Reach eq wc x p) (repGet ((getReps P r).tab p) x)) ∧
    ∀ x, x ∉ keys eq → repGet ((getReps P r).tab p) x = none := by
  have hl : ∀ e ∈ r, e.1 ∈ keys eq ∧ (∀ y, y ∈ e.2.1 ↔ Reach eq wc e.1 false y) ∧
      (∀ y, y ∈ e.2.2 ↔ Reach eq wc e.1 true y) ∧ ¬ Reach eq wc e.1 true e.1 := by
    rintro ⟨x, E, W⟩ he
    have hg : r.get x = some (E, W) := lookup_of_mem_nodup K.nodup he
    have hx : x ∈ keys eq := K.inv.isKey x (by rw [Res.has_eq, hg]; rfl)
    exact ⟨hx, (K.inv.exact x E W hg).1, (K.inv.exact x E W hg).2, hns x hx⟩
  obtain ⟨I, set⟩ := getReps_loop (P := P) hp r hl (s := ⟨Tab.empty, Tab.empty⟩)
    ⟨fun p y h => absurd (by cases p <;> exact Tab.get_empty y) h⟩
  refine ⟨fun x hx => (I.val p x (set p x (Or.inl ((K.inv.mem_keys K.all x).2 hx)))).2, fun x hx => ?_⟩
  have h : ((getReps P r).tab p).get x = none := Classical.byContradiction fun h => hx (I.val p x h).1
  unfold repGet
  rw [h]
  rfl

theorem foldl_max_spec (k : Nat) (ks : List Nat) :
    (ks.foldl max k ∈ k :: ks) ∧ ∀ y ∈ k :: ks, y ≤ ks.foldl max k :=
  (List.max?_eq_some_iff (xs := k :: ks) (a := ks.foldl max k)).1 List.max?_cons'

theorem dump_spec (P : Nat) (r : Res) (reps : Reps) (st : Tab Char) :
    (dump P r reps st = .error .noPositions ∧ ∀ x ∈ r.keys, ¬ x < P) ∨
    ∃ n, dump P r reps st = .ok ((List.range (n + 1)).map (repGet reps.eqRep),
        (List.range (n + 1)).map (repGet reps.wcRep), (List.range (n + 1)).map st.get) ∧
      n ∈ r.keys ∧ n < P ∧ ∀ x ∈ r.keys, x < P → x ≤ n := by
  unfold dump
  cases hf : (r.map (·.1)).filter (· < P) with
  | nil => exact Or.inl ⟨rfl, fun x hx hxP => nomatch hf ▸ List.mem_filter.2 ⟨hx, decide_eq_true hxP⟩⟩
  | cons k ks =>
    obtain ⟨h1, h2⟩ := foldl_max_spec k ks
    have hm := List.mem_filter.1 (hf ▸ h1)
    exact Or.inr ⟨_, rfl, hm.1, of_decide_eq_true hm.2,
      fun x hx hxP => h2 x (hf ▸ List.mem_filter.2 ⟨hx, decide_eq_true hxP⟩)⟩

/-- the seeded constraints satisfy the documented precondition of `propagate_constraints` and every key
    carries a code -/
structure Cons.WF (tbl : CodeTable) (c : Cons) : Prop where
  pre : Pre (adjOf c.keys c.eq) (adjOf c.keys c.wc)
  codes : ∀ x ∈ c.keys, ∃ ch, c.st.get x = some ch ∧ tbl.isCode ch = true
  stKeys : ∀ x, c.st.get x ≠ none → x ∈ c.keys

abbrev GR (c : Cons) (x : Nat) (p : Bool) (y : Nat) : Prop := Reach (adjOf c.keys c.eq) (adjOf c.keys c.wc) x p y

theorem keys_adjOf (ks : List Nat) (t : Tab (List Nat)) : keys (adjOf ks t) = ks := by
  unfold keys adjOf
  rw [List.map_map]
  conv => rhs; rw [← List.map_id ks]
  apply List.map_congr_left
  intro a _; rfl

theorem reach_mem_keys {c : Cons} (hp : Pre (adjOf c.keys c.eq) (adjOf c.keys c.wc)) {i m : Nat} {p : Bool}
    (hk : i ∈ c.keys) (h : GR c i p m) : m ∈ c.keys := by
  have := h.mem_keys hp.keyClosed (by rw [keys_adjOf]; exact hk)
  rwa [keys_adjOf] at this

structure GraphExact (tbl : CodeTable) (c : Cons) (P : Nat) (a : Arrays) : Prop where
  n_pos : 0 < a.1.length
  len_wc : a.2.1.length = a.1.length
  len_st : a.2.2.length = a.1.length
  last : a.1.length - 1 ∈ c.keys
  le_P : a.1.length ≤ P
  bound : ∀ x ∈ c.keys, x < P → x < a.1.length
  blank : ∀ i, i < a.1.length → i ∉ c.keys → a.1[i]? = some none ∧ a.2.1[i]? = some none ∧ a.2.2[i]? = some none
  key : ∀ i, i < a.1.length → i ∈ c.keys →
    (∃ v, a.1[i]? = some v ∧ IsMin P (Reach (adjOf c.keys c.eq) (adjOf c.keys c.wc) i false) v) ∧
    (∃ w, a.2.1[i]? = some w ∧ IsMin P (Reach (adjOf c.keys c.eq) (adjOf c.keys c.wc) i true) w) ∧
    (∃ ch, a.2.2[i]? = some (some ch) ∧ tbl.isCode ch = true ∧
      ∀ b, hasB (tbl.maskC ch) b ↔ Common tbl (adjOf c.keys c.eq) (adjOf c.keys c.wc) c.st i b)
  noself : ∀ x ∈ c.keys, ¬ Reach (adjOf c.keys c.eq) (adjOf c.keys c.wc) x true x

def GraphSat (tbl : CodeTable) (c : Cons) : Prop :=
  ∀ x ∈ c.keys, ¬ Reach (adjOf c.keys c.eq) (adjOf c.keys c.wc) x true x ∧
    ∃ b, Common tbl (adjOf c.keys c.eq) (adjOf c.keys c.wc) c.st x b

/-- **The part of `get_constraints` after the seeding.**  Under the precondition it either reports an
    over-constrained class (and then the seeded graph really has one), or has no position to number (and then
    the graph is satisfiable), or returns exactly the closure. -/
theorem finish_spec {tbl : CodeTable} (hl : tbl.lawful = true) {c : Cons} (P : Nat) (wf : c.WF tbl) :
    (finish tbl P c = .error .overconstrained ∧ ¬ GraphSat tbl c) ∨
    (finish tbl P c = .error .noPositions ∧ GraphSat tbl c ∧ ∀ x ∈ c.keys, ¬ x < P) ∨
    (∃ a, finish tbl P c = .ok a ∧ GraphSat tbl c ∧ GraphExact tbl c P a) := by
  have hk : keys (adjOf c.keys c.eq) = c.keys := keys_adjOf _ _
  obtain ⟨r, hr, K⟩ := propagate_closed wf.pre
  have C : Ctx tbl (adjOf c.keys c.eq) (adjOf c.keys c.wc) r c.st :=
    ⟨hl, wf.pre, K.inv, K.all, by rw [hk]; exact wf.codes⟩
  rcases propagateTemplates_spec C with ⟨st', e1, hval, hkeep⟩ | ⟨e1, x, hx, hbad⟩
  · rw [hk] at e1 hval hkeep
    have hsat : GraphSat tbl c := by
      intro x hx
      obtain ⟨h1, ch, _, hcode, hb⟩ := hval x hx
      refine ⟨h1, ?_⟩
      obtain ⟨b, hbb⟩ := (mask_ne_zero_iff (maskC_lt16 tbl ch)).1
        (Nat.pos_iff_ne_zero.1 (CodeTable.maskC_pos hl hcode).1)
      exact ⟨b, (hb b).1 hbb⟩
    have hrep := getReps_spec (P := P) wf.pre K (by rw [hk]; exact fun x hx => (hval x hx).1)
    rw [hk] at hrep
    have key : ∀ x, x ∈ r.keys ↔ x ∈ c.keys := fun x => hk ▸ K.inv.mem_keys K.all x
    rw [show finish tbl P c = dump P r (getReps P r) st' by simp [finish, hr, e1]]
    rcases dump_spec P r (getReps P r) st' with ⟨ed, hno⟩ | ⟨n, ed, hnk, hnP, hmax⟩
    · exact Or.inr (Or.inl ⟨ed, hsat, fun x hx => hno x ((key x).2 hx)⟩)
    · refine Or.inr (Or.inr ⟨_, ed, hsat, ?_⟩)
      constructor
      case n_pos => simp
      case len_wc => simp
      case len_st => simp
      case last => simpa using (key n).1 hnk
      case le_P => simp; omega
      case bound =>
        intro x hx hxP
        simp only [List.length_map, List.length_range]
        exact Nat.lt_succ_of_le (hmax x ((key x).2 hx) hxP)
      case blank =>
        intro i hi hnk
        simp only [List.length_map, List.length_range] at hi
        have h1 : repGet (getReps P r).eqRep i = none := (hrep false).2 i hnk
        have h2 : repGet (getReps P r).wcRep i = none := (hrep true).2 i hnk
        have h3 : st'.get i = none := (hkeep i hnk).trans
          (Classical.byContradiction fun h => hnk (wf.stKeys i h))
        simp [hi, h1, h2, h3]
      case key =>
        intro i hi hik
        simp only [List.length_map, List.length_range] at hi
        obtain ⟨_, ch, hch, hcode, hb⟩ := hval i hik
        exact ⟨⟨repGet (getReps P r).eqRep i, by simp [hi], (hrep false).1 i hik⟩,
          ⟨repGet (getReps P r).wcRep i, by simp [hi], (hrep true).1 i hik⟩, ⟨ch, by simp [hi, hch], hcode, hb⟩⟩
      case noself => exact fun x hx => (hsat x hx).1
  · rw [hk] at e1 hx
    exact Or.inl ⟨by simp [finish, hr, e1], fun hsat =>
      hbad.elim (hsat x hx).1 (fun h => (hsat x hx).2.elim h)⟩

section
variable {tbl : CodeTable} {c : Cons}

theorem blank_iff_not_key {P : Nat} {a : Arrays} (G : GraphExact tbl c P a) {i : Nat} (hi : i < a.1.length) :
    a.2.2[i]? = some none ↔ i ∉ c.keys := by
  constructor
  · intro h hk
    obtain ⟨_, _, ch, hch, _⟩ := G.key i hi hk
    rw [hch] at h; cases h
  · exact fun hk => (G.blank i hi hk).2.2

theorem ne_blank_iff_key {P : Nat} {a : Arrays} (G : GraphExact tbl c P a) {i : Nat} (hi : i < a.1.length) :
    a.2.2[i]? ≠ some none ↔ i ∈ c.keys :=
  (not_congr (blank_iff_not_key G hi)).trans Classical.not_not

theorem key_of_letter {P : Nat} {a : Arrays} (G : GraphExact tbl c P a) {i : Nat} {ch : Char}
    (hi : a.2.2[i]? = some (some ch)) : i < a.1.length ∧ i ∈ c.keys := by
  have hlt : i < a.1.length := by rw [← G.len_st]; exact (List.getElem?_eq_some_iff.1 hi).1
  exact ⟨hlt, (ne_blank_iff_key G hlt).1 (by rw [hi]; simp)⟩

end

theorem mask_ext_fin : ∀ m n : Fin 16, (m.val &&& 1 ≠ 0 ↔ n.val &&& 1 ≠ 0) → (m.val &&& 2 ≠ 0 ↔ n.val &&& 2 ≠ 0) →
    (m.val &&& 4 ≠ 0 ↔ n.val &&& 4 ≠ 0) → (m.val &&& 8 ≠ 0 ↔ n.val &&& 8 ≠ 0) → m = n := by decide +kernel

theorem mask_ext {m n : Nat} (hm : m < 16) (hn : n < 16) (h : ∀ b : Base, hasB m b ↔ hasB n b) : m = n := by
  have := mask_ext_fin ⟨m, hm⟩ ⟨n, hn⟩ (h .A) (h .C) (h .G) (h .T)
  exact congrArg Fin.val this

theorem key_info {tbl : CodeTable} {c : Cons} {P : Nat} {a : Arrays}
    (hp : Pre (adjOf c.keys c.eq) (adjOf c.keys c.wc)) (G : GraphExact tbl c P a)
    {i : Nat} (hi : i < a.1.length) (hk : i ∈ c.keys) :
    ∃ m, a.1[i]? = some (some m) ∧ m ≤ i ∧ m ∈ c.keys ∧ m < a.1.length ∧
      GR c i false m ∧
      IsMin P (GR c i false) (some m) := by
  obtain ⟨⟨v, hv, hmin⟩, _, _⟩ := G.key i hi hk
  have hiP : i < P := Nat.lt_of_lt_of_le hi G.le_P
  cases v with
  | none => exact absurd hiP (hmin i Reach.refl)
  | some m =>
    obtain ⟨h1, h2, h3⟩ := hmin
    have hmk := reach_mem_keys hp hk h1
    exact ⟨m, hv, h3 i Reach.refl hiP, hmk, G.bound m hmk h2, h1, ⟨h1, h2, h3⟩⟩

theorem isMin_shift {P : Nat} {eq wc : Adj} (hp : Pre eq wc) {x y : Nat} {q : Bool} (h : Reach eq wc x q y)
    (p : Bool) {o : Option Nat} (hm : IsMin P (Reach eq wc x (q ^^ p)) o) : IsMin P (Reach eq wc y p) o :=
  IsMin.congr (fun z => (hp.reach_shift h p z).symm) hm

theorem code_eq_of_bits {tbl : CodeTable} (hl : tbl.lawful = true) {c d : Char} (hc : tbl.isCode c = true)
    (hd : tbl.isCode d = true) (h : ∀ b, hasB (tbl.maskC c) b ↔ hasB (tbl.maskC d) b) : c = d :=
  CodeTable.maskC_inj hl hc hd (mask_ext (maskC_lt16 _ _) (maskC_lt16 _ _) h)

/-- **The arrays are functions of the class.**  Along a path of parity `q` from a key `i` to `j`, both inside the
    arrays, the two representatives are the same (`q = false`) or change places, and the letter allows the same
    bases, complemented at odd parity. -/
theorem GraphExact.shift {tbl : CodeTable} {c : Cons} {P : Nat} {a : Arrays}
    (hp : Pre (adjOf c.keys c.eq) (adjOf c.keys c.wc))
    (G : GraphExact tbl c P a) {i j : Nat} {q : Bool} (hi : i < a.1.length) (hk : i ∈ c.keys)
    (h : GR c i q j) (hj : j < a.1.length)
    {v w : Option Nat} {ch : Char} (hv : a.1[i]? = some v) (hw : a.2.1[i]? = some w)
    (hch : a.2.2[i]? = some (some ch)) :
    a.1[j]? = some (if q then w else v) ∧ a.2.1[j]? = some (if q then v else w) ∧
    ∃ ch', a.2.2[j]? = some (some ch') ∧ tbl.isCode ch' = true ∧
      ∀ b, hasB (tbl.maskC ch') b ↔ hasB (tbl.maskC ch) (flipB b q) := by
  obtain ⟨⟨v0, hv0, hvm⟩, ⟨w0, hw0, hwm⟩, ch0, hch0, _, hb⟩ := G.key i hi hk
  cases hv0.symm.trans hv
  cases hw0.symm.trans hw
  cases hch0.symm.trans hch
  obtain ⟨⟨v', hv', hvm'⟩, ⟨w', hw', hwm'⟩, ch', hch', hc', hb'⟩ := G.key j hj (reach_mem_keys hp hk h)
  have e1 : v' = if q then w else v :=
    IsMin.unique hvm' (isMin_shift hp h false (by cases q; exact hvm; exact hwm))
  have e2 : w' = if q then v else w :=
    IsMin.unique hwm' (isMin_shift hp h true (by cases q; exact hwm; exact hvm))
  exact ⟨e1 ▸ hv', e2 ▸ hw', ch', hch', hc', fun b => by rw [hb', Common.shift hp h b, hb]⟩

/-- state of the three dicts while the `init` calls run -/
structure InitInv (c : Cons) : Prop where
  nodup : c.keys.Nodup
  eqv : ∀ k, c.eq.get k = if k ∈ c.keys then some [] else none
  wcv : ∀ k, c.wc.get k = if k ∈ c.keys then some [] else none
  stv : ∀ k, c.st.get k ≠ none → k ∈ c.keys

theorem InitInv.empty : InitInv ⟨[], Tab.empty, Tab.empty, Tab.empty⟩ :=
  ⟨List.nodup_nil, fun _ => rfl, fun _ => rfl, fun _ hk => (hk rfl).elim⟩

theorem InitInv.push {c : Cons} (I : InitInv c) {x : Nat} (hx : x ∉ c.keys) (letter : Char) :
    InitInv ⟨c.keys ++ [x], c.eq.set x [], c.wc.set x [], c.st.set x letter⟩ := by
  have fresh : ∀ (t : Tab (List Nat)), (∀ k, t.get k = if k ∈ c.keys then some [] else none) →
      ∀ k, (t.set x []).get k = if k ∈ c.keys ++ [x] then some [] else none := by
    intro t ht k
    rw [Tab.get_set, ht]
    by_cases hk : k = x <;> simp [hk]
  refine ⟨?_, fresh _ I.eqv, fresh _ I.wcv, fun k hk => ?_⟩
  · exact List.nodup_append.2 ⟨I.nodup, List.nodup_cons.2 ⟨List.not_mem_nil, List.nodup_nil⟩,
      fun a ha b hb e => hx (by rw [← List.mem_singleton.1 hb, ← e]; exact ha)⟩
  · rw [Tab.get_set] at hk
    rw [List.mem_append, List.mem_singleton]
    by_cases hkx : k = x
    · exact Or.inr hkx
    · exact Or.inl (I.stv k (by rwa [if_neg hkx] at hk))

theorem initAll_spec (l : List (Nat × Char)) {c c' : Cons} (I : InitInv c) (h : initAll l c = .ok c') :
    InitInv c' ∧ c'.keys = c.keys ++ l.map (·.1) ∧
    (∀ p ∈ l, c'.st.get p.1 = some p.2) ∧ (∀ k, k ∈ c.keys → c'.st.get k = c.st.get k) := by
  induction l generalizing c with
  | nil => cases h; exact ⟨I, by simp, fun _ hp => (nomatch hp), fun _ _ => rfl⟩
  | cons a l ih =>
    obtain ⟨x, letter⟩ := a
    rw [initAll] at h
    split at h
    · cases h
    · rename_i hfresh
      have hx : x ∉ c.keys := fun hx => hfresh (by simp [Tab.has, I.eqv x, hx])
      obtain ⟨I2, hk2, hst2, hkeep2⟩ := ih (I.push hx letter) h
      have old : ∀ k, k ∈ c.keys ++ [x] → c'.st.get k = if k = x then some letter else c.st.get k :=
        fun k hk => (hkeep2 k hk).trans (Tab.get_set _ _ _ _)
      refine ⟨I2, by rw [hk2, List.map_cons, List.append_assoc]; rfl, fun p hp => ?_, fun k hk => ?_⟩
      · rcases List.mem_cons.1 hp with rfl | hp
        · rw [old _ (List.mem_append_right _ (List.mem_singleton_self _)), if_pos rfl]
        · exact hst2 p hp
      · rw [old k (List.mem_append_left _ hk), if_neg (fun (e : k = x) => hx (e ▸ hk))]

theorem Tab.set_append {t : Tab (List Nat)} {x : Nat} {lx : List Nat} (hx : t.get x = some lx) (y k : Nat) :
    ((t.set x (lx ++ [y])).get k).isSome = (t.get k).isSome ∧
    ∀ z, z ∈ ((t.set x (lx ++ [y])).get k).getD [] ↔ z ∈ (t.get k).getD [] ∨ (k = x ∧ z = y) := by
  rw [Tab.get_set]
  by_cases h : k = x
  · subst h
    simp [hx]
  · simp [h]

theorem addLink_spec {t t' : Tab (List Nat)} {x y : Nat} (h : addLink t x y = .ok t') :
    (t.get x).isSome = true ∧ (t.get y).isSome = true ∧
    (∀ k, (t'.get k).isSome = (t.get k).isSome) ∧
    ∀ k z, z ∈ (t'.get k).getD [] ↔ z ∈ (t.get k).getD [] ∨ (k = x ∧ z = y) ∨ (k = y ∧ z = x) := by
  unfold addLink at h
  cases hx : t.get x with
  | none => simp [hx] at h
  | some lx =>
    simp only [hx] at h
    cases hy : (t.set x (lx ++ [y])).get y with
    | none => simp [hy] at h
    | some ly =>
      simp only [hy, Except.ok.injEq] at h
      subst h
      have h1 := Tab.set_append hx y
      have h2 := Tab.set_append hy x
      refine ⟨rfl, ?_, fun k => (h2 k).1.trans (h1 k).1, fun k z => ?_⟩
      · rw [← (h1 y).1, hy]; rfl
      · rw [(h2 k).2, (h1 k).2, or_assoc]

theorem addLinks_spec (edges : List (Nat × Nat)) {t t' : Tab (List Nat)} (h : addLinks edges t = .ok t') :
    (∀ e ∈ edges, (t.get e.1).isSome = true ∧ (t.get e.2).isSome = true) ∧
    (∀ k, (t'.get k).isSome = (t.get k).isSome) ∧
    ∀ k z, z ∈ (t'.get k).getD [] ↔
      z ∈ (t.get k).getD [] ∨ ∃ e ∈ edges, (k = e.1 ∧ z = e.2) ∨ (k = e.2 ∧ z = e.1) := by
  induction edges generalizing t with
  | nil => cases h; simp
  | cons a l ih =>
    rw [addLinks] at h
    split at h
    · cases h
    · rename_i t1 h1
      obtain ⟨hx, hy, hs1, hm1⟩ := addLink_spec h1
      obtain ⟨he2, hs2, hm2⟩ := ih h
      refine ⟨fun e he => ?_, fun k => (hs2 k).trans (hs1 k), fun k z => ?_⟩
      · rcases List.mem_cons.1 he with rfl | he
        · exact ⟨hx, hy⟩
        · rw [← hs1, ← hs1]
          exact he2 e he
      · rw [hm2, hm1, or_assoc]
        simp only [List.mem_cons, exists_eq_or_imp]

theorem nb_adjOf (ks : List Nat) (t : Tab (List Nat)) (x : Nat) :
    nb (adjOf ks t) x = if x ∈ ks then (t.get x).getD [] else [] := by
  unfold nb adjOf
  induction ks with
  | nil => rfl
  | cons a ks ih =>
    simp only [List.map_cons, List.lookup_cons, List.mem_cons]
    by_cases h : x = a
    · simp [h]
    · simpa [h, beq_false_of_ne h] using ih

theorem addLinks_adj {ks : List Nat} {t t' : Tab (List Nat)} {edges : List (Nat × Nat)}
    (h0 : ∀ k, t.get k = if k ∈ ks then some [] else none) (h : addLinks edges t = .ok t') :
    (∀ x y, y ∈ nb (adjOf ks t') x ↔ (x, y) ∈ edges ∨ (y, x) ∈ edges) ∧
    ∀ x y, y ∈ nb (adjOf ks t') x → y ∈ ks := by
  obtain ⟨he, _, hm⟩ := addLinks_spec edges h
  have isKey : ∀ k, (t.get k).isSome = true → k ∈ ks := fun k hk =>
    Classical.byContradiction fun hn => by simp [h0 k, hn] at hk
  have m : ∀ x y, y ∈ nb (adjOf ks t') x ↔ (x, y) ∈ edges ∨ (y, x) ∈ edges := by
    intro x y
    rw [nb_adjOf]
    by_cases hx : x ∈ ks
    · rw [if_pos hx, hm, h0, if_pos hx]
      constructor
      · rintro (h | ⟨⟨a, b⟩, he, ⟨rfl, rfl⟩ | ⟨rfl, rfl⟩⟩)
        · cases h
        · exact Or.inl he
        · exact Or.inr he
      · exact fun h => Or.inr (h.elim (fun h => ⟨_, h, Or.inl ⟨rfl, rfl⟩⟩) (fun h => ⟨_, h, Or.inr ⟨rfl, rfl⟩⟩))
    · rw [if_neg hx]
      exact ⟨fun hh => (nomatch hh),
        fun hh => hh.elim (fun hh => absurd (isKey x (he _ hh).1) hx) (fun hh => absurd (isKey x (he _ hh).2) hx)⟩
  exact ⟨m, fun x y hy => ((m x y).1 hy).elim (fun hh => isKey y (he _ hh).2) (fun hh => isKey y (he _ hh).1)⟩

/-- what a returned `build` says of its graph `c` in terms of the seeds `s` -/
structure Built (tbl : CodeTable) (s : Seeds) (c : Cons) : Prop where
  wf : c.WF tbl
  keys : c.keys = s.inits.map (·.1)
  nodup : c.keys.Nodup
  st : ∀ p ∈ s.inits, c.st.get p.1 = some p.2
  nbEq : ∀ x y, y ∈ nb (adjOf c.keys c.eq) x ↔ (x, y) ∈ s.eqE ∨ (y, x) ∈ s.eqE
  nbWc : ∀ x y, y ∈ nb (adjOf c.keys c.wc) x ↔ (x, y) ∈ s.wcE ∨ (y, x) ∈ s.wcE

theorem build_spec {tbl : CodeTable} {s : Seeds} {c : Cons} (h : build s = .ok c)
    (hcodes : ∀ p ∈ s.inits, tbl.isCode p.2 = true) : Built tbl s c := by
  unfold build at h
  split at h
  · cases h
  rename_i c0 h0
  split at h
  · cases h
  rename_i eq1 h1
  split at h
  · cases h
  rename_i wc1 h2
  cases h
  obtain ⟨I, hkeys, hst, _⟩ := initAll_spec s.inits InitInv.empty h0
  rw [List.nil_append] at hkeys
  obtain ⟨nbE, clE⟩ := addLinks_adj I.eqv h1
  obtain ⟨nbW, clW⟩ := addLinks_adj I.wcv h2
  refine ⟨⟨⟨?_, ?_, ?_, ?_, ?_, ?_⟩, fun x hx => ?_, I.stv⟩, hkeys, I.nodup, hst, nbE, nbW⟩
  · rw [keys_adjOf, keys_adjOf]
  · rw [keys_adjOf]; exact I.nodup
  · intro y z hz; rw [keys_adjOf]; exact clE y z hz
  · intro y z hz; rw [keys_adjOf]; exact clW y z hz
  · exact fun y z hz => (nbE z y).2 ((nbE y z).1 hz).symm
  · exact fun y z hz => (nbW z y).2 ((nbW y z).1 hz).symm
  · obtain ⟨p, hp, rfl⟩ := List.mem_map.1 (hkeys ▸ hx)
    exact ⟨p.2, hst p hp, hcodes p hp⟩

/-- the arrays as `load_input_files` holds them: 1-based, `0` / `-1` / blank for `None` -/
def tripleOf (a : Arrays) : Ssm.Triple :=
  { st := a.2.2.map stMap, eq := a.1.map (fun o => (eqMap o).toNat), wc := a.2.1.map wcMap }

end Pepper.ConstraintGen
