import PepperProofs.ConstraintGenGraph
/-!
# The seeding of `get_constraints`: what the `init` calls and the links are

The exception-propagating loops `mapME` / `flatME` are `List.mapM`; then `seeds` read line by line (`seeds_ok`) and
the three outcomes of `get_constraints` after a successful seeding (`getConstraintsT_spec`; `arrays_spec` is the
third read backwards: returned arrays give `GraphSat` and `GraphExact`).  `SpecCodes` (template letters are codes)
is the hypothesis about the specification these need.
-/
namespace Pepper.ConstraintGen
open Pepper Pepper.Pil Pepper.Closure Pepper.LinkSpec

theorem mapME_eq_mapM {α β : Type} (f : α → Except Err β) (l : List α) : mapME f l = l.mapM f := by
  induction l with
  | nil => rfl
  | cons a l ih =>
    rw [mapME, List.mapM_cons, ih]
    cases f a with
    | error e => rfl
    | ok b => cases l.mapM f <;> rfl

theorem mapME_mem {α β : Type} {f : α → Except Err β} {l : List α} {bs : List β} (h : mapME f l = .ok bs)
    {b : β} (hb : b ∈ bs) : ∃ a ∈ l, f a = .ok b :=
  mapM_mem (mapME_eq_mapM f l ▸ h) b hb

theorem mapME_mem_left {α β : Type} {f : α → Except Err β} {l : List α} {bs : List β} (h : mapME f l = .ok bs)
    {a : α} (ha : a ∈ l) : ∃ b ∈ bs, f a = .ok b :=
  mapM_ok_mem (mapME_eq_mapM f l ▸ h) a ha

theorem mapME_total {α β : Type} {f : α → Except Err β} {g : α → β} (l : List α) (h : ∀ a ∈ l, f a = .ok (g a)) :
    mapME f l = .ok (l.map g) :=
  mapME_eq_mapM f l ▸ mapM_ok_of_forall h

theorem flatME_ok {α β : Type} {f : α → Except Err (List β)} {l : List α} {bs : List β} (h : flatME f l = .ok bs) :
    ∃ ls, mapME f l = .ok ls ∧ bs = ls.flatten := by
  unfold flatME at h
  split at h
  · cases h
  · cases h
    exact ⟨_, ‹_›, rfl⟩

theorem flatME_mem {α β : Type} {f : α → Except Err (List β)} {l : List α} {bs : List β} (h : flatME f l = .ok bs)
    (b : β) : b ∈ bs ↔ ∃ a ∈ l, ∃ cs, f a = .ok cs ∧ b ∈ cs := by
  obtain ⟨ls, hm, rfl⟩ := flatME_ok h
  simp only [List.mem_flatten]
  constructor
  · rintro ⟨cs, hcs, hb⟩
    obtain ⟨a, ha, hf⟩ := mapME_mem hm hcs
    exact ⟨a, ha, cs, hf, hb⟩
  · rintro ⟨a, ha, cs, hf, hb⟩
    obtain ⟨cs', hcs', hf'⟩ := mapME_mem_left hm ha
    rw [hf] at hf'
    cases hf'
    exact ⟨cs, hcs', hb⟩

theorem flatME_mem_of {α β : Type} {f : α → Except Err (List β)} {l : List α} {bs : List β}
    (h : flatME f l = .ok bs) {a : α} (ha : a ∈ l) : ∃ cs, f a = .ok cs ∧ ∀ b ∈ cs, b ∈ bs := by
  obtain ⟨ls, hm, rfl⟩ := flatME_ok h
  obtain ⟨cs, hcs, hf⟩ := mapME_mem_left hm ha
  exact ⟨cs, hf, fun b hb => List.mem_flatten.2 ⟨cs, hcs, hb⟩⟩

theorem flatME_total {α β : Type} {f : α → Except Err (List β)} {g : α → List β} (l : List α)
    (h : ∀ a ∈ l, f a = .ok (g a)) : flatME f l = .ok (l.flatMap g) := by
  unfold flatME
  rw [mapME_total l h]
  simp [List.flatMap]

/-- the part of well-formedness of a specification that the graph-level theorems need: every template
    letter (and the default `N`) is a code of the table -/
structure SpecCodes (tbl : CodeTable) (spec : Spec) : Prop where
  nCode : tbl.isCode 'N' = true
  templates : ∀ o ∈ spec.baseSeqs, ∀ ch ∈ o.template, tbl.isCode ch = true

theorem mem_enum {α : Type} {l : List α} {p : Nat × α} (h : p ∈ enum l) : p.2 ∈ l ∧ l[p.1]? = some p.2 := by
  obtain ⟨k, hk, hl⟩ := (mem_zip_iff_getElem? (m := p.1) (n := p.2)).1 h
  obtain ⟨_, e⟩ := List.getElem?_eq_some_iff.1 hk
  rw [List.getElem_range] at e
  exact e ▸ ⟨List.mem_of_getElem? hl, hl⟩

theorem layoutInits_letters {mode : Layout} {spec : Spec} {lay : Lay} {li : List (Nat × Char)}
    (h : layoutInits mode spec lay = .ok li) : ∀ p ∈ li, p.2 = 'N' := by
  -- the body of either double loop pairs the index it computes with `'N'`
  have body : ∀ {r : Except Err Nat} {q : Nat × Char},
      (match r with | .ok i => Except.ok (i, 'N') | .error e => .error e) = .ok q → q.2 = 'N' := by
    intro r q hq
    cases r with
    | error e => cases hq
    | ok i => cases hq; rfl
  intro p hp
  unfold layoutInits at h
  cases mode with
  | struct =>
    obtain ⟨a, _, cs, hcs, hpc⟩ := (flatME_mem h p).1 hp
    obtain ⟨x, _, hx⟩ := mapME_mem hcs hpc
    exact body hx
  | strand =>
    obtain ⟨a, _, cs, hcs, hpc⟩ := (flatME_mem h p).1 hp
    obtain ⟨x, _, hx⟩ := mapME_mem hcs hpc
    exact body hx

theorem seqInits_letters {tbl : CodeTable} {spec : Spec} (ok : SpecCodes tbl spec) (e : Enc) :
    ∀ p ∈ seqInits spec e, tbl.isCode p.2 = true := by
  intro p hp
  unfold seqInits at hp
  rcases List.mem_append.1 hp with hp | hp
  · obtain ⟨⟨k, o⟩, hko, hp⟩ := List.mem_flatMap.1 hp
    simp only at hp
    rcases List.mem_append.1 hp with hp | hp
    · obtain ⟨⟨x, c⟩, hxc, rfl⟩ := List.mem_map.1 hp
      exact ok.templates o (mem_enum hko).1 c (mem_enum hxc).1
    · obtain ⟨x, _, rfl⟩ := List.mem_map.1 hp
      exact ok.nCode
  · obtain ⟨⟨k, o⟩, hko, hp⟩ := List.mem_flatMap.1 hp
    simp only at hp
    rcases List.mem_append.1 hp with hp | hp
    · obtain ⟨x, _, rfl⟩ := List.mem_map.1 hp
      exact ok.nCode
    · obtain ⟨x, _, rfl⟩ := List.mem_map.1 hp
      exact ok.nCode

theorem seeds_ok {mode : Layout} {spec : Spec} {s : Seeds} (h : seeds mode spec = .ok s) :
    ∃ li ce be ee se te,
      layoutInits mode spec (layOf mode spec) = .ok li ∧
      copyEdges mode spec (layOf mode spec) = .ok ce ∧
      bondEdges mode spec (layOf mode spec) = .ok be ∧
      equalEdges spec (encOf spec (layOf mode spec)) = .ok ee ∧
      supEdges spec (encOf spec (layOf mode spec)) = .ok se ∧
      strandEdges spec (layOf mode spec) (encOf spec (layOf mode spec)) = .ok te ∧
      s = ⟨(layOf mode spec).total, li ++ seqInits spec (encOf spec (layOf mode spec)), ce ++ ee ++ se ++ te,
           be ++ viewEdges spec (encOf spec (layOf mode spec))⟩ := by
  unfold seeds at h
  dsimp only at h
  -- six loops in a row: each `split` looks at the next one, which returned since `seeds` did
  split at h
  · cases h
  rename_i li h1
  split at h
  · cases h
  rename_i ce h2
  split at h
  · cases h
  rename_i be h3
  split at h
  · cases h
  rename_i ee h4
  split at h
  · cases h
  rename_i se h5
  split at h
  · cases h
  rename_i te h6
  cases h
  exact ⟨li, ce, be, ee, se, te, h1, h2, h3, h4, h5, h6, rfl⟩

theorem seeds_P {mode : Layout} {spec : Spec} {s : Seeds} (h : seeds mode spec = .ok s) :
    s.P = (layOf mode spec).total := by
  obtain ⟨_, _, _, _, _, _, _, _, _, _, _, _, rfl⟩ := seeds_ok h
  rfl

theorem seeds_codes {tbl : CodeTable} {mode : Layout} {spec : Spec} {s : Seeds} (ok : SpecCodes tbl spec)
    (h : seeds mode spec = .ok s) : ∀ p ∈ s.inits, tbl.isCode p.2 = true := by
  obtain ⟨li, ce, be, ee, se, te, h1, _, _, _, _, _, rfl⟩ := seeds_ok h
  intro p hp
  rcases List.mem_append.1 hp with hp | hp
  · rw [layoutInits_letters h1 p hp]; exact ok.nCode
  · exact seqInits_letters ok _ p hp

/-- `get_constraints` is `seeds`, then `build`, then `finish`: returned arrays say that the first two returned -/
theorem getConstraintsT_ok {tbl : CodeTable} {mode : Layout} {spec : Spec} {a : Arrays}
    (ha : getConstraintsT tbl mode spec = .ok a) : ∃ s c, seeds mode spec = .ok s ∧ build s = .ok c := by
  unfold getConstraintsT at ha
  cases hs : seeds mode spec with
  | error e => simp [hs] at ha
  | ok s =>
    cases hb : build s with
    | error e => simp [hs, hb] at ha
    | ok c => exact ⟨s, c, rfl, hb⟩

/-- **`get_constraints` after a successful seeding**: the three possible outcomes, in terms of the seeded
    graph (`finish_spec` instantiated). -/
theorem getConstraintsT_spec {tbl : CodeTable} (hl : tbl.lawful = true) {mode : Layout} {spec : Spec}
    (ok : SpecCodes tbl spec) {s : Seeds} {c : Cons} (hs : seeds mode spec = .ok s) (hb : build s = .ok c) :
    (getConstraintsT tbl mode spec = .error .overconstrained ∧ ¬ GraphSat tbl c) ∨
    (getConstraintsT tbl mode spec = .error .noPositions ∧ GraphSat tbl c ∧ ∀ x ∈ c.keys, ¬ x < s.P) ∨
    (∃ a, getConstraintsT tbl mode spec = .ok a ∧ GraphSat tbl c ∧ GraphExact tbl c s.P a) := by
  have wf := (build_spec (tbl := tbl) hb (seeds_codes ok hs)).wf
  have : getConstraintsT tbl mode spec = finish tbl s.P c := by simp [getConstraintsT, hs, hb]
  rw [this]
  exact finish_spec hl s.P wf

/-- the third outcome read backwards: returned arrays are exact for a seeded graph that is not over-constrained -/
theorem arrays_spec {tbl : CodeTable} (hl : tbl.lawful = true) {mode : Layout} {spec : Spec}
    (ok : SpecCodes tbl spec) {s : Seeds} {c : Cons} (hs : seeds mode spec = .ok s) (hb : build s = .ok c)
    {a : Arrays} (ha : getConstraintsT tbl mode spec = .ok a) : GraphSat tbl c ∧ GraphExact tbl c s.P a := by
  obtain h | h | ⟨a', h⟩ := getConstraintsT_spec hl ok hs hb
  · exact absurd (h.1.symm.trans ha) (by simp)
  · exact absurd (h.1.symm.trans ha) (by simp)
  · cases Except.ok.inj (h.1.symm.trans ha)
    exact h.2

end Pepper.ConstraintGen
