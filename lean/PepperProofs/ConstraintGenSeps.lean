import PepperProofs.ConstraintGenTotalT
/-!
# The separator clause of the spuriousSSM input contract (C05)

"At least one blank between strands and two between complexes": the letters of the template array sit exactly on
the rows of the table of positions (`Seeded.layout_strand` / `layout_struct`, ConstraintGenTotalT); the rest is the closed forms of the starts
and three numeric facts about the generated gap constants (hypotheses here, discharged by `decide` in
`PepperProps/C05.lean`).
`SepsStrand` / `SepsStruct` state the clause over positions, for any pair of predicates "not blank" / "blank";
quantifying over nucleotides makes zero-length strands harmless.  It holds of the template array `get_constraints`
returns and of the text the C reader holds, and for any text it implies the executable check `sepsOk`.
-/
namespace Pepper.ConstraintGen
open Pepper Pepper.Pil

theorem enum_ext {α : Type} {l : List α} {p p' : Nat × α} (hp : p ∈ enum l) (hp' : p' ∈ enum l) (h : p.1 = p'.1) :
    p = p' :=
  Prod.ext h (Option.some.inj ((enum_getElem? hp).symm.trans (h ▸ enum_getElem? hp')))

/-- `g` consecutive blank positions strictly between the positions `i` and `i'` -/
def BlanksBetween (B : Nat → Prop) (g i i' : Nat) : Prop :=
  ∃ e, i < e ∧ e + g ≤ i' ∧ ∀ j, e ≤ j → j < e + g → B j

theorem BlanksBetween.mono {B : Nat → Prop} {g g' i i' : Nat} (h : BlanksBetween B g i i') (hg : g' ≤ g) :
    BlanksBetween B g' i i' := by
  obtain ⟨e, h1, h2, h3⟩ := h
  exact ⟨e, h1, by omega, fun j hj1 hj2 => h3 j hj1 (by omega)⟩

/-- **Separator clause, strand layout** (every strand is a complex of its own).  `NB i` = "position `i` is not
    blank", `B i` = "position `i` is blank". -/
structure SepsStrand (NB B : Nat → Prop) (spec : Spec) : Prop where
  /-- the nucleotides of the strands sit at `start k + x` and are not blank -/
  nuc : ∀ q ∈ enum spec.strands, ∀ x, x < q.2.len → NB (startSC spec q.1 + x)
  /-- and nothing else is on the line -/
  cover : ∀ i, NB i → ∃ q ∈ enum spec.strands, ∃ x, x < q.2.len ∧ i = startSC spec q.1 + x
  /-- at least two blanks between nucleotides of different strands -/
  complexes : ∀ q ∈ enum spec.strands, ∀ q' ∈ enum spec.strands, q.1 < q'.1 →
    ∀ x, x < q.2.len → ∀ x', x' < q'.2.len →
      BlanksBetween B 2 (startSC spec q.1 + x) (startSC spec q'.1 + x')

/-- blank in the array `st` of `get_constraints`: `None` at index `i` (an index inside the array) -/
def bArr (st : List (Option Char)) (i : Nat) : Prop := st[i]? = some none

theorem bArr_of_lt {st : List (Option Char)} {j i' : Nat} (h' : nbArr st i') (hj : j < i') (hn : ¬ nbArr st j) :
    bArr st j := by
  unfold bArr
  exact Decidable.byContradiction fun h => hn (nbArr_iff.2 ⟨Nat.lt_trans hj (nbArr_iff.1 h').1, h⟩)

theorem startSC_ne_behind {spec : Spec} (hg : 2 ≤ Generated.strandGap) {q q2 : Nat × StrandObj}
    (hq : q ∈ enum spec.strands) (hq2 : q2 ∈ enum spec.strands) {x2 : Nat} (hx2 : x2 < q2.2.len) {j : Nat}
    (hj1 : startSC spec q.1 + q.2.len ≤ j) (hj2 : j < startSC spec q.1 + q.2.len + 2) :
    startSC spec q2.1 + x2 ≠ j := by
  rcases Nat.lt_trichotomy q2.1 q.1 with h | h | h
  · have := startSC_next hq2 h; omega
  · cases enum_ext hq2 hq h; omega
  · have := startSC_next hq h; omega

theorem seps_strand_arr {tbl : CodeTable} {spec : Spec} {s : Seeds} {c : Cons} (S : Seeded tbl .strand spec s c)
    {a : Arrays} (G : GraphExact tbl c s.P a) (hg : 2 ≤ Generated.strandGap) :
    SepsStrand (nbArr a.2.2) (bArr a.2.2) spec := by
  have cov := (S.layout_strand G).1
  refine ⟨fun q hq x hx => (cov _).2 ⟨q, hq, x, hx, rfl⟩, fun i hi => (cov i).1 hi, ?_⟩
  intro q hq q' hq' hlt x hx x' hx'
  have hnext := startSC_next hq hlt
  refine ⟨startSC spec q.1 + q.2.len, by omega, by omega, fun j hj1 hj2 => ?_⟩
  refine bArr_of_lt ((cov _).2 ⟨q', hq', x', hx', rfl⟩) (by omega) ?_
  rw [cov]
  rintro ⟨q2, hq2, x2, hx2, e⟩
  exact startSC_ne_behind hg hq hq2 hx2 hj1 hj2 e.symm

def blockT (l : List (Nat × StrandObj)) (m : Nat) : Nat :=
  psum (fun q => q.2.len + Generated.structGapStrands) l m

/-- position of nucleotide `y` of the `m`-th strand of the structure `q` -/
def posT (spec : Spec) (q : Nat × StructObj) (m y : Nat) : Nat :=
  startTC spec q.1 + blockT (structStrands spec q.2) m + y

theorem blockT_le_width (l : List (Nat × StrandObj)) (m : Nat) : blockT l m ≤ widthT l := by
  unfold blockT widthT psum
  conv => rhs; rw [← List.take_append_drop m l]
  rw [List.map_append, List.sum_append]
  exact Nat.le_add_right _ _

theorem blockT_next_le_width {l : List (Nat × StrandObj)} {m : Nat} {r : Nat × StrandObj} (h : l[m]? = some r) :
    blockT l m + (r.2.len + Generated.structGapStrands) ≤ widthT l := by
  unfold blockT
  rw [← psum_succ _ h]
  exact blockT_le_width l (m + 1)

theorem offT_iff (l : List (Nat × StrandObj)) (S o : Nat) :
    (∃ x, x < (l.map (fun q => q.2.len)).sum ∧ o = S + offT l x) ↔
    ∃ m r y, l[m]? = some r ∧ y < r.2.len ∧ o = S + blockT l m + y := by
  induction l generalizing S o with
  | nil => simp
  | cons q l ih =>
    have hb : ∀ m, blockT (q :: l) (m + 1) = q.2.len + Generated.structGapStrands + blockT l m := fun m => by
      simp only [blockT, psum, List.take_succ_cons, List.map_cons, List.sum_cons]
    constructor
    · rintro ⟨x, hx, rfl⟩
      simp only [List.map_cons, List.sum_cons] at hx
      by_cases h : x < q.2.len
      · exact ⟨0, q, x, rfl, h, by simp [offT, blockT, psum, Nat.not_le.2 h]⟩
      · obtain ⟨m, r, y, h1, h2, h3⟩ := (ih (S + (q.2.len + Generated.structGapStrands)) _).1
          ⟨x - q.2.len, by omega, rfl⟩
        refine ⟨m + 1, r, y, h1, h2, ?_⟩
        rw [offT, if_pos (Nat.le_of_not_lt h), hb]
        omega
    · rintro ⟨m, r, y, h1, h2, rfl⟩
      cases m with
      | zero =>
        cases h1
        exact ⟨y, by simp only [List.map_cons, List.sum_cons]; omega, by simp [offT, blockT, psum, Nat.not_le.2 h2]⟩
      | succ m =>
        obtain ⟨x, hx, h3⟩ := (ih (S + (q.2.len + Generated.structGapStrands)) _).2 ⟨m, r, y, h1, h2, rfl⟩
        refine ⟨q.2.len + x, by simp only [List.map_cons, List.sum_cons]; omega, ?_⟩
        rw [offT, if_pos (Nat.le_add_right _ _), Nat.add_sub_cancel_left, hb]
        omega

/-- **Separator clause, structure layout**: one complex per structure. -/
structure SepsStruct (NB B : Nat → Prop) (spec : Spec) : Prop where
  /-- the nucleotides of the strands of the structures are not blank -/
  nuc : ∀ q ∈ enum spec.structs, ∀ r ∈ enum (structStrands spec q.2), ∀ y, y < r.2.2.len → NB (posT spec q r.1 y)
  /-- and nothing else is on the line -/
  cover : ∀ i, NB i → ∃ q ∈ enum spec.structs, ∃ r ∈ enum (structStrands spec q.2), ∃ y, y < r.2.2.len ∧
    i = posT spec q r.1 y
  /-- at least one blank between nucleotides of different strands of one structure -/
  strands : ∀ q ∈ enum spec.structs, ∀ r ∈ enum (structStrands spec q.2), ∀ r' ∈ enum (structStrands spec q.2),
    r.1 < r'.1 → ∀ y, y < r.2.2.len → ∀ y', y' < r'.2.2.len →
      BlanksBetween B 1 (posT spec q r.1 y) (posT spec q r'.1 y')
  /-- at least two blanks between nucleotides of different structures -/
  complexes : ∀ q ∈ enum spec.structs, ∀ q' ∈ enum spec.structs, q.1 < q'.1 →
    ∀ r ∈ enum (structStrands spec q.2), ∀ r' ∈ enum (structStrands spec q'.2),
    ∀ y, y < r.2.2.len → ∀ y', y' < r'.2.2.len →
      BlanksBetween B 2 (posT spec q r.1 y) (posT spec q' r'.1 y')

theorem posT_lt_end (spec : Spec) (q : Nat × StructObj) (r : Nat × Nat × StrandObj) {y : Nat} (hy : y < r.2.2.len) :
    posT spec q r.1 y < posT spec q r.1 r.2.2.len := by
  unfold posT; omega

/-- `posT` at a strand's length is the position behind the strand -/
theorem posT_range {spec : Spec} {q : Nat × StructObj} (hq : q ∈ enum spec.structs) {r : Nat × Nat × StrandObj}
    (hr : r ∈ enum (structStrands spec q.2)) (y : Nat) :
    startTC spec q.1 ≤ posT spec q r.1 y ∧
    posT spec q r.1 r.2.2.len + Generated.structGapStrands +
      (Generated.structGapStructs - Generated.structGapStrands) ≤ startTC spec (q.1 + 1) := by
  have := blockT_next_le_width (enum_getElem? hr)
  rw [startTC_succ hq]
  unfold posT
  omega

theorem posT_next_strand {spec : Spec} {q : Nat × StructObj} {r r' : Nat × Nat × StrandObj}
    (hr : r ∈ enum (structStrands spec q.2)) (h : r.1 < r'.1) (y' : Nat) :
    posT spec q r.1 r.2.2.len + Generated.structGapStrands ≤ posT spec q r'.1 y' := by
  have := psum_step_le (fun q : Nat × StrandObj => q.2.len + Generated.structGapStrands) (enum_getElem? hr) h
  unfold posT blockT
  omega

theorem posT_ne_end {spec : Spec} (hg1 : 1 ≤ Generated.structGapStrands) {q q2 : Nat × StructObj}
    (hq : q ∈ enum spec.structs) (hq2 : q2 ∈ enum spec.structs) {r r2 : Nat × Nat × StrandObj}
    (hr : r ∈ enum (structStrands spec q.2)) (hr2 : r2 ∈ enum (structStrands spec q2.2)) {y2 : Nat}
    (hy2 : y2 < r2.2.2.len) : posT spec q2 r2.1 y2 ≠ posT spec q r.1 r.2.2.len := by
  have hend := posT_lt_end spec q2 r2 hy2
  rcases Nat.lt_trichotomy q2.1 q.1 with h | h | h
  · have := (posT_range hq2 hr2 y2).2
    have := startTC_mono spec (j := q2.1 + 1) (j' := q.1) h
    have := (posT_range hq hr r.2.2.len).1
    omega
  · cases enum_ext hq2 hq h
    rcases Nat.lt_trichotomy r2.1 r.1 with h' | h' | h'
    · have := posT_next_strand hr2 h' r.2.2.len; omega
    · cases enum_ext hr2 hr h'; omega
    · have := posT_next_strand hr h' y2; omega
  · have := (posT_range hq hr y2).2
    have := startTC_mono spec (j := q.1 + 1) (j' := q2.1) h
    have := (posT_range hq2 hr2 y2).1
    omega

/-- the last two positions before a structure's start carry no nucleotide -/
theorem posT_struct_gap {spec : Spec} (hg2 : 2 ≤ Generated.structGapStructs)
    {q : Nat × StructObj} (hq : q ∈ enum spec.structs) {r : Nat × Nat × StrandObj}
    (hr : r ∈ enum (structStrands spec q.2)) {y : Nat} (hy : y < r.2.2.len) (k : Nat) :
    (q.1 < k → posT spec q r.1 y + 2 < startTC spec k) ∧ (k ≤ q.1 → startTC spec k ≤ posT spec q r.1 y) := by
  have hend := posT_lt_end spec q r hy
  have hrange := posT_range hq hr y
  constructor
  · intro h
    have := startTC_mono spec (j := q.1 + 1) (j' := k) h
    omega
  · intro h
    have := startTC_mono spec h
    omega

theorem seps_struct_arr {tbl : CodeTable} {spec : Spec} {s : Seeds} {c : Cons} (S : Seeded tbl .struct spec s c)
    {a : Arrays} (G : GraphExact tbl c s.P a)
    (hg1 : 1 ≤ Generated.structGapStrands) (hg2 : 2 ≤ Generated.structGapStructs) :
    SepsStruct (nbArr a.2.2) (bArr a.2.2) spec := by
  have wf := S.wf
  -- offset `x` in the structure in terms of strand `r` and offset `y` in the strand
  have cov : ∀ i, nbArr a.2.2 i ↔ ∃ q ∈ enum spec.structs, ∃ r ∈ enum (structStrands spec q.2), ∃ y,
      y < r.2.2.len ∧ i = posT spec q r.1 y := fun i => by
    rw [(S.layout_struct G).1]
    constructor
    · rintro ⟨q, hq, x, hx, rfl⟩
      rw [wf.structLen q.2 (mem_enum hq).1] at hx
      obtain ⟨m, r, y, hm, hy, e⟩ := (offT_iff _ _ _).1 ⟨x, hx, rfl⟩
      exact ⟨q, hq, (m, r), mem_enum_of_getElem? hm, y, hy, e⟩
    · rintro ⟨q, hq, r, hr, y, hy, rfl⟩
      obtain ⟨x, hx, e⟩ := (offT_iff (structStrands spec q.2) (startTC spec q.1) _).2
        ⟨r.1, r.2, y, enum_getElem? hr, hy, rfl⟩
      rw [← wf.structLen q.2 (mem_enum hq).1] at hx
      exact ⟨q, hq, x, hx, e⟩
  refine ⟨fun q hq r hr y hy => (cov _).2 ⟨q, hq, r, hr, y, hy, rfl⟩, fun i hi => (cov i).1 hi, ?_, ?_⟩
  · -- the position right behind strand `r`
    intro q hq r hr r' hr' hlt y hy y' hy'
    have hi' := Nat.le_trans (Nat.add_le_add_left hg1 _) (posT_next_strand hr hlt y')
    refine ⟨_, posT_lt_end spec q r hy, hi', fun j hj1 hj2 => ?_⟩
    cases Nat.le_antisymm hj1 (Nat.le_of_lt_succ hj2)
    refine bArr_of_lt ((cov _).2 ⟨q, hq, r', hr', y', hy', rfl⟩) hi' ?_
    rw [cov]
    rintro ⟨q2, hq2, r2, hr2, y2, hy2, e⟩
    exact posT_ne_end hg1 hq hq2 hr hr2 hy2 e.symm
  · -- the last two positions before the start of the next structure
    intro q hq q' hq' hlt r hr r' hr' y hy y' hy'
    have hi := (posT_struct_gap hg2 hq hr hy (q.1 + 1)).1 (Nat.lt_succ_self _)
    have hi' := (posT_struct_gap hg2 hq' hr' hy' (q.1 + 1)).2 hlt
    refine ⟨startTC spec (q.1 + 1) - 2, by omega, by omega, fun j hj1 hj2 => ?_⟩
    refine bArr_of_lt ((cov _).2 ⟨q', hq', r', hr', y', hy', rfl⟩) (by omega) ?_
    rw [cov]
    rintro ⟨q2, hq2, r2, hr2, y2, hy2, rfl⟩
    rcases Nat.lt_or_ge q2.1 (q.1 + 1) with h | h
    · have := (posT_struct_gap hg2 hq2 hr2 hy2 (q.1 + 1)).1 h
      omega
    · have := (posT_struct_gap hg2 hq2 hr2 hy2 (q.1 + 1)).2 h
      omega

def nbText (st : List Char) (i : Nat) : Prop := ∃ ch, st[i]? = some ch ∧ ch ≠ ' '

/-- blank in a template text: the character `' '` at index `i` (an index inside the text) -/
def bText (st : List Char) (i : Nat) : Prop := st[i]? = some ' '

theorem BlanksBetween.imp {B B' : Nat → Prop} {g i i' : Nat} (h : BlanksBetween B g i i') (hb : ∀ j, B j → B' j) :
    BlanksBetween B' g i i' := by
  obtain ⟨e, h1, h2, h3⟩ := h
  exact ⟨e, h1, h2, fun j hj1 hj2 => hb j (h3 j hj1 hj2)⟩

theorem SepsStrand.imp {NB B NB' B' : Nat → Prop} {spec : Spec} (h : SepsStrand NB B spec)
    (hn : ∀ i, NB i ↔ NB' i) (hb : ∀ i, B i → B' i) : SepsStrand NB' B' spec :=
  ⟨fun q hq x hx => (hn _).1 (h.nuc q hq x hx), fun i hi => h.cover i ((hn i).2 hi),
    fun q hq q' hq' hlt x hx x' hx' => (h.complexes q hq q' hq' hlt x hx x' hx').imp hb⟩

theorem SepsStruct.imp {NB B NB' B' : Nat → Prop} {spec : Spec} (h : SepsStruct NB B spec)
    (hn : ∀ i, NB i ↔ NB' i) (hb : ∀ i, B i → B' i) : SepsStruct NB' B' spec :=
  ⟨fun q hq r hr y hy => (hn _).1 (h.nuc q hq r hr y hy), fun i hi => h.cover i ((hn i).2 hi),
    fun q hq r hr r' hr' hlt y hy y' hy' => (h.strands q hq r hr r' hr' hlt y hy y' hy').imp hb,
    fun q hq q' hq' hlt r hr r' hr' y hy y' hy' => (h.complexes q hq q' hq' hlt r hr r' hr' y hy y' hy').imp hb⟩

theorem nbText_tripleOf {a : Arrays} (hc : ∀ (i : Nat) (ch : Char), a.2.2[i]? = some (some ch) → ch ≠ ' ') (i : Nat) :
    nbArr a.2.2 i ↔ nbText (tripleOf a).st i := by
  unfold nbArr nbText tripleOf
  simp only [List.getElem?_map]
  constructor
  · rintro ⟨ch, h⟩
    exact ⟨ch, by rw [h]; rfl, hc i ch h⟩
  · rintro ⟨ch, h, hne⟩
    cases ho : a.2.2[i]? with
    | none => rw [ho] at h; cases h
    | some o =>
      cases o with
      | none => rw [ho] at h; simp [stMap] at h; exact absurd h.symm hne
      | some c => exact ⟨c, rfl⟩

theorem bText_tripleOf {a : Arrays} (i : Nat) (h : bArr a.2.2 i) : bText (tripleOf a).st i := by
  unfold bArr at h
  unfold bText tripleOf
  simp only [List.getElem?_map, h]
  rfl

def Seps (mode : Layout) (NB B : Nat → Prop) (spec : Spec) : Prop :=
  match mode with
  | .strand => SepsStrand NB B spec
  | .struct => SepsStruct NB B spec

theorem seps_text {mode : Layout} {spec : Spec} {a : Arrays}
    (hc : ∀ (i : Nat) (ch : Char), a.2.2[i]? = some (some ch) → ch ≠ ' ')
    (h : Seps mode (nbArr a.2.2) (bArr a.2.2) spec) :
    Seps mode (nbText (tripleOf a).st) (bText (tripleOf a).st) spec := by
  have hn := nbText_tripleOf hc
  cases mode with
  | strand => exact SepsStrand.imp h hn bText_tripleOf
  | struct => exact SepsStruct.imp h hn bText_tripleOf

/-- the blocks `bs` (start, length) describe the non-blank positions of `st`, whose first character has index `i`:
    non-empty (`pos`), in order with at least one blank between them (`sorted`), not beyond the text (`inside`), and
    a character is non-blank exactly inside a block (`nb`) -/
structure RunBlocks (st : List Char) (i : Nat) (bs : List (Nat × Nat)) : Prop where
  pos : ∀ b ∈ bs, 0 < b.2
  sorted : bs.Pairwise (fun b b' => b.1 + b.2 < b'.1)
  inside : ∀ b ∈ bs, b.1 + b.2 ≤ i + st.length
  nb : ∀ k, k < st.length → (st[k]? ≠ some ' ' ↔ ∃ b ∈ bs, b.1 ≤ i + k ∧ i + k < b.1 + b.2)

theorem RunBlocks.tail {c : Char} {st : List Char} {i : Nat} {bs : List (Nat × Nat)} (h : RunBlocks (c :: st) i bs) :
    RunBlocks st (i + 1) bs := by
  refine ⟨h.pos, h.sorted, fun b hb => by have := h.inside b hb; simp at this; omega, ?_⟩
  intro k hk
  have := h.nb (k + 1) (by simp; omega)
  simp only [List.getElem?_cons_succ] at this
  rw [this]
  have e : i + (k + 1) = i + 1 + k := by omega
  rw [e]

/-- `runsAux` returns the blocks, in its two states: with no run open (`none`) when no block has begun before `i`;
    with the run `(s, l)` open when it is the first `l ≤ L` characters of the first block `(s, L)`, ending at `i` -/
theorem runsAux_blocks (st : List Char) : ∀ (i : Nat) (bs : List (Nat × Nat)), RunBlocks st i bs →
    ((∀ b ∈ bs, i ≤ b.1) → runsAux st i none = bs) ∧
    (∀ s l L rest, bs = (s, L) :: rest → s + l = i → 0 < l → l ≤ L → runsAux st i (some (s, l)) = bs) := by
  induction st with
  | nil =>
    intro i bs h
    constructor
    · intro hge
      cases bs with
      | nil => rfl
      | cons b r =>
        have h1 := h.pos b (by simp)
        have h2 := h.inside b (by simp)
        have h3 := hge b (by simp)
        simp at h2; omega
    · intro s l L rest e hi hl hL
      subst e
      have h2 := h.inside (s, L) (by simp)
      simp at h2
      have : L = l := by omega
      subst this
      cases rest with
      | nil => rfl
      | cons b r =>
        have h1 := h.pos b (by simp)
        have h3 := h.inside b (by simp)
        have h4 := List.rel_of_pairwise_cons h.sorted (a' := b) (by simp)
        simp at h3 h4; omega
  | cons c st ih =>
    intro i bs h
    have hnb0 := h.nb 0 (by simp)
    simp only [List.getElem?_cons_zero, Nat.add_zero] at hnb0
    obtain ⟨ih1, ih2⟩ := ih (i + 1) bs h.tail
    constructor
    · intro hge
      by_cases hc : c = ' '
      · subst hc
        simp only [runsAux, beq_self_eq_true, if_true]
        apply ih1
        intro b hb
        have := hge b hb
        have hp := h.pos b hb
        by_cases e : b.1 = i
        · exact absurd (hnb0.2 ⟨b, hb, by omega, by omega⟩) (by simp)
        · omega
      · have hc' : (c == ' ') = false := by simpa using hc
        simp only [runsAux, hc', Bool.false_eq_true, if_false]
        obtain ⟨b, hb, hb1, hb2⟩ := hnb0.1 (by simpa using hc)
        have hbi : b.1 = i := by have := hge b hb; omega
        cases bs with
        | nil => simp at hb
        | cons b0 r =>
          have : b = b0 := by
            rcases List.mem_cons.1 hb with e | e
            · exact e
            · have h4 := List.rel_of_pairwise_cons h.sorted e
              have := hge b0 (by simp)
              omega
          subst this
          obtain ⟨s, L⟩ := b
          simp only at hbi hb2
          subst hbi
          exact ih2 s 1 L r rfl rfl (by omega) (by omega)
    · intro s l L rest e hi hl hL
      subst e
      by_cases hc : c = ' '
      · subst hc
        simp only [runsAux, beq_self_eq_true, if_true]
        have hLl : L = l := by
          by_cases e : L = l
          · exact e
          · exact absurd (hnb0.2 ⟨(s, L), by simp, by simp; omega, by simp; omega⟩) (by simp)
        subst hLl
        have hr : RunBlocks st (i + 1) rest := by
          have ht := h.tail
          refine ⟨fun b hb => ht.pos b (by simp [hb]), (List.pairwise_cons.1 ht.sorted).2,
            fun b hb => ht.inside b (by simp [hb]), ?_⟩
          intro k hk
          rw [ht.nb k hk]
          constructor
          · rintro ⟨b, hb, h1, h2⟩
            rcases List.mem_cons.1 hb with e | e
            · subst e; simp at h2; omega
            · exact ⟨b, e, h1, h2⟩
          · rintro ⟨b, hb, h1, h2⟩
            exact ⟨b, by simp [hb], h1, h2⟩
        have := (ih (i + 1) rest hr).1 (by
          intro b hb
          have h4 := List.rel_of_pairwise_cons h.sorted hb
          simp at h4; omega)
        rw [this]
      · have hc' : (c == ' ') = false := by simpa using hc
        simp only [runsAux, hc', Bool.false_eq_true, if_false]
        obtain ⟨b, hb, hb1, hb2⟩ := hnb0.1 (by simpa using hc)
        have : b = (s, L) := by
          rcases List.mem_cons.1 hb with e | e
          · exact e
          · have h4 := List.rel_of_pairwise_cons h.sorted e
            simp at h4; omega
        subst this
        simp only at hb2
        exact ih2 s (l + 1) L rest rfl (by omega) (by omega) (by omega)

theorem runs_eq_of_blocks {st : List Char} {bs : List (Nat × Nat)} (h : RunBlocks st 0 bs) : runs st = bs :=
  (runsAux_blocks st 0 bs h).1 (fun _ _ => Nat.zero_le _)

/-- required blanks before the strands of one complex (the function inside `Segs.gaps`) -/
def fGap (c : List Nat) : List (Nat × Nat) :=
  match c with
  | [] => []
  | l :: r => (2, l) :: r.map (fun x => (1, x))

/-- `Segs.gaps` after the first entry's gap is set to 0 -/
def dropGap : List (Nat × Nat) → List (Nat × Nat)
  | [] => []
  | (_, l) :: r => (0, l) :: r

theorem gaps_eq (s : Segs) : s.gaps = dropGap (s.norm.flatMap fGap) := by
  have e : ∀ (f : List Nat → List (Nat × Nat)), (∀ c, f c = fGap c) → s.norm.flatMap f = s.norm.flatMap fGap :=
    fun f hf => by rw [funext hf]
  unfold Segs.gaps
  rw [e _ (fun c => by cases c <;> rfl)]
  cases s.norm.flatMap fGap with
  | nil => rfl
  | cons p r => rfl

/-! ### from blocks to `sepsOk`

One triple (gap, start, length) per non-empty strand: gap 2 for the first strand of a complex, 1 for the others
(`zsC`, `zsOf`); `zero1` sets the gap of the very first triple to 0 as `Segs.gaps` does.  The projections of the
triples are `runs st` (`runs_eq_of_blocks`) and `Segs.gaps` (`gaps_eq`, `zsOf_gaps`, `zero1_gaps`), and `sepsOk` asks
that consecutive triples stand in `GapRel` (`sepsOk_core`). -/

/-- the later run starts at least its own gap behind the end of the earlier one -/
def GapRel (z z' : Nat × Nat × Nat) : Prop := z.2.1 + z.2.2 + z'.1 ≤ z'.2.1

theorem sepsOk_core (st : List Char) (segs : Segs) (zs : List (Nat × Nat × Nat))
    (hr : runs st = zs.map (·.2)) (hg : segs.gaps = zs.map (fun z => (z.1, z.2.2)))
    (hp : zs.Pairwise GapRel) : sepsOk st segs = true := by
  unfold sepsOk
  simp only [hr, hg, List.length_map, beq_self_eq_true, Bool.true_and, Bool.and_eq_true]
  constructor
  · rw [List.zip_map']
    simp
  · rw [List.all_eq_true]
    intro k hk
    have hk := List.mem_range.1 hk
    cases k with
    | zero => rfl
    | succ k' =>
      have hk' : k' < zs.length := by omega
      simp only [List.getD_eq_getElem?_getD, List.getElem?_map, List.getElem?_eq_getElem hk, List.getElem?_eq_getElem hk',
        Option.map_some, Option.getD_some, decide_eq_true_eq]
      exact (List.pairwise_iff_getElem.1 hp) k' (k' + 1) hk' hk (by omega)

/-- the entries (gap, start, length) of one complex given as (start, length) per strand -/
def zsC (c : List (Nat × Nat)) : List (Nat × Nat × Nat) :=
  match c.filter (fun b => b.2 != 0) with
  | [] => []
  | b :: r => (2, b.1, b.2) :: r.map (fun b => (1, b.1, b.2))

def zsOf (cs : List (List (Nat × Nat))) : List (Nat × Nat × Nat) := cs.flatMap zsC

theorem zsC_gaps (c : List (Nat × Nat)) :
    (zsC c).map (fun z => (z.1, z.2.2)) = fGap ((c.map (·.2)).filter (· != 0)) := by
  have : (c.map (·.2)).filter (· != 0) = (c.filter (fun b => b.2 != 0)).map (·.2) := by
    rw [List.filter_map]; rfl
  rw [this]
  unfold zsC
  cases c.filter (fun b => b.2 != 0) with
  | nil => rfl
  | cons b r => simp [fGap, List.map_map, Function.comp_def]

theorem flatMap_fGap_filter (l : List (List Nat)) :
    (l.filter (fun c => !c.isEmpty)).flatMap fGap = l.flatMap fGap := by
  induction l with
  | nil => rfl
  | cons c l ih =>
    cases c with
    | nil => simp [fGap, ih]
    | cons a r => simp [ih]

theorem zsOf_gaps (cs : List (List (Nat × Nat))) :
    (zsOf cs).map (fun z => (z.1, z.2.2)) = (Segs.norm (cs.map (fun c => c.map (·.2)))).flatMap fGap := by
  unfold Segs.norm
  rw [flatMap_fGap_filter]
  unfold zsOf
  induction cs with
  | nil => rfl
  | cons c cs ih =>
    simp only [List.flatMap_cons, List.map_append, List.map_cons, ih, zsC_gaps]

def zero1 : List (Nat × Nat × Nat) → List (Nat × Nat × Nat)
  | [] => []
  | (_, b) :: r => (0, b) :: r

theorem zero1_gaps (zs : List (Nat × Nat × Nat)) :
    dropGap (zs.map (fun z => (z.1, z.2.2))) = (zero1 zs).map (fun z => (z.1, z.2.2)) := by
  cases zs with
  | nil => rfl
  | cons z r => rfl

theorem zero1_runs (zs : List (Nat × Nat × Nat)) :
    (zero1 zs).map (·.2) = zs.map (·.2) := by
  cases zs with
  | nil => rfl
  | cons z r => rfl

theorem zero1_pairwise {zs : List (Nat × Nat × Nat)} (h : zs.Pairwise GapRel) : (zero1 zs).Pairwise GapRel := by
  cases zs with
  | nil => exact h
  | cons z r =>
    obtain ⟨h1, h2⟩ := List.pairwise_cons.1 h
    exact List.pairwise_cons.2 ⟨fun z' hz' => h1 z' hz', h2⟩

theorem zsC_snd (c : List (Nat × Nat)) :
    (zsC c).map (·.2) = c.filter (fun b => b.2 != 0) ∧ ∀ z ∈ zsC c, 1 ≤ z.1 ∧ z.1 ≤ 2 := by
  unfold zsC
  cases c.filter (fun b => b.2 != 0) with
  | nil => exact ⟨rfl, fun _ h => nomatch h⟩
  | cons b r =>
    refine ⟨by simp [List.map_map, Function.comp_def], fun z hz => ?_⟩
    rcases List.mem_cons.1 hz with rfl | hz
    · exact ⟨Nat.le_succ 1, Nat.le_refl 2⟩
    · obtain ⟨_, _, rfl⟩ := List.mem_map.1 hz
      exact ⟨Nat.le_refl 1, Nat.le_succ 1⟩

theorem mem_zsC {c : List (Nat × Nat)} {z : Nat × Nat × Nat} (h : z ∈ zsC c) :
    z.2 ∈ c ∧ 0 < z.2.2 ∧ 1 ≤ z.1 ∧ z.1 ≤ 2 := by
  have hm : z.2 ∈ (zsC c).map (·.2) := List.mem_map_of_mem h
  rw [(zsC_snd c).1, List.mem_filter, bne_iff_ne] at hm
  exact ⟨hm.1, Nat.pos_of_ne_zero hm.2, (zsC_snd c).2 z h⟩

theorem zsC_of_mem {c : List (Nat × Nat)} {b : Nat × Nat} (hb : b ∈ c) (hl : 0 < b.2) : ∃ z ∈ zsC c, z.2 = b := by
  apply List.mem_map.1
  rw [(zsC_snd c).1, List.mem_filter, bne_iff_ne]
  exact ⟨hb, Nat.ne_of_gt hl⟩

theorem zsC_pairwise {c : List (Nat × Nat)}
    (h : c.Pairwise (fun b b' => 0 < b.2 → 0 < b'.2 → b.1 + b.2 + 1 ≤ b'.1)) : (zsC c).Pairwise GapRel := by
  have hf := h.filter (fun b => b.2 != 0)
  have hpos : ∀ b ∈ c.filter (fun b => b.2 != 0), 0 < b.2 := by
    intro b hb
    have := (List.mem_filter.1 hb).2
    simp at this; omega
  unfold zsC
  cases hc : c.filter (fun b => b.2 != 0) with
  | nil => exact List.Pairwise.nil
  | cons b r =>
    rw [hc] at hf hpos
    obtain ⟨h1, h2⟩ := List.pairwise_cons.1 hf
    apply List.pairwise_cons.2
    constructor
    · intro z' hz'
      obtain ⟨b', hb', rfl⟩ := List.mem_map.1 hz'
      exact h1 b' hb' (hpos b (by simp)) (hpos b' (by simp [hb']))
    · rw [List.pairwise_map]
      refine List.Pairwise.imp_of_mem ?_ h2
      intro x y hx hy hxy
      exact hxy (hpos x (by simp [hx])) (hpos y (by simp [hy]))

theorem nbText_iff {st : List Char} {i : Nat} (hi : i < st.length) : st[i]? ≠ some ' ' ↔ nbText st i := by
  unfold nbText
  rw [List.getElem?_eq_getElem hi]
  constructor
  · intro h; exact ⟨st[i], rfl, fun e => h (by rw [e])⟩
  · rintro ⟨ch, h1, h2⟩ e
    rw [e] at h1
    simp only [Option.some.injEq] at h1
    exact h2 h1.symm

theorem nbText_lt {st : List Char} {i : Nat} (h : nbText st i) : i < st.length := by
  obtain ⟨ch, h1, _⟩ := h
  exact (List.getElem?_eq_some_iff.1 h1).1

/-- **The arithmetic form** (called by `sepsOk_of_blocks` alone).  A text whose non-blank positions are exactly the blocks (start, length) of the
    strands, given complex by complex, with a blank after every non-empty strand and two after every complex, passes
    `sepsOk` against the strands' lengths (zero-length strands and empty complexes drop out as in `Segs.norm`). -/
theorem sepsOk_of_layout (st : List Char) (cs : List (List (Nat × Nat)))
    (inside : ∀ c ∈ cs, c.Pairwise (fun b b' => 0 < b.2 → 0 < b'.2 → b.1 + b.2 + 1 ≤ b'.1))
    (across : cs.Pairwise (fun c c' => ∀ b ∈ c, ∀ b' ∈ c', 0 < b.2 → 0 < b'.2 → b.1 + b.2 + 2 ≤ b'.1))
    (hin : ∀ c ∈ cs, ∀ b ∈ c, 0 < b.2 → b.1 + b.2 ≤ st.length)
    (hnb : ∀ i, i < st.length → (st[i]? ≠ some ' ' ↔ ∃ c ∈ cs, ∃ b ∈ c, b.1 ≤ i ∧ i < b.1 + b.2)) :
    sepsOk st (cs.map (fun c => c.map (·.2))) = true := by
  have hmem : ∀ z ∈ zsOf cs, ∃ c ∈ cs, z.2 ∈ c ∧ 0 < z.2.2 ∧ 1 ≤ z.1 ∧ z.1 ≤ 2 := by
    intro z hz
    obtain ⟨c, hc, hz⟩ := List.mem_flatMap.1 hz
    exact ⟨c, hc, mem_zsC hz⟩
  have P1 : (zsOf cs).Pairwise GapRel := by
    unfold zsOf
    rw [List.pairwise_flatMap]
    refine ⟨fun c hc => zsC_pairwise (inside c hc), ?_⟩
    refine List.Pairwise.imp ?_ across
    intro c c' h z hz z' hz'
    obtain ⟨m1, m2, _, _⟩ := mem_zsC hz
    obtain ⟨m1', m2', _, m4'⟩ := mem_zsC hz'
    have := h z.2 m1 z'.2 m1' m2 m2'
    unfold GapRel; omega
  have B : RunBlocks st 0 ((zsOf cs).map (·.2)) := by
    refine ⟨?_, ?_, ?_, ?_⟩
    · intro b hb
      obtain ⟨z, hz, rfl⟩ := List.mem_map.1 hb
      obtain ⟨_, _, _, h, _⟩ := hmem z hz
      exact h
    · rw [List.pairwise_map]
      refine List.Pairwise.imp_of_mem ?_ P1
      intro z z' _ hz' h
      obtain ⟨_, _, _, _, h1, _⟩ := hmem z' hz'
      unfold GapRel at h
      omega
    · intro b hb
      obtain ⟨z, hz, rfl⟩ := List.mem_map.1 hb
      obtain ⟨c, hc, h1, h2, _⟩ := hmem z hz
      exact (Nat.zero_add _).symm ▸ hin c hc z.2 h1 h2
    · intro k hk
      rw [hnb k hk]
      simp only [Nat.zero_add]
      constructor
      · rintro ⟨c, hc, b, hb, h1, h2⟩
        obtain ⟨z, hz, rfl⟩ := zsC_of_mem hb (by omega)
        exact ⟨z.2, List.mem_map.2 ⟨z, List.mem_flatMap.2 ⟨c, hc, hz⟩, rfl⟩, h1, h2⟩
      · rintro ⟨b, hb, h1, h2⟩
        obtain ⟨z, hz, rfl⟩ := List.mem_map.1 hb
        obtain ⟨c, hc, h3, _⟩ := hmem z hz
        exact ⟨c, hc, z.2, h3, h1, h2⟩
  have hr := runs_eq_of_blocks B
  refine sepsOk_core st _ (zero1 (zsOf cs)) (by rw [hr, zero1_runs]) ?_ (zero1_pairwise P1)
  rw [gaps_eq, ← zsOf_gaps, zero1_gaps]

/-- the clause over positions for strands given as blocks (start, length), complex by complex -/
structure SepsBlocks (NB B : Nat → Prop) (cs : List (List (Nat × Nat))) : Prop where
  nuc : ∀ c ∈ cs, ∀ b ∈ c, ∀ x, x < b.2 → NB (b.1 + x)
  cover : ∀ i, NB i → ∃ c ∈ cs, ∃ b ∈ c, ∃ x, x < b.2 ∧ i = b.1 + x
  strands : ∀ c ∈ cs, c.Pairwise fun b b' =>
    ∀ x, x < b.2 → ∀ x', x' < b'.2 → BlanksBetween B 1 (b.1 + x) (b'.1 + x')
  complexes : cs.Pairwise fun c c' => ∀ b ∈ c, ∀ b' ∈ c',
    ∀ x, x < b.2 → ∀ x', x' < b'.2 → BlanksBetween B 2 (b.1 + x) (b'.1 + x')

theorem sepsOk_of_blocks {st : List Char} {cs : List (List (Nat × Nat))} (h : SepsBlocks (nbText st) (bText st) cs) :
    sepsOk st (cs.map (fun c => c.map (·.2))) = true := by
  -- the last nucleotide of the earlier block and the first of the later one have the blanks between them
  have gap : ∀ {g : Nat} {b b' : Nat × Nat},
      (∀ x, x < b.2 → ∀ x', x' < b'.2 → BlanksBetween (bText st) g (b.1 + x) (b'.1 + x')) →
      0 < b.2 → 0 < b'.2 → b.1 + b.2 + g ≤ b'.1 := by
    intro g b b' hbb hl hl'
    obtain ⟨e, h1, h2, _⟩ := hbb (b.2 - 1) (by omega) 0 hl'
    omega
  apply sepsOk_of_layout
  · exact fun c hc => (h.strands c hc).imp gap
  · exact h.complexes.imp fun hcc b hb b' hb' => gap (hcc b hb b' hb')
  · intro c hc b hb hl
    have := nbText_lt (h.nuc c hc b hb (b.2 - 1) (by omega))
    omega
  · intro i hi
    rw [nbText_iff hi]
    constructor
    · intro hn
      obtain ⟨c, hc, b, hb, x, hx, rfl⟩ := h.cover i hn
      exact ⟨c, hc, b, hb, Nat.le_add_right _ _, Nat.add_lt_add_left hx _⟩
    · rintro ⟨c, hc, b, hb, h1, h2⟩
      have := h.nuc c hc b hb (i - b.1) (by omega)
      rwa [Nat.add_sub_cancel' h1] at this

theorem enum_map_snd {α β : Type} (l : List α) (g : α → β) : (enum l).map (fun q => g q.2) = l.map g :=
  zip_range_map l g _ fun _ => rfl

theorem sepsOk_of_sepsStrand {st : List Char} {spec : Spec} (h : SepsStrand (nbText st) (bText st) spec) :
    sepsOk st (segsOf .strand spec) = true := by
  have e : segsOf .strand spec =
      ((enum spec.strands).map (fun q => [(startSC spec q.1, q.2.len)])).map (fun c => c.map (·.2)) := by
    rw [List.map_map]
    exact (enum_map_snd spec.strands (fun o => [o.len])).symm
  rw [e]
  refine sepsOk_of_blocks ⟨?_, ?_, ?_, ?_⟩
  · intro c hc b hb x hx
    obtain ⟨q, hq, rfl⟩ := List.mem_map.1 hc
    cases List.mem_singleton.1 hb
    exact h.nuc q hq x hx
  · intro i hn
    obtain ⟨q, hq, x, hx, rfl⟩ := h.cover i hn
    exact ⟨_, List.mem_map.2 ⟨q, hq, rfl⟩, _, List.mem_singleton.2 rfl, x, hx, rfl⟩
  · intro c hc
    obtain ⟨q, _, rfl⟩ := List.mem_map.1 hc
    exact List.pairwise_singleton _ _
  · rw [List.pairwise_map]
    refine List.Pairwise.imp_of_mem ?_ (enum_pairwise spec.strands)
    intro q q' hq hq' hlt b hb b' hb'
    cases List.mem_singleton.1 hb
    cases List.mem_singleton.1 hb'
    exact h.complexes q hq q' hq' hlt

theorem sepsOk_of_sepsStruct {st : List Char} {spec : Spec} (h : SepsStruct (nbText st) (bText st) spec) :
    sepsOk st (segsOf .struct spec) = true := by
  have e : segsOf .struct spec =
      ((enum spec.structs).map (fun q => (enum (structStrands spec q.2)).map
        (fun r => (posT spec q r.1 0, r.2.2.len)))).map (fun c => c.map (·.2)) := by
    simp only [List.map_map, Function.comp_def, enum_map_snd _ (fun p : Nat × StrandObj => p.2.len),
      enum_map_snd _ (fun so => (structStrands spec so).map (fun p => p.2.len))]
    rfl
  rw [e]
  -- `posT spec q m 0 + y` is `posT spec q m y` by unfolding
  refine sepsOk_of_blocks ⟨?_, ?_, ?_, ?_⟩
  · intro c hc b hb y hy
    obtain ⟨q, hq, rfl⟩ := List.mem_map.1 hc
    obtain ⟨r, hr, rfl⟩ := List.mem_map.1 hb
    exact h.nuc q hq r hr y hy
  · intro i hn
    obtain ⟨q, hq, r, hr, y, hy, rfl⟩ := h.cover i hn
    exact ⟨_, List.mem_map.2 ⟨q, hq, rfl⟩, _, List.mem_map.2 ⟨r, hr, rfl⟩, y, hy, rfl⟩
  · intro c hc
    obtain ⟨q, hq, rfl⟩ := List.mem_map.1 hc
    rw [List.pairwise_map]
    exact (enum_pairwise (structStrands spec q.2)).imp_of_mem fun hr hr' hlt => h.strands q hq _ hr _ hr' hlt
  · rw [List.pairwise_map]
    refine List.Pairwise.imp_of_mem ?_ (enum_pairwise spec.structs)
    intro q q' hq hq' hlt b hb b' hb'
    obtain ⟨r, hr, rfl⟩ := List.mem_map.1 hb
    obtain ⟨r', hr', rfl⟩ := List.mem_map.1 hb'
    exact h.complexes q hq q' hq' hlt r hr r' hr'

theorem sepsOk_of_seps {mode : Layout} {st : List Char} {spec : Spec} (h : Seps mode (nbText st) (bText st) spec) :
    sepsOk st (segsOf mode spec) = true := by
  cases mode with
  | strand => exact sepsOk_of_sepsStrand h
  | struct => exact sepsOk_of_sepsStruct h

end Pepper.ConstraintGen
