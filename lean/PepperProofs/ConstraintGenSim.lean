import PepperProofs.ConstraintGenSeeds
import PepperProofs.CompBasic
/-!
# Simulation between the seeded graph and the semantic link graph (soundness half)

Also here: `SpecWF` (what `Pil.load` guarantees), the numbering of views, the strand layout in closed form.

Every node of the graph `get_constraints` seeds denotes a nucleotide (`den`): a layout position denotes the
nucleotide of the strand that sits there, `(num, x)` the `x`-th nucleotide of the view numbered `num`.  Every
seeded `eq` link joins nodes whose nucleotides are forced equal by the design, every `wc` link nodes forced
complementary (`EdgeStands.sound`); hence parity reachability in the seeded graph implies `NucReach` in the
semantic link graph of `Pil.denote spec`.
-/
namespace Pepper.ConstraintGen
open Pepper Pepper.Pil Pepper.Closure Pepper.LinkSpec

theorem rc_getElem? (l : List Nuc) (x : Nat) (hx : x < l.length) :
    (rc l)[x]? = (l[l.length - 1 - x]?).map Nuc.flip := by
  unfold rc
  rw [List.getElem?_map, List.getElem?_reverse hx]

/-- the offset paired with an element is the total length of the elements before it -/
theorem mem_withOffsets {α : Type} {len : α → Nat} {l : List α} {off0 off : Nat} {a : α} :
    (off, a) ∈ withOffsets len l off0 ↔ ∃ pre post, l = pre ++ a :: post ∧ off = off0 + (pre.map len).sum := by
  induction l generalizing off0 with
  | nil => simp [withOffsets]
  | cons b l ih =>
    simp only [withOffsets, List.mem_cons, Prod.mk.injEq, ih]
    constructor
    · rintro (⟨rfl, rfl⟩ | ⟨pre, post, rfl, rfl⟩)
      · exact ⟨[], l, rfl, rfl⟩
      · exact ⟨b :: pre, post, rfl, by simp only [List.map_cons, List.sum_cons]; omega⟩
    · rintro ⟨pre, post, h, rfl⟩
      cases pre with
      | nil => cases h; exact Or.inl ⟨rfl, rfl⟩
      | cons c pre =>
        cases h
        exact Or.inr ⟨pre, post, rfl, by simp only [List.map_cons, List.sum_cons]; omega⟩

theorem withOffsets_mem {α : Type} {len : α → Nat} {l : List α} {off0 off : Nat} {a : α}
    (h : (off, a) ∈ withOffsets len l off0) : a ∈ l := by
  obtain ⟨pre, post, rfl, _⟩ := mem_withOffsets.1 h
  exact List.mem_append_right _ List.mem_cons_self

theorem withOffsets_bound {α : Type} {len : α → Nat} {l : List α} {off0 off : Nat} {a : α}
    (h : (off, a) ∈ withOffsets len l off0) : off + len a ≤ off0 + (l.map len).sum := by
  obtain ⟨pre, post, rfl, rfl⟩ := mem_withOffsets.1 h
  simp only [List.map_append, List.map_cons, List.sum_append, List.sum_cons]
  omega

theorem withOffsets_cons_mem {α : Type} {len : α → Nat} {l : List α} {off : Nat} {a : α} (b : α)
    (h : (off, a) ∈ withOffsets len l 0) : (off + len b, a) ∈ withOffsets len (b :: l) 0 := by
  obtain ⟨pre, post, rfl, rfl⟩ := mem_withOffsets.1 h
  exact mem_withOffsets.2 ⟨b :: pre, post, rfl, by simp only [List.map_cons, List.sum_cons]; omega⟩

theorem withOffsets_cover {α : Type} (len : α → Nat) (l : List α) {y : Nat} (hy : y < (l.map len).sum) :
    ∃ off a x, (off, a) ∈ withOffsets len l 0 ∧ x < len a ∧ y = off + x := by
  induction l generalizing y with
  | nil => simp at hy
  | cons b l ih =>
    simp only [List.map_cons, List.sum_cons] at hy
    by_cases h : y < len b
    · exact ⟨0, b, y, List.mem_cons_self, h, (Nat.zero_add y).symm⟩
    · obtain ⟨off, a, x, hm, hx, e⟩ := ih (y := y - len b) (by omega)
      exact ⟨off + len b, a, x, withOffsets_cons_mem b hm, hx, by omega⟩

theorem flatMap_offset_getElem? {α β : Type} {len : α → Nat} (f : α → List β) {l : List α}
    (hlen : ∀ a ∈ l, (f a).length = len a) {off : Nat} {a : α} (h : (off, a) ∈ withOffsets len l 0)
    {x : Nat} (hx : x < len a) : (l.flatMap f)[off + x]? = (f a)[x]? := by
  obtain ⟨pre, post, rfl, rfl⟩ := mem_withOffsets.1 h
  have hpre : (pre.flatMap f).length = (pre.map len).sum := by
    rw [List.length_flatMap]
    exact congrArg List.sum (List.map_congr_left fun c hc => hlen c (List.mem_append_left _ hc))
  have ha : x < (f a).length := by rw [hlen a (List.mem_append_right _ List.mem_cons_self)]; exact hx
  rw [List.flatMap_append, List.flatMap_cons, List.getElem?_append_right (by omega), Nat.zero_add, ← hpre,
    Nat.add_sub_cancel_left, List.getElem?_append_left ha]

theorem findIdx?_spec {α : Type} {p : α → Bool} {l : List α} {k : Nat} (h : l.findIdx? p = some k) :
    ∃ a, l[k]? = some a ∧ p a = true := by
  rw [List.findIdx?_eq_some_iff_getElem] at h
  obtain ⟨hk, hp, _⟩ := h
  exact ⟨l[k], List.getElem?_eq_getElem hk, hp⟩

theorem mem_enum_lt {α : Type} {l : List α} {p : Nat × α} (h : p ∈ enum l) : p.1 < l.length :=
  (List.getElem?_eq_some_iff.1 (mem_enum h).2).1

theorem enum_getElem? {α : Type} {l : List α} {p : Nat × α} (h : p ∈ enum l) : l[p.1]? = some p.2 := (mem_enum h).2

theorem mem_enum_of_getElem? {α : Type} {l : List α} {k : Nat} {a : α} (h : l[k]? = some a) : (k, a) ∈ enum l := by
  unfold enum
  obtain ⟨hk, he⟩ := List.getElem?_eq_some_iff.1 h
  have : ((List.range l.length).zip l)[k]'(by simp [List.length_zip]; exact hk) = (k, a) := by
    rw [List.getElem_zip]; simp [he]
  exact this ▸ List.getElem_mem _

theorem enum_append {α : Type} (a b : List α) :
    enum (a ++ b) = enum a ++ (enum b).map (fun p => (a.length + p.1, p.2)) := by
  unfold enum
  rw [List.length_append, List.range_add, List.zip_append (by simp), List.zip_map_left]
  rfl

theorem enum_map_keys {α β : Type} (l : List α) (f : Nat → Nat) (g : Nat × α → β) :
    ((enum l).map (fun p => (f p.1, g p))).map (·.1) = (List.range l.length).map f := by
  unfold enum
  rw [List.map_map]
  have : ((fun (x : Nat × β) => x.1) ∘ fun (p : Nat × α) => (f p.1, g p)) = f ∘ Prod.fst := rfl
  rw [this, ← List.map_map, List.map_fst_zip (by simp)]

theorem getElem?_some_of_lt {α : Type} {l : List α} {i : Nat} (h : i < l.length) : ∃ a, l[i]? = some a :=
  ⟨l[i], List.getElem?_eq_getElem h⟩

theorem getElem?_lt {α : Type} {l : List α} {i : Nat} {a : α} (h : l[i]? = some a) : i < l.length :=
  (List.getElem?_eq_some_iff.1 h).1

theorem nodup_of_map {α β : Type} (f : α → β) {l : List α} (h : (l.map f).Nodup) : l.Nodup :=
  List.Pairwise.of_map f (fun _ _ hne e => hne (congrArg f e)) h

def psum {α : Type} (f : α → Nat) (l : List α) (k : Nat) : Nat := ((l.take k).map f).sum

theorem psum_succ {α : Type} (f : α → Nat) {l : List α} {k : Nat} {a : α} (h : l[k]? = some a) :
    psum f l (k + 1) = psum f l k + f a := by
  unfold psum
  rw [List.take_add_one, h]
  simp

theorem psum_mono {α : Type} (f : α → Nat) (l : List α) {k k' : Nat} (h : k ≤ k') : psum f l k ≤ psum f l k' := by
  obtain ⟨d, rfl⟩ := Nat.exists_eq_add_of_le h
  unfold psum
  rw [List.take_add, List.map_append, List.sum_append]
  exact Nat.le_add_right _ _

theorem psum_step_le {α : Type} (f : α → Nat) {l : List α} {k k' : Nat} {a : α} (h : l[k]? = some a) (hk : k < k') :
    psum f l k + f a ≤ psum f l k' := by
  rw [← psum_succ f h]; exact psum_mono f l hk

theorem psum_all {α : Type} (f : α → Nat) (l : List α) {k : Nat} (h : l.length ≤ k) : psum f l k = (l.map f).sum := by
  unfold psum; rw [List.take_of_length_le h]

theorem nucsOfBase_length (b : BaseRef) : (nucsOfBase b).length = b.len := by
  unfold nucsOfBase
  split
  · rw [rc_length]; simp [fwd]
  · simp [fwd]

def viewNucs (o : SeqObj) (rev : Bool) : List Nuc := nucsOfBases (basesOfView o rev)

theorem viewNucs_true (o : SeqObj) : viewNucs o true = rc (viewNucs o false) := by
  unfold viewNucs basesOfView
  simp only [if_true, Bool.false_eq_true, if_false]
  exact nucsOfBases_rev _

theorem viewNucs_length (o : SeqObj) (rev : Bool) : (viewNucs o rev).length = (viewNucs o false).length := by
  cases rev
  · rfl
  · rw [viewNucs_true, rc_length]

def nucsOfItem (spec : Spec) (i : ItemRef) : List Nuc :=
  match spec.findSeq i.name with
  | some o => viewNucs o i.rev
  | none => []

theorem nucsOfItem_of_find {spec : Spec} {i : ItemRef} {o : SeqObj} (h : spec.findSeq i.name = some o) :
    nucsOfItem spec i = viewNucs o i.rev := by
  simp only [nucsOfItem, h]

structure ItemsOK (spec : Spec) (items : List ItemRef) (bases : List BaseRef) : Prop where
  resolve : ∀ i ∈ items, (spec.findSeq i.name).isSome = true
  nucs : nucsOfBases bases = items.flatMap (nucsOfItem spec)

/-- what `Pil.load` guarantees about the object model (`load_wf`, ConstraintGenLoad) -/
structure SpecWF (spec : Spec) : Prop where
  seqFind : ∀ o ∈ spec.seqs, spec.findSeq o.name = some o
  strandFind : ∀ o ∈ spec.strands, spec.findStrand o.name = some o
  seqLen : ∀ o ∈ spec.seqs, (viewNucs o false).length = o.len
  base : ∀ o ∈ spec.seqs, o.isSup = false → o.template.length = o.len ∧ viewNucs o false = fwd o.name o.len
  sup : ∀ o ∈ spec.seqs, o.isSup = true → ItemsOK spec o.items o.bases
  strandLen : ∀ o ∈ spec.strands, (nucsOfBases o.bases).length = o.len
  strand : ∀ o ∈ spec.strands, ItemsOK spec o.items o.bases
  struct : ∀ so ∈ spec.structs, (∀ n ∈ so.strands, (spec.findStrand n).isSome = true) ∧
    getBonds so.struct = .ok so.bonds
  structLen : ∀ so ∈ spec.structs, so.len = ((structStrands spec so).map (fun q => q.2.len)).sum
  equal : ∀ its ∈ spec.equals, ∀ i ∈ its, (spec.findSeq i.name).isSome = true
  seqNames : (spec.seqs.map (·.name)).Nodup
  strandNames : (spec.strands.map (·.name)).Nodup
  bondsLt : ∀ so ∈ spec.structs, ∀ b ∈ so.bonds, b.1 < so.len ∧ b.2 < so.len
  equalLen : ∀ its ∈ spec.equals, its ≠ [] ∧ ∀ i ∈ its, ∀ j ∈ its, lenOf spec i = lenOf spec j
  supEarlier : ∀ (i : Nat) (o : SeqObj), spec.seqs[i]? = some o → o.isSup = true →
    ∀ it ∈ o.items, ∃ j o', j < i ∧ spec.seqs[j]? = some o' ∧ spec.findSeq it.name = some o'

def Placed (spec : Spec) : Prop :=
  ∀ o ∈ spec.strands, o.len ≠ 0 → ∃ so ∈ spec.structs, o.name ∈ so.strands

theorem findSeq_mem {spec : Spec} {n : String} {o : SeqObj} (h : spec.findSeq n = some o) :
    o ∈ spec.seqs ∧ o.name = n :=
  find?_key_some h

theorem findStrand_mem {spec : Spec} {n : String} {o : StrandObj} (h : spec.findStrand n = some o) :
    o ∈ spec.strands ∧ o.name = n :=
  find?_key_some h

theorem strandIdx_of_find {spec : Spec} {n : String} {o : StrandObj} (h : spec.findStrand n = some o) :
    ∃ k, strandIdx spec n = some k := by
  cases hi : strandIdx spec n with
  | some k => exact ⟨k, rfl⟩
  | none =>
    have := List.findIdx?_eq_none_iff.1 hi o (findStrand_mem h).1
    simp [(findStrand_mem h).2] at this

theorem nucsOfItem_length {spec : Spec} (wf : SpecWF spec) (i : ItemRef) :
    (nucsOfItem spec i).length = lenOf spec i := by
  unfold nucsOfItem lenOf
  cases h : spec.findSeq i.name with
  | none => rfl
  | some o => simp only; rw [viewNucs_length]; exact wf.seqLen o (findSeq_mem h).1

theorem len_lt_M {spec : Spec} {o : SeqObj} (h : o ∈ spec.seqs) (lay : Lay) : o.len < (encOf spec lay).M := by
  have := (foldl_max_spec 0 (spec.seqs.map (·.len))).2 o.len (List.mem_cons_of_mem _ (List.mem_map_of_mem h))
  rw [List.foldl_map] at this
  show o.len < maxLen spec + 1
  unfold maxLen
  omega

/-- the sequence object whose views carry the numbers `num` (even) and `num + 1` -/
def objOfNum (spec : Spec) (num : Nat) : Option SeqObj :=
  if num / 2 < spec.baseSeqs.length then spec.baseSeqs[num / 2]? else spec.supSeqs[num / 2 - spec.baseSeqs.length]?

def revOfNum (num : Nat) : Bool := num % 2 == 1

theorem mem_baseSeqs {spec : Spec} {o : SeqObj} (h : o ∈ spec.baseSeqs) : o ∈ spec.seqs ∧ o.isSup = false := by
  unfold Spec.baseSeqs at h
  obtain ⟨h1, h2⟩ := List.mem_filter.1 h
  exact ⟨h1, by simpa using h2⟩

theorem mem_supSeqs {spec : Spec} {o : SeqObj} (h : o ∈ spec.supSeqs) : o ∈ spec.seqs ∧ o.isSup = true := by
  unfold Spec.supSeqs at h
  obtain ⟨h1, h2⟩ := List.mem_filter.1 h
  exact ⟨h1, h2⟩

/-- the sequence objects in the order of their view numbers, the base sequences first: the `j`-th carries the
    views `2 j` (forward) and `2 j + 1` (complement) -/
def allSeqs (spec : Spec) : List SeqObj := spec.baseSeqs ++ spec.supSeqs

theorem mem_allSeqs {spec : Spec} {o : SeqObj} : o ∈ allSeqs spec ↔ o ∈ spec.seqs := by
  unfold allSeqs Spec.baseSeqs Spec.supSeqs
  rw [List.mem_append, List.mem_filter, List.mem_filter, ← and_or_left]
  cases o.isSup <;> simp

theorem mem_enum_allSeqs {spec : Spec} {j : Nat} {o : SeqObj} :
    (j, o) ∈ enum (allSeqs spec) ↔
      (j, o) ∈ enum spec.baseSeqs ∨ ∃ k, (k, o) ∈ enum spec.supSeqs ∧ j = spec.baseSeqs.length + k := by
  unfold allSeqs
  rw [enum_append, List.mem_append, List.mem_map]
  refine or_congr_right ⟨?_, ?_⟩
  · rintro ⟨⟨k, o'⟩, hk, e⟩
    cases e
    exact ⟨k, hk, rfl⟩
  · rintro ⟨k, hk, rfl⟩
    exact ⟨(k, o), hk, rfl⟩

theorem objOfNum_eq (spec : Spec) (num : Nat) : objOfNum spec num = (allSeqs spec)[num / 2]? := by
  unfold objOfNum allSeqs
  split
  · rw [List.getElem?_append_left ‹_›]
  · rw [List.getElem?_append_right (by omega)]

structure ViewPair (spec : Spec) (n : Nat) (o : SeqObj) : Prop where
  fwd : objOfNum spec n = some o
  rev : objOfNum spec (n + 1) = some o
  fwdDir : revOfNum n = false
  revDir : revOfNum (n + 1) = true

theorem objOfNum_views {spec : Spec} {j : Nat} {o : SeqObj} (h : (j, o) ∈ enum (allSeqs spec)) :
    ViewPair spec (2 * j) o := by
  have hj : (allSeqs spec)[j]? = some o := enum_getElem? h
  refine ⟨?_, ?_, ?_, ?_⟩
  · rw [objOfNum_eq, Nat.mul_div_cancel_left j (by decide), hj]
  · rw [objOfNum_eq, Nat.mul_add_div (by decide)]; exact hj
  · unfold revOfNum; rw [Nat.mul_mod_right]; rfl
  · unfold revOfNum; rw [Nat.mul_add_mod]; rfl

theorem objOfNum_enum {spec : Spec} {num : Nat} {o : SeqObj} (h : objOfNum spec num = some o) :
    (num / 2, o) ∈ enum (allSeqs spec) :=
  mem_enum_of_getElem? ((objOfNum_eq spec num).symm.trans h)

theorem objOfNum_base {spec : Spec} {k : Nat} {o : SeqObj} (h : (k, o) ∈ enum spec.baseSeqs) :
    ViewPair spec (2 * k) o :=
  objOfNum_views (mem_enum_allSeqs.2 (Or.inl h))

theorem objOfNum_sup {spec : Spec} {k : Nat} {o : SeqObj} (h : (k, o) ∈ enum spec.supSeqs) :
    ViewPair spec (2 * spec.baseSeqs.length + 2 * k) o := by
  have := objOfNum_views (mem_enum_allSeqs.2 (Or.inr ⟨k, h, rfl⟩))
  rwa [Nat.mul_add] at this

theorem objOfNum_mem {spec : Spec} {num : Nat} {o : SeqObj} (h : objOfNum spec num = some o) : o ∈ spec.seqs :=
  mem_allSeqs.1 (List.mem_of_getElem? ((objOfNum_eq spec num).symm.trans h))

theorem numOf_eq (spec : Spec) (it : ItemRef) :
    numOf spec it = ((allSeqs spec).findIdx? (·.name == it.name)).map fun j => 2 * j + if it.rev then 1 else 0 := by
  unfold numOf allSeqs
  rw [List.findIdx?_append]
  cases spec.baseSeqs.findIdx? (·.name == it.name) with
  | some k => rfl
  | none =>
    cases spec.supSeqs.findIdx? (·.name == it.name) with
    | some k => simp [Nat.mul_add, Nat.add_comm]
    | none => rfl

theorem numOf_spec {spec : Spec} (wf : SpecWF spec) {it : ItemRef} {num : Nat} (h : numOf spec it = some num) :
    ∃ o, objOfNum spec num = some o ∧ revOfNum num = it.rev ∧ spec.findSeq it.name = some o := by
  rw [numOf_eq, Option.map_eq_some_iff] at h
  obtain ⟨j, hj, rfl⟩ := h
  obtain ⟨o, hjo, hp⟩ := findIdx?_spec hj
  have v := objOfNum_views (mem_enum_of_getElem? hjo)
  have hf : spec.findSeq it.name = some o := by
    rw [← (by simpa using hp : o.name = it.name)]; exact wf.seqFind o (objOfNum_mem v.fwd)
  cases it.rev
  · exact ⟨o, v.fwd, v.fwdDir, hf⟩
  · exact ⟨o, v.rev, v.revDir, hf⟩

theorem numOf_isSome {spec : Spec} {it : ItemRef} (h : (spec.findSeq it.name).isSome = true) :
    ∃ num, numOf spec it = some num := by
  obtain ⟨o, ho⟩ := Option.isSome_iff_exists.1 h
  obtain ⟨hmem, hname⟩ := findSeq_mem ho
  cases hj : (allSeqs spec).findIdx? (·.name == it.name) with
  | some j => exact ⟨_, by rw [numOf_eq, hj]; rfl⟩
  | none =>
    have := List.findIdx?_eq_none_iff.1 hj o (mem_allSeqs.2 hmem)
    simp [hname] at this

/-- the nucleotide a sequence node `(num, x)` stands for, read off the node's code -/
def denSq (spec : Spec) (e : Enc) (node : Nat) : Option Nuc :=
  match objOfNum spec ((node - e.P) / e.M) with
  | some o => (viewNucs o (revOfNum ((node - e.P) / e.M)))[(node - e.P) % e.M]?
  | none => none

theorem denSq_sq (spec : Spec) (e : Enc) {num x : Nat} (hx : x < e.M) {o : SeqObj} (ho : objOfNum spec num = some o) :
    denSq spec e (e.sq num x) = (viewNucs o (revOfNum num))[x]? := by
  unfold denSq Enc.sq
  have h1 : e.P + num * e.M + x - e.P = num * e.M + x := by omega
  have hM : 0 < e.M := by omega
  have h2 : (num * e.M + x) / e.M = num := by
    rw [Nat.mul_comm, Nat.mul_add_div hM, Nat.div_eq_of_lt hx]; simp
  have h3 : (num * e.M + x) % e.M = x := by
    rw [Nat.mul_comm, Nat.mul_add_mod, Nat.mod_eq_of_lt hx]
  rw [h1, h2, h3, ho]

theorem layStrandAux_closed (l : List StrandObj) (p k : Nat) (hk : k < l.length) :
    (layStrandAux l p).1[k]? = some (some (p + ((l.take k).map (fun o => o.len + Generated.strandGap)).sum)) := by
  induction l generalizing p k with
  | nil => simp at hk
  | cons a l ih =>
    simp only [layStrandAux]
    cases k with
    | zero => simp
    | succ k =>
      simp only [List.length_cons] at hk
      have := ih (p + a.len + Generated.strandGap) k (by omega)
      simp only [List.getElem?_cons_succ, List.take_succ_cons, List.map_cons, List.sum_cons]
      rw [this]
      congr 2
      omega

/-- `strand_start[k]` in the strand layout -/
def startS (spec : Spec) (k : Nat) : Nat := ((layStrand spec).strandStart.getD k none).getD 0

theorem getIndexStrand_strand (spec : Spec) {k : Nat} (hk : k < spec.strands.length) {len x : Nat} (hx : x < len) :
    getIndexStrand (layStrand spec) k len x = .ok (startS spec k + x) := by
  unfold getIndexStrand startS
  have hs := layStrandAux_closed spec.strands 0 k hk
  have : (layStrand spec).strandStart = (layStrandAux spec.strands 0).1 := rfl
  simp only [hx, if_true, this, List.getD_eq_getElem?_getD, hs]
  rfl

theorem layStrandAux_end (l : List StrandObj) (p : Nat) :
    (layStrandAux l p).2 = p + (l.map (fun o => o.len + Generated.strandGap)).sum := by
  induction l generalizing p with
  | nil => rfl
  | cons a l ih =>
    simp only [layStrandAux, ih, List.map_cons, List.sum_cons]
    omega

def startSC (spec : Spec) (k : Nat) : Nat := psum (fun o => o.len + Generated.strandGap) spec.strands k

theorem startSC_next {spec : Spec} {q q' : Nat × StrandObj} (hq : q ∈ enum spec.strands) (h : q.1 < q'.1) :
    startSC spec q.1 + q.2.len + Generated.strandGap ≤ startSC spec q'.1 := by
  have := psum_step_le (fun o : StrandObj => o.len + Generated.strandGap) (enum_getElem? hq) h
  unfold startSC
  omega

theorem startS_closed (spec : Spec) {k : Nat} (hk : k < spec.strands.length) : startS spec k = startSC spec k := by
  unfold startS
  have : (layStrand spec).strandStart = (layStrandAux spec.strands 0).1 := rfl
  rw [this, List.getD_eq_getElem?_getD, layStrandAux_closed _ _ _ hk]
  simp [startSC, psum]

theorem total_strand (spec : Spec) : (layStrand spec).total = startSC spec spec.strands.length := by
  show (layStrandAux spec.strands 0).2 = _
  rw [layStrandAux_end, startSC, psum_all _ _ (Nat.le_refl _), Nat.zero_add]

/-- filler for `getD` in the tables of positions; never read when `SpecWF.strandLen` holds -/
def dfltNuc : Nuc := ⟨⟨"", 0⟩, false⟩

/-- the nucleotide at every position of the strand layout, in the order of the `init` calls -/
def posTabStrand (spec : Spec) : List (Nat × Nuc) :=
  (enum spec.strands).flatMap (fun (p : Nat × StrandObj) =>
    (List.range p.2.len).map (fun x => (startS spec p.1 + x, (nucsOfBases p.2.bases).getD x dfltNuc)))

theorem posTabStrand_keys (spec : Spec) :
    (posTabStrand spec).map (·.1) =
      (enum spec.strands).flatMap fun p => (List.range p.2.len).map fun x => startS spec p.1 + x := by
  simp only [posTabStrand, List.map_flatMap, List.map_map, Function.comp_def]

/-- the nucleotide a node stands for: a layout position through the table of positions, a sequence node
    through its number -/
def den (posTab : List (Nat × Nuc)) (spec : Spec) (e : Enc) (node : Nat) : Option Nuc :=
  match posTab.lookup node with
  | some m => some m
  | none => denSq spec e node

theorem seqInits_keys {spec : Spec} (wf : SpecWF spec) (e : Enc) :
    (seqInits spec e).map (·.1) = (enum (allSeqs spec)).flatMap fun p =>
      (List.range p.2.len).map (e.sq (2 * p.1)) ++ (List.range p.2.len).map (e.sq (2 * p.1 + 1)) := by
  unfold seqInits allSeqs
  rw [enum_append, List.flatMap_append, List.flatMap_map, List.map_append, List.map_flatMap, List.map_flatMap]
  congr 1
  · refine flatMap_congr_mem fun p hp => ?_
    have hm := mem_baseSeqs (mem_enum hp).1
    rw [List.map_append, enum_map_keys, (wf.base p.2 hm.1 hm.2).1, List.map_map]
    rfl
  · simp only [Nat.mul_add, List.map_append, List.map_map, Function.comp_def]

theorem sq_mem_seqInits {spec : Spec} (wf : SpecWF spec) (e : Enc) {num x : Nat} {o : SeqObj}
    (ho : objOfNum spec num = some o) (hx : x < o.len) : e.sq num x ∈ (seqInits spec e).map (·.1) := by
  rw [seqInits_keys wf, List.mem_flatMap]
  refine ⟨(num / 2, o), objOfNum_enum ho, ?_⟩
  rcases (by omega : num = 2 * (num / 2) ∨ num = 2 * (num / 2) + 1) with h | h
  · exact List.mem_append_left _ (List.mem_map.2 ⟨x, List.mem_range.2 hx, by rw [← h]⟩)
  · exact List.mem_append_right _ (List.mem_map.2 ⟨x, List.mem_range.2 hx, by rw [← h]⟩)

/-- position keys and sequence-node keys are pairwise distinct, so `den` finds each under its own key -/
structure KeysNodup (posTab : List (Nat × Nuc)) (spec : Spec) (e : Enc) : Prop where
  nodup : (posTab.map (·.1) ++ (seqInits spec e).map (·.1)).Nodup

theorem den_pos {posTab : List (Nat × Nuc)} {spec : Spec} {e : Enc} (D : KeysNodup posTab spec e) {p : Nat} {m : Nuc}
    (h : (p, m) ∈ posTab) : den posTab spec e p = some m := by
  unfold den
  rw [lookup_of_mem_nodup (List.nodup_append.1 D.nodup).1 h]

theorem den_sq {posTab : List (Nat × Nuc)} {spec : Spec} (wf : SpecWF spec) {lay : Lay}
    (D : KeysNodup posTab spec (encOf spec lay)) {num x : Nat} {o : SeqObj} (ho : objOfNum spec num = some o)
    (hx : x < o.len) :
    den posTab spec (encOf spec lay) ((encOf spec lay).sq num x) = (viewNucs o (revOfNum num))[x]? := by
  unfold den
  have hk := sq_mem_seqInits wf (encOf spec lay) ho hx
  have hnot : (encOf spec lay).sq num x ∉ posTab.map (·.1) := by
    intro hin
    exact (List.nodup_append.1 D.nodup).2.2 _ hin _ hk rfl
  rw [lookup_eq_none_iff_not_mem_keys.2 hnot]
  exact denSq_sq spec _ (Nat.lt_trans hx (len_lt_M (objOfNum_mem ho) lay)) ho

/-- `node` is a key of the seeded graph and stands for the nucleotide `n`.  Unlike `den` this needs no distinctness
    of keys, so it can be used before `build` is known to succeed. -/
inductive Stands (posTab : List (Nat × Nuc)) (spec : Spec) (e : Enc) : Nat → Nuc → Prop
  | pos {p : Nat} {m : Nuc} : (p, m) ∈ posTab → Stands posTab spec e p m
  | sq {num x : Nat} {o : SeqObj} {n : Nuc} : objOfNum spec num = some o → x < o.len →
      (viewNucs o (revOfNum num))[x]? = some n → Stands posTab spec e (e.sq num x) n

theorem Stands.mem_keys {posTab : List (Nat × Nuc)} {spec : Spec} (wf : SpecWF spec) {e : Enc} {node : Nat} {n : Nuc}
    (h : Stands posTab spec e node n) : node ∈ posTab.map (·.1) ++ (seqInits spec e).map (·.1) := by
  cases h with
  | pos hp => exact List.mem_append_left _ (List.mem_map.2 ⟨_, hp, rfl⟩)
  | sq ho hx _ => exact List.mem_append_right _ (sq_mem_seqInits wf e ho hx)

theorem Stands.den {posTab : List (Nat × Nuc)} {spec : Spec} (wf : SpecWF spec) {lay : Lay}
    (D : KeysNodup posTab spec (encOf spec lay)) {node : Nat} {n : Nuc} (h : Stands posTab spec (encOf spec lay) node n) :
    den posTab spec (encOf spec lay) node = some n := by
  cases h with
  | pos hp => exact den_pos D hp
  | sq ho hx hn => rw [den_sq wf D ho hx]; exact hn

def EdgeSound (d : Design) (dn : Nat → Option Nuc) (p : Bool) (e : Nat × Nat) : Prop :=
  ∃ m n, dn e.1 = some m ∧ dn e.2 = some n ∧ NucReach d m p n

/-- **Soundness of the seeding**: if every seeded link is sound, parity reachability in the seeded graph implies
    that the nucleotides of the two nodes are forced equal / complementary by the design. -/
theorem reach_sound {d : Design} {dn : Nat → Option Nuc} {eq wc : Adj} {eqE wcE : List (Nat × Nat)}
    (nbE : ∀ x y, y ∈ nb eq x ↔ (x, y) ∈ eqE ∨ (y, x) ∈ eqE)
    (nbW : ∀ x y, y ∈ nb wc x ↔ (x, y) ∈ wcE ∨ (y, x) ∈ wcE)
    (hE : ∀ e ∈ eqE, EdgeSound d dn false e) (hW : ∀ e ∈ wcE, EdgeSound d dn true e)
    {x y : Nat} {p : Bool} (h : Reach eq wc x p y) {m : Nuc} (hm : dn x = some m) :
    ∃ n, dn y = some n ∧ NucReach d m p n := by
  have step : ∀ {E : List (Nat × Nat)} {q : Bool}, (∀ e ∈ E, EdgeSound d dn q e) → ∀ {y z : Nat} {n : Nuc},
      (y, z) ∈ E ∨ (z, y) ∈ E → dn y = some n → ∃ n', dn z = some n' ∧ NucReach d n q n' := by
    intro E q hE y z n hyz hn
    rcases hyz with he | he
    · obtain ⟨a, b, ha, hb, hab⟩ := hE _ he
      rw [show dn y = some a from ha] at hn; cases hn
      exact ⟨b, hb, hab⟩
    · obtain ⟨a, b, ha, hb, hab⟩ := hE _ he
      rw [show dn y = some b from hb] at hn; cases hn
      exact ⟨a, ha, NucReach.symm hab⟩
  induction h with
  | refl => exact ⟨m, hm, NucReach.refl d m⟩
  | @eqStep p y z _ hz ih =>
    obtain ⟨n, hn, hr⟩ := ih
    obtain ⟨n', hn', hr'⟩ := step hE ((nbE y z).1 hz) hn
    exact ⟨n', hn', by have := NucReach.trans hr hr'; rwa [Bool.xor_false] at this⟩
  | @wcStep p y z _ hz ih =>
    obtain ⟨n, hn, hr⟩ := ih
    obtain ⟨n', hn', hr'⟩ := step hW ((nbW y z).1 hz) hn
    have e : (p ^^ true) = !p := by cases p <;> rfl
    exact ⟨n', hn', e ▸ NucReach.trans hr hr'⟩

theorem sqOf_ok {spec : Spec} {e : Enc} {it : ItemRef} {x b : Nat} (h : sqOf spec e it x = .ok b) :
    ∃ num, numOf spec it = some num ∧ b = e.sq num x := by
  unfold sqOf at h
  cases hn : numOf spec it with
  | none => simp [hn] at h
  | some num => simp only [hn, Except.ok.injEq] at h; exact ⟨num, rfl, h.symm⟩

def EdgeStands (posTab : List (Nat × Nuc)) (spec : Spec) (e : Enc) (p : Bool) (edge : Nat × Nat) : Prop :=
  ∃ m n, Stands posTab spec e edge.1 m ∧ Stands posTab spec e edge.2 n ∧ NucReach (Pil.denote spec) m p n

theorem EdgeStands.sound {posTab : List (Nat × Nuc)} {spec : Spec} (wf : SpecWF spec) {lay : Lay}
    (D : KeysNodup posTab spec (encOf spec lay)) {p : Bool} {edge : Nat × Nat}
    (h : EdgeStands posTab spec (encOf spec lay) p edge) :
    EdgeSound (Pil.denote spec) (den posTab spec (encOf spec lay)) p edge := by
  obtain ⟨m, n, hm, hn, hr⟩ := h
  exact ⟨m, n, hm.den wf D, hn.den wf D, hr⟩

theorem viewNucs_false (o : SeqObj) : viewNucs o false = nucsOfBases o.bases := by simp [viewNucs, basesOfView]

section Groups
variable {spec : Spec} {e : Enc} {posTab : List (Nat × Nuc)}

theorem stands_item (wf : SpecWF spec) {it : ItemRef} {num x : Nat} {n : Nuc} (hn : numOf spec it = some num)
    (hx : (nucsOfItem spec it)[x]? = some n) : Stands posTab spec e (e.sq num x) n := by
  obtain ⟨o, ho, hrev, hf⟩ := numOf_spec wf hn
  have hv := nucsOfItem_of_find hf
  rw [hv] at hx
  have hxl : x < o.len := by
    rw [← wf.seqLen o (objOfNum_mem ho), ← viewNucs_length o it.rev]; exact (List.getElem?_eq_some_iff.1 hx).1
  exact .sq ho hxl (hrev ▸ hx)

theorem items_index (wf : SpecWF spec) {items : List ItemRef} {bases : List BaseRef} (ok : ItemsOK spec items bases)
    {off : Nat} {it : ItemRef} (h : (off, it) ∈ withOffsets (lenOf spec) items 0) {x : Nat} (hx : x < lenOf spec it) :
    (nucsOfBases bases)[off + x]? = (nucsOfItem spec it)[x]? ∧ off + x < (nucsOfBases bases).length := by
  have hl : ∀ a ∈ items, (nucsOfItem spec a).length = lenOf spec a := fun a _ => nucsOfItem_length wf a
  have hb := withOffsets_bound h
  rw [ok.nucs, List.length_flatMap, List.map_congr_left hl]
  exact ⟨flatMap_offset_getElem? _ hl h hx, by omega⟩

theorem sum_lenOf_items (wf : SpecWF spec) {items : List ItemRef} {bases : List BaseRef} (ok : ItemsOK spec items bases) :
    (items.map (lenOf spec)).sum = (nucsOfBases bases).length := by
  rw [ok.nucs, List.length_flatMap]
  congr 1
  apply List.map_congr_left
  intro a _
  exact (nucsOfItem_length wf a).symm

/-- a super-sequence's nucleotide `off + x` against its item's nucleotide `x` -/
def supLinks (spec : Spec) (e : Enc) : List (Nat × Nat) :=
  (enum spec.supSeqs).flatMap fun p => (withOffsets (lenOf spec) p.2.items 0).flatMap fun q =>
    (List.range (lenOf spec q.2)).map fun x =>
      (e.sq (2 * spec.baseSeqs.length + 2 * p.1) (q.1 + x), e.sq ((numOf spec q.2).getD 0) x)

/-- what the "super-sequence constraints" loop returns -/
theorem supEdges_eq (wf : SpecWF spec) : supEdges spec e = .ok (supLinks spec e) := by
  unfold supEdges supLinks
  refine flatME_total _ fun p hp => flatME_total _ fun q hq => mapME_total _ fun x _ => ?_
  have hm := mem_supSeqs (mem_enum hp).1
  obtain ⟨num, hn⟩ := numOf_isSome ((wf.sup p.2 hm.1 hm.2).resolve q.2 (withOffsets_mem hq))
  simp only [sqOf, hn, Option.getD_some]

theorem supLinks_stands (wf : SpecWF spec) : ∀ edge ∈ supLinks spec e, EdgeStands posTab spec e false edge := by
  intro edge he
  unfold supLinks at he
  obtain ⟨⟨k, o⟩, hko, he⟩ := List.mem_flatMap.1 he
  obtain ⟨⟨off, it⟩, hoff, he⟩ := List.mem_flatMap.1 he
  obtain ⟨x, hx, rfl⟩ := List.mem_map.1 he
  have hmem := mem_supSeqs (mem_enum hko).1
  have okI := wf.sup o hmem.1 hmem.2
  obtain ⟨num, hn⟩ := numOf_isSome (okI.resolve it (withOffsets_mem hoff))
  have v := objOfNum_sup hko
  obtain ⟨hidx, hlt⟩ := items_index wf okI hoff (List.mem_range.1 hx)
  obtain ⟨m, hm⟩ := getElem?_some_of_lt hlt
  refine ⟨m, m, .sq v.fwd ?_ ?_, ?_, NucReach.refl _ m⟩
  · rw [← wf.seqLen o hmem.1, viewNucs_false]; exact hlt
  · rw [v.fwdDir, viewNucs_false]; exact hm
  · simp only [hn, Option.getD_some]
    exact stands_item wf hn (hidx.symm.trans hm)

theorem viewEdges_eq (spec : Spec) (e : Enc) :
    viewEdges spec e = (enum (allSeqs spec)).flatMap fun p =>
      (List.range p.2.len).map fun x => (e.sq (2 * p.1 + 1) x, e.sq (2 * p.1) (p.2.len - x - 1)) := by
  unfold viewEdges allSeqs
  rw [enum_append, List.flatMap_append, List.flatMap_map]
  simp only [Nat.mul_add]

/-- the complement view of a sequence is linked position by position to the complemented nucleotide -/
theorem viewEdges_stands (wf : SpecWF spec) : ∀ edge ∈ viewEdges spec e, EdgeStands posTab spec e true edge := by
  intro edge he
  rw [viewEdges_eq] at he
  obtain ⟨⟨j, o⟩, hjo, he⟩ := List.mem_flatMap.1 he
  simp only at he
  obtain ⟨x, hx, rfl⟩ := List.mem_map.1 he
  have hx := List.mem_range.1 hx
  have v := objOfNum_views hjo
  have hl := wf.seqLen o (objOfNum_mem v.fwd)
  obtain ⟨n, hn⟩ := getElem?_some_of_lt (l := viewNucs o false) (i := o.len - x - 1) (by omega)
  refine ⟨n.flip, n, .sq v.rev hx ?_, .sq v.fwd (by omega) (v.fwdDir ▸ hn), nucReach_flip _ n⟩
  have e2 : o.len - 1 - x = o.len - x - 1 := by omega
  rw [v.revDir, viewNucs_true, rc_getElem? _ _ (by omega), hl, e2, hn]; rfl

theorem equalLink_iff (wf : SpecWF spec) {l : Link} :
    l ∈ equalLinks (Pil.denote spec) ↔ ∃ its ∈ spec.equals, ∃ i ∈ its, ∃ j ∈ its, ∃ (k : Nat) (m n : Nuc),
      (nucsOfItem spec i)[k]? = some m ∧ (nucsOfItem spec j)[k]? = some n ∧
      l = ⟨m.var, n.var, m.comp != n.comp⟩ := by
  have region : ∀ its ∈ spec.equals, ∀ r, r ∈ its.filterMap (fun i =>
      (spec.findSeq i.name).map (fun o => nucsOfBases (basesOfView o i.rev))) ↔ ∃ i ∈ its, r = nucsOfItem spec i := by
    intro its hits r
    rw [List.mem_filterMap]
    constructor
    · rintro ⟨i, hi, hr⟩
      obtain ⟨o, ho⟩ := Option.isSome_iff_exists.1 (wf.equal its hits i hi)
      simp [ho] at hr
      exact ⟨i, hi, by simp [nucsOfItem, ho, viewNucs, hr]⟩
    · rintro ⟨i, hi, rfl⟩
      obtain ⟨o, ho⟩ := Option.isSome_iff_exists.1 (wf.equal its hits i hi)
      exact ⟨i, hi, by simp [nucsOfItem, ho, viewNucs]⟩
  rw [mem_equalLinks]
  constructor
  · rintro ⟨e, he, r, hr, s, hs, k, m, n, hm, hn, rfl⟩
    simp only [Pil.denote, List.mem_map] at he
    obtain ⟨its, hits, rfl⟩ := he
    obtain ⟨i, hi, rfl⟩ := (region its hits r).1 hr
    obtain ⟨j, hj, rfl⟩ := (region its hits s).1 hs
    exact ⟨its, hits, i, hi, j, hj, k, m, n, hm, hn, rfl⟩
  · rintro ⟨its, hits, i, hi, j, hj, k, m, n, hm, hn, rfl⟩
    exact ⟨_, List.mem_map.2 ⟨its, hits, rfl⟩, _, (region its hits _).2 ⟨i, hi, rfl⟩,
      _, (region its hits _).2 ⟨j, hj, rfl⟩, k, m, n, hm, hn, rfl⟩

/-- every later member of an `equal` line against the first -/
def lineLinks (spec : Spec) (e : Enc) : List (Nat × Nat) :=
  spec.equals.flatMap fun its => match its with
    | [] => []
    | first :: rest => rest.flatMap fun it => (List.range (lenOf spec it)).map fun x =>
        (e.sq ((numOf spec first).getD 0) x, e.sq ((numOf spec it).getD 0) x)

/-- what the "equality constraints" loop returns -/
theorem equalEdges_eq (wf : SpecWF spec) : equalEdges spec e = .ok (lineLinks spec e) := by
  unfold equalEdges lineLinks
  refine flatME_total _ fun its hits => ?_
  obtain ⟨hne, hlen⟩ := wf.equalLen its hits
  cases its with
  | nil => exact absurd rfl hne
  | cons first rest =>
    refine flatME_total _ fun it hit => ?_
    rw [if_neg (by simp [hlen it (List.mem_cons_of_mem _ hit) first List.mem_cons_self])]
    refine mapME_total _ fun x _ => ?_
    obtain ⟨na, hna⟩ := numOf_isSome (wf.equal _ hits first List.mem_cons_self)
    obtain ⟨nb, hnb⟩ := numOf_isSome (wf.equal _ hits it (List.mem_cons_of_mem _ hit))
    simp only [sqOf, hna, hnb, Option.getD_some]

theorem lineLinks_stands (wf : SpecWF spec) : ∀ edge ∈ lineLinks spec e, EdgeStands posTab spec e false edge := by
  intro edge he
  unfold lineLinks at he
  obtain ⟨its, hits, he⟩ := List.mem_flatMap.1 he
  cases its with
  | nil => cases he
  | cons first rest =>
    obtain ⟨it, hit, he⟩ := List.mem_flatMap.1 he
    obtain ⟨x, hx, rfl⟩ := List.mem_map.1 he
    have hxl : x < lenOf spec it := List.mem_range.1 hx
    have hfi := List.mem_cons_self (a := first) (l := rest)
    have hlen := (wf.equalLen _ hits).2 it (List.mem_cons_of_mem _ hit) first hfi
    obtain ⟨na, hna⟩ := numOf_isSome (wf.equal _ hits first hfi)
    obtain ⟨nb, hnb⟩ := numOf_isSome (wf.equal _ hits it (List.mem_cons_of_mem _ hit))
    obtain ⟨m, hm⟩ := getElem?_some_of_lt (l := nucsOfItem spec first) (i := x)
      (by rw [nucsOfItem_length wf]; omega)
    obtain ⟨n, hn⟩ := getElem?_some_of_lt (l := nucsOfItem spec it) (i := x)
      (by rw [nucsOfItem_length wf]; exact hxl)
    simp only [hna, hnb, Option.getD_some]
    exact ⟨m, n, stands_item wf hna hm, stands_item wf hnb hn,
      nucReach_of_equalLink (List.mem_append_left _ ((equalLink_iff wf).2
        ⟨_, hits, first, hfi, it, List.mem_cons_of_mem _ hit, x, m, n, hm, hn, rfl⟩))⟩

end Groups

theorem mem_posTabStrand {spec : Spec} {p : Nat} {m : Nuc} :
    (p, m) ∈ posTabStrand spec ↔ ∃ q ∈ enum spec.strands, ∃ y, y < q.2.len ∧
      p = startS spec q.1 + y ∧ m = (nucsOfBases q.2.bases).getD y dfltNuc := by
  simp only [posTabStrand, List.mem_flatMap, List.mem_map, List.mem_range, Prod.mk.injEq, eq_comm]

theorem posTabStrand_mem {spec : Spec} {k : Nat} {o : StrandObj} (hko : (k, o) ∈ enum spec.strands) {y : Nat}
    (hy : y < o.len) {m : Nuc} (hm : (nucsOfBases o.bases)[y]? = some m) : (startS spec k + y, m) ∈ posTabStrand spec :=
  mem_posTabStrand.2 ⟨(k, o), hko, y, hy, rfl, by rw [List.getD_eq_getElem?_getD, hm]; rfl⟩

theorem structStrands_mem {spec : Spec} (wf : SpecWF spec) {so : StructObj} {q : Nat × StrandObj}
    (h : q ∈ structStrands spec so) : q ∈ enum spec.strands := by
  unfold structStrands at h
  obtain ⟨n, _, hq⟩ := List.mem_filterMap.1 h
  cases hi : strandIdx spec n with
  | none => simp [hi] at hq
  | some k =>
    cases hf : spec.findStrand n with
    | none => simp [hi, hf] at hq
    | some o =>
      simp only [hi, hf, Option.some.injEq] at hq
      subst hq
      obtain ⟨o', hk, hp⟩ := findIdx?_spec hi
      have hname : o'.name = n := by simpa using hp
      have := wf.strandFind o' (List.mem_of_getElem? hk)
      rw [hname, hf] at this
      cases this
      exact mem_enum_of_getElem? hk

/-- the loop of `get_index` in the strand layout walks to the strand that covers the index -/
theorem getIndexS_cover (lay : Lay) {l : List (Nat × StrandObj)} {off : Nat} {q : Nat × StrandObj}
    (h : (off, q) ∈ withOffsets (fun (q : Nat × StrandObj) => q.2.len) l 0) {y : Nat} (hy : y < q.2.len) :
    getIndexS lay l (off + y) = getIndexStrand lay q.1 q.2.len y := by
  obtain ⟨pre, post, rfl, rfl⟩ := mem_withOffsets.1 h
  clear h
  induction pre with
  | nil =>
    obtain ⟨i, o⟩ := q
    simp only [List.nil_append, getIndexS, List.map_nil, List.sum_nil, Nat.zero_add, ge_iff_le, Nat.not_le.2 hy, if_false]
  | cons a pre ih =>
    obtain ⟨i, o⟩ := a
    simp only [List.cons_append, getIndexS, List.map_cons, List.sum_cons]
    rw [if_pos (by omega), ← ih]
    congr 1
    omega

theorem strandNucs_denote_of_find {spec : Spec} {n : String} {o : StrandObj} (ho : spec.findStrand n = some o) :
    strandNucs (Pil.denote spec) n = nucsOfBases o.bases := by
  unfold strandNucs Pil.denote
  simp only
  rw [List.find?_map]
  have : (spec.strands.find? ((fun (x : String × Bool × List Nuc) => x.1 == n) ∘
      fun o => (o.name, o.dummy, nucsOfBases o.bases))) = spec.findStrand n := rfl
  rw [this, ho]
  rfl

theorem structNucs_denote {spec : Spec} (wf : SpecWF spec) {so : StructObj} (hso : so ∈ spec.structs) (opt : Opt) :
    structNucs (Pil.denote spec) ⟨so.name, so.strands, so.struct, opt⟩ =
      (structStrands spec so).flatMap (fun q => nucsOfBases q.2.bases) := by
  have hres := (wf.struct so hso).1
  unfold structNucs structStrands
  simp only
  generalize so.strands = names at hres
  induction names with
  | nil => rfl
  | cons n names ih =>
    obtain ⟨o, ho⟩ := Option.isSome_iff_exists.1 (hres n List.mem_cons_self)
    obtain ⟨k, hk⟩ := strandIdx_of_find ho
    simp only [List.flatMap_cons, List.filterMap_cons, hk, ho, strandNucs_denote_of_find ho]
    rw [ih (fun n' hn' => hres n' (List.mem_cons_of_mem _ hn'))]

theorem getBondsAux_pairs (s : List Char) (pos : Nat) (stk : List Nat) (acc bs : List (Nat × Nat))
    (h : getBondsAux s pos stk acc = .ok bs) : bs = acc.reverse ++ pairsAux s pos stk := by
  induction s generalizing pos stk acc with
  | nil => simp [getBondsAux] at h; simp [pairsAux, h]
  | cons c r ih =>
    unfold getBondsAux at h
    split at h
    · cases ‹(c :: r) = []›
    · rename_i r' pos' stk' acc' heq
      cases heq
      have := ih _ _ _ h
      simp [pairsAux, this]
    · rename_i r' pos' stk' acc' heq
      cases heq
      have := ih _ _ _ h
      simp [pairsAux, this]
    · rename_i r' pos' stk' acc' heq
      cases heq
      split at h
      · cases h
      · rename_i o stk''
        have := ih _ _ _ h
        simp [pairsAux, this]
    · rename_i r' pos' stk' acc' heq
      cases heq
      have := ih _ _ _ h
      simp [pairsAux, this]
    · cases h

theorem getBonds_pairs {s : List Char} {bs : List (Nat × Nat)} (h : getBonds s = .ok bs) : bs = pairs s := by
  have := getBondsAux_pairs s 0 [] [] bs h
  simpa [pairs] using this

def denS (spec : Spec) : Nat → Option Nuc := den (posTabStrand spec) spec (encOf spec (layStrand spec))

theorem layOf_strand (spec : Spec) : layOf .strand spec = layStrand spec := rfl

theorem flipB_false (b : Base) : flipB b false = b := LinkSpec.flipB_false b

theorem seqInits_mem {spec : Spec} (wf : SpecWF spec) (e : Enc) {p : Nat × Char} (h : p ∈ seqInits spec e) :
    ∃ num o x, p.1 = e.sq num x ∧ objOfNum spec num = some o ∧ o ∈ spec.seqs ∧ x < o.len ∧
      (p.2 = 'N' ∨ (revOfNum num = false ∧ o.isSup = false ∧ o.template[x]? = some p.2)) := by
  unfold seqInits at h
  rcases List.mem_append.1 h with h | h
  · obtain ⟨⟨k, o⟩, hko, h⟩ := List.mem_flatMap.1 h
    simp only at h
    have v := objOfNum_base hko
    have hmem := mem_baseSeqs (mem_enum hko).1
    simp only at hmem
    have hb := wf.base o hmem.1 hmem.2
    rcases List.mem_append.1 h with h | h
    · obtain ⟨⟨x, ch⟩, hxc, rfl⟩ := List.mem_map.1 h
      have hx : x < o.template.length := mem_enum_lt hxc
      exact ⟨2 * k, o, x, rfl, v.fwd, hmem.1, by rw [← hb.1]; exact hx, Or.inr ⟨v.fwdDir, hmem.2, enum_getElem? hxc⟩⟩
    · obtain ⟨x, hx, rfl⟩ := List.mem_map.1 h
      exact ⟨2 * k + 1, o, x, rfl, v.rev, hmem.1, List.mem_range.1 hx, Or.inl rfl⟩
  · obtain ⟨⟨k, o⟩, hko, h⟩ := List.mem_flatMap.1 h
    simp only at h
    have v := objOfNum_sup hko
    have hmem := mem_supSeqs (mem_enum hko).1
    simp only at hmem
    rcases List.mem_append.1 h with h | h
    · obtain ⟨x, hx, rfl⟩ := List.mem_map.1 h
      exact ⟨_, o, x, rfl, v.fwd, hmem.1, List.mem_range.1 hx, Or.inl rfl⟩
    · obtain ⟨x, hx, rfl⟩ := List.mem_map.1 h
      exact ⟨_, o, x, rfl, v.rev, hmem.1, List.mem_range.1 hx, Or.inl rfl⟩

theorem fwd_getElem? (name : String) (len x : Nat) (hx : x < len) : (fwd name len)[x]? = some ⟨⟨name, x⟩, false⟩ := by
  unfold fwd
  rw [List.getElem?_map, List.getElem?_range hx]; rfl

theorem mem_seqInits_ge (spec : Spec) (e : Enc) {y : Nat} (h : y ∈ (seqInits spec e).map (·.1)) : e.P ≤ y := by
  obtain ⟨p, hp, rfl⟩ := List.mem_map.1 h
  simp only [seqInits, List.mem_append, List.mem_flatMap, List.mem_map] at hp
  rcases hp with ⟨_, _, ⟨_, _, rfl⟩ | ⟨_, _, rfl⟩⟩ | ⟨_, _, ⟨_, _, rfl⟩ | ⟨_, _, rfl⟩⟩ <;>
    (simp only [Enc.sq]; omega)

end Pepper.ConstraintGen
