import PepperProofs.ConstraintGenSim
/-!
# The structure layout; the seeding in closed form; soundness of the seeding (both layouts)

The layout: `struct_start`, the walk of `get_index` through the strands of a structure, and `strand_start` = the
place of the first occurrence of a strand.  Then, over `mode`: `seeds mode spec` returns exactly when every
non-empty strand has a start (`Laid`), and then returns `seedsOf mode spec`, the `init`s and links as list
comprehensions over the two position functions `sPos` / `tPos` (`seeds_iff`).  Every link of `seedsOf` joins nodes
whose nucleotides the design forces equal / complementary (`seeds_stands`); completeness (ConstraintGenComp) and
totality (ConstraintGenTotal) read the same lists.
-/
namespace Pepper.ConstraintGen
open Pepper Pepper.Pil Pepper.Closure Pepper.LinkSpec

/-- offset of the `x`-th nucleotide of a structure from the structure's start: the strands before it, each with
    its blank(s), then the offset inside its strand (the loop of `get_index`) -/
def offT : List (Nat × StrandObj) → Nat → Nat
  | [], x => x
  | q :: r, x => if x ≥ q.2.len then q.2.len + Generated.structGapStrands + offT r (x - q.2.len) else x

theorem getIndexT_closed (l : List (Nat × StrandObj)) (x r : Nat) (hx : x < (l.map (fun q => q.2.len)).sum) :
    getIndexT l x r = .ok (r + offT l x) := by
  induction l generalizing x r with
  | nil => simp at hx
  | cons q l ih =>
    obtain ⟨k, o⟩ := q
    simp only [List.map_cons, List.sum_cons] at hx
    simp only [getIndexT, offT]
    by_cases h : x ≥ o.len
    · simp only [h, if_true]
      rw [ih (x - o.len) _ (by omega)]
      congr 1; omega
    · simp only [h, if_false]

theorem offT_cons_lt {q : Nat × StrandObj} (r : List (Nat × StrandObj)) {x : Nat} (h : x < q.2.len) :
    offT (q :: r) x = x := by
  rw [offT, if_neg (Nat.not_le.2 h)]

theorem offT_cons_add (q : Nat × StrandObj) (r : List (Nat × StrandObj)) (y : Nat) :
    offT (q :: r) (y + q.2.len) = q.2.len + Generated.structGapStrands + offT r y := by
  rw [offT, if_pos (Nat.le_add_left _ _), Nat.add_sub_cancel]

theorem layStructStrands_spec (l : List (Nat × StrandObj)) (ss : List (Option Nat)) (p : Nat) :
    (layStructStrands l ss p).1.length = ss.length ∧
    ∀ k p0, (layStructStrands l ss p).1.getD k none = some p0 →
      ss.getD k none = some p0 ∨
      ∃ off o, (off, (k, o)) ∈ withOffsets (fun (q : Nat × StrandObj) => q.2.len) l 0 ∧
        ∀ x, x < o.len → p + offT l (off + x) = p0 + x := by
  induction l generalizing ss p with
  | nil => exact ⟨rfl, fun k p0 h => Or.inl h⟩
  | cons q l ih =>
    obtain ⟨i, o⟩ := q
    simp only [layStructStrands]
    obtain ⟨hlen, hsp⟩ := ih (if (ss.getD i none).isNone then ss.set i (some p) else ss)
      (p + o.len + Generated.structGapStrands)
    constructor
    · rw [hlen]; split <;> simp
    · intro k p0 hk
      rcases hsp k p0 hk with h | ⟨off, o', hmem, hoff⟩
      · -- the entry was there before this strand, or this strand set it
        split at h
        · rw [getD_set] at h
          split at h
          · rename_i hik
            cases h
            exact Or.inr ⟨0, o, hik.1 ▸ List.mem_cons_self, fun x hx => by rw [Nat.zero_add, offT_cons_lt l hx]⟩
          · exact Or.inl h
        · exact Or.inl h
      · refine Or.inr ⟨off + o.len, o', withOffsets_cons_mem (i, o) hmem, fun x hx => ?_⟩
        have := hoff x hx
        rw [Nat.add_right_comm, offT_cons_add (i, o)]
        dsimp only
        omega

/-- `struct_start[j]` -/
def stStart (spec : Spec) (j : Nat) : Nat := (layStruct spec).structStart.getD j 0

/-- where `strand_start` entries come from: the first structure that lists the strand -/
theorem layStructAux_spec (spec : Spec) (l : List StructObj) (ss : List (Option Nat)) (p : Nat) :
    (layStructAux spec l ss p).2.1.length = ss.length ∧
    ∀ k p0, (layStructAux spec l ss p).2.1.getD k none = some p0 →
      ss.getD k none = some p0 ∨
      ∃ j so, l[j]? = some so ∧ ∃ off o,
        (off, (k, o)) ∈ withOffsets (fun (q : Nat × StrandObj) => q.2.len) (structStrands spec so) 0 ∧
        ∀ x, x < o.len → (layStructAux spec l ss p).1.getD j 0 + offT (structStrands spec so) (off + x) = p0 + x := by
  induction l generalizing ss p with
  | nil => exact ⟨rfl, fun k p0 h => Or.inl h⟩
  | cons so l ih =>
    simp only [layStructAux]
    obtain ⟨hl1, hs1⟩ := layStructStrands_spec (structStrands spec so) ss p
    obtain ⟨hl2, hs2⟩ := ih (layStructStrands (structStrands spec so) ss p).1
      ((layStructStrands (structStrands spec so) ss p).2 + (Generated.structGapStructs - Generated.structGapStrands))
    constructor
    · rw [hl2, hl1]
    · intro k p0 hk
      rcases hs2 k p0 hk with h | ⟨j, so', hj, off, o, hmem, hoff⟩
      · rcases hs1 k p0 h with h' | ⟨off, o, hmem, hoff⟩
        · exact Or.inl h'
        · right
          exact ⟨0, so, rfl, off, o, hmem, by simpa using hoff⟩
      · right
        exact ⟨j + 1, so', by simpa using hj, off, o, hmem, by simpa using hoff⟩

theorem strandStart_struct (spec : Spec) {k p0 : Nat} (h : (layStruct spec).strandStart.getD k none = some p0) :
    ∃ j so, spec.structs[j]? = some so ∧ ∃ off o,
      (off, (k, o)) ∈ withOffsets (fun (q : Nat × StrandObj) => q.2.len) (structStrands spec so) 0 ∧
      ∀ x, x < o.len → stStart spec j + offT (structStrands spec so) (off + x) = p0 + x := by
  have := (layStructAux_spec spec spec.structs (List.replicate spec.strands.length none) 0).2 k p0 h
  rcases this with h' | h'
  · exfalso
    simp only [List.getD_eq_getElem?_getD, List.getElem?_replicate] at h'
    split at h' <;> simp at h'
  · exact h'

def structNucsM (spec : Spec) (so : StructObj) : List Nuc :=
  (structStrands spec so).flatMap (fun q => nucsOfBases q.2.bases)

theorem structNucsM_length {spec : Spec} (wf : SpecWF spec) {so : StructObj} (hso : so ∈ spec.structs) :
    (structNucsM spec so).length = so.len := by
  unfold structNucsM
  rw [List.length_flatMap, wf.structLen so hso]
  congr 1
  apply List.map_congr_left
  intro q hq
  exact wf.strandLen q.2 (mem_enum (structStrands_mem wf hq)).1

theorem structNucsM_index {spec : Spec} (wf : SpecWF spec) {so : StructObj} (hso : so ∈ spec.structs) {off k : Nat}
    {o : StrandObj}
    (hoff : (off, (k, o)) ∈ withOffsets (fun (q : Nat × StrandObj) => q.2.len) (structStrands spec so) 0)
    {x : Nat} (hx : x < o.len) :
    (structNucsM spec so)[off + x]? = (nucsOfBases o.bases)[x]? ∧ off + x < so.len := by
  have hl : ∀ q ∈ structStrands spec so, (nucsOfBases q.2.bases).length = q.2.len :=
    fun q hq => wf.strandLen q.2 (mem_enum (structStrands_mem wf hq)).1
  have hb := withOffsets_bound hoff
  simp only [Nat.zero_add] at hb
  exact ⟨flatMap_offset_getElem? _ hl hoff hx, by rw [wf.structLen so hso]; omega⟩

theorem pairLink_iff {spec : Spec} (wf : SpecWF spec) {l : Link} :
    l ∈ pairLinks (Pil.denote spec) ↔ ∃ so ∈ spec.structs, ∃ ij ∈ so.bonds, ∃ (m n : Nuc),
      (structNucsM spec so)[ij.1]? = some m ∧ (structNucsM spec so)[ij.2]? = some n ∧
      l = ⟨m.var, n.var, m.comp == n.comp⟩ := by
  rw [mem_pairLinks]
  constructor
  · rintro ⟨sd, hsd, ij, hij, m, n, hm, hn, rfl⟩
    simp only [Pil.denote, List.mem_map] at hsd
    obtain ⟨so, hso, rfl⟩ := hsd
    rw [structNucs_denote wf hso] at hm hn
    exact ⟨so, hso, ij, by rw [getBonds_pairs (wf.struct so hso).2]; exact hij, m, n, hm, hn, rfl⟩
  · rintro ⟨so, hso, ij, hij, m, n, hm, hn, rfl⟩
    refine ⟨⟨so.name, so.strands, so.struct, optOfParams so.params⟩, List.mem_map.2 ⟨so, hso, rfl⟩, ij, ?_, m, n,
      ?_, ?_, rfl⟩
    · rw [← getBonds_pairs (wf.struct so hso).2]; exact hij
    · rw [structNucs_denote wf hso]; exact hm
    · rw [structNucs_denote wf hso]; exact hn

theorem getIndex_struct {spec : Spec} (wf : SpecWF spec) {j : Nat} {so : StructObj} (hso : so ∈ spec.structs)
    {x : Nat} (hx : x < so.len) :
    getIndex .struct spec (layStruct spec) j so x = .ok (stStart spec j + offT (structStrands spec so) x) := by
  unfold getIndex
  simp only [hx, if_true]
  exact getIndexT_closed _ _ _ (by rw [← wf.structLen so hso]; exact hx)

/-- the nucleotide at every position of the structure layout, in the order of the `init` calls -/
def posTabStruct (spec : Spec) : List (Nat × Nuc) :=
  (enum spec.structs).flatMap (fun (p : Nat × StructObj) =>
    (List.range p.2.len).map (fun x =>
      (stStart spec p.1 + offT (structStrands spec p.2) x, (structNucsM spec p.2).getD x dfltNuc)))

theorem posTabStruct_keys (spec : Spec) :
    (posTabStruct spec).map (·.1) = (enum spec.structs).flatMap fun p =>
      (List.range p.2.len).map fun x => stStart spec p.1 + offT (structStrands spec p.2) x := by
  simp only [posTabStruct, List.map_flatMap, List.map_map, Function.comp_def]

theorem mem_posTabStruct {spec : Spec} {p : Nat} {m : Nuc} :
    (p, m) ∈ posTabStruct spec ↔ ∃ q ∈ enum spec.structs, ∃ y, y < q.2.len ∧
      p = stStart spec q.1 + offT (structStrands spec q.2) y ∧ m = (structNucsM spec q.2).getD y dfltNuc := by
  simp only [posTabStruct, List.mem_flatMap, List.mem_map, List.mem_range, Prod.mk.injEq, eq_comm]

theorem posTabStruct_mem {spec : Spec} {j : Nat} {so : StructObj} (hso : (j, so) ∈ enum spec.structs) {y : Nat}
    (hy : y < so.len) {m : Nuc} (hm : (structNucsM spec so)[y]? = some m) :
    (stStart spec j + offT (structStrands spec so) y, m) ∈ posTabStruct spec :=
  mem_posTabStruct.2 ⟨(j, so), hso, y, hy, rfl, by rw [List.getD_eq_getElem?_getD, hm]; rfl⟩

def posTabOf (mode : Layout) (spec : Spec) : List (Nat × Nuc) :=
  match mode with
  | .strand => posTabStrand spec
  | .struct => posTabStruct spec

def denOf (mode : Layout) (spec : Spec) : Nat → Option Nuc :=
  den (posTabOf mode spec) spec (encOf spec (layOf mode spec))

/-- soundness of a seeded graph: the keys (`keys`) are pairwise distinct (`D`), so `denOf` reads each under its own
    key, and every `eq` / `wc` link joins nodes whose nucleotides are forced equal / complementary (`hE`, `hW`) -/
structure SeedSound (mode : Layout) (spec : Spec) (s : Seeds) (c : Cons) : Prop where
  D : KeysNodup (posTabOf mode spec) spec (encOf spec (layOf mode spec))
  keys : c.keys = (posTabOf mode spec).map (·.1) ++ (seqInits spec (encOf spec (layOf mode spec))).map (·.1)
  hE : ∀ e ∈ s.eqE, EdgeSound (Pil.denote spec) (denOf mode spec) false e
  hW : ∀ e ∈ s.wcE, EdgeSound (Pil.denote spec) (denOf mode spec) true e

/-- where `get_index_strand` puts nucleotide `x` of strand `k` -/
def sPos (lay : Lay) (k x : Nat) : Nat := (lay.strandStart.getD k none).getD 0 + x

def Started (lay : Lay) (k : Nat) : Prop := ∃ s, lay.strandStart.getD k none = some s

theorem getIndexStrand_iff {lay : Lay} {k len x a : Nat} :
    getIndexStrand lay k len x = .ok a ↔ x < len ∧ Started lay k ∧ a = sPos lay k x := by
  unfold getIndexStrand sPos Started
  by_cases hx : x < len
  · cases hs : lay.strandStart.getD k none with
    | none => simp [hx]
    | some s => simp [hx, eq_comm]
  · simp [hx]

/-- every non-empty strand has a start: what the seeding needs of the layout -/
def Laid (lay : Lay) (spec : Spec) : Prop := ∀ q ∈ enum spec.strands, 0 < q.2.len → Started lay q.1

def sRow (lay : Lay) (l : List (Nat × StrandObj)) : List Nat :=
  l.flatMap fun q => (List.range q.2.len).map (sPos lay q.1)

/-- where `get_index` puts nucleotide `x` of structure `j` -/
def tPos (mode : Layout) (spec : Spec) (lay : Lay) (j : Nat) (so : StructObj) (x : Nat) : Nat :=
  match mode with
  | .strand => (sRow lay (structStrands spec so)).getD x 0
  | .struct => lay.structStart.getD j 0 + offT (structStrands spec so) x

theorem sRow_cover (lay : Lay) {l : List (Nat × StrandObj)} {off : Nat} {q : Nat × StrandObj}
    (h : (off, q) ∈ withOffsets (fun (q : Nat × StrandObj) => q.2.len) l 0) {y : Nat} (hy : y < q.2.len) :
    (sRow lay l).getD (off + y) 0 = sPos lay q.1 y := by
  rw [List.getD_eq_getElem?_getD, sRow,
    flatMap_offset_getElem? (len := fun (q : Nat × StrandObj) => q.2.len) _ (fun a _ => by simp) h hy]
  simp [hy]

section
variable {mode : Layout} {spec : Spec} {lay : Lay}

/-- `get_index` on an index inside the structure: the strand that covers it decides -/
theorem getIndex_cover (wf : SpecWF spec) {j : Nat} {so : StructObj} (hso : so ∈ spec.structs) {x : Nat}
    (hx : x < so.len) :
    ∃ off q y, (off, q) ∈ withOffsets (fun (q : Nat × StrandObj) => q.2.len) (structStrands spec so) 0 ∧
      y < q.2.len ∧ x = off + y ∧ q ∈ enum spec.strands ∧
      (mode = .strand → getIndex mode spec lay j so x = getIndexStrand lay q.1 q.2.len y ∧
        tPos mode spec lay j so x = sPos lay q.1 y) ∧
      (mode = .struct → getIndex mode spec lay j so x = .ok (tPos mode spec lay j so x)) := by
  obtain ⟨off, q, y, hoff, hy, rfl⟩ := withOffsets_cover (fun (q : Nat × StrandObj) => q.2.len)
    (structStrands spec so) (y := x) (by rw [← wf.structLen so hso]; exact hx)
  refine ⟨off, q, y, hoff, hy, rfl, structStrands_mem wf (withOffsets_mem hoff), ?_, ?_⟩
  · rintro rfl
    exact ⟨by unfold getIndex; rw [if_pos hx, getIndexS_cover _ hoff hy], sRow_cover lay hoff hy⟩
  · rintro rfl
    unfold getIndex tPos
    rw [if_pos hx]
    exact getIndexT_closed _ _ _ (by rw [← wf.structLen so hso]; exact hx)

theorem getIndex_total (wf : SpecWF spec) (L : Laid lay spec) {j : Nat} {so : StructObj} (hso : so ∈ spec.structs)
    {x : Nat} (hx : x < so.len) : getIndex mode spec lay j so x = .ok (tPos mode spec lay j so x) := by
  obtain ⟨off, q, y, _, hy, _, hq, hS, hT⟩ := getIndex_cover (mode := mode) (lay := lay) (j := j) wf hso hx
  cases mode with
  | strand =>
    obtain ⟨e1, e2⟩ := hS rfl
    rw [e1, e2]
    exact getIndexStrand_iff.2 ⟨hy, L q hq (by omega), rfl⟩
  | struct => exact hT rfl

end

def layInits (mode : Layout) (spec : Spec) (lay : Lay) : List (Nat × Char) :=
  match mode with
  | .struct => (enum spec.structs).flatMap fun p => (List.range p.2.len).map fun x => (tPos mode spec lay p.1 p.2 x, 'N')
  | .strand => (enum spec.strands).flatMap fun p => (List.range p.2.len).map fun x => (sPos lay p.1 x, 'N')

/-- an item's nucleotide `x` against the strand's nucleotide `off + x` -/
def strandLinks (spec : Spec) (lay : Lay) (e : Enc) : List (Nat × Nat) :=
  (enum spec.strands).flatMap fun p => (withOffsets (lenOf spec) p.2.items 0).flatMap fun q =>
    (List.range (lenOf spec q.2)).map fun x => (sPos lay p.1 (q.1 + x), e.sq ((numOf spec q.2).getD 0) x)

def bondLinks (mode : Layout) (spec : Spec) (lay : Lay) : List (Nat × Nat) :=
  (enum spec.structs).flatMap fun p => p.2.bonds.map fun b =>
    (tPos mode spec lay p.1 p.2 b.1, tPos mode spec lay p.1 p.2 b.2)

/-- structure layout: a strand's own positions against every place where a structure lists it -/
def copyLinks (mode : Layout) (spec : Spec) (lay : Lay) : List (Nat × Nat) :=
  match mode with
  | .strand => []
  | .struct => (enum spec.structs).flatMap fun p =>
      (withOffsets (fun (s : Nat × StrandObj) => s.2.len) (structStrands spec p.2) 0).flatMap fun q =>
        (List.range q.2.2.len).map fun x => (sPos lay q.2.1 x, tPos mode spec lay p.1 p.2 (q.1 + x))

def seedsOf (mode : Layout) (spec : Spec) : Seeds :=
  let lay := layOf mode spec
  let e := encOf spec lay
  ⟨lay.total, layInits mode spec lay ++ seqInits spec e,
   copyLinks mode spec lay ++ lineLinks spec e ++ supLinks spec e ++ strandLinks spec lay e,
   bondLinks mode spec lay ++ viewEdges spec e⟩

theorem mem_eqE_seedsOf {mode : Layout} {spec : Spec} {p : Nat × Nat} :
    p ∈ (seedsOf mode spec).eqE ↔ p ∈ copyLinks mode spec (layOf mode spec) ∨
      p ∈ lineLinks spec (encOf spec (layOf mode spec)) ∨ p ∈ supLinks spec (encOf spec (layOf mode spec)) ∨
      p ∈ strandLinks spec (layOf mode spec) (encOf spec (layOf mode spec)) := by
  simp only [seedsOf, List.mem_append, or_assoc]

section
variable {mode : Layout} {spec : Spec} {lay : Lay} {e : Enc}

theorem strand_index_lt (wf : SpecWF spec) {p : Nat × StrandObj} (hp : p ∈ enum spec.strands) {q : Nat × ItemRef}
    (hq : q ∈ withOffsets (lenOf spec) p.2.items 0) {x : Nat} (hx : x < lenOf spec q.2) : q.1 + x < p.2.len := by
  have hmem := (mem_enum hp).1
  rw [← wf.strandLen p.2 hmem]
  exact (items_index wf (wf.strand p.2 hmem) hq hx).2

theorem seeds_laid (wf : SpecWF spec) (L : Laid (layOf mode spec) spec) : seeds mode spec = .ok (seedsOf mode spec) := by
  have gi := fun (p : Nat × StructObj) (hp : p ∈ enum spec.structs) (x : Nat) (hx : x < p.2.len) =>
    getIndex_total (mode := mode) wf L (j := p.1) (mem_enum hp).1 hx
  have gs := fun (p : Nat × StrandObj) (hp : p ∈ enum spec.strands) (x : Nat) (hx : x < p.2.len) =>
    (getIndexStrand_iff (lay := layOf mode spec) (k := p.1)).2 ⟨hx, L p hp (by omega), rfl⟩
  have hli : layoutInits mode spec (layOf mode spec) = .ok (layInits mode spec (layOf mode spec)) := by
    unfold layoutInits layInits
    cases mode with
    | struct => exact flatME_total _ fun p hp => mapME_total _ fun x hx => by rw [gi p hp x (List.mem_range.1 hx)]
    | strand => exact flatME_total _ fun p hp => mapME_total _ fun x hx => by rw [gs p hp x (List.mem_range.1 hx)]
  have hce : copyEdges mode spec (layOf mode spec) = .ok (copyLinks mode spec (layOf mode spec)) := by
    unfold copyEdges copyLinks
    cases mode with
    | strand => rfl
    | struct =>
      refine flatME_total _ fun p hp => flatME_total _ fun q hq => mapME_total _ fun x hx => ?_
      have hxl := List.mem_range.1 hx
      rw [gs q.2 (structStrands_mem wf (withOffsets_mem hq)) x hxl,
        gi p hp _ (structNucsM_index wf (mem_enum hp).1 hq hxl).2]
  have hbe : bondEdges mode spec (layOf mode spec) = .ok (bondLinks mode spec (layOf mode spec)) := by
    unfold bondEdges bondLinks
    refine flatME_total _ fun p hp => mapME_total _ fun b hb => ?_
    obtain ⟨hx, hy⟩ := wf.bondsLt p.2 (mem_enum hp).1 b hb
    rw [gi p hp _ hx, gi p hp _ hy]
  have hte : strandEdges spec (layOf mode spec) (encOf spec (layOf mode spec)) =
      .ok (strandLinks spec (layOf mode spec) (encOf spec (layOf mode spec))) := by
    unfold strandEdges strandLinks
    refine flatME_total _ fun p hp => flatME_total _ fun q hq => mapME_total _ fun x hx => ?_
    obtain ⟨num, hn⟩ := numOf_isSome ((wf.strand p.2 (mem_enum hp).1).resolve q.2 (withOffsets_mem hq))
    rw [gs p hp _ (strand_index_lt wf hp hq (List.mem_range.1 hx))]
    simp only [sqOf, hn, Option.getD_some]
  unfold seeds
  simp only [hli, hce, hbe, equalEdges_eq wf, supEdges_eq wf, hte]
  rfl

/-- a successful seeding has called `get_index_strand` on every nucleotide of every strand -/
theorem laid_of_seeds (wf : SpecWF spec) {s : Seeds} (hs : seeds mode spec = .ok s) : Laid (layOf mode spec) spec := by
  obtain ⟨_, _, _, _, _, te, _, _, _, _, _, h6, _⟩ := seeds_ok hs
  intro p hp hlen
  have hmem := (mem_enum hp).1
  have hsum : (p.2.items.map (lenOf spec)).sum = p.2.len := by
    rw [sum_lenOf_items wf (wf.strand p.2 hmem), wf.strandLen p.2 hmem]
  obtain ⟨off, it, x, hoff, hx, _⟩ := withOffsets_cover (lenOf spec) p.2.items (y := 0) (by omega)
  unfold strandEdges at h6
  obtain ⟨_, hcs, _⟩ := flatME_mem_of h6 hp
  obtain ⟨_, hcs', _⟩ := flatME_mem_of hcs hoff
  obtain ⟨b, _, hb⟩ := mapME_mem_left hcs' (List.mem_range.2 hx)
  cases ha : getIndexStrand (layOf mode spec) p.1 p.2.len (off + x) with
  | error er => simp [ha] at hb
  | ok a => exact (getIndexStrand_iff.1 ha).2.1

theorem seeds_iff (wf : SpecWF spec) {s : Seeds} :
    seeds mode spec = .ok s ↔ Laid (layOf mode spec) spec ∧ s = seedsOf mode spec :=
  ⟨fun hs => ⟨laid_of_seeds wf hs, by
      have := (seeds_laid wf (laid_of_seeds wf hs)).symm.trans hs; cases this; rfl⟩,
    fun ⟨L, e⟩ => e ▸ seeds_laid wf L⟩

end

section
variable {mode : Layout} {spec : Spec} {e : Enc}

theorem sPos_row (wf : SpecWF spec) {k : Nat} {o : StrandObj} (hko : (k, o) ∈ enum spec.strands)
    (St : Started (layOf mode spec) k) {x : Nat} (hx : x < o.len) :
    ∃ m, (nucsOfBases o.bases)[x]? = some m ∧ (sPos (layOf mode spec) k x, m) ∈ posTabOf mode spec := by
  obtain ⟨m, hm⟩ := getElem?_some_of_lt (l := nucsOfBases o.bases) (i := x)
    (by rw [wf.strandLen o (mem_enum hko).1]; exact hx)
  refine ⟨m, hm, ?_⟩
  cases mode with
  | strand => exact posTabStrand_mem hko hx hm
  | struct =>
    -- `strand_start[k]` is the place of the first listing of the strand in a structure
    obtain ⟨p0, hs⟩ := St
    obtain ⟨j, so, hj, off, o', hmem, hoff⟩ := strandStart_struct spec hs
    have ho : o' = o := Option.some.inj ((enum_getElem? (structStrands_mem wf (withOffsets_mem hmem))).symm.trans
      (enum_getElem? hko))
    subst ho
    obtain ⟨hidx, hlt⟩ := structNucsM_index wf (List.mem_of_getElem? hj) hmem hx
    have e : sPos (layOf .struct spec) k x = stStart spec j + offT (structStrands spec so) (off + x) := by
      rw [hoff x hx]; unfold sPos; rw [hs]; rfl
    rw [e]
    exact posTabStruct_mem (mem_enum_of_getElem? hj) hlt (hidx.trans hm)

theorem tPos_row (wf : SpecWF spec) {j : Nat} {so : StructObj} (hjso : (j, so) ∈ enum spec.structs) {x : Nat}
    (hx : x < so.len) :
    ∃ m, (structNucsM spec so)[x]? = some m ∧ (tPos mode spec (layOf mode spec) j so x, m) ∈ posTabOf mode spec := by
  have hso := (mem_enum hjso).1
  obtain ⟨m, hm⟩ := getElem?_some_of_lt (l := structNucsM spec so) (i := x) (by rw [structNucsM_length wf hso]; exact hx)
  refine ⟨m, hm, ?_⟩
  cases mode with
  | strand =>
    obtain ⟨off, q, y, hoff, hy, rfl, hq, hS, _⟩ :=
      getIndex_cover (mode := .strand) (lay := layOf .strand spec) (j := j) wf hso hx
    rw [(hS rfl).2]
    exact posTabStrand_mem hq hy ((structNucsM_index wf hso hoff hy).1.symm.trans hm)
  | struct => exact posTabStruct_mem hjso hx hm

theorem layInits_keys (spec : Spec) :
    (layInits mode spec (layOf mode spec)).map (·.1) = (posTabOf mode spec).map (·.1) := by
  cases mode with
  | strand => simp only [layInits, posTabOf, posTabStrand, List.map_flatMap, List.map_map, Function.comp_def]; rfl
  | struct => simp only [layInits, posTabOf, posTabStruct, List.map_flatMap, List.map_map, Function.comp_def]; rfl

theorem layInits_letters {lay : Lay} : ∀ p ∈ layInits mode spec lay, p.2 = 'N' := by
  intro p hp
  cases mode <;>
  · obtain ⟨q, _, hp⟩ := List.mem_flatMap.1 hp
    obtain ⟨x, _, rfl⟩ := List.mem_map.1 hp
    rfl

theorem strandLinks_stands (wf : SpecWF spec) (L : Laid (layOf mode spec) spec) :
    ∀ edge ∈ strandLinks spec (layOf mode spec) e, EdgeStands (posTabOf mode spec) spec e false edge := by
  intro edge he
  obtain ⟨⟨k, o⟩, hko, he⟩ := List.mem_flatMap.1 he
  obtain ⟨⟨off, it⟩, hoff, he⟩ := List.mem_flatMap.1 he
  obtain ⟨x, hx, rfl⟩ := List.mem_map.1 he
  have hxl := List.mem_range.1 hx
  have okI := wf.strand o (mem_enum hko).1
  obtain ⟨num, hn⟩ := numOf_isSome (okI.resolve it (withOffsets_mem hoff))
  have hlt := strand_index_lt wf hko hoff hxl
  obtain ⟨m, hm, hpos⟩ := sPos_row wf hko (L _ hko (Nat.lt_of_le_of_lt (Nat.zero_le _) hlt)) hlt
  simp only [hn, Option.getD_some]
  exact ⟨m, m, .pos hpos, stands_item wf hn ((items_index wf okI hoff hxl).1.symm.trans hm), NucReach.refl _ m⟩

theorem copyLinks_stands (wf : SpecWF spec) (L : Laid (layOf mode spec) spec) :
    ∀ edge ∈ copyLinks mode spec (layOf mode spec), EdgeStands (posTabOf mode spec) spec e false edge := by
  intro edge he
  cases mode with
  | strand => cases he
  | struct =>
    obtain ⟨⟨j, so⟩, hjso, he⟩ := List.mem_flatMap.1 he
    obtain ⟨⟨off, k, o⟩, hoff, he⟩ := List.mem_flatMap.1 he
    obtain ⟨x, hx, rfl⟩ := List.mem_map.1 he
    have hxl := List.mem_range.1 hx
    obtain ⟨hidx, hlt⟩ := structNucsM_index wf (mem_enum hjso).1 hoff hxl
    have hko := structStrands_mem wf (withOffsets_mem hoff)
    obtain ⟨m, hm, hpos⟩ := sPos_row wf hko (L _ hko (Nat.lt_of_le_of_lt (Nat.zero_le _) hxl)) hxl
    obtain ⟨n, hn, hpos'⟩ := tPos_row wf hjso hlt
    cases Option.some.inj (hn.symm.trans (hidx.trans hm))
    exact ⟨m, m, .pos hpos, .pos hpos', NucReach.refl _ m⟩

theorem bondLinks_stands (wf : SpecWF spec) :
    ∀ edge ∈ bondLinks mode spec (layOf mode spec), EdgeStands (posTabOf mode spec) spec e true edge := by
  intro edge he
  obtain ⟨⟨j, so⟩, hjso, he⟩ := List.mem_flatMap.1 he
  obtain ⟨⟨x, y⟩, hxy, rfl⟩ := List.mem_map.1 he
  have hso := (mem_enum hjso).1
  obtain ⟨hx, hy⟩ := wf.bondsLt so hso _ hxy
  obtain ⟨m, hm, hpm⟩ := tPos_row wf hjso hx
  obtain ⟨n, hn, hpn⟩ := tPos_row wf hjso hy
  exact ⟨m, n, .pos hpm, .pos hpn,
    nucReach_of_pairLink (List.mem_append_right _ ((pairLink_iff wf).2 ⟨so, hso, (x, y), hxy, m, n, hm, hn, rfl⟩))⟩

/-- the one analysis of a successful `seeds` that both soundness (`Seeded.sound`) and totality of `build`
    (`build_total_of_seeds`) rest on -/
theorem seeds_stands (wf : SpecWF spec) {s : Seeds} (hs : seeds mode spec = .ok s) :
    s.inits.map (·.1) =
      (posTabOf mode spec).map (·.1) ++ (seqInits spec (encOf spec (layOf mode spec))).map (·.1) ∧
    (∀ e ∈ s.eqE, EdgeStands (posTabOf mode spec) spec (encOf spec (layOf mode spec)) false e) ∧
    (∀ e ∈ s.wcE, EdgeStands (posTabOf mode spec) spec (encOf spec (layOf mode spec)) true e) := by
  obtain ⟨L, rfl⟩ := (seeds_iff wf).1 hs
  refine ⟨by simp only [seedsOf, List.map_append, layInits_keys], fun e he => ?_, fun e he => ?_⟩
  · simp only [seedsOf, List.mem_append] at he
    rcases he with ((he | he) | he) | he
    · exact copyLinks_stands wf L e he
    · exact lineLinks_stands wf e he
    · exact supLinks_stands wf e he
    · exact strandLinks_stands wf L e he
  · simp only [seedsOf, List.mem_append] at he
    exact he.elim (bondLinks_stands wf e) (viewEdges_stands wf e)

end

/-- the hypotheses under which everything about the seeded graph is stated: a well-formed specification (`wf`) whose
    template letters are codes of `tbl` (`ok`), on which the seeding (`hs`) and `build` (`hb`) returned -/
structure Seeded (tbl : CodeTable) (mode : Layout) (spec : Spec) (s : Seeds) (c : Cons) : Prop where
  wf : SpecWF spec
  ok : SpecCodes tbl spec
  hs : seeds mode spec = .ok s
  hb : build s = .ok c

section Seeded
variable {tbl : CodeTable} {mode : Layout} {spec : Spec} {s : Seeds} {c : Cons}

/-- `build_spec` at the seeded graph -/
theorem Seeded.built (S : Seeded tbl mode spec s c) : Built tbl s c := build_spec S.hb (seeds_codes S.ok S.hs)

theorem Seeded.pre (S : Seeded tbl mode spec s c) : Pre (adjOf c.keys c.eq) (adjOf c.keys c.wc) := S.built.wf.pre

theorem Seeded.sound (S : Seeded tbl mode spec s c) : SeedSound mode spec s c := by
  obtain ⟨hk, hE, hW⟩ := seeds_stands S.wf S.hs
  have D : KeysNodup (posTabOf mode spec) spec (encOf spec (layOf mode spec)) := ⟨hk ▸ S.built.keys ▸ S.built.nodup⟩
  exact ⟨D, S.built.keys.trans hk, fun e he => (hE e he).sound S.wf D, fun e he => (hW e he).sound S.wf D⟩

theorem key_iff_posTab (S : Seeded tbl mode spec s c) {i : Nat} (hi : i < s.P) :
    i ∈ c.keys ↔ i ∈ (posTabOf mode spec).map (·.1) := by
  rw [seeds_P S.hs] at hi
  rw [S.sound.keys, List.mem_append]
  refine ⟨fun h => h.resolve_right fun h' => ?_, Or.inl⟩
  have := mem_seqInits_ge spec _ h'
  simp only [encOf] at this
  omega

theorem mem_posTabStrand_keys {spec : Spec} {i : Nat} :
    i ∈ (posTabStrand spec).map (·.1) ↔ ∃ q ∈ enum spec.strands, ∃ x, x < q.2.len ∧ i = startS spec q.1 + x := by
  simp only [posTabStrand_keys, List.mem_flatMap, List.mem_map, List.mem_range, eq_comm]

theorem mem_posTabStruct_keys {spec : Spec} {i : Nat} :
    i ∈ (posTabStruct spec).map (·.1) ↔
      ∃ q ∈ enum spec.structs, ∃ x, x < q.2.len ∧ i = stStart spec q.1 + offT (structStrands spec q.2) x := by
  simp only [posTabStruct_keys, List.mem_flatMap, List.mem_map, List.mem_range, eq_comm]

theorem Seeded.reach_sound (S : Seeded tbl mode spec s c)
    {x y : Nat} {p : Bool} (h : GR c x p y) {m : Nuc}
    (hm : denOf mode spec x = some m) : ∃ n, denOf mode spec y = some n ∧ NucReach (Pil.denote spec) m p n := by
  exact ConstraintGen.reach_sound S.built.nbEq S.built.nbWc S.sound.hE S.sound.hW h hm

theorem Seeded.key_den (S : Seeded tbl mode spec s c) (hN : tbl.maskC 'N' = 15)
    {y : Nat} (hy : y ∈ c.keys) :
    ∃ n, denOf mode spec y = some n ∧
      ∀ b, okVar tbl (Pil.denote spec) n.var (flipB b n.comp) → hasB (stMask tbl c.st y) b := by
  have ⟨wf, ok, hs, hb⟩ := S
  have SS := S.sound
  have hkeys := S.built.keys
  have hst := S.built.st
  obtain ⟨_, rfl⟩ := (seeds_iff wf).1 hs
  have hNall : ∀ b, hasB (tbl.maskC 'N') b := fun b => hN ▸ hasB_15 b
  rw [hkeys] at hy
  obtain ⟨p, hp, rfl⟩ := List.mem_map.1 hy
  have hstp : stMask tbl c.st p.1 = tbl.maskC p.2 := by simp [stMask, hst p hp]
  rcases List.mem_append.1 (show p ∈ layInits mode spec _ ++ seqInits spec _ from hp) with hp | hp
  · -- a layout position: its `init` carries the letter N
    have hin : p.1 ∈ (posTabOf mode spec).map (·.1) := layInits_keys spec ▸ List.mem_map.2 ⟨p, hp, rfl⟩
    obtain ⟨⟨q, m⟩, hqm, hq⟩ := List.mem_map.1 hin
    simp only at hq
    subst hq
    refine ⟨m, den_pos SS.D hqm, fun b _ => ?_⟩
    rw [hstp, layInits_letters p hp]; exact hNall b
  · obtain ⟨num, o, x, hpx, ho, hmem, hx, hcase⟩ := seqInits_mem wf _ hp
    obtain ⟨n, hn⟩ := getElem?_some_of_lt (l := viewNucs o (revOfNum num)) (i := x)
      (by rw [viewNucs_length, wf.seqLen o hmem]; exact hx)
    have hden : denOf mode spec p.1 = some n := by
      unfold denOf
      rw [hpx, den_sq wf SS.D ho hx]; exact hn
    refine ⟨n, hden, fun b hb' => ?_⟩
    rw [hstp]
    rcases hcase with hc | ⟨hr, hsup, hch⟩
    · rw [hc]; exact hNall b
    · rw [hr, (wf.base o hmem hsup).2, fwd_getElem? _ _ _ hx] at hn
      cases hn
      simp only [flipB, Bool.false_eq_true, if_false] at hb'
      have hdom : (o.name, o.template) ∈ (Pil.denote spec).domains := by
        simp only [Pil.denote, List.mem_map, List.mem_filter]
        refine ⟨o, ⟨?_, ?_⟩, rfl⟩
        · unfold Spec.baseSeqs
          rw [List.mem_filter]; exact ⟨hmem, by simp [hsup]⟩
        · simp; omega
      exact hb' (o.name, o.template) hdom rfl p.2 hch

theorem reach_key_den (S : Seeded tbl mode spec s c) (hN : tbl.maskC 'N' = 15)
    {x : Nat} (hx : x ∈ c.keys) {m : Nuc} (hm : denOf mode spec x = some m) {y : Nat} {p : Bool}
    (hy : GR c x p y) :
    ∃ n, denOf mode spec y = some n ∧ NucReach (Pil.denote spec) m p n ∧
      ∀ b, okVar tbl (Pil.denote spec) n.var (flipB b n.comp) → hasB (stMask tbl c.st y) b := by
  obtain ⟨ny, hny, htmpl⟩ := Seeded.key_den S hN (reach_mem_keys S.pre hx hy)
  obtain ⟨n', hn', hr⟩ := Seeded.reach_sound S hy hm
  rw [hny] at hn'; cases hn'
  exact ⟨ny, hny, hr, htmpl⟩

theorem graphSat_of_satisfiable (S : Seeded tbl mode spec s c) (hN : tbl.maskC 'N' = 15) (hsat : Satisfiable tbl (Pil.denote spec)) : GraphSat tbl c := by
  obtain ⟨a, ha⟩ := hsat
  obtain ⟨hokv, hreach⟩ := (sat_iff_asat tbl _ a).1 ha
  intro x hx
  obtain ⟨nx, hnx, _⟩ := Seeded.key_den S hN hx
  constructor
  · intro hself
    obtain ⟨n', hn', hr, _⟩ := reach_key_den S hN hx hnx hself
    rw [hnx] at hn'; cases hn'
    have := hreach _ _ _ hr
    have e : ((true != nx.comp) != nx.comp) = true := by cases nx.comp <;> rfl
    rw [e] at this
    exact flipB_true_ne _ this.symm
  · refine ⟨val a nx, ?_⟩
    intro y p hy
    obtain ⟨ny, _, hr, htmpl⟩ := reach_key_den S hN hx hnx hy
    apply htmpl
    have h1 := hreach _ _ _ hr
    have h2 : flipB (flipB (val a nx) p) ny.comp = a ny.var := by
      rw [h1, val_eq, flipB_flipB, flipB_flipB]
      congr 1
      cases p <;> cases nx.comp <;> cases ny.comp <;> rfl
    rw [h2]
    exact hokv ny.var

theorem Seeded.arrays_sound (S : Seeded tbl mode spec s c) (hN : tbl.maskC 'N' = 15)
    {a : Arrays} (G : GraphExact tbl c s.P a) {i : Nat} (hi : i < a.1.length) (hk : i ∈ c.keys) :
    ∃ m, denOf mode spec i = some m ∧
      (∀ r, a.1[i]? = some (some r) → ∃ n, denOf mode spec r = some n ∧ NucReach (Pil.denote spec) m false n) ∧
      (∀ w, a.2.1[i]? = some (some w) → ∃ n, denOf mode spec w = some n ∧ NucReach (Pil.denote spec) m true n) ∧
      (∀ ch, a.2.2[i]? = some (some ch) → ∀ b,
        (∀ v q, ParityReach (Pil.denote spec) m.var q v →
          okVar tbl (Pil.denote spec) v (flipB (flipB b m.comp) q)) → hasB (tbl.maskC ch) b) := by
  obtain ⟨m, hm, _⟩ := Seeded.key_den S hN hk
  obtain ⟨⟨v, hv, hvmin⟩, ⟨w, hw, hwmin⟩, ch, hch, _, hbits⟩ := G.key i hi hk
  refine ⟨m, hm, ?_, ?_, ?_⟩
  · intro r hr
    rw [hv] at hr; cases hr
    exact Seeded.reach_sound S hvmin.1 hm
  · intro w' hw'
    rw [hw] at hw'; cases hw'
    exact Seeded.reach_sound S hwmin.1 hm
  · intro ch' hch' b hsem
    rw [hch] at hch'; cases hch'
    rw [hbits]
    intro y p hy
    obtain ⟨ny, _, hr, htmpl⟩ := reach_key_den S hN hk hm hy
    apply htmpl
    have := hsem ny.var _ hr
    have e : flipB (flipB b m.comp) ((p != m.comp) != ny.comp) = flipB (flipB b p) ny.comp := by
      rw [flipB_flipB, flipB_flipB]
      congr 1
      cases p <;> cases m.comp <;> cases ny.comp <;> rfl
    rwa [e] at this

end Seeded

theorem graphSat_of_satisfiable_strand {tbl : CodeTable} {spec : Spec} (wf : SpecWF spec) (ok : SpecCodes tbl spec)
    (hN : tbl.maskC 'N' = 15) {s : Seeds} {c : Cons} (hs : seeds .strand spec = .ok s) (hb : build s = .ok c)
    (hsat : Satisfiable tbl (Pil.denote spec)) : GraphSat tbl c :=
  graphSat_of_satisfiable ⟨wf, ok, hs, hb⟩ hN hsat

theorem arrays_sound_strand_aux {tbl : CodeTable} {spec : Spec} (wf : SpecWF spec) (ok : SpecCodes tbl spec)
    (hN : tbl.maskC 'N' = 15) {s : Seeds} {c : Cons} (hs : seeds .strand spec = .ok s) (hb : build s = .ok c)
    {a : Arrays} (G : GraphExact tbl c s.P a) {i : Nat} (hi : i < a.1.length) (hk : i ∈ c.keys) :
    ∃ m, denS spec i = some m ∧
      (∀ r, a.1[i]? = some (some r) → ∃ n, denS spec r = some n ∧ NucReach (Pil.denote spec) m false n) ∧
      (∀ w, a.2.1[i]? = some (some w) → ∃ n, denS spec w = some n ∧ NucReach (Pil.denote spec) m true n) ∧
      (∀ ch, a.2.2[i]? = some (some ch) → ∀ b,
        (∀ v q, ParityReach (Pil.denote spec) m.var q v →
          okVar tbl (Pil.denote spec) v (flipB (flipB b m.comp) q)) → hasB (tbl.maskC ch) b) :=
  Seeded.arrays_sound ⟨wf, ok, hs, hb⟩ hN G hi hk

end Pepper.ConstraintGen
