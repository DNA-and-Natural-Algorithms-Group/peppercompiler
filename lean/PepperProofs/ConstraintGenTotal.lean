import PepperProofs.ConstraintGenSimT
/-!
# The seeding never raises

`seeds` returns when every non-empty strand has a start (`seeds_laid`); `build` returns when the
keys are distinct, since every link joins keys (`seeds_stands`).  The keys are distinct because they are strictly
increasing: the layout positions below `P`, then the sequence nodes view by view.
-/
namespace Pepper.ConstraintGen
open Pepper Pepper.Pil Pepper.Closure Pepper.LinkSpec

theorem initAll_total (l : List (Nat × Char)) {c : Cons} (I : InitInv c)
    (hnd : (c.keys ++ l.map (·.1)).Nodup) : ∃ c', initAll l c = .ok c' := by
  induction l generalizing c with
  | nil => exact ⟨c, rfl⟩
  | cons a l ih =>
    obtain ⟨x, letter⟩ := a
    have hx : x ∉ c.keys := by
      intro hx
      have := (List.nodup_append.1 hnd).2.2 x hx x (by simp)
      exact this rfl
    have he : c.eq.has x = false := by simp [Tab.has, I.eqv x, hx]
    have hw : c.wc.has x = false := by simp [Tab.has, I.wcv x, hx]
    have hs : c.st.has x = false := by
      cases h : c.st.get x with
      | none => simp [Tab.has, h]
      | some v => exact absurd (I.stv x (by simp [h])) hx
    simp only [initAll, he, hw, hs, Bool.or_self, Bool.false_eq_true, if_false]
    exact ih (I.push hx letter) (by simpa [List.append_assoc] using hnd)

theorem addLinks_total (edges : List (Nat × Nat)) (t : Tab (List Nat))
    (h : ∀ e ∈ edges, (t.get e.1).isSome = true ∧ (t.get e.2).isSome = true) : ∃ t', addLinks edges t = .ok t' := by
  induction edges generalizing t with
  | nil => exact ⟨t, rfl⟩
  | cons a l ih =>
    obtain ⟨x, y⟩ := a
    obtain ⟨hx, hy⟩ := h (x, y) List.mem_cons_self
    simp only at hx hy
    obtain ⟨lx, hlx⟩ := Option.isSome_iff_exists.1 hx
    have hy' : ((t.set x (lx ++ [y])).get y).isSome = true := (Tab.set_append hlx y y).1.trans hy
    obtain ⟨ly, hly⟩ := Option.isSome_iff_exists.1 hy'
    have h1 : addLink t x y = .ok ((t.set x (lx ++ [y])).set y (ly ++ [x])) := by
      simp [addLink, hlx, hly]
    obtain ⟨_, _, hs1, _⟩ := addLink_spec h1
    obtain ⟨t', ht'⟩ := ih _ (fun e he => by
      have := h e (List.mem_cons_of_mem _ he)
      rw [hs1, hs1]; exact this)
    exact ⟨t', by simp [addLinks, h1, ht']⟩

theorem build_total (s : Seeds) (hnd : (s.inits.map (·.1)).Nodup)
    (hE : ∀ e ∈ s.eqE, e.1 ∈ s.inits.map (·.1) ∧ e.2 ∈ s.inits.map (·.1))
    (hW : ∀ e ∈ s.wcE, e.1 ∈ s.inits.map (·.1) ∧ e.2 ∈ s.inits.map (·.1)) : ∃ c, build s = .ok c := by
  obtain ⟨c0, hc0⟩ := initAll_total s.inits InitInv.empty (by simpa using hnd)
  obtain ⟨I, hkeys, _, _⟩ := initAll_spec s.inits InitInv.empty hc0
  simp only [List.nil_append] at hkeys
  have isK : ∀ k, k ∈ s.inits.map (·.1) → (c0.eq.get k).isSome = true ∧ (c0.wc.get k).isSome = true := by
    intro k hk
    rw [← hkeys] at hk
    simp [I.eqv k, I.wcv k, hk]
  obtain ⟨eq1, h1⟩ := addLinks_total s.eqE c0.eq (fun e he => ⟨(isK _ (hE e he).1).1, (isK _ (hE e he).2).1⟩)
  obtain ⟨wc1, h2⟩ := addLinks_total s.wcE c0.wc (fun e he => ⟨(isK _ (hW e he).1).2, (isK _ (hW e he).2).2⟩)
  exact ⟨{ c0 with eq := eq1, wc := wc1 }, by simp [build, hc0, h1, h2]⟩

theorem enum_pairwise {α : Type} (l : List α) : List.Pairwise (fun (a b : Nat × α) => a.1 < b.1) (enum l) := by
  unfold enum
  rw [List.pairwise_iff_getElem]
  intro i j hi hj hij
  rw [List.getElem_zip, List.getElem_zip]
  simpa using hij

theorem range_map_pairwise (s len : Nat) : List.Pairwise (· < ·) ((List.range len).map (fun x => s + x)) := by
  rw [List.pairwise_map]
  exact List.Pairwise.imp (fun h => by omega) List.pairwise_lt_range

theorem sq_lt_sq (e : Enc) {num num' x x' : Nat} (hx : x < e.M) (h : num < num' ∨ num = num' ∧ x < x') :
    e.sq num x < e.sq num' x' := by
  unfold Enc.sq
  rcases h with h | ⟨rfl, h⟩
  · have := Nat.mul_le_mul_right e.M (Nat.succ_le_of_lt h)
    rw [Nat.succ_mul] at this
    omega
  · omega

theorem viewKeys_sorted (e : Enc) (n0 len : Nat) (hM : len < e.M) :
    List.Pairwise (· < ·) ((List.range len).map (e.sq n0) ++ (List.range len).map (e.sq (n0 + 1))) ∧
    ∀ y ∈ (List.range len).map (e.sq n0) ++ (List.range len).map (e.sq (n0 + 1)),
      e.sq n0 0 ≤ y ∧ y < e.sq (n0 + 2) 0 := by
  have lt : ∀ {x}, x ∈ List.range len → x < e.M := fun h => Nat.lt_trans (List.mem_range.1 h) hM
  have row : ∀ n, List.Pairwise (· < ·) ((List.range len).map (e.sq n)) := fun n =>
    List.pairwise_map.2 (List.Pairwise.imp_of_mem (fun ha _ h => sq_lt_sq e (lt ha) (Or.inr ⟨rfl, h⟩))
      List.pairwise_lt_range)
  have bounds : ∀ n, n = n0 ∨ n = n0 + 1 → ∀ y ∈ (List.range len).map (e.sq n),
      e.sq n0 0 ≤ y ∧ y < e.sq (n0 + 2) 0 := by
    intro n hn y hy
    obtain ⟨x, hx, rfl⟩ := List.mem_map.1 hy
    refine ⟨?_, sq_lt_sq e (lt hx) (Or.inl (by omega))⟩
    have := Nat.mul_le_mul_right e.M (show n0 ≤ n by omega)
    unfold Enc.sq
    omega
  refine ⟨List.pairwise_append.2 ⟨row _, row _, fun a ha b hb => ?_⟩, fun y hy => ?_⟩
  · obtain ⟨x, hx, rfl⟩ := List.mem_map.1 ha
    obtain ⟨x', _, rfl⟩ := List.mem_map.1 hb
    exact sq_lt_sq e (lt hx) (Or.inl (Nat.lt_succ_self _))
  · exact (List.mem_append.1 hy).elim (bounds _ (Or.inl rfl) y) (bounds _ (Or.inr rfl) y)

theorem seqKeys_sorted {spec : Spec} (wf : SpecWF spec) (lay : Lay) :
    List.Pairwise (· < ·) ((seqInits spec (encOf spec lay)).map (·.1)) := by
  have views := fun p (hp : p ∈ enum (allSeqs spec)) => viewKeys_sorted (encOf spec lay) (2 * p.1) p.2.len
    (len_lt_M (objOfNum_mem (objOfNum_views (j := p.1) (o := p.2) hp).fwd) lay)
  rw [seqInits_keys wf, List.pairwise_flatMap]
  refine ⟨fun p hp => (views p hp).1, List.Pairwise.imp_of_mem ?_ (enum_pairwise (allSeqs spec))⟩
  intro p1 p2 h1 h2 h12 x hx y hy
  have b1 := (views p1 h1).2 x hx
  have b2 := (views p2 h2).2 y hy
  have := Nat.mul_le_mul_right (encOf spec lay).M (show 2 * p1.1 + 2 ≤ 2 * p2.1 by omega)
  unfold Enc.sq at b1 b2
  omega

theorem keys_nodup {spec : Spec} (wf : SpecWF spec) (lay : Lay) {posKeys : List Nat}
    (hs : List.Pairwise (· < ·) posKeys) (hlt : ∀ y ∈ posKeys, y < lay.total) :
    (posKeys ++ (seqInits spec (encOf spec lay)).map (·.1)).Nodup := by
  have : List.Pairwise (· < ·) (posKeys ++ (seqInits spec (encOf spec lay)).map (·.1)) := by
    rw [List.pairwise_append]
    refine ⟨hs, seqKeys_sorted wf lay, fun a ha b hb => ?_⟩
    have h1 := hlt a ha
    have h2 : lay.total ≤ b := mem_seqInits_ge spec (encOf spec lay) hb
    omega
  exact List.Pairwise.imp (fun h => Nat.ne_of_lt h) this

theorem build_total_of_seeds {mode : Layout} {spec : Spec} (wf : SpecWF spec) {s : Seeds} (hs : seeds mode spec = .ok s)
    (hnd : ((posTabOf mode spec).map (·.1) ++ (seqInits spec (encOf spec (layOf mode spec))).map (·.1)).Nodup) :
    ∃ c, build s = .ok c := by
  obtain ⟨hk, hE, hW⟩ := seeds_stands wf hs
  have join : ∀ {p : Bool} {e : Nat × Nat},
      EdgeStands (posTabOf mode spec) spec (encOf spec (layOf mode spec)) p e →
      e.1 ∈ s.inits.map (·.1) ∧ e.2 ∈ s.inits.map (·.1) := by
    rintro p e ⟨m, n, hm, hn, _⟩
    exact ⟨hk ▸ hm.mem_keys wf, hk ▸ hn.mem_keys wf⟩
  exact build_total s (hk ▸ hnd) (fun e he => join (hE e he)) (fun e he => join (hW e he))

theorem posKeys_sorted (spec : Spec) : List.Pairwise (· < ·) ((posTabStrand spec).map (·.1)) := by
  rw [posTabStrand_keys, List.pairwise_flatMap]
  constructor
  · exact fun q _ => range_map_pairwise _ _
  · refine List.Pairwise.imp_of_mem ?_ (enum_pairwise spec.strands)
    intro a b ha hb hab x hx y hy
    simp only [List.mem_map, List.mem_range] at hx hy
    obtain ⟨x', hx', rfl⟩ := hx
    obtain ⟨y', hy', rfl⟩ := hy
    rw [startS_closed spec (mem_enum_lt ha), startS_closed spec (mem_enum_lt hb)]
    have := startSC_next ha hab
    omega

theorem posKeys_lt_P (spec : Spec) : ∀ y ∈ (posTabStrand spec).map (·.1), y < (layStrand spec).total := by
  intro y hy
  obtain ⟨q, hq, x, hx, rfl⟩ := mem_posTabStrand_keys.1 hy
  have : _ ≤ startSC spec spec.strands.length := startSC_next (q' := (spec.strands.length, q.2)) hq (mem_enum_lt hq)
  rw [startS_closed spec (mem_enum_lt hq), total_strand]
  omega

theorem started_strand {spec : Spec} {q : Nat × StrandObj} (hq : q ∈ enum spec.strands) :
    Started (layStrand spec) q.1 :=
  ⟨_, by
    show (layStrandAux spec.strands 0).1.getD q.1 none = _
    rw [List.getD_eq_getElem?_getD, layStrandAux_closed _ _ _ (mem_enum_lt hq)]; rfl⟩

end Pepper.ConstraintGen
