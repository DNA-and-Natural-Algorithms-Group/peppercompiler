import PepperProofs.ConstraintGenTotal
/-!
# The structure layout in closed form; the seeding never raises on a laid-out specification; the layouts on the arrays

About returned arrays: `Seeded.row_letter` (a row of the table of positions is a letter), `nbArr_iff_posTab` (and
conversely), `Seeded.layout_strand` / `layout_struct` (the same in closed form).
-/
namespace Pepper.ConstraintGen
open Pepper Pepper.Pil Pepper.Closure Pepper.LinkSpec

/-- `strand_start[k]` is set after the strands of a structure have been laid out if it was set before or
    strand `k` is one of them -/
theorem layStructStrands_isSome (l : List (Nat × StrandObj)) (ss : List (Option Nat)) (p : Nat) {k : Nat}
    (h : (ss.getD k none).isSome = true ∨ k < ss.length ∧ ∃ o, (k, o) ∈ l) :
    ((layStructStrands l ss p).1.getD k none).isSome = true := by
  induction l generalizing ss p with
  | nil => exact h.resolve_right fun ⟨_, _, h⟩ => nomatch h
  | cons q l ih =>
    obtain ⟨i, o⟩ := q
    simp only [layStructStrands]
    apply ih
    by_cases hset : (ss.getD k none).isSome = true
    · left
      split
      · rw [getD_set]; split
        · rfl
        · exact hset
      · exact hset
    · obtain ⟨hk, o', ho'⟩ := h.resolve_left hset
      have hnone : (ss.getD k none).isNone = true := by simpa using hset
      rcases List.mem_cons.1 ho' with e | ho'
      · cases e
        left
        rw [if_pos hnone, getD_set, if_pos ⟨rfl, hk⟩]
        rfl
      · right
        refine ⟨?_, o', ho'⟩
        split
        · rw [List.length_set]; exact hk
        · exact hk

theorem layStructAux_isSome (spec : Spec) (l : List StructObj) (ss : List (Option Nat)) (p : Nat) {k : Nat}
    (h : (ss.getD k none).isSome = true ∨ k < ss.length ∧ ∃ so ∈ l, ∃ o, (k, o) ∈ structStrands spec so) :
    ((layStructAux spec l ss p).2.1.getD k none).isSome = true := by
  induction l generalizing ss p with
  | nil => exact h.resolve_right fun ⟨_, _, h, _⟩ => nomatch h
  | cons so l ih =>
    simp only [layStructAux]
    apply ih
    rcases h with h | ⟨hk, so', hso', o, ho⟩
    · exact Or.inl (layStructStrands_isSome _ _ _ (Or.inl h))
    · rcases List.mem_cons.1 hso' with rfl | hso'
      · exact Or.inl (layStructStrands_isSome _ _ _ (Or.inr ⟨hk, o, ho⟩))
      · exact Or.inr ⟨by rw [(layStructStrands_spec _ _ _).1]; exact hk, so', hso', o, ho⟩

theorem strandStart_defined {spec : Spec} (wf : SpecWF spec) {so : StructObj} (hso : so ∈ spec.structs)
    {q : Nat × StrandObj} (hq : q ∈ structStrands spec so) :
    ∃ p0, (layStruct spec).strandStart.getD q.1 none = some p0 :=
  Option.isSome_iff_exists.1 (layStructAux_isSome spec spec.structs (List.replicate spec.strands.length none) 0
    (Or.inr ⟨by rw [List.length_replicate]; exact mem_enum_lt (structStrands_mem wf hq), so, hso, q.2, hq⟩))

theorem placed_structStrands {spec : Spec} (wf : SpecWF spec) (hp : Placed spec) {k : Nat} {o : StrandObj}
    (hko : (k, o) ∈ enum spec.strands) (hlen : o.len ≠ 0) :
    ∃ so ∈ spec.structs, (k, o) ∈ structStrands spec so := by
  have hmem : o ∈ spec.strands := (mem_enum hko).1
  obtain ⟨so, hso, hn⟩ := hp o hmem hlen
  refine ⟨so, hso, ?_⟩
  have hf := wf.strandFind o hmem
  obtain ⟨k', hk'⟩ := strandIdx_of_find hf
  have hin : (k', o) ∈ structStrands spec so := by
    unfold structStrands
    rw [List.mem_filterMap]
    exact ⟨o.name, hn, by simp [hk', hf]⟩
  have : k' = k := nodup_index_unique (nodup_of_map _ wf.strandNames)
    (enum_getElem? (structStrands_mem wf hin)) (enum_getElem? hko)
  rw [← this]; exact hin

theorem sqOf_total' {spec : Spec} (wf : SpecWF spec) (e : Enc) {it : ItemRef}
    (hres : (spec.findSeq it.name).isSome = true) (x : Nat) :
    ∃ num, numOf spec it = some num ∧ sqOf spec e it x = .ok (e.sq num x) := by
  obtain ⟨num, hn⟩ := numOf_isSome hres
  exact ⟨num, hn, by simp [sqOf, hn]⟩

def widthT (l : List (Nat × StrandObj)) : Nat := (l.map (fun q => q.2.len + Generated.structGapStrands)).sum

theorem offT_lt (l : List (Nat × StrandObj)) {x : Nat} (hx : x < (l.map (fun q => q.2.len)).sum) :
    offT l x < widthT l := by
  induction l generalizing x with
  | nil => simp at hx
  | cons q l ih =>
    simp only [List.map_cons, List.sum_cons] at hx
    simp only [offT, widthT, List.map_cons, List.sum_cons]
    by_cases h : x ≥ q.2.len
    · simp only [h, if_true]
      have := ih (x := x - q.2.len) (by omega)
      unfold widthT at this
      omega
    · simp only [h, if_false]; omega

theorem offT_mono (l : List (Nat × StrandObj)) {x y : Nat} (hxy : x < y) (hy : y < (l.map (fun q => q.2.len)).sum) :
    offT l x < offT l y := by
  induction l generalizing x y with
  | nil => simp at hy
  | cons q l ih =>
    simp only [List.map_cons, List.sum_cons] at hy
    simp only [offT]
    by_cases hx : x ≥ q.2.len
    · have hy' : y ≥ q.2.len := by omega
      simp only [hx, hy', if_true]
      have := ih (x := x - q.2.len) (y := y - q.2.len) (by omega) (by omega)
      omega
    · simp only [hx, if_false]
      by_cases hy' : y ≥ q.2.len
      · simp only [hy', if_true]; omega
      · simp only [hy', if_false]; exact hxy

theorem layStructStrands_end (l : List (Nat × StrandObj)) (ss : List (Option Nat)) (p : Nat) :
    (layStructStrands l ss p).2 = p + widthT l := by
  induction l generalizing ss p with
  | nil => simp [layStructStrands, widthT]
  | cons q l ih =>
    obtain ⟨i, o⟩ := q
    simp only [layStructStrands, ih, widthT, List.map_cons, List.sum_cons]
    omega

theorem layStructAux_end (spec : Spec) (l : List StructObj) (ss : List (Option Nat)) (p : Nat) :
    (layStructAux spec l ss p).2.2 = p + (l.map (fun so =>
      widthT (structStrands spec so) + (Generated.structGapStructs - Generated.structGapStrands))).sum := by
  induction l generalizing ss p with
  | nil => rfl
  | cons so l ih =>
    simp only [layStructAux, ih, layStructStrands_end, List.map_cons, List.sum_cons]
    omega

theorem layStructAux_closed (spec : Spec) (l : List StructObj) (ss : List (Option Nat)) (p j : Nat)
    (hj : j < l.length) :
    (layStructAux spec l ss p).1.getD j 0 = p + ((l.take j).map (fun so =>
      widthT (structStrands spec so) + (Generated.structGapStructs - Generated.structGapStrands))).sum := by
  induction l generalizing ss p j with
  | nil => simp at hj
  | cons so l ih =>
    simp only [layStructAux]
    cases j with
    | zero => simp
    | succ j =>
      simp only [List.length_cons] at hj
      simp only [List.getD_cons_succ, List.take_succ_cons, List.map_cons, List.sum_cons]
      rw [ih _ _ j (by omega), layStructStrands_end]
      omega

/-- start of structure `j`: the earlier structures, each as wide as its strands with their blanks, plus the extra
    blank(s) between structures -/
def startTC (spec : Spec) (j : Nat) : Nat :=
  psum (fun so => widthT (structStrands spec so) + (Generated.structGapStructs - Generated.structGapStrands))
    spec.structs j

theorem startTC_succ {spec : Spec} {q : Nat × StructObj} (hq : q ∈ enum spec.structs) :
    startTC spec (q.1 + 1) = startTC spec q.1 + widthT (structStrands spec q.2) +
      (Generated.structGapStructs - Generated.structGapStrands) := by
  unfold startTC
  rw [psum_succ _ (enum_getElem? hq)]; omega

theorem startTC_mono (spec : Spec) {j j' : Nat} (h : j ≤ j') : startTC spec j ≤ startTC spec j' := psum_mono _ _ h

theorem stStart_closed (spec : Spec) {j : Nat} (hj : j < spec.structs.length) : stStart spec j = startTC spec j := by
  unfold stStart
  have : (layStruct spec).structStart = (layStructAux spec spec.structs (List.replicate spec.strands.length none) 0).1 := rfl
  rw [this, layStructAux_closed _ _ _ _ _ hj]
  simp [startTC, psum]

theorem total_struct (spec : Spec) : (layStruct spec).total = startTC spec spec.structs.length := by
  show (layStructAux spec spec.structs (List.replicate spec.strands.length none) 0).2.2 = _
  rw [layStructAux_end, startTC, psum_all _ _ (Nat.le_refl _), Nat.zero_add]

theorem stStart_facts {spec : Spec} {j : Nat} {so : StructObj} (hjso : (j, so) ∈ enum spec.structs) :
    stStart spec j + widthT (structStrands spec so) ≤ (layStruct spec).total ∧
    ∀ j' so', (j', so') ∈ enum spec.structs → j < j' →
      stStart spec j + widthT (structStrands spec so) ≤ stStart spec j' := by
  have hs : startTC spec (j + 1) = startTC spec j + widthT (structStrands spec so) + _ := startTC_succ hjso
  rw [stStart_closed spec (j := j) (mem_enum_lt hjso), total_struct]
  refine ⟨?_, fun j' so' hj' hjj => ?_⟩
  · have : startTC spec (j + 1) ≤ startTC spec spec.structs.length := startTC_mono spec (mem_enum_lt hjso)
    omega
  · have : startTC spec (j + 1) ≤ startTC spec j' := startTC_mono spec hjj
    rw [stStart_closed spec (j := j') (mem_enum_lt hj')]
    omega

theorem posKeysT_sorted {spec : Spec} (wf : SpecWF spec) : List.Pairwise (· < ·) ((posTabStruct spec).map (·.1)) := by
  rw [posTabStruct_keys, List.pairwise_flatMap]
  constructor
  · rintro ⟨j, so⟩ hjso
    rw [List.pairwise_map]
    refine List.Pairwise.imp_of_mem ?_ List.pairwise_lt_range
    intro a b ha hb hab
    have hso : so ∈ spec.structs := (mem_enum hjso).1
    have := offT_mono (structStrands spec so) hab (by rw [← wf.structLen so hso]; exact List.mem_range.1 hb)
    simp only
    omega
  · refine List.Pairwise.imp_of_mem ?_ (enum_pairwise spec.structs)
    rintro ⟨j1, so1⟩ ⟨j2, so2⟩ ha hb hab x hx y hy
    simp only [List.mem_map, List.mem_range] at hx hy
    obtain ⟨x', hx', rfl⟩ := hx
    obtain ⟨y', hy', rfl⟩ := hy
    have hso1 : so1 ∈ spec.structs := (mem_enum ha).1
    have h1 := offT_lt (structStrands spec so1) (x := x') (by rw [← wf.structLen so1 hso1]; exact hx')
    have h2 := (stStart_facts ha).2 j2 so2 hb hab
    omega

theorem posKeysT_lt_P {spec : Spec} (wf : SpecWF spec) :
    ∀ y ∈ (posTabStruct spec).map (·.1), y < (layStruct spec).total := by
  intro y hy
  obtain ⟨q, hq, x, hx, rfl⟩ := mem_posTabStruct_keys.1 hy
  have h1 := offT_lt (structStrands spec q.2) (x := x) (by rw [← wf.structLen q.2 (mem_enum hq).1]; exact hx)
  have h2 := (stStart_facts (j := q.1) (so := q.2) hq).1
  omega

theorem laid_struct {spec : Spec} (wf : SpecWF spec) (hp : Placed spec) : Laid (layStruct spec) spec := fun q hq hlen => by
  -- a strand that has a position is placed, so its `strand_start` is set
  obtain ⟨so, hso, hin⟩ := placed_structStrands wf hp (k := q.1) (o := q.2) hq (by omega)
  exact strandStart_defined wf hso hin

theorem posTab_sorted {mode : Layout} {spec : Spec} (wf : SpecWF spec) :
    List.Pairwise (· < ·) ((posTabOf mode spec).map (·.1)) := by
  cases mode with
  | strand => exact posKeys_sorted spec
  | struct => exact posKeysT_sorted wf

theorem posTab_lt_P {mode : Layout} {spec : Spec} (wf : SpecWF spec) :
    ∀ y ∈ (posTabOf mode spec).map (·.1), y < (layOf mode spec).total := by
  cases mode with
  | strand => exact posKeys_lt_P spec
  | struct => exact posKeysT_lt_P wf

theorem seeding_total_of_laid {mode : Layout} {spec : Spec} (wf : SpecWF spec) (L : Laid (layOf mode spec) spec) :
    ∃ s c, seeds mode spec = .ok s ∧ build s = .ok c := by
  have hs := seeds_laid wf L
  obtain ⟨c, hc⟩ := build_total_of_seeds wf hs (keys_nodup wf _ (posTab_sorted wf) (posTab_lt_P wf))
  exact ⟨_, c, hs, hc⟩

/-- **The strand layout never raises during the seeding**: for every well-formed specification both `seeds` and
    `build` return. -/
theorem seeding_total_strand {spec : Spec} (wf : SpecWF spec) :
    ∃ s c, seeds .strand spec = .ok s ∧ build s = .ok c :=
  seeding_total_of_laid wf fun _ hq _ => started_strand hq

/-- **The structure layout never raises during the seeding when every non-empty strand occurs in a structure.** -/
theorem seeding_total_struct {spec : Spec} (wf : SpecWF spec) (hp : Placed spec) :
    ∃ s c, seeds .struct spec = .ok s ∧ build s = .ok c :=
  seeding_total_of_laid wf (laid_struct wf hp)

theorem Seeded.row_letter {tbl : CodeTable} {mode : Layout} {spec : Spec} {s : Seeds} {c : Cons}
    (S : Seeded tbl mode spec s c) {a : Arrays} (G : GraphExact tbl c s.P a) {p : Nat} {m : Nuc}
    (h : (p, m) ∈ posTabOf mode spec) :
    denOf mode spec p = some m ∧ p < a.2.2.length ∧ ∃ ch, a.2.2[p]? = some (some ch) := by
  have hk : p ∈ (posTabOf mode spec).map (·.1) := List.mem_map.2 ⟨_, h, rfl⟩
  have hP : p < s.P := seeds_P S.hs ▸ posTab_lt_P S.wf p hk
  have hkey : p ∈ c.keys := S.sound.keys ▸ List.mem_append_left _ hk
  have hlt := G.bound p hkey hP
  obtain ⟨_, _, ch, hch, _⟩ := G.key p hlt hkey
  exact ⟨den_pos S.sound.D h, G.len_st ▸ hlt, ch, hch⟩

def nbArr (st : List (Option Char)) (i : Nat) : Prop := ∃ ch, st[i]? = some (some ch)

theorem nbArr_iff {st : List (Option Char)} {i : Nat} : nbArr st i ↔ i < st.length ∧ st[i]? ≠ some none := by
  unfold nbArr
  constructor
  · rintro ⟨ch, h⟩
    exact ⟨getElem?_lt h, by rw [h]; simp⟩
  · rintro ⟨h1, h2⟩
    rw [List.getElem?_eq_getElem h1] at h2 ⊢
    cases h : st[i] with
    | none => rw [h] at h2; exact absurd rfl h2
    | some ch => exact ⟨ch, rfl⟩

/-- the letters of the template array sit exactly on the rows of the table of positions (either layout) -/
theorem nbArr_iff_posTab {tbl : CodeTable} {mode : Layout} {spec : Spec} {s : Seeds} {c : Cons}
    (S : Seeded tbl mode spec s c) {a : Arrays} (G : GraphExact tbl c s.P a) (i : Nat) :
    nbArr a.2.2 i ↔ i ∈ (posTabOf mode spec).map (·.1) := by
  constructor
  · rintro ⟨ch, h⟩
    obtain ⟨hlt, hk⟩ := key_of_letter G h
    exact (key_iff_posTab S (Nat.lt_of_lt_of_le hlt G.le_P)).1 hk
  · intro h
    obtain ⟨⟨p, m⟩, hpm, rfl⟩ := List.mem_map.1 h
    exact (S.row_letter G hpm).2.2

/-- **The strand layout on the arrays**: the letters sit exactly at `startSC k + x`, and that index denotes the `x`-th
    nucleotide of strand `k` -/
theorem Seeded.layout_strand {tbl : CodeTable} {spec : Spec} {s : Seeds} {c : Cons} (S : Seeded tbl .strand spec s c)
    {a : Arrays} (G : GraphExact tbl c s.P a) :
    (∀ i, nbArr a.2.2 i ↔ ∃ q ∈ enum spec.strands, ∃ x, x < q.2.len ∧ i = startSC spec q.1 + x) ∧
    ∀ q ∈ enum spec.strands, ∀ x, x < q.2.len →
      denOf .strand spec (startSC spec q.1 + x) = (nucsOfBases q.2.bases)[x]? ∧ startSC spec q.1 + x < a.2.2.length := by
  refine ⟨fun i => ?_, fun q hq x hx => ?_⟩
  · rw [nbArr_iff_posTab S G, show posTabOf .strand spec = posTabStrand spec from rfl, mem_posTabStrand_keys]
    constructor <;> rintro ⟨q, hq, x, hx, rfl⟩ <;>
      exact ⟨q, hq, x, hx, by rw [startS_closed spec (mem_enum_lt hq)]⟩
  · obtain ⟨m, hm⟩ := getElem?_some_of_lt (l := nucsOfBases q.2.bases) (i := x)
      (by rw [S.wf.strandLen q.2 (mem_enum hq).1]; exact hx)
    obtain ⟨hden, hlt, _⟩ := S.row_letter G
      (show (_, m) ∈ posTabOf .strand spec from posTabStrand_mem (k := q.1) (o := q.2) hq hx hm)
    rw [startS_closed spec (mem_enum_lt hq)] at hden hlt
    exact ⟨hm ▸ hden, hlt⟩

/-- **The structure layout on the arrays**: the letters sit exactly at `startTC j + offT … x`, and that index denotes
    the `x`-th nucleotide of structure `j` -/
theorem Seeded.layout_struct {tbl : CodeTable} {spec : Spec} {s : Seeds} {c : Cons} (S : Seeded tbl .struct spec s c)
    {a : Arrays} (G : GraphExact tbl c s.P a) :
    (∀ i, nbArr a.2.2 i ↔ ∃ q ∈ enum spec.structs, ∃ x, x < q.2.len ∧
      i = startTC spec q.1 + offT (structStrands spec q.2) x) ∧
    ∀ q ∈ enum spec.structs, ∀ x, x < q.2.len →
      denOf .struct spec (startTC spec q.1 + offT (structStrands spec q.2) x) = (structNucsM spec q.2)[x]? := by
  refine ⟨fun i => ?_, fun q hq x hx => ?_⟩
  · rw [nbArr_iff_posTab S G, show posTabOf .struct spec = posTabStruct spec from rfl, mem_posTabStruct_keys]
    constructor <;> rintro ⟨q, hq, x, hx, rfl⟩ <;>
      exact ⟨q, hq, x, hx, by rw [stStart_closed spec (mem_enum_lt hq)]⟩
  · obtain ⟨m, hm⟩ := getElem?_some_of_lt (l := structNucsM spec q.2) (i := x)
      (by rw [structNucsM_length S.wf (mem_enum hq).1]; exact hx)
    rw [← stStart_closed spec (mem_enum_lt hq), hm]
    exact den_pos S.sound.D (posTabStruct_mem (j := q.1) (so := q.2) hq hx hm)

end Pepper.ConstraintGen
