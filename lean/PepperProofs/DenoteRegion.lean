import PepperModel.Denote
import PepperProofs.Basic
import PepperProofs.CompBasic
/-!
# `Denote.denoteRegion` without positions

`Denote.denoteItems` / `denoteRegion` keep positions (segment indices of the new domains and of the wildcard
placeholder).  Here the same computation is described without indices: `blocks` lists what the items contribute,
`finishB` checks the declared length and puts the wildcard region in; `denoteRegion_eq_blocks` proves the two
descriptions equal, and positions occur there and nowhere after it.  On this form inserting an item is appending
block lists (`blocks_append`); `denoteRegion_insert_ref` is the first use.  Declared into `Pepper.DenoteZero`, whose
simulation (C14) is stated on blocks.
-/
namespace Pepper.DenoteZero
open Pepper Pepper.Comp Pepper.Constraint Pepper.Denote

/-! ### blocks: the region of an item list without positions -/

inductive Blk
  | plain (seg : List Nuc)
  | anon (name : String) (c : List Char) (seg : List Nuc)
  | wild (parts : List (Mult × Char))
deriving Repr

def Blk.seg : Blk → List Nuc
  | .plain s => s
  | .anon _ _ s => s
  | .wild _ => []

def Blk.isWild : Blk → Bool
  | .wild _ => true
  | _ => false

def hasWild (bs : List Blk) : Bool := bs.any Blk.isWild

def blkCount (env : Env) : List SrcItem → Nat
  | [] => 0
  | .ref _ _ :: r => 1 + blkCount env r
  | .nuc _ :: r => 1 + blkCount env r
  | .domains x _ :: r => (match env.seqs.lookup x with | some b => b.segs.length | none => 0) + blkCount env r

/-- number of quoted regions of fixed length (no wildcard) in an item list: the anonymous names it consumes -/
def fixedNucs : List SrcItem → Nat
  | [] => 0
  | .nuc text :: r => (match resolve (parseQuoted text) none with | .ok _ => 1 | .error _ => 0) + fixedNucs r
  | .ref _ _ :: r => fixedNucs r
  | .domains _ _ :: r => fixedNucs r

def wildItem : SrcItem → Bool
  | .nuc text => match resolve (parseQuoted text) none with
    | .error .wildNoLength => true
    | _ => false
  | _ => false

/-- the blocks one item contributes (`n`: the counter, `w`: a wildcard region was already seen).  Counter and flag
    after the item are functions of the item alone, `n + fixedNucs [it]` and `w || wildItem it`, whether or not it is
    accepted. -/
def itemBlocks (pfx : String) (env : Env) (n : Nat) (w : Bool) : SrcItem → Except Denote.Err (List Blk)
  | .ref x star =>
    match env.seqs.lookup x with
    | none => .error .undefined
    | some b => .ok [.plain (if star then rc b.nucs else b.nucs)]
  | .domains x star =>
    match env.seqs.lookup x with
    | none => .error .undefined
    | some b =>
      if !b.isSup then .error .undefined
      else .ok ((if star then rcSegs b.segs else b.segs).map .plain)
  | .nuc text =>
    match resolve (parseQuoted text) none with
    | .ok (l, c) => .ok [.anon (pfx ++ "_Anon" ++ toString n) c (fwd (pfx ++ "_Anon" ++ toString n) l)]
    | .error .wildNoLength => if w then .error .wildcard else .ok [.wild (parseQuoted text)]
    | .error _ => .error .wildcard

def blocks (pfx : String) (env : Env) : List SrcItem → Nat → Bool → Except Denote.Err (List Blk)
  | [], _, _ => .ok []
  | it :: r, n, w =>
    itemBlocks pfx env n w it >>= fun h => (blocks pfx env r (n + fixedNucs [it]) (w || wildItem it)).map (h ++ ·)

theorem blkCount_cons (env : Env) (it : SrcItem) (r : List SrcItem) :
    blkCount env (it :: r) = blkCount env [it] + blkCount env r := by
  cases it <;> simp [blkCount]

theorem fixedNucs_cons (it : SrcItem) (r : List SrcItem) : fixedNucs (it :: r) = fixedNucs [it] + fixedNucs r := by
  cases it <;> simp [fixedNucs]

theorem fixedNucs_append (xs ys : List SrcItem) : fixedNucs (xs ++ ys) = fixedNucs xs + fixedNucs ys := by
  induction xs with
  | nil => exact (Nat.zero_add _).symm
  | cons it r ih => rw [List.cons_append, fixedNucs_cons, fixedNucs_cons it r, ih, Nat.add_assoc]

/-! ### the accumulator of `denoteItems` after a list of blocks -/

/-- the new domains of a block list with their segment positions, the first block at position `k` (the model's `newDomains`) -/
def domsAt : Nat → List Blk → List (Nat × String × List Char)
  | _, [] => []
  | k, .anon nm c _ :: r => (k, nm, c) :: domsAt (k + 1) r
  | k, .plain _ :: r => domsAt (k + 1) r
  | k, .wild _ :: r => domsAt (k + 1) r

/-- the wildcard of a block list with its segment position, the first block at position `k` (the model's `wild`) -/
def wildAt : Nat → List Blk → Option (Nat × List (Mult × Char))
  | _, [] => none
  | k, .wild p :: _ => some (k, p)
  | k, .plain _ :: r => wildAt (k + 1) r
  | k, .anon _ _ _ :: r => wildAt (k + 1) r

/-- the `ItemsAcc` that `denoteItems` has reached after the blocks `bs`, with counter `n` -/
def toAcc (bs : List Blk) (n : Nat) : ItemsAcc := ⟨bs.map Blk.seg, domsAt 0 bs, wildAt 0 bs, n⟩

theorem domsAt_append (k : Nat) (xs ys : List Blk) :
    domsAt k (xs ++ ys) = domsAt k xs ++ domsAt (k + xs.length) ys := by
  induction xs generalizing k with
  | nil => rfl
  | cons b r ih =>
    have hk : k + 1 + r.length = k + (r.length + 1) := by omega
    cases b <;> simp only [List.cons_append, domsAt, ih, List.length_cons, hk]

theorem wildAt_append (k : Nat) (xs ys : List Blk) :
    wildAt k (xs ++ ys) = (wildAt k xs).or (wildAt (k + xs.length) ys) := by
  induction xs generalizing k with
  | nil => rfl
  | cons b r ih =>
    have hk : k + 1 + r.length = k + (r.length + 1) := by omega
    cases b <;> simp only [List.cons_append, wildAt, ih, List.length_cons, hk, Option.some_or]

theorem wildAt_isSome (k : Nat) (bs : List Blk) : (wildAt k bs).isSome = hasWild bs := by
  induction bs generalizing k with
  | nil => rfl
  | cons b r ih => cases b <;> simp [wildAt, hasWild, Blk.isWild, ih]

theorem domsAt_plain (k : Nat) (segs : List (List Nuc)) : domsAt k (segs.map .plain) = [] := by
  induction segs generalizing k with
  | nil => rfl
  | cons s r ih => simp [domsAt, ih]

theorem wildAt_plain (k : Nat) (segs : List (List Nuc)) : wildAt k (segs.map .plain) = none := by
  induction segs generalizing k with
  | nil => rfl
  | cons s r ih => simp [wildAt, ih]

theorem seg_plain (segs : List (List Nuc)) : (segs.map Blk.plain).map Blk.seg = segs := by
  induction segs with
  | nil => rfl
  | cons s r ih => simp [Blk.seg, ih]

theorem hasWild_append (xs ys : List Blk) : hasWild (xs ++ ys) = (hasWild xs || hasWild ys) := by
  simp [hasWild]

theorem hasWild_plain (segs : List (List Nuc)) : hasWild (segs.map .plain) = false := by
  rw [← wildAt_isSome 0, wildAt_plain]; rfl

theorem wildAt_none_iff (k : Nat) (bs : List Blk) : wildAt k bs = none ↔ hasWild bs = false := by
  rw [← wildAt_isSome k bs]
  cases wildAt k bs <;> simp

theorem countP_isWild_eq_zero_iff (bs : List Blk) : bs.countP Blk.isWild = 0 ↔ hasWild bs = false := by
  simp [hasWild, List.countP_eq_zero]

theorem itemBlocks_spec {pfx : String} {env : Env} {n : Nat} {w : Bool} {it : SrcItem} {hd : List Blk}
    (h : itemBlocks pfx env n w it = .ok hd) :
    hasWild hd = wildItem it ∧ hd.length = blkCount env [it] ∧
      hd.countP Blk.isWild + w.toNat = (w || wildItem it).toNat := by
  cases it with
  | ref x star =>
    rw [itemBlocks] at h
    split at h
    · cases h
    · cases h
      exact ⟨rfl, rfl, by simp [Blk.isWild, wildItem]⟩
  | domains x star =>
    rw [itemBlocks] at h
    split at h
    · cases h
    · rename_i b hl
      split at h
      · cases h
      · cases h
        have h0 : List.countP Blk.isWild ((if star then rcSegs b.segs else b.segs).map Blk.plain) = 0 := by
          rw [countP_isWild_eq_zero_iff, hasWild_plain]
        exact ⟨hasWild_plain _, by cases star <;> simp [blkCount, hl, rcSegs], by rw [h0]; simp [wildItem]⟩
  | nuc text =>
    rw [itemBlocks] at h
    split at h
    · rename_i l c hres
      cases h
      exact ⟨by simp [wildItem, hres, hasWild, Blk.isWild], rfl, by simp [wildItem, hres, Blk.isWild]⟩
    · rename_i hres
      cases w with
      | true => cases h
      | false =>
        cases h
        exact ⟨by simp [wildItem, hres, hasWild, Blk.isWild], rfl, by simp [wildItem, hres, Blk.isWild]⟩
    · cases h

theorem blocks_spec (pfx : String) (env : Env) :
    ∀ (items : List SrcItem) (n : Nat) (w : Bool) {bs : List Blk}, blocks pfx env items n w = .ok bs →
      bs.length = blkCount env items ∧ bs.countP Blk.isWild + w.toNat ≤ 1 ∧ hasWild bs = items.any wildItem
  | [], n, w, bs, h => by
    cases h
    exact ⟨rfl, by cases w <;> decide, rfl⟩
  | it :: r, n, w, bs, h => by
    rw [blocks] at h
    obtain ⟨hd, h1, h⟩ := bind_ok h
    obtain ⟨tl, h2, rfl⟩ := map_ok h
    obtain ⟨a1, b1, d1⟩ := itemBlocks_spec h1
    obtain ⟨b2, d2, a2⟩ := blocks_spec pfx env r _ _ h2
    rw [blkCount_cons, List.length_append, List.countP_append, hasWild_append, a1, a2]
    exact ⟨by omega, by omega, rfl⟩

theorem toAcc_append (bs hd : List Blk) (n : Nat) :
    toAcc (bs ++ hd) n = ⟨(toAcc bs n).segs ++ hd.map Blk.seg,
      (toAcc bs n).newDomains ++ domsAt (toAcc bs n).segs.length hd,
      (toAcc bs n).wild.or (wildAt (toAcc bs n).segs.length hd), n⟩ := by
  simp only [toAcc, List.map_append, domsAt_append, wildAt_append, Nat.zero_add, List.length_map]

theorem denoteItems_cons (pfx : String) (env : Env) (it : SrcItem) (r : List SrcItem) (bs : List Blk) (n : Nat) :
    denoteItems pfx env (it :: r) (toAcc bs n) =
      itemBlocks pfx env n (hasWild bs) it >>= fun h =>
        denoteItems pfx env r (toAcc (bs ++ h) (n + fixedNucs [it])) := by
  cases it with
  | ref x star =>
    simp only [denoteItems, itemBlocks]
    cases env.seqs.lookup x with
    | none => rfl
    | some b =>
      show denoteItems pfx env r _ = denoteItems pfx env r _
      congr 1
      rw [toAcc_append]
      simp only [domsAt, wildAt, List.append_nil, Option.or_none]
      rfl
  | domains x star =>
    simp only [denoteItems, itemBlocks]
    cases env.seqs.lookup x with
    | none => rfl
    | some b =>
      dsimp only
      split
      · rfl
      · show denoteItems pfx env r _ = denoteItems pfx env r _
        congr 1
        rw [toAcc_append, domsAt_plain, wildAt_plain, seg_plain, List.append_nil, Option.or_none]
        rfl
  | nuc text =>
    simp only [denoteItems, itemBlocks, fixedNucs]
    cases resolve (parseQuoted text) none with
    | ok lc =>
      show denoteItems pfx env r _ = denoteItems pfx env r _
      congr 1
      rw [toAcc_append]
      simp only [domsAt, wildAt, Option.or_none]
      rfl
    | error e =>
      cases e with
      | wildNoLength =>
        dsimp only
        rw [show (toAcc bs n).wild.isSome = hasWild bs from wildAt_isSome 0 bs]
        cases hh : hasWild bs with
        | true => rfl
        | false =>
          show denoteItems pfx env r _ = denoteItems pfx env r _
          congr 1
          have hnone : (toAcc bs n).wild = none := (wildAt_none_iff 0 bs).2 hh
          simp only [Nat.add_zero]
          rw [toAcc_append, hnone]
          simp only [domsAt, wildAt, List.append_nil, Option.none_or]
          rfl
      | tooManyWild => rfl
      | mismatch => rfl
      | tooShort => rfl

theorem denoteItems_blocks (pfx : String) (env : Env) :
    ∀ (items : List SrcItem) (bs : List Blk) (n : Nat),
      denoteItems pfx env items (toAcc bs n) =
        (blocks pfx env items n (hasWild bs)).map (fun p => toAcc (bs ++ p) (n + fixedNucs items))
  | [], bs, n => by simp [denoteItems, blocks, Except.map, fixedNucs]
  | it :: r, bs, n => by
    rw [denoteItems_cons, blocks]
    cases hi : itemBlocks pfx env n (hasWild bs) it with
    | error e => rfl
    | ok h =>
      show denoteItems pfx env r (toAcc (bs ++ h) _) = ((blocks pfx env r _ _).map _).map _
      rw [denoteItems_blocks pfx env r (bs ++ h), hasWild_append, (itemBlocks_spec hi).1, fixedNucs_cons it r]
      cases blocks pfx env r (n + fixedNucs [it]) (hasWild bs || wildItem it) with
      | error e => rfl
      | ok p => simp [Except.map, Nat.add_assoc]

/-! ### finishing: the declared length, the wildcard filled in -/

def wildParts : List Blk → Option (List (Mult × Char))
  | [] => none
  | .wild p :: _ => some p
  | .plain _ :: r => wildParts r
  | .anon _ _ _ :: r => wildParts r

/-- the segments, `x` standing for the wildcard region -/
def fillSegs (x : List Nuc) : List Blk → List (List Nuc)
  | [] => []
  | .wild _ :: r => x :: fillSegs x r
  | .plain s :: r => s :: fillSegs x r
  | .anon _ _ s :: r => s :: fillSegs x r

/-- the new domains in item order, `ds` standing at the place of the wildcard's item: its domain, or nothing -/
def fillDoms (ds : List (String × List Char)) : List Blk → List (String × List Char)
  | [] => []
  | .anon nm c _ :: r => (nm, c) :: fillDoms ds r
  | .plain _ :: r => fillDoms ds r
  | .wild _ :: r => ds ++ fillDoms ds r

def fixedLen (bs : List Blk) : Nat := ((bs.map Blk.seg).map List.length).sum

/-- the declared length checked against the fixed part of a region and the wildcard, if any, resolved: what stands
    for the wildcard (no nucleotides and no domain, or those of the wildcard region) and the counter afterwards -/
def resolveWild (pfx : String) (wild : Option (List (Mult × Char))) (fixed n : Nat) (length : Option Nat) :
    Except Denote.Err ((List Nuc × List (String × List Char)) × Nat) :=
  match wild with
  | none =>
    match length with
    | some l => if l != fixed then .error .length else .ok (([], []), n)
    | none => .ok (([], []), n)
  | some parts =>
    match length with
    | none => .error .wildcard
    | some l =>
      if l < fixed then .error .length
      else match resolve parts (some (l - fixed)) with
        | .error _ => .error .length
        | .ok (wl, c) =>
          .ok ((fwd (pfx ++ "_Anon" ++ toString n) wl, [(pfx ++ "_Anon" ++ toString n, c)]), n + 1)

theorem resolveWild_ok {pfx : String} {wild : Option (List (Mult × Char))} {fixed n : Nat} {length : Option Nat}
    {r : (List Nuc × List (String × List Char)) × Nat} (h : resolveWild pfx wild fixed n length = .ok r) :
    (wild = none ∧ r = (([], []), n)) ∨
      ∃ wl c, wild.isSome ∧ r = ((fwd (pfx ++ "_Anon" ++ toString n) wl, [(pfx ++ "_Anon" ++ toString n, c)]), n + 1) := by
  unfold resolveWild at h
  split at h
  · split at h
    · split at h
      · cases h
      · cases h; exact Or.inl ⟨rfl, rfl⟩
    · cases h; exact Or.inl ⟨rfl, rfl⟩
  · split at h
    · cases h
    · split at h
      · cases h
      · split at h
        · cases h
        · cases h; exact Or.inr ⟨_, _, rfl, rfl⟩

def finishB (pfx : String) (bs : List Blk) (n : Nat) (length : Option Nat) :
    Except Denote.Err (List (List Nuc) × List (String × List Char) × Nat) :=
  (resolveWild pfx (wildParts bs) (fixedLen bs) n length).map fun f => (fillSegs f.1.1 bs, fillDoms f.1.2 bs, f.2)

theorem domsAt_snd (k : Nat) (bs : List Blk) : (domsAt k bs).map (·.2) = fillDoms [] bs := by
  induction bs generalizing k with
  | nil => rfl
  | cons b r ih => cases b <;> simp [domsAt, fillDoms, ih]

theorem wildAt_snd (k : Nat) (bs : List Blk) : (wildAt k bs).map (·.2) = wildParts bs := by
  induction bs generalizing k with
  | nil => rfl
  | cons b r ih => cases b <;> simp only [wildAt, wildParts, ih, Option.map_some]

theorem domsAt_ge (k : Nat) (bs : List Blk) : ∀ d ∈ domsAt k bs, k ≤ d.1 := by
  induction bs generalizing k with
  | nil => exact fun d h => nomatch h
  | cons b r ih =>
    intro d h
    have hr : ∀ d ∈ domsAt (k + 1) r, k ≤ d.1 := fun d hd => Nat.le_of_succ_le (ih (k + 1) d hd)
    cases b with
    | anon nm c s =>
      rcases List.mem_cons.1 h with rfl | h
      · exact Nat.le_refl _
      · exact hr d h
    | plain s => exact hr d h
    | wild p => exact hr d h

theorem fill_of_noWild : ∀ (bs : List Blk), hasWild bs = false →
    (∀ x, fillSegs x bs = bs.map Blk.seg) ∧ (∀ ds, fillDoms ds bs = fillDoms [] bs)
  | [], _ => ⟨fun _ => rfl, fun _ => rfl⟩
  | .wild p :: r, h => by simp [hasWild, Blk.isWild] at h
  | .plain s :: r, h | .anon nm c0 s :: r, h => by
    have h' : hasWild r = false := by simpa [hasWild, Blk.isWild] using h
    obtain ⟨b, c⟩ := fill_of_noWild r h'
    exact ⟨fun x => by simp [fillSegs, b, Blk.seg], fun ds => by simp [fillDoms, c]⟩

theorem fillSegs_append (x : List Nuc) (a b : List Blk) : fillSegs x (a ++ b) = fillSegs x a ++ fillSegs x b := by
  induction a with
  | nil => rfl
  | cons h t ih => cases h <;> simp [fillSegs, ih]

theorem fillDoms_append (ds : List (String × List Char)) (a b : List Blk) :
    fillDoms ds (a ++ b) = fillDoms ds a ++ fillDoms ds b := by
  induction a with
  | nil => rfl
  | cons h t ih => cases h <;> simp [fillDoms, ih]

theorem wildParts_append (a b : List Blk) : wildParts (a ++ b) = (wildParts a).or (wildParts b) := by
  rw [← wildAt_snd 0, wildAt_append, Option.map_or, wildAt_snd, wildAt_snd]

theorem fillSegs_nil (bs : List Blk) : fillSegs [] bs = bs.map Blk.seg := by
  induction bs with
  | nil => rfl
  | cons h t ih => cases h <;> simp [fillSegs, Blk.seg, ih]

theorem wildParts_none_iff (bs : List Blk) : wildParts bs = none ↔ hasWild bs = false := by
  rw [← wildAt_snd 0, Option.map_eq_none_iff, wildAt_none_iff]

theorem fill_plain (segs : List (List Nuc)) :
    wildParts (segs.map .plain) = none ∧ (∀ x, fillSegs x (segs.map .plain) = segs) ∧
      ∀ wd, fillDoms wd (segs.map .plain) = [] := by
  have hw := hasWild_plain segs
  obtain ⟨fs, fd⟩ := fill_of_noWild _ hw
  exact ⟨(wildParts_none_iff _).2 hw, fun x => (fs x).trans (seg_plain segs),
    fun wd => by rw [fd, ← domsAt_snd 0, domsAt_plain]; rfl⟩

theorem setAt_cons_succ {α} (a : α) (l : List α) (n : Nat) (x : α) : setAt (a :: l) (n + 1) x = a :: setAt l n x := by
  simp [setAt]

/-- with one wildcard block, at position `i`: the model's filling of segment `i` and its insertion of the
    wildcard's domain after the new domains before `i` are `fillSegs` and `fillDoms` -/
theorem fill_wild (x : List Nuc) (wd : String × List Char) :
    ∀ (k : Nat) (bs : List Blk) {i : Nat} {p : List (Mult × Char)}, bs.countP Blk.isWild ≤ 1 →
      wildAt k bs = some (i, p) →
      k ≤ i ∧ setAt (bs.map Blk.seg) (i - k) x = fillSegs x bs ∧
        ((domsAt k bs).map (·.2)).take ((domsAt k bs).filter (·.1 < i)).length ++
          wd :: ((domsAt k bs).map (·.2)).drop ((domsAt k bs).filter (·.1 < i)).length = fillDoms [wd] bs
  | _, [], _, _, _, h => nomatch h
  | k, .wild q :: r, i, p, h1, h => by
    cases h
    rw [List.countP_cons] at h1
    simp only [Blk.isWild, if_true] at h1
    obtain ⟨fs, fd⟩ := fill_of_noWild r ((countP_isWild_eq_zero_iff r).1 (by omega))
    have hk : (domsAt (k + 1) r).filter (fun d => decide (d.1 < k)) = [] :=
      List.filter_eq_nil_iff.2 fun d hd => by have := domsAt_ge (k + 1) r d hd; simp; omega
    refine ⟨Nat.le_refl _, ?_, ?_⟩
    · simp [setAt, fillSegs, fs, Blk.seg]
    · simp only [domsAt, hk, List.length_nil, List.take_zero, List.drop_zero, List.nil_append, domsAt_snd,
        fillDoms, fd, List.singleton_append]
  | k, .plain s :: r, i, p, h1, h => by
    obtain ⟨hle, hs, hd⟩ := fill_wild x wd (k + 1) r (by simpa [Blk.isWild] using h1) h
    refine ⟨Nat.le_of_succ_le hle, ?_, hd⟩
    rw [show i - k = i - (k + 1) + 1 by omega]
    simp only [List.map_cons, Blk.seg, setAt_cons_succ, hs, fillSegs]
  | k, .anon nm c s :: r, i, p, h1, h => by
    obtain ⟨hle, hs, hd⟩ := fill_wild x wd (k + 1) r (by simpa [Blk.isWild] using h1) h
    refine ⟨Nat.le_of_succ_le hle, ?_, ?_⟩
    · rw [show i - k = i - (k + 1) + 1 by omega]
      simp only [List.map_cons, Blk.seg, setAt_cons_succ, hs, fillSegs]
    · have hlt : decide (k < i) = true := by simp; omega
      simp only [domsAt, List.filter_cons, hlt, if_true, List.length_cons, List.map_cons, List.take_succ_cons,
        List.drop_succ_cons, List.cons_append, hd, fillDoms]

theorem denoteRegion_eq_blocks (pfx : String) (env : Env) (items : List SrcItem) (length : Option Nat) :
    denoteRegion pfx env items length =
      blocks pfx env items env.anon false >>= fun bs => finishB pfx bs (env.anon + fixedNucs items) length := by
  unfold denoteRegion
  have h0 : ({ anon := env.anon } : ItemsAcc) = toAcc [] env.anon := rfl
  rw [h0, denoteItems_blocks]
  have hw0 : hasWild [] = false := rfl
  rw [hw0]
  cases hb : blocks pfx env items env.anon false with
  | error e => rfl
  | ok bs =>
    have h1 : bs.countP Blk.isWild ≤ 1 := (blocks_spec pfx env items env.anon false hb).2.1
    generalize env.anon + fixedNucs items = n
    simp only [Except.map, List.nil_append, bind, Except.bind]
    simp only [toAcc]
    cases hw : wildAt 0 bs with
    | none =>
      have wp := (wildParts_none_iff bs).2 ((wildAt_none_iff 0 bs).1 hw)
      have hfin : (.ok (bs.map Blk.seg, fillDoms [] bs, n) : Except Denote.Err _) = .ok (fillSegs [] bs, fillDoms [] bs, n) := by
        rw [fillSegs_nil]
      simp only [finishB, resolveWild, wp, domsAt_snd, fixedLen]
      cases length with
      | none => exact hfin
      | some l =>
        by_cases hl : (l != ((bs.map Blk.seg).map List.length).sum) = true
        · simp only [hl, if_true]; rfl
        · simp only [hl, Bool.false_eq_true, if_false]; exact hfin
    | some ip =>
      obtain ⟨i, parts⟩ := ip
      have wp : wildParts bs = some parts := (wildAt_snd 0 bs).symm.trans (congrArg (Option.map (·.2)) hw)
      simp only [finishB, resolveWild, wp, fixedLen]
      cases length with
      | none => rfl
      | some l =>
        dsimp only
        by_cases hl : l < ((bs.map Blk.seg).map List.length).sum
        · simp only [hl, if_true]; rfl
        · simp only [hl, if_false]
          cases resolve parts (some (l - ((bs.map Blk.seg).map List.length).sum)) with
          | error e => rfl
          | ok r =>
            obtain ⟨wl, c⟩ := r
            obtain ⟨_, hs, hd⟩ := fill_wild (fwd (pfx ++ "_Anon" ++ toString n) wl)
              (pfx ++ "_Anon" ++ toString n, c) 0 bs h1 hw
            simp only [pure, Except.pure, Except.map]
            rw [← hs, ← hd]
            rfl

/-- the anonymous names an accepted region consumes: one for each quoted region of fixed length, one for the wildcard -/
def regionAnon (items : List SrcItem) : Nat := fixedNucs items + (items.any wildItem).toNat

theorem wildParts_isSome (bs : List Blk) : (wildParts bs).isSome = hasWild bs := by
  rw [← wildAt_snd 0, Option.isSome_map, wildAt_isSome]

theorem denoteRegion_anon {pfx : String} {env : Env} {items : List SrcItem} {length : Option Nat} {r}
    (h : denoteRegion pfx env items length = .ok r) : r.2.2 = env.anon + regionAnon items := by
  rw [denoteRegion_eq_blocks] at h
  obtain ⟨bs, hb, h⟩ := bind_ok h
  obtain ⟨f, hf, rfl⟩ := map_ok h
  have hw := (blocks_spec pfx env items _ _ hb).2.2
  rw [← wildParts_isSome] at hw
  rcases resolveWild_ok hf with ⟨hn, rfl⟩ | ⟨wl, c, hs, rfl⟩
  · rw [hn] at hw
    simp [regionAnon, ← hw]
  · rw [hs] at hw
    simp [regionAnon, ← hw, Nat.add_assoc]

/-! ### a block without nucleotides inserted -/

theorem blocks_append (pfx : String) (env : Env) :
    ∀ (xs ys : List SrcItem) (n : Nat) (w : Bool),
      blocks pfx env (xs ++ ys) n w =
        blocks pfx env xs n w >>= fun p =>
          (blocks pfx env ys (n + fixedNucs xs) (w || xs.any wildItem)).map (p ++ ·)
  | [], ys, n, w => by
    show blocks pfx env ys n w = (blocks pfx env ys (n + 0) (w || false)).map _
    rw [Nat.add_zero, Bool.or_false]
    cases blocks pfx env ys n w <;> rfl
  | it :: r, ys, n, w => by
    rw [List.cons_append, blocks, blocks, blocks_append pfx env r ys, fixedNucs_cons it r, List.any_cons,
      Nat.add_assoc, Bool.or_assoc]
    cases itemBlocks pfx env n w it with
    | error e => rfl
    | ok h =>
      cases blocks pfx env r (n + fixedNucs [it]) (w || wildItem it) with
      | error e => rfl
      | ok p =>
        show (Except.map _ _).map _ = Except.map _ _
        cases blocks pfx env ys _ _ with
        | error e => rfl
        | ok q => simp [Except.map]

theorem fixedLen_append (a b : List Blk) : fixedLen (a ++ b) = fixedLen a + fixedLen b := by
  simp [fixedLen, List.sum_append]

def insItems (items : List SrcItem) (i : Nat) (it : SrcItem) : List SrcItem := items.take i ++ [it] ++ items.drop i

def insSeg (j : Nat) (r : List (List Nuc) × List (String × List Char) × Nat) :
    List (List Nuc) × List (String × List Char) × Nat := (insertAt r.1 j [], r.2.1, r.2.2)

theorem finishB_insert_plain (pfx : String) (bp bq : List Blk) (n : Nat) (length : Option Nat) :
    finishB pfx (bp ++ .plain [] :: bq) n length = (finishB pfx (bp ++ bq) n length).map (insSeg bp.length) := by
  -- a block with the empty segment changes only the segmentation
  have key : wildParts (bp ++ .plain [] :: bq) = wildParts (bp ++ bq) ∧
      (∀ x, fillSegs x (bp ++ .plain [] :: bq) = insertAt (fillSegs x (bp ++ bq)) bp.length []) ∧
      ∀ ds, fillDoms ds (bp ++ .plain [] :: bq) = fillDoms ds (bp ++ bq) := by
    induction bp with
    | nil => exact ⟨rfl, fun _ => rfl, fun _ => rfl⟩
    | cons b t ih =>
      obtain ⟨h1, h2, h3⟩ := ih
      cases b <;> simp [wildParts, fillSegs, fillDoms, insertAt, h1, h2, h3]
  obtain ⟨hw, hfs, hfd⟩ := key
  have hf : fixedLen (bp ++ .plain [] :: bq) = fixedLen (bp ++ bq) := by
    simp [fixedLen, Blk.seg]
  unfold finishB
  rw [hw, hf]
  cases resolveWild pfx (wildParts (bp ++ bq)) (fixedLen (bp ++ bq)) n length with
  | error e => rfl
  | ok f => simp only [hfs, hfd, Except.map, insSeg]

theorem denoteRegion_insert_ref (pfx : String) (env : Env) (items : List SrcItem) (i : Nat) (z : String)
    (star : Bool) (length : Option Nat) {b : Denote.Bind} (hz : env.seqs.lookup z = some b) (hb : b.nucs = []) :
    denoteRegion pfx env (insItems items i (.ref z star)) length =
      (denoteRegion pfx env items length).map (insSeg (blkCount env (items.take i))) := by
  unfold insItems
  have hfn : fixedNucs (items.take i ++ ([SrcItem.ref z star] ++ items.drop i)) = fixedNucs items := by
    have := fixedNucs_append (items.take i) (items.drop i)
    rw [List.take_append_drop] at this
    rw [this, fixedNucs_append]
    rfl
  rw [denoteRegion_eq_blocks, denoteRegion_eq_blocks, List.append_assoc, hfn]
  have hsplit : blocks pfx env items env.anon false =
      blocks pfx env (items.take i ++ items.drop i) env.anon false := by rw [List.take_append_drop]
  rw [hsplit, blocks_append pfx env (items.take i) (items.drop i),
    blocks_append pfx env (items.take i) ([SrcItem.ref z star] ++ items.drop i)]
  cases hp : blocks pfx env (items.take i) env.anon false with
  | error e => rfl
  | ok p =>
    have hnil : (if star then rc b.nucs else b.nucs) = [] := by cases star <;> simp [hb, rc]
    simp only [List.singleton_append, blocks, itemBlocks, hz, hnil, ok_bind, fixedNucs, wildItem, Nat.add_zero,
      Bool.or_false]
    cases blocks pfx env (items.drop i) _ _ with
    | error e => rfl
    | ok q =>
      show finishB pfx (p ++ Blk.plain [] :: q) _ length = (finishB pfx (p ++ q) _ length).map _
      rw [finishB_insert_plain, (blocks_spec pfx env _ _ _ hp).1]

end Pepper.DenoteZero
