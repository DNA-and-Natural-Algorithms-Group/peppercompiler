import PepperModel.Denote
import PepperProofs.Basic
/-!
# `Denote.denoteStmt`, `denoteStmts`, `denoteComp` in closed form

Each arm of the specification's `denoteStmt` as a guard, its read-only sub-steps and a named result; a statement list
as a chain of binds; `denoteComp` as the statements followed by the ports.  What ties the specification to the compile
path: `Comp.load_refines` (C01), `SysProofs.tree_agrees` (C02), `DesSys.tree_sat_iff` → `C03.des_equiv_of_load`.
-/
namespace Pepper.Denote
open Pepper Pepper.Comp Pepper.Constraint

def seqResult (pfx : String) (env : Env) (o : Out) (name : String)
    (r : List (List Nuc) × List (String × List Char) × Nat) : Env × Out :=
  ({ env with seqs := env.seqs ++ [(name, ⟨r.1.flatten, r.1, true⟩)], anon := r.2.2 },
   if r.1.flatten.isEmpty then withNewDomains o r.2.1
   else { withNewDomains o r.2.1 with supSeqs := (withNewDomains o r.2.1).supSeqs ++ [(pfx ++ name, r.1.flatten)] })

def strandResult (pfx : String) (env : Env) (o : Out) (dummy : Bool) (name : String)
    (r : List (List Nuc) × List (String × List Char) × Nat) : Env × Out :=
  ({ env with strands := env.strands ++ [(name, r.1.flatten, r.1)], anon := r.2.2 },
   { withNewDomains o r.2.1 with strands := (withNewDomains o r.2.1).strands ++ [(pfx ++ name, dummy, r.1.flatten)] })

def atomResult (pfx : String) (env : Env) (o : Out) (name : String) (l : Nat) (c : List Char) : Env × Out :=
  ({ env with seqs := env.seqs ++ [(name, ⟨fwd (pfx ++ name) l, [fwd (pfx ++ name) l], false⟩)] },
   if l == 0 then o else { o with domains := o.domains ++ [(pfx ++ name, c)],
                                  baseSeqs := o.baseSeqs ++ [(pfx ++ name, fwd (pfx ++ name) l)] })

theorem denoteStmt_atom (pfx : String) (env : Env) (o : Out) (name : String) (text : List Char) (len : Option Nat) :
    denoteStmt pfx env o (.seq name [.nuc text] len) =
      if (env.seqs.lookup name).isSome then .error .duplicate else
      match resolve (parseQuoted text) len with
      | .error _ => .error .length
      | .ok (l, c) => .ok (atomResult pfx env o name l c) := by
  rw [denoteStmt]
  rfl

theorem denoteStmt_seq (pfx : String) (env : Env) (o : Out) (name : String) {items : List SrcItem} (len : Option Nat)
    (h : ∀ t, items ≠ [.nuc t]) :
    denoteStmt pfx env o (.seq name items len) =
      if (env.seqs.lookup name).isSome then .error .duplicate else
      (denoteRegion pfx env items len).map (seqResult pfx env o name) := by
  rw [denoteStmt]
  -- the equation lemma of this arm asks that the atomic arm `[.nuc t]` does not match
  case x_1 => exact fun t ht => h t ht
  split
  · rfl
  · cases denoteRegion pfx env items len <;> rfl

theorem denoteStmt_strand (pfx : String) (env : Env) (o : Out) (dummy : Bool) (name : String) (items : List SrcItem)
    (len : Option Nat) :
    denoteStmt pfx env o (.strand dummy name items len) =
      if (env.strands.lookup name).isSome then .error .duplicate else
      denoteRegion pfx env items len >>= fun r =>
        if r.1.flatten.isEmpty then .error .zeroStrand else .ok (strandResult pfx env o dummy name r) := by
  rw [denoteStmt]
  split
  · rfl
  · cases denoteRegion pfx env items len with
    | error e => rfl
    | ok r =>
      obtain ⟨segs, doms, anon⟩ := r
      show (if segs.flatten.isEmpty = true then _ else _) = (if segs.flatten.isEmpty = true then _ else _)
      split <;> rfl

def lookupStrand (env : Env) (n : String) : Except Denote.Err (List Nuc × List (List Nuc)) :=
  match env.strands.lookup n with
  | some x => pure x
  | none => throw .undefined

def lookupStrands (env : Env) (l : List String) : Except Denote.Err (List (List Nuc × List (List Nuc))) :=
  l.mapM (lookupStrand env)

def structFull (domain : Bool) (text : List Char) (segLens : List (List Nat)) : Except Denote.Err (List Char) :=
  match Notation.compileStruct text with
  | none => .error .notation
  | some dp =>
    if domain then
      match Notation.domainExpand dp segLens with
      | some f => .ok f
      | none => .error .notation
    else .ok dp

def structEntry (pfx : String) (opt : OptSrc) (name : String) (strands : List String) (full : List Char)
    (lens : List Nat) : Except Denote.Err StructD :=
  if !Notation.sizesOk full lens then .error .length
  else (optOf opt).map fun ov => ⟨pfx ++ name, strands.map (pfx ++ ·), full, ov⟩

theorem denoteStmt_struct (pfx : String) (env : Env) (o : Out) (opt : OptSrc) (name : String)
    (strands : List String) (domain : Bool) (text : List Char) :
    denoteStmt pfx env o (.struct opt name strands domain text) =
      if o.structs.any (·.name == pfx ++ name) then .error .duplicate else
      lookupStrands env strands >>= fun objs =>
      structFull domain text (objs.map (fun x => x.2.map List.length)) >>= fun full =>
        (structEntry pfx opt name strands full (objs.map (fun x => x.1.length))).map fun x =>
          (env, { o with structs := o.structs ++ [x] }) := by
  rw [denoteStmt]
  simp only [pure_bind, throw_bind]
  split
  · rfl
  show (lookupStrands env strands >>= _) = _
  refine bind_congr fun objs => ?_
  unfold structFull
  cases Notation.compileStruct text with
  | none => rfl
  | some dp =>
    dsimp only
    cases domain with
    | false =>
      show _ = (structEntry pfx opt name strands dp _).map _
      unfold structEntry
      generalize Notation.sizesOk dp _ = ok
      cases ok <;> cases optOf opt <;> rfl
    | true =>
      generalize Notation.domainExpand dp _ = de
      cases de with
      | none => rfl
      | some full =>
        show (if (!Notation.sizesOk full _) = true then _ else _) = (structEntry pfx opt name strands full _).map _
        unfold structEntry
        generalize Notation.sizesOk full _ = ok
        cases ok <;> cases optOf opt <;> rfl

theorem structFull_plain (text : List Char) (segLens segLens' : List (List Nat)) :
    structFull false text segLens = structFull false text segLens' := by
  unfold structFull
  cases Notation.compileStruct text <;> rfl

theorem denoteStmt_kinetic (pfx : String) (env : Env) (o : Out) (lo hi : Option String) (ins outs : List String) :
    denoteStmt pfx env o (.kinetic lo hi ins outs) =
      if !(ins ++ outs).all (fun n => o.structs.any (·.name == pfx ++ n)) then .error .undefined else
      (kinOf pfx lo hi ins outs).map fun k => (env, { o with kinetics := o.kinetics ++ [k] }) := by
  rw [denoteStmt]
  split
  · rfl
  · cases kinOf pfx lo hi ins outs <;> rfl

theorem denoteStmts_cons (pfx : String) (st : Stmt) (r : List Stmt) (e : Env) (o : Out) :
    denoteStmts pfx (st :: r) e o = denoteStmt pfx e o st >>= fun p => denoteStmts pfx r p.1 p.2 := by
  rw [denoteStmts]
  cases denoteStmt pfx e o st <;> rfl

theorem denoteStmts_append (pfx : String) : ∀ (xs ys : List Stmt) (e : Env) (o : Out),
    denoteStmts pfx (xs ++ ys) e o = denoteStmts pfx xs e o >>= fun p => denoteStmts pfx ys p.1 p.2
  | [], ys, e, o => rfl
  | x :: r, ys, e, o => by
    rw [List.cons_append, denoteStmts_cons, denoteStmts_cons]
    cases denoteStmt pfx e o x with
    | error err => rfl
    | ok p => exact denoteStmts_append pfx r ys p.1 p.2

def portOf (pfx : String) (env : Env) (o : Out) (p : Comp.Port) : Except Denote.Err (List Nuc × Bool) :=
  match env.seqs.lookup p.seq with
  | none => throw Denote.Err.undefined
  | some b =>
    match p.struct with
    | some sn => if o.structs.any (·.name == pfx ++ sn) then pure (b.nucs, p.star) else throw Denote.Err.undefined
    | none => pure (b.nucs, p.star)

def portsOf (pfx : String) (env : Env) (o : Out) (ps : List Comp.Port) : Except Denote.Err (List (List Nuc × Bool)) :=
  ps.mapM (portOf pfx env o)

theorem denoteComp_eq (src : Src) (pfx : String) (a : Nat) :
    denoteComp src pfx a =
      denoteStmts pfx src.stmts { anon := a } {} >>= fun p =>
        (portsOf pfx p.1 p.2 (src.inputs ++ src.outputs)).map fun ports => (p.2, ports, p.1.anon) := by
  unfold denoteComp
  cases denoteStmts pfx src.stmts { anon := a } {} with
  | error e => rfl
  | ok p =>
    obtain ⟨env, o⟩ := p
    show (portsOf pfx env o _ >>= _) = (portsOf pfx env o _).map _
    cases portsOf pfx env o (src.inputs ++ src.outputs) <;> rfl

end Pepper.Denote
