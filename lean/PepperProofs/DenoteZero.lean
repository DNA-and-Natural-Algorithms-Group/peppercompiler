import PepperProofs.AnonName
import PepperProofs.CompBasic
import PepperProofs.DenoteRegion
import PepperProofs.DenoteStmt
/-!
# Zero-length domains are inert (C14): the specification side

Stated on the index-free form of a region (`blocks`, `finishB`: DenoteRegion.lean).  That form is needed, not only
convenient: two related environments may bind a name to the same nucleotides in different segmentations, so a later
`domains(y)` yields different numbers of segments in the two runs and their positions are not related by any shift.
Two block lists are related by `BlksRel` when, whatever stands for the wildcard, they give the same nucleotides and the
same non-empty new domains up to a renaming, and have the same wildcard.  Two runs are compared by `ExRel`: same error,
or related results; statements, statement lists and components are related step by step (`comp_rel`: one statement
replaced by one that simulates it after a common prefix, which `denoteStmts_fixed` handles).
-/
namespace Pepper.DenoteZero
open Pepper Pepper.Comp Pepper.Constraint Pepper.Denote

/-! ### two runs compared: same error, or related results -/

def ExRel {ε α β} (R : α → β → Prop) : Except ε α → Except ε β → Prop
  | .error a, .error b => a = b
  | .ok a, .ok b => R a b
  | _, _ => False

theorem ExRel.elim {ε α β} {R : α → β → Prop} {x : Except ε α} {y : Except ε β} (h : ExRel R x y) :
    (∃ e, x = .error e ∧ y = .error e) ∨ ∃ a b, x = .ok a ∧ y = .ok b ∧ R a b := by
  cases x <;> cases y
  · exact Or.inl ⟨_, rfl, congrArg _ (Eq.symm h)⟩
  · exact False.elim h
  · exact False.elim h
  · exact Or.inr ⟨_, _, rfl, rfl, h⟩

theorem ExRel.ok_ok {ε α β} {R : α → β → Prop} {x : Except ε α} {y : Except ε β} {a : α} {b : β}
    (h : ExRel R x y) (hx : x = .ok a) (hy : y = .ok b) : R a b := by
  subst hx hy
  exact h

theorem ExRel.refl {ε α} (x : Except ε α) : ExRel Eq x x := by
  cases x <;> exact rfl

theorem ExRel.mono {ε α β} {R S : α → β → Prop} {x : Except ε α} {y : Except ε β} (h : ExRel R x y)
    (hS : ∀ a b, x = .ok a → R a b → S a b) : ExRel S x y := by
  rcases h.elim with ⟨e, rfl, rfl⟩ | ⟨a, b, rfl, rfl, hr⟩
  · exact rfl
  · exact hS a b rfl hr

theorem ExRel.bind {ε α β γ δ} {R : α → β → Prop} {S : γ → δ → Prop} {x : Except ε α} {y : Except ε β}
    {f : α → Except ε γ} {g : β → Except ε δ} (h : ExRel R x y) (hf : ∀ a b, R a b → ExRel S (f a) (g b)) :
    ExRel S (x >>= f) (y >>= g) := by
  rcases h.elim with ⟨e, rfl, rfl⟩ | ⟨a, b, rfl, rfl, hr⟩
  · exact rfl
  · exact hf a b hr

theorem ExRel.map {ε α β γ δ} {R : α → β → Prop} {S : γ → δ → Prop} {x : Except ε α} {y : Except ε β}
    {f : α → γ} {g : β → δ} (h : ExRel R x y) (hf : ∀ a b, R a b → S (f a) (g b)) :
    ExRel S (x.map f) (y.map g) := by
  rcases h.elim with ⟨e, rfl, rfl⟩ | ⟨a, b, rfl, rfl, hr⟩
  · exact rfl
  · exact hf a b hr

theorem exRel_iff_map_eq {ε α β γ} {f : α → γ} {g : β → γ} {x : Except ε α} {y : Except ε β} :
    ExRel (fun a b => g b = f a) x y ↔ y.map g = x.map f := by
  cases x <;> cases y
  · exact ⟨fun h => congrArg _ (Eq.symm h), fun h => by injection h with h; exact h.symm⟩
  · exact ⟨False.elim, fun h => nomatch h⟩
  · exact ⟨False.elim, fun h => nomatch h⟩
  · exact ⟨fun h => congrArg _ h, fun h => by injection h⟩

theorem ExRel.mapM {ε α β γ δ} {φ : β → δ} {ψ : γ → δ} {f : α → Except ε β} {g : α → Except ε γ}
    (h : ∀ a, ExRel (fun x x' => ψ x' = φ x) (f a) (g a)) :
    ∀ l : List α, ExRel (fun t t' => t'.map ψ = t.map φ) (l.mapM f) (l.mapM g)
  | [] => rfl
  | a :: l => by
    rw [List.mapM_cons, List.mapM_cons]
    refine (h a).bind fun x x' hx => (ExRel.mapM h l).bind fun t t' ht => ?_
    show (x' :: t').map ψ = (x :: t).map φ
    rw [List.map_cons, List.map_cons, hx, ht]

/-! ### renaming; related bindings, region results, block lists -/

def rnNuc (ρ : String → String) (x : Nuc) : Nuc := ⟨⟨ρ x.var.dom, x.var.idx⟩, x.comp⟩
def rnSeg (ρ : String → String) (s : List Nuc) : List Nuc := s.map (rnNuc ρ)
theorem rnSeg_rc (ρ : String → String) (s : List Nuc) : rnSeg ρ (rc s) = rc (rnSeg ρ s) := by
  simp [rnSeg, rc, List.map_reverse, Function.comp_def, rnNuc, Nuc.flip]

theorem rnSeg_fwd (ρ : String → String) (nm : String) (l : Nat) : rnSeg ρ (fwd nm l) = fwd (ρ nm) l := by
  simp [rnSeg, fwd, rnNuc, Function.comp_def]

theorem rnSeg_append (ρ : String → String) (a b : List Nuc) : rnSeg ρ (a ++ b) = rnSeg ρ a ++ rnSeg ρ b := by
  simp [rnSeg]

theorem rnSeg_id (s : List Nuc) : rnSeg id s = s := by
  have : rnNuc id = id := by funext x; rfl
  simp [rnSeg, this]

theorem rnSeg_isEmpty (ρ : String → String) (s : List Nuc) : (rnSeg ρ s).isEmpty = s.isEmpty := by
  cases s <;> rfl

theorem rnSeg_length (ρ : String → String) (s : List Nuc) : (rnSeg ρ s).length = s.length := by
  simp [rnSeg]

theorem rcSegs_flatten (segs : List (List Nuc)) : (rcSegs segs).flatten = rc segs.flatten :=
  (rc_flatten segs).symm

def RenumP (ρ : String → String) (pfx : String) (n0 k : Nat) : Prop :=
  ∀ m, n0 ≤ m → ρ (pfx ++ "_Anon" ++ toString m) = pfx ++ "_Anon" ++ toString (m + k)

/-- `ρ` renumbers the anonymous domains `a ≤ m < b` under prefix `pfx` by `k` (`k = 0`: it fixes them); a run of the
    denotation needs this of the names it creates only -/
def Renums (ρ : String → String) (pfx : String) (a b k : Nat) : Prop :=
  ∀ m, a ≤ m → m < b → ρ (pfx ++ "_Anon" ++ toString m) = pfx ++ "_Anon" ++ toString (m + k)

theorem RenumP.renums {ρ : String → String} {pfx : String} {n0 k : Nat} (h : RenumP ρ pfx n0 k) {a : Nat}
    (ha : n0 ≤ a) (b : Nat) : Renums ρ pfx a b k :=
  fun m h1 _ => h m (Nat.le_trans ha h1)

/-- the same nucleotides up to `ρ`, as a whole and as the concatenation of the segments (an `Env` does not know
    `nucs = segs.flatten`, so both are asked); the segmentation itself is free -/
def BindRel (ρ : String → String) (b b' : Denote.Bind) : Prop :=
  b'.nucs = rnSeg ρ b.nucs ∧ b'.isSup = b.isSup ∧ b'.segs.flatten = rnSeg ρ b.segs.flatten

def SeqsRel (ρ : String → String) (l l' : List (String × Denote.Bind)) : Prop :=
  ∀ x, match l.lookup x, l'.lookup x with
    | none, none => True
    | some b, some b' => BindRel ρ b b'
    | _, _ => False

theorem SeqsRel.cases {ρ : String → String} {l l' : List (String × Denote.Bind)} (h : SeqsRel ρ l l') (x : String) :
    (l.lookup x = none ∧ l'.lookup x = none) ∨
      ∃ b b', l.lookup x = some b ∧ l'.lookup x = some b' ∧ BindRel ρ b b' := by
  have hx := h x
  cases h1 : l.lookup x <;> cases h2 : l'.lookup x <;> rw [h1, h2] at hx
  · exact Or.inl ⟨rfl, rfl⟩
  · exact hx.elim
  · exact hx.elim
  · exact Or.inr ⟨_, _, rfl, rfl, hx⟩

/-- two region results: the same nucleotides and the same non-empty new domains (what `withNewDomains`
    keeps) up to `ρ`, the counter shifted by `k` -/
structure RegRel (ρ : String → String) (k : Nat) (r r' : List (List Nuc) × List (String × List Char) × Nat) :
    Prop where
  nucs : r'.1.flatten = rnSeg ρ r.1.flatten
  doms : r'.2.1.filter (fun d => d.2.length != 0) =
    (r.2.1.map (fun d => (ρ d.1, d.2))).filter (fun d => d.2.length != 0)
  anon : r'.2.2 = r.2.2 + k

/-- `bs'` is `bs` up to the renaming `ρ`, the chunking of the nucleotides into blocks, and new domains of length
    zero: whatever is filled in for the wildcard, the same nucleotides and the same non-empty new domains (what
    `RegRel` compares); and the same wildcard -/
structure BlksRel (ρ : String → String) (bs bs' : List Blk) : Prop where
  segs : ∀ x, (fillSegs (rnSeg ρ x) bs').flatten = rnSeg ρ (fillSegs x bs).flatten
  doms : ∀ ds, (fillDoms (ds.map fun d => (ρ d.1, d.2)) bs').filter (fun d => d.2.length != 0) =
    ((fillDoms ds bs).map (fun d => (ρ d.1, d.2))).filter (fun d => d.2.length != 0)
  wild : wildParts bs' = wildParts bs

theorem BlksRel.append {ρ : String → String} {a a' b b' : List Blk} (h1 : BlksRel ρ a a') (h2 : BlksRel ρ b b') :
    BlksRel ρ (a ++ b) (a' ++ b') :=
  ⟨fun x => by simp only [fillSegs_append, List.flatten_append, rnSeg_append, h1.segs, h2.segs],
   fun wd => by simp only [fillDoms_append, List.filter_append, List.map_append, h1.doms, h2.doms],
   by rw [wildParts_append, wildParts_append, h1.wild, h2.wild]⟩

theorem BlksRel.plain {ρ : String → String} {segs segs' : List (List Nuc)} (h : segs'.flatten = rnSeg ρ segs.flatten) :
    BlksRel ρ (segs.map .plain) (segs'.map .plain) := by
  obtain ⟨w, s, d⟩ := fill_plain segs
  obtain ⟨w', s', d'⟩ := fill_plain segs'
  exact ⟨fun x => by rw [s, s', h], fun wd => by rw [d, d']; rfl, by rw [w, w']⟩

theorem BlksRel.fixedLen {ρ : String → String} {bs bs' : List Blk} (h : BlksRel ρ bs bs') : fixedLen bs' = fixedLen bs := by
  have e : (fillSegs [] bs').flatten = rnSeg ρ (fillSegs [] bs).flatten := h.segs []
  have := congrArg List.length e
  rw [rnSeg_length, fillSegs_nil, fillSegs_nil, List.length_flatten, List.length_flatten] at this
  exact this

theorem itemBlocks_rel (pfx : String) {ρ : String → String} {k : Nat} (e e' : Env) (hs : SeqsRel ρ e.seqs e'.seqs)
    (n : Nat) (w : Bool) (it : SrcItem)
    (hr : Renums ρ pfx n (n + fixedNucs [it]) k) :
    ExRel (BlksRel ρ) (itemBlocks pfx e n w it) (itemBlocks pfx e' (n + k) w it) := by
  cases it with
  | ref x star =>
    rw [itemBlocks, itemBlocks]
    rcases hs.cases x with ⟨h1, h2⟩ | ⟨b, b', h1, h2, hb⟩ <;> rw [h1, h2]
    · exact rfl
    · refine BlksRel.plain (segs := [_]) (segs' := [_]) ?_
      cases star <;> simp [hb.1, rnSeg_rc]
  | domains x star =>
    rw [itemBlocks, itemBlocks]
    rcases hs.cases x with ⟨h1, h2⟩ | ⟨b, b', h1, h2, hb⟩ <;> rw [h1, h2]
    · exact rfl
    · dsimp only
      rw [hb.2.1]
      split
      · exact rfl
      · refine BlksRel.plain ?_
        cases star <;> simp [hb.2.2, rcSegs_flatten, rnSeg_rc]
  | nuc text =>
    rw [itemBlocks, itemBlocks]
    cases hres : resolve (parseQuoted text) none with
    | ok lc =>
      have hn := hr n (Nat.le_refl _) (by simp [fixedNucs, hres])
      refine ⟨fun x => ?_, fun wd => ?_, rfl⟩
      · simp only [fillSegs, List.flatten_cons, List.flatten_nil, List.append_nil, rnSeg_fwd, hn]
      · simp only [fillDoms, List.map_cons, List.map_nil, hn]
    | error err =>
      cases err with
      | wildNoLength =>
        cases w
        · exact ⟨fun x => by simp [fillSegs], fun ds => by simp [fillDoms], rfl⟩
        · exact rfl
      | tooManyWild => exact rfl
      | mismatch => exact rfl
      | tooShort => exact rfl

theorem blocks_rel (pfx : String) {ρ : String → String} {k : Nat} (e e' : Env) (hs : SeqsRel ρ e.seqs e'.seqs) :
    ∀ (items : List SrcItem) (n : Nat) (w : Bool),
      Renums ρ pfx n (n + fixedNucs items) k →
      ExRel (BlksRel ρ) (blocks pfx e items n w) (blocks pfx e' items (n + k) w)
  | [], n, w, _ => ⟨fun _ => rfl, fun _ => rfl, rfl⟩
  | it :: r, n, w, hr => by
    rw [fixedNucs_cons] at hr
    rw [blocks, blocks, Nat.add_right_comm n k]
    refine (itemBlocks_rel pfx e e' hs n w it fun m h1 h2 => hr m h1 (by omega)).bind fun h h' hf => ?_
    exact (blocks_rel pfx e e' hs r _ _ fun m h1 h2 => hr m (by omega) (by omega)).map fun p p' hp => hf.append hp

theorem blocks_fixed (pfx : String) {ρ : String → String} (e : Env) (hs : SeqsRel ρ e.seqs e.seqs)
    {items : List SrcItem} {n : Nat} {w : Bool} {bs : List Blk} (h : blocks pfx e items n w = .ok bs)
    (hfix : Renums ρ pfx n (n + fixedNucs items) 0) :
    BlksRel ρ bs bs :=
  (blocks_rel pfx (k := 0) e e hs items n w hfix).ok_ok h h

theorem resolveWild_rename (pfx : String) (ρ : String → String) (k n : Nat) (wild : Option (List (Mult × Char)))
    (hn : wild.isSome → ρ (pfx ++ "_Anon" ++ toString n) = pfx ++ "_Anon" ++ toString (n + k))
    (fixed : Nat) (length : Option Nat) :
    resolveWild pfx wild fixed (n + k) length =
      (resolveWild pfx wild fixed n length).map fun f =>
        ((rnSeg ρ f.1.1, f.1.2.map fun d => (ρ d.1, d.2)), f.2 + k) := by
  unfold resolveWild
  cases wild with
  | none =>
    cases length with
    | none => rfl
    | some l => dsimp only; split <;> rfl
  | some parts =>
    cases length with
    | none => rfl
    | some l =>
      dsimp only
      split
      · rfl
      · cases resolve parts (some (l - fixed)) with
        | error e => rfl
        | ok r => simp only [Except.map, List.map, rnSeg_fwd, hn rfl, Nat.add_right_comm n 1 k]

theorem finishB_rel (pfx : String) {ρ : String → String} {k n : Nat} {bs bs' : List Blk} (h : BlksRel ρ bs bs')
    (hn : (wildParts bs).isSome → ρ (pfx ++ "_Anon" ++ toString n) = pfx ++ "_Anon" ++ toString (n + k))
    (length : Option Nat) :
    ExRel (RegRel ρ k) (finishB pfx bs n length) (finishB pfx bs' (n + k) length) := by
  unfold finishB
  rw [h.wild, h.fixedLen, resolveWild_rename pfx ρ k n _ hn]
  cases resolveWild pfx (wildParts bs) (fixedLen bs) n length with
  | error e => exact rfl
  | ok f => exact ⟨h.segs _, h.doms _, rfl⟩

/-- a quoted region of length zero inserted at position `i`: one more block, without nucleotides and with a new
    domain of length zero; the later anonymous names move up by one -/
theorem denoteRegion_insert_quoted (pfx : String) (env : Env) (items : List SrcItem) (i : Nat) (text : List Char)
    (length : Option Nat) (hq : resolve (parseQuoted text) none = .ok (0, []))
    {ρ : String → String} (hs : SeqsRel ρ env.seqs env.seqs)
    (hlt : ∀ m, m < env.anon + fixedNucs (items.take i) → ρ (pfx ++ "_Anon" ++ toString m) = pfx ++ "_Anon" ++ toString m)
    (hr : RenumP ρ pfx (env.anon + fixedNucs (items.take i)) 1) :
    ExRel (RegRel ρ 1) (denoteRegion pfx env items length)
      (denoteRegion pfx env (insItems items i (.nuc text)) length) := by
  unfold insItems
  have hsum := fixedNucs_append (items.take i) (items.drop i)
  rw [List.take_append_drop] at hsum
  have hfn : fixedNucs (items.take i ++ ([SrcItem.nuc text] ++ items.drop i)) = fixedNucs items + 1 := by
    rw [fixedNucs_append, List.singleton_append, fixedNucs_cons, hsum]
    simp only [fixedNucs, hq]
    omega
  rw [denoteRegion_eq_blocks, denoteRegion_eq_blocks, List.append_assoc, hfn, ← Nat.add_assoc]
  have hsplit : blocks pfx env items env.anon false =
      blocks pfx env (items.take i ++ items.drop i) env.anon false := by rw [List.take_append_drop]
  rw [hsplit, blocks_append pfx env (items.take i) (items.drop i),
    blocks_append pfx env (items.take i) ([SrcItem.nuc text] ++ items.drop i)]
  cases hp : blocks pfx env (items.take i) env.anon false with
  | error e => exact rfl
  | ok p =>
    have hfixp := blocks_fixed pfx env hs hp (fun m _ h2 => hlt m h2)
    simp only [List.singleton_append, blocks, itemBlocks, hq, ok_bind, fixedNucs, wildItem, Nat.add_zero, Bool.or_false]
    rcases (blocks_rel pfx env env hs (items.drop i) (env.anon + fixedNucs (items.take i))
        (false || (items.take i).any wildItem) (hr.renums (Nat.le_refl _) _)).elim with
      ⟨err, h1, h2⟩ | ⟨q, q', h1, h2, hf⟩ <;> rw [h1, h2]
    · exact rfl
    · show ExRel _ (finishB pfx (p ++ q) _ length) (finishB pfx (p ++ ([Blk.anon _ [] (fwd _ 0)] ++ q')) _ length)
      have hz : BlksRel ρ [] [Blk.anon (pfx ++ "_Anon" ++ toString (env.anon + fixedNucs (items.take i))) []
          (fwd (pfx ++ "_Anon" ++ toString (env.anon + fixedNucs (items.take i))) 0)] :=
        ⟨fun _ => rfl, fun _ => rfl, rfl⟩
      exact finishB_rel pfx (hfixp.append (hz.append hf)) (fun _ => hr _ (by omega)) length

/-! ### statements and statement lists in related environments -/

/-- strand and structure names are in other name spaces: they are not renamed -/
def rnOut (ρ : String → String) (o : Out) : Out :=
  { domains := o.domains.map (fun d => (ρ d.1, d.2)),
    baseSeqs := o.baseSeqs.map (fun d => (ρ d.1, rnSeg ρ d.2)),
    supSeqs := o.supSeqs.map (fun d => (ρ d.1, rnSeg ρ d.2)),
    strands := o.strands.map (fun s => (s.1, s.2.1, rnSeg ρ s.2.2)),
    structs := o.structs, kinetics := o.kinetics }

/-- the same strands with the same nucleotides up to `ρ`; the segments are forgotten on purpose, which is why the
    simulation cannot follow a domain-level structure (`stmtOk`) -/
def StrandsRel (ρ : String → String) (l l' : List (String × List Nuc × List (List Nuc))) : Prop :=
  ∀ x, match l.lookup x, l'.lookup x with
    | none, none => True
    | some t, some t' => t'.1 = rnSeg ρ t.1
    | _, _ => False

structure EnvRel (ρ : String → String) (k : Nat) (e e' : Env) : Prop where
  anon : e'.anon = e.anon + k
  seqs : SeqsRel ρ e.seqs e'.seqs
  strands : StrandsRel ρ e.strands e'.strands

/-- not symmetric: the environments agree up to segmentation, the second `Out` is exactly the renamed first -/
def StRel (ρ : String → String) (k : Nat) (p q : Env × Out) : Prop := EnvRel ρ k p.1 q.1 ∧ q.2 = rnOut ρ p.2

def stmtNameFixed (ρ : String → String) (pfx : String) : Stmt → Prop
  | .seq name _ _ => ρ (pfx ++ name) = pfx ++ name
  | _ => True

/-- what the simulation needs of a statement: `ρ` fixes the full name of a sequence it defines; a structure
    is not domain-level (a domain-level structure counts the segments of its strands) -/
def stmtOk (ρ : String → String) (pfx : String) : Stmt → Prop
  | .seq name _ _ => ρ (pfx ++ name) = pfx ++ name
  | .struct _ _ _ domain _ => domain = false
  | _ => True

theorem StrandsRel.cases {ρ : String → String} {l l' : List (String × List Nuc × List (List Nuc))}
    (h : StrandsRel ρ l l') (x : String) :
    (l.lookup x = none ∧ l'.lookup x = none) ∨
      ∃ t t', l.lookup x = some t ∧ l'.lookup x = some t' ∧ t'.1 = rnSeg ρ t.1 := by
  have hx := h x
  cases h1 : l.lookup x <;> cases h2 : l'.lookup x <;> rw [h1, h2] at hx
  · exact Or.inl ⟨rfl, rfl⟩
  · exact hx.elim
  · exact hx.elim
  · exact Or.inr ⟨_, _, rfl, rfl, hx⟩

theorem SeqsRel.isSome {ρ : String → String} {l l' : List (String × Denote.Bind)} (h : SeqsRel ρ l l') (x : String) :
    (l'.lookup x).isSome = (l.lookup x).isSome := by
  rcases h.cases x with ⟨h1, h2⟩ | ⟨_, _, h1, h2, _⟩ <;> rw [h1, h2] <;> rfl

theorem StrandsRel.isSome {ρ : String → String} {l l' : List (String × List Nuc × List (List Nuc))}
    (h : StrandsRel ρ l l') (x : String) : (l'.lookup x).isSome = (l.lookup x).isSome := by
  rcases h.cases x with ⟨h1, h2⟩ | ⟨_, _, h1, h2, _⟩ <;> rw [h1, h2] <;> rfl

theorem SeqsRel.snoc {ρ : String → String} {l l' : List (String × Denote.Bind)} (h : SeqsRel ρ l l')
    (name : String) {b b' : Denote.Bind} (hb : BindRel ρ b b') : SeqsRel ρ (l ++ [(name, b)]) (l' ++ [(name, b')]) := by
  intro x
  rw [List.lookup_append, List.lookup_append]
  rcases h.cases x with ⟨h1, h2⟩ | ⟨_, _, h1, h2, hr⟩ <;> rw [h1, h2]
  · simp only [Option.none_or, List.lookup]
    cases x == name
    · trivial
    · exact hb
  · exact hr

theorem StrandsRel.snoc {ρ : String → String} {l l' : List (String × List Nuc × List (List Nuc))}
    (h : StrandsRel ρ l l') (name : String) {t t' : List Nuc × List (List Nuc)} (hb : t'.1 = rnSeg ρ t.1) :
    StrandsRel ρ (l ++ [(name, t)]) (l' ++ [(name, t')]) := by
  intro x
  rw [List.lookup_append, List.lookup_append]
  rcases h.cases x with ⟨h1, h2⟩ | ⟨_, _, h1, h2, hr⟩ <;> rw [h1, h2]
  · simp only [Option.none_or, List.lookup]
    cases x == name
    · trivial
    · exact hb
  · exact hr

theorem rnOut_withNewDomains (ρ : String → String) (o : Out) (doms : List (String × List Char)) :
    withNewDomains (rnOut ρ o) (doms.map (fun d => (ρ d.1, d.2))) = rnOut ρ (withNewDomains o doms) := by
  simp [withNewDomains, rnOut, List.filter_map, Function.comp_def, rnSeg_fwd]

theorem withNewDomains_congr (o : Out) {d1 d2 : List (String × List Char)}
    (h : d1.filter (fun d => d.2.length != 0) = d2.filter (fun d => d.2.length != 0)) :
    withNewDomains o d1 = withNewDomains o d2 := by
  simp only [withNewDomains, h]

theorem RegRel.withNewDomains {ρ : String → String} {k : Nat} {r r'}
    (h : RegRel ρ k r r') (o : Out) : withNewDomains (rnOut ρ o) r'.2.1 = rnOut ρ (withNewDomains o r.2.1) := by
  rw [withNewDomains_congr _ h.doms, rnOut_withNewDomains]

theorem atomResult_rel {ρ : String → String} {k : Nat} {pfx : String} {e e' : Env} (o : Out) {name : String}
    (he : EnvRel ρ k e e') (hname : ρ (pfx ++ name) = pfx ++ name) (l : Nat) (c : List Char) :
    StRel ρ k (atomResult pfx e o name l c) (atomResult pfx e' (rnOut ρ o) name l c) := by
  refine ⟨⟨he.anon, he.seqs.snoc name ⟨?_, rfl, ?_⟩, he.strands⟩, ?_⟩
  · rw [rnSeg_fwd, hname]
  · simp [rnSeg_fwd, hname]
  · unfold atomResult
    cases l == 0
    · simp [rnOut, hname, rnSeg_fwd]
    · rfl

theorem seqResult_rel {ρ : String → String} {k : Nat} {pfx : String} {e e' : Env} (o : Out) {name : String}
    (hs : SeqsRel ρ e.seqs e'.seqs) (ht : StrandsRel ρ e.strands e'.strands) (hname : ρ (pfx ++ name) = pfx ++ name)
    {r r'} (h : RegRel ρ k r r') :
    StRel ρ k (seqResult pfx e o name r) (seqResult pfx e' (rnOut ρ o) name r') := by
  refine ⟨⟨h.anon, hs.snoc name ⟨h.nucs, rfl, h.nucs⟩, ht⟩, ?_⟩
  unfold seqResult
  rw [h.nucs, rnSeg_isEmpty, h.withNewDomains]
  cases r.1.flatten.isEmpty
  · simp [rnOut, hname]
  · rfl

theorem strandResult_rel {ρ : String → String} {k : Nat} {pfx : String} {e e' : Env} (o : Out) (dummy : Bool)
    (name : String) (hs : SeqsRel ρ e.seqs e'.seqs) (ht : StrandsRel ρ e.strands e'.strands) {r r'}
    (h : RegRel ρ k r r') :
    StRel ρ k (strandResult pfx e o dummy name r) (strandResult pfx e' (rnOut ρ o) dummy name r') := by
  refine ⟨⟨h.anon, hs, ht.snoc name h.nucs⟩, ?_⟩
  unfold strandResult
  rw [h.withNewDomains, h.nucs]
  simp [rnOut]

/-- `P`: anything known of the counter after the first region -/
theorem seqStmt_rel {ρ : String → String} {k : Nat} {P : Nat → Prop} {pfx : String} {e e' : Env} (o : Out)
    {name : String} (hs : SeqsRel ρ e.seqs e'.seqs) (ht : StrandsRel ρ e.strands e'.strands) (hname : ρ (pfx ++ name) = pfx ++ name) {items items' : List SrcItem}
    {len : Option Nat} (h1 : ∀ t, items ≠ [.nuc t]) (h2 : ∀ t, items' ≠ [.nuc t])
    (hreg : ExRel (fun r r' => RegRel ρ k r r' ∧ P r.2.2) (denoteRegion pfx e items len)
      (denoteRegion pfx e' items' len)) :
    ExRel (fun p q => StRel ρ k p q ∧ P p.1.anon) (denoteStmt pfx e o (.seq name items len))
      (denoteStmt pfx e' (rnOut ρ o) (.seq name items' len)) := by
  rw [denoteStmt_seq _ _ _ _ _ h1, denoteStmt_seq _ _ _ _ _ h2, hs.isSome name]
  split
  · exact rfl
  · exact hreg.map fun r r' h => ⟨seqResult_rel o hs ht hname h.1, h.2⟩

theorem strandStmt_rel {ρ : String → String} {k : Nat} {P : Nat → Prop} {pfx : String} {e e' : Env} (o : Out)
    (dummy : Bool) (name : String) (hs : SeqsRel ρ e.seqs e'.seqs) (ht : StrandsRel ρ e.strands e'.strands) {items items' : List SrcItem} {len : Option Nat}
    (hreg : ExRel (fun r r' => RegRel ρ k r r' ∧ P r.2.2) (denoteRegion pfx e items len)
      (denoteRegion pfx e' items' len)) :
    ExRel (fun p q => StRel ρ k p q ∧ P p.1.anon) (denoteStmt pfx e o (.strand dummy name items len))
      (denoteStmt pfx e' (rnOut ρ o) (.strand dummy name items' len)) := by
  rw [denoteStmt_strand, denoteStmt_strand, ht.isSome name]
  split
  · exact rfl
  · refine hreg.bind fun r r' h => ?_
    show ExRel _ (if _ then _ else _) (if _ then _ else _)
    rw [h.1.nucs, rnSeg_isEmpty]
    split
    · exact rfl
    · exact ⟨strandResult_rel o dummy name hs ht h.1, h.2⟩

theorem denoteRegion_rel (pfx : String) {ρ : String → String} {k : Nat} {e e' : Env} (he : EnvRel ρ k e e')
    (items : List SrcItem) (len : Option Nat) (hr : Renums ρ pfx e.anon (e.anon + regionAnon items) k) :
    ExRel (RegRel ρ k) (denoteRegion pfx e items len) (denoteRegion pfx e' items len) := by
  rw [denoteRegion_eq_blocks, denoteRegion_eq_blocks, he.anon, Nat.add_right_comm e.anon k]
  rcases (blocks_rel pfx e e' he.seqs items e.anon false fun m h1 h2 =>
      hr m h1 (Nat.lt_of_lt_of_le h2 (Nat.add_le_add_left (Nat.le_add_right _ _) _))).elim with
    ⟨err, h1, h2⟩ | ⟨bs, bs', h1, h2, hb⟩ <;> rw [h1, h2]
  · exact rfl
  · refine finishB_rel pfx hb (fun hw => hr _ (Nat.le_add_right _ _) ?_) len
    rw [wildParts_isSome, (blocks_spec pfx e items _ _ h1).2.2] at hw
    simp [regionAnon, hw]

/-- what a structure statement reads of its strands is the same in both runs: their lengths and, through
    `structFull`, their segment lengths if it is domain-level — then only over the same strands -/
theorem lookupStrands_rel {ρ : String → String} (e e' : Env) (h : StrandsRel ρ e.strands e'.strands)
    (strands : List String) (domain : Bool) (text : List Char) (hd : domain = false ∨ e'.strands = e.strands) :
    ExRel (fun objs objs' =>
        structFull domain text (objs'.map fun x => x.2.map List.length) =
          structFull domain text (objs.map fun x => x.2.map List.length) ∧
        objs'.map (fun x => x.1.length) = objs.map (fun x => x.1.length))
      (lookupStrands e strands) (lookupStrands e' strands) := by
  rcases hd with rfl | hE
  · refine (ExRel.mapM (φ := fun x => x.1.length) (ψ := fun x => x.1.length) (fun x => ?_) strands).mono
      fun _ _ _ hl => ⟨structFull_plain text _ _, hl⟩
    unfold lookupStrand
    rcases h.cases x with ⟨h1, h2⟩ | ⟨t, t', h1, h2, ht⟩ <;> rw [h1, h2]
    · exact rfl
    · show t'.1.length = t.1.length
      rw [ht, rnSeg_length]
  · rw [lookupStrands, lookupStrands,
      show lookupStrand e' = lookupStrand e by funext n; rw [lookupStrand, lookupStrand, hE]]
    exact (ExRel.refl _).mono fun _ _ _ h => h ▸ ⟨rfl, rfl⟩

/-- the anonymous names an accepted statement consumes -/
def stmtAnon : Stmt → Nat
  | .seq _ [.nuc _] _ => 0
  | .seq _ items _ => regionAnon items
  | .strand _ _ items _ => regionAnon items
  | _ => 0

def stmtsAnon (stmts : List Stmt) : Nat := (stmts.map stmtAnon).sum

/-- The one walk over the kinds of statement.  `ρ` has to renumber the names the statement creates, a range known
    from the statement alone; a domain-level structure is followed only over the same strands (`hst`, second case:
    the run compared with itself, `denoteStmt_fixed`). -/
theorem denoteStmt_rel (pfx : String) {ρ : String → String} {k : Nat} {e e' : Env} (o : Out) (he : EnvRel ρ k e e')
    (st : Stmt) (hst : stmtOk ρ pfx st ∨ stmtNameFixed ρ pfx st ∧ e'.strands = e.strands)
    (hr : Renums ρ pfx e.anon (e.anon + stmtAnon st) k) :
    ExRel (fun p q => StRel ρ k p q ∧ p.1.anon = e.anon + stmtAnon st) (denoteStmt pfx e o st)
      (denoteStmt pfx e' (rnOut ρ o) st) := by
  cases st with
  | seq name items len =>
    have hname : ρ (pfx ++ name) = pfx ++ name := hst.elim id And.left
    by_cases hat : ∃ t, items = [.nuc t]
    · obtain ⟨text, rfl⟩ := hat
      rw [denoteStmt_atom, denoteStmt_atom, he.seqs.isSome name]
      split
      · exact rfl
      · cases resolve (parseQuoted text) len with
        | error err => exact rfl
        | ok r => exact ⟨atomResult_rel o he hname r.1 r.2, rfl⟩
    · have hat' : ∀ t, items ≠ [.nuc t] := fun t h => hat ⟨t, h⟩
      rw [stmtAnon.eq_2 name items len fun t ht => hat' t ht] at hr ⊢
      exact seqStmt_rel (P := (· = e.anon + regionAnon items)) o he.seqs he.strands hname hat' hat'
        ((denoteRegion_rel pfx he items len hr).mono fun r r' h1 h => ⟨h, denoteRegion_anon h1⟩)
  | strand dummy name items len =>
    exact strandStmt_rel (P := (· = e.anon + regionAnon items)) o dummy name he.seqs he.strands
      ((denoteRegion_rel pfx he items len hr).mono fun r r' h1 h => ⟨h, denoteRegion_anon h1⟩)
  | struct opt name strands domain text =>
    rw [denoteStmt_struct, denoteStmt_struct]
    show ExRel _ (if o.structs.any _ then _ else _) (if o.structs.any _ then _ else _)
    split
    · exact rfl
    · refine (lookupStrands_rel e e' he.strands strands domain text (hst.imp id And.right)).bind
        fun objs objs' hl => ?_
      rw [hl.1, hl.2]
      refine (ExRel.refl _).bind fun full _ hf => ?_
      subst hf
      exact (ExRel.refl _).map fun x _ hx => ⟨⟨he, hx ▸ rfl⟩, rfl⟩
  | kinetic lo hi ins outs =>
    rw [denoteStmt_kinetic, denoteStmt_kinetic]
    show ExRel _ (if !(ins ++ outs).all (fun n => o.structs.any _) then _ else _)
      (if !(ins ++ outs).all (fun n => o.structs.any _) then _ else _)
    split
    · exact rfl
    · exact (ExRel.refl _).map fun x _ hx => ⟨⟨he, hx ▸ rfl⟩, rfl⟩

theorem denoteStmts_rel (pfx : String) {ρ : String → String} {k : Nat} :
    ∀ (stmts : List Stmt) {e e' : Env} (o : Out), EnvRel ρ k e e' → (∀ st ∈ stmts, stmtOk ρ pfx st) →
      Renums ρ pfx e.anon (e.anon + stmtsAnon stmts) k →
      ExRel (StRel ρ k) (denoteStmts pfx stmts e o) (denoteStmts pfx stmts e' (rnOut ρ o))
  | [], e, e', o, he, _, _ => ⟨he, rfl⟩
  | st :: r, e, e', o, he, hok, hr => by
    rw [stmtsAnon, List.map_cons, List.sum_cons, ← Nat.add_assoc] at hr
    rw [denoteStmts_cons, denoteStmts_cons]
    refine (denoteStmt_rel pfx o he st (Or.inl (hok st List.mem_cons_self))
      fun m h1 h2 => hr m h1 (Nat.lt_of_lt_of_le h2 (Nat.le_add_right _ _))).bind ?_
    rintro ⟨e1, o1⟩ ⟨e1', o1'⟩ ⟨⟨he1, ho1⟩, hn1⟩
    subst ho1
    have hn1 : e1.anon = e.anon + stmtAnon st := hn1
    exact denoteStmts_rel pfx r o1 he1 (fun s hs => hok s (List.mem_cons_of_mem _ hs))
      fun m h1 h2 => hr m (by omega) (by rw [← hn1]; exact h2)

/-! ### components: one statement replaced by one that simulates it -/

def CompRel (ρ : String → String) (k : Nat) (r r' : Out × List (List Nuc × Bool) × Nat) : Prop :=
  r'.1 = rnOut ρ r.1 ∧ r'.2.1 = r.2.1.map (fun x => (rnSeg ρ x.1, x.2)) ∧ r'.2.2 = r.2.2 + k

theorem portsOf_rel (pfx : String) {ρ : String → String} {k : Nat} {e e' : Env} (o : Out) (he : EnvRel ρ k e e')
    (ps : List Comp.Port) :
    ExRel (fun l l' => l' = l.map (fun x => (rnSeg ρ x.1, x.2))) (portsOf pfx e o ps) (portsOf pfx e' (rnOut ρ o) ps) := by
  refine (ExRel.mapM (ψ := id) (fun p => ?_) ps).mono fun l l' _ h => by rwa [List.map_id] at h
  unfold portOf
  show ExRel _ _ (match e'.seqs.lookup p.seq with
    | none => _
    | some b => match p.struct with
      | some sn => if o.structs.any _ then _ else _
      | none => _)
  rcases he.seqs.cases p.seq with ⟨h1, h2⟩ | ⟨b, b', h1, h2, hb⟩ <;> rw [h1, h2]
  · exact rfl
  · have hp : ((b'.nucs, p.star) : List Nuc × Bool) = (rnSeg ρ b.nucs, p.star) := by rw [hb.1]
    cases p.struct with
    | none => exact hp
    | some sn =>
      show ExRel _ (if _ then _ else _) (if _ then _ else _)
      split
      · exact hp
      · exact rfl

theorem comp_rel (pfx : String) {ρ : String → String} {n0 k : Nat} (hr : RenumP ρ pfx n0 k) (src src' : Src)
    (pre post : List Stmt) (st st' : Stmt) (a : Nat)
    (h1 : src.stmts = pre ++ st :: post) (h2 : src'.stmts = pre ++ st' :: post)
    (hin : src'.inputs = src.inputs) (hout : src'.outputs = src.outputs)
    (hpost : ∀ s ∈ post, stmtOk ρ pfx s)
    (hst : ∀ env o, denoteStmts pfx pre { anon := a } {} = .ok (env, o) →
      ExRel (fun p q => StRel ρ k p q ∧ n0 ≤ p.1.anon) (denoteStmt pfx env o st) (denoteStmt pfx env o st')) :
    ExRel (CompRel ρ k) (denoteComp src pfx a) (denoteComp src' pfx a) := by
  rw [denoteComp_eq, denoteComp_eq, h1, h2, hin, hout, denoteStmts_append, denoteStmts_append]
  refine ExRel.bind (R := StRel ρ k) ?_ fun p q hpq => ?_
  · cases hp : denoteStmts pfx pre { anon := a } {} with
    | error err => exact rfl
    | ok p =>
      show ExRel _ (denoteStmts pfx (st :: post) p.1 p.2) (denoteStmts pfx (st' :: post) p.1 p.2)
      rw [denoteStmts_cons, denoteStmts_cons]
      refine (hst p.1 p.2 hp).bind ?_
      rintro ⟨e1, o1⟩ ⟨e1', o1'⟩ ⟨⟨he1, ho1⟩, hn1⟩
      subst ho1
      exact denoteStmts_rel pfx post o1 he1 hpost (hr.renums hn1 _)
  · obtain ⟨he, ho⟩ := hpq
    rw [ho]
    exact (portsOf_rel pfx p.2 he _).map fun l l' hl => ⟨rfl, hl, he.anon⟩

/-! ### a prefix of the statements that `ρ` fixes

`FixInv ρ e o`: `ρ` changes nothing `e` binds or `o` holds, i.e. `StRel ρ 0 (e, o) (e, o)` without the counter.  It is
what `comp_rel` needs of the common prefix of the two sources.  `denoteStmts_fixed` carries it along a run: the run
compared with itself by `denoteStmt_rel` at `k = 0`, which asks `ρ` to fix only the anonymous names that run creates
(`shiftFull pfx n1 1` moves all later ones).
`SysProofs.denoteStmts_P` (SysPrefix.lean) is the same kind of fact, "every name the run put into `env` / `o` has a property",
for the property "carries the prefix". -/

theorem SeqsRel.refl_id (l : List (String × Denote.Bind)) : SeqsRel id l l := by
  intro x
  cases l.lookup x with
  | none => trivial
  | some b => exact ⟨(rnSeg_id _).symm, rfl, (rnSeg_id _).symm⟩

theorem StrandsRel.refl_id (l : List (String × List Nuc × List (List Nuc))) : StrandsRel id l l := by
  intro x
  cases l.lookup x with
  | none => trivial
  | some b => exact (rnSeg_id _).symm

theorem EnvRel.refl_id (e : Env) : EnvRel id 0 e e := ⟨rfl, SeqsRel.refl_id _, StrandsRel.refl_id _⟩

theorem rnOut_id (o : Out) : rnOut id o = o := by
  have : rnSeg id = id := by funext s; exact rnSeg_id s
  simp [rnOut, this]

structure FixInv (ρ : String → String) (e : Env) (o : Out) : Prop where
  seqs : SeqsRel ρ e.seqs e.seqs
  strands : StrandsRel ρ e.strands e.strands
  out : rnOut ρ o = o

theorem FixInv.of_stRel {ρ : String → String} {e : Env} {o : Out} (h : StRel ρ 0 (e, o) (e, o)) : FixInv ρ e o :=
  ⟨h.1.seqs, h.1.strands, h.2.symm⟩

theorem FixInv.envRel {ρ : String → String} {e : Env} {o : Out} (h : FixInv ρ e o) : EnvRel ρ 0 e e :=
  ⟨rfl, h.seqs, h.strands⟩

theorem denoteStmt_fixed {pfx : String} {ρ : String → String} {e e1 : Env} {o o1 : Out} {st : Stmt}
    (hI : FixInv ρ e o) (hname : stmtNameFixed ρ pfx st) (h : denoteStmt pfx e o st = .ok (e1, o1))
    (hfix : Renums ρ pfx e.anon (e.anon + stmtAnon st) 0) :
    FixInv ρ e1 o1 ∧ e1.anon = e.anon + stmtAnon st := by
  have := denoteStmt_rel pfx o hI.envRel st (Or.inr ⟨hname, rfl⟩) hfix
  rw [hI.out] at this
  exact ⟨.of_stRel (this.ok_ok h h).1, (this.ok_ok h h).2⟩

theorem denoteStmts_fixed {pfx : String} {ρ : String → String} {e1 : Env} {o1 : Out} :
    ∀ (stmts : List Stmt) {e : Env} {o : Out}, FixInv ρ e o → (∀ st ∈ stmts, stmtNameFixed ρ pfx st) →
      denoteStmts pfx stmts e o = .ok (e1, o1) →
      Renums ρ pfx e.anon (e.anon + stmtsAnon stmts) 0 →
      FixInv ρ e1 o1 ∧ e1.anon = e.anon + stmtsAnon stmts
  | [], e, o, hI, _, h, _ => by
    cases h
    exact ⟨hI, rfl⟩
  | st :: r, e, o, hI, hn, h, hfix => by
    rw [stmtsAnon, List.map_cons, List.sum_cons, ← Nat.add_assoc] at hfix ⊢
    rw [denoteStmts_cons] at h
    obtain ⟨⟨e2, o2⟩, hs, h⟩ := bind_ok h
    obtain ⟨hI2, h2⟩ := denoteStmt_fixed hI (hn st List.mem_cons_self) hs
      fun m h1 h2 => hfix m h1 (Nat.lt_of_lt_of_le h2 (Nat.le_add_right _ _))
    have h2 : e2.anon = e.anon + stmtAnon st := h2
    rw [← h2] at hfix ⊢
    exact denoteStmts_fixed r hI2 (fun s hs => hn s (List.mem_cons_of_mem _ hs)) h
      fun m h3 h4 => hfix m (by omega) h4

/-! ### one item inserted into one statement -/

/-- `st'` is the super-sequence or strand statement `st` with the item `it` inserted at position `i` of its item
    list (for a `sequence` statement neither item list may be a single quoted region: that is the notation
    for an *atomic* sequence, a different kind of object) -/
inductive InsStmt (i : Nat) (it : SrcItem) : Stmt → Stmt → Prop
  | seq (name : String) (items : List SrcItem) (len : Option Nat) :
      (∀ t, items ≠ [.nuc t]) → (∀ t, insItems items i it ≠ [.nuc t]) →
      InsStmt i it (.seq name items len) (.seq name (insItems items i it) len)
  | strand (d : Bool) (name : String) (items : List SrcItem) (len : Option Nat) :
      InsStmt i it (.strand d name items len) (.strand d name (insItems items i it) len)

structure InsertZero (src src' : Src) (t i : Nat) (it : SrcItem) : Prop where
  inputs : src'.inputs = src.inputs
  outputs : src'.outputs = src.outputs
  stmts : ∃ pre st st' post, src.stmts = pre ++ st :: post ∧ src'.stmts = pre ++ st' :: post ∧
            pre.length = t ∧ InsStmt i it st st'

theorem InsertZero.split {src src' : Src} {t i : Nat} {it : SrcItem} (h : InsertZero src src' t i it) :
    ∃ pre st st' post, src.stmts = pre ++ st :: post ∧ src'.stmts = pre ++ st' :: post ∧ InsStmt i it st st' ∧
      src.stmts.take t = pre ∧ src.stmts.drop t = st :: post ∧ src.stmts[t]? = some st := by
  obtain ⟨pre, st, st', post, h1, h2, hlen, hins⟩ := h.stmts
  refine ⟨pre, st, st', post, h1, h2, hins, ?_, ?_, ?_⟩ <;> rw [h1, ← hlen] <;> simp

def stmtItems : Stmt → List SrcItem
  | .seq _ items _ => items
  | .strand _ _ items _ => items
  | _ => []

theorem insStmt_rel {ρ : String → String} {k : Nat} {P : Nat → Prop} {pfx : String} {env : Env} {o : Out}
    (he : EnvRel ρ 0 env env) (ho : rnOut ρ o = o) {i : Nat} {it : SrcItem} {st st' : Stmt}
    (hins : InsStmt i it st st') (hfix : stmtOk ρ pfx st)
    (hreg : ∀ len, ExRel (fun r r' => RegRel ρ k r r' ∧ P r.2.2) (denoteRegion pfx env (stmtItems st) len)
      (denoteRegion pfx env (insItems (stmtItems st) i it) len)) :
    ExRel (fun p q => StRel ρ k p q ∧ P p.1.anon) (denoteStmt pfx env o st) (denoteStmt pfx env o st') := by
  cases hins with
  | seq name items len h1 h2 =>
    have := seqStmt_rel o he.seqs he.strands hfix h1 h2 (hreg len)
    rwa [ho] at this
  | strand d name items len =>
    have := strandStmt_rel o d name he.seqs he.strands (hreg len)
    rwa [ho] at this

theorem insertAt_flatten_nil (l : List (List Nuc)) (j : Nat) : (insertAt l j []).flatten = l.flatten := by
  unfold insertAt
  rw [List.flatten_append, List.flatten_cons, List.nil_append, ← List.flatten_append, List.take_append_drop]

theorem stmt_ref_rel (pfx : String) (env : Env) (o : Out) {i : Nat} {z : String} {star : Bool} {st st' : Stmt}
    (hins : InsStmt i (.ref z star) st st') {b : Denote.Bind} (hz : env.seqs.lookup z = some b) (hb : b.nucs = []) :
    ExRel (fun p q => StRel id 0 p q ∧ 0 ≤ p.1.anon) (denoteStmt pfx env o st) (denoteStmt pfx env o st') := by
  -- the conjunct `0 ≤ _` is there to fit `comp_rel` at `n0 = 0`
  refine insStmt_rel (EnvRel.refl_id env) (rnOut_id o) hins (by cases hins <;> first | exact rfl | trivial) fun len => ?_
  rw [denoteRegion_insert_ref pfx env _ i z star len hz hb]
  cases denoteRegion pfx env (stmtItems st) len with
  | error e => exact rfl
  | ok r =>
    refine ⟨⟨?_, ?_, rfl⟩, Nat.zero_le _⟩
    · show (insertAt r.1 _ []).flatten = _
      rw [insertAt_flatten_nil, rnSeg_id]
    · simp [insSeg]

theorem CompRel_id_eq {x y : Except Denote.Err (Out × List (List Nuc × Bool) × Nat)}
    (h : ExRel (CompRel id 0) x y) : y = x := by
  rcases h.elim with ⟨e, rfl, rfl⟩ | ⟨⟨o, ports, n⟩, ⟨o', ports', n'⟩, rfl, rfl, h1, h2, h3⟩
  · rfl
  · have : rnSeg id = id := by funext s; exact rnSeg_id s
    simp only [rnOut_id, this, id, Nat.add_zero] at h1 h2 h3
    rw [h1, h3, h2]
    simp

theorem fixedNucs_take_le (items : List SrcItem) (i : Nat) : fixedNucs (items.take i) ≤ fixedNucs items := by
  have := fixedNucs_append (items.take i) (items.drop i)
  rw [List.take_append_drop] at this
  omega

theorem stmt_quoted_rel (pfx : String) (env : Env) (o : Out) {i : Nat} {text : List Char} {st st' : Stmt}
    (hins : InsStmt i (.nuc text) st st') (hq : resolve (parseQuoted text) none = .ok (0, []))
    {ρ : String → String} {n1 : Nat}
    (hs : SeqsRel ρ env.seqs env.seqs) (hstr : StrandsRel ρ env.strands env.strands) (ho : rnOut ρ o = o)
    (hfix : stmtOk ρ pfx st)
    (hn1 : ∀ name items len, (st = .seq name items len ∨ ∃ d, st = .strand d name items len) →
      n1 = env.anon + fixedNucs (items.take i))
    (hlt : ∀ m, m < n1 → ρ (pfx ++ "_Anon" ++ toString m) = pfx ++ "_Anon" ++ toString m)
    (hr : RenumP ρ pfx n1 1) :
    ExRel (fun p q => StRel ρ 1 p q ∧ n1 ≤ p.1.anon) (denoteStmt pfx env o st) (denoteStmt pfx env o st') := by
  have hn : n1 = env.anon + fixedNucs ((stmtItems st).take i) := by
    cases hins with
    | seq name items len h1 h2 => exact hn1 name items len (Or.inl rfl)
    | strand d name items len => exact hn1 name items len (Or.inr ⟨d, rfl⟩)
  subst hn
  refine insStmt_rel ⟨rfl, hs, hstr⟩ ho hins hfix fun len => ?_
  refine (denoteRegion_insert_quoted pfx env _ i text len hq hs hlt hr).mono fun r r' h1 h => ⟨h, ?_⟩
  have := denoteRegion_anon h1
  have := fixedNucs_take_le (stmtItems st) i
  unfold regionAnon at *
  omega

theorem inert_quoted (pfx : String) (a : Nat) (src src' : Src) (t i : Nat) (text : List Char)
    (h : InsertZero src src' t i (.nuc text)) (hq : resolve (parseQuoted text) none = .ok (0, []))
    (ρ : String → String) (n1 : Nat)
    (hpre : ∀ env o, denoteStmts pfx (src.stmts.take t) { anon := a } {} = .ok (env, o) →
      SeqsRel ρ env.seqs env.seqs ∧ StrandsRel ρ env.strands env.strands ∧ rnOut ρ o = o ∧
      ∀ name items len, (src.stmts[t]? = some (.seq name items len) ∨ ∃ d, src.stmts[t]? = some (.strand d name items len)) →
        n1 = env.anon + fixedNucs (items.take i))
    (hlt : ∀ m, m < n1 → ρ (pfx ++ "_Anon" ++ toString m) = pfx ++ "_Anon" ++ toString m)
    (hr : RenumP ρ pfx n1 1)
    (hok : ∀ s ∈ src.stmts.drop t, stmtOk ρ pfx s) :
    ExRel (CompRel ρ 1) (denoteComp src pfx a) (denoteComp src' pfx a) := by
  obtain ⟨pre, st, st', post, h1, h2, hins, htake, hdrop, hget⟩ := h.split
  refine comp_rel pfx hr src src' pre post st st' a h1 h2 h.inputs h.outputs ?_ ?_
  · intro s hs
    exact hok s (by rw [hdrop]; exact List.mem_cons_of_mem _ hs)
  · intro env o hp
    obtain ⟨hs, hstr, ho, hn⟩ := hpre env o (htake ▸ hp)
    refine stmt_quoted_rel pfx env o hins hq hs hstr ho (hok st (by rw [hdrop]; exact List.mem_cons_self)) ?_ hlt hr
    intro name items len hst
    apply hn name items len
    rcases hst with rfl | ⟨d, rfl⟩
    · exact Or.inl hget
    · exact Or.inr ⟨d, hget⟩

/-! ### a zero-length atomic sequence defined last -/

theorem denoteStmt_zero_atom (pfx : String) (env : Env) (o : Out) (z : String) (text : List Char) (len : Option Nat)
    {c : List Char} (hq : resolve (parseQuoted text) len = .ok (0, c)) (hnew : env.seqs.lookup z = none) :
    denoteStmt pfx env o (.seq z [.nuc text] len) =
      .ok ({ env with seqs := env.seqs ++ [(z, ⟨[], [[]], false⟩)] }, o) := by
  rw [denoteStmt_atom, hnew, hq]
  simp [atomResult, fwd]

theorem portsOf_snoc_fresh (pfx : String) (env : Env) (o : Out) (z : String) (b : Denote.Bind) (ps : List Comp.Port)
    (hz : ∀ p ∈ ps, p.seq ≠ z) :
    portsOf pfx { env with seqs := env.seqs ++ [(z, b)] } o ps = portsOf pfx env o ps := by
  refine mapM_congr fun p hp => ?_
  unfold portOf
  have hne : (p.seq == z) = false := by simpa using hz p hp
  simp only [List.lookup_append, List.lookup, hne]
  cases env.seqs.lookup p.seq <;> rfl

theorem zero_definition_last (src : Src) (pfx : String) (a : Nat) (z : String) (text : List Char) (len : Option Nat)
    {c : List Char} (hq : resolve (parseQuoted text) len = .ok (0, c))
    (hnew : ∀ env o, denoteStmts pfx src.stmts { anon := a } {} = .ok (env, o) → env.seqs.lookup z = none)
    (hport : ∀ p ∈ src.inputs ++ src.outputs, p.seq ≠ z) :
    denoteComp { src with stmts := src.stmts ++ [.seq z [.nuc text] len] } pfx a = denoteComp src pfx a := by
  rw [denoteComp_eq, denoteComp_eq]
  show (denoteStmts pfx (src.stmts ++ [_]) _ _ >>= _) = _
  rw [denoteStmts_append]
  cases hp : denoteStmts pfx src.stmts { anon := a } {} with
  | error e => rfl
  | ok p =>
    obtain ⟨env, o⟩ := p
    show (denoteStmts pfx [_] env o >>= _) = _
    rw [denoteStmts_cons, denoteStmt_zero_atom pfx env o z text len hq (hnew env o hp)]
    exact congrArg (Except.map _) (portsOf_snoc_fresh pfx env o z _ _ hport)

/-! ### the renumbering `shiftFull` of full names -/

section concrete
open Pepper.CompShift

def shiftFull (pfx : String) (n k : Nat) (s : String) : String :=
  if pfx.toList.isPrefixOf s.toList then pfx ++ shift n k (String.ofList (s.toList.drop pfx.toList.length)) else s

theorem isPrefixOf_append (pfx x : String) : pfx.toList.isPrefixOf (pfx ++ x).toList = true := by
  rw [List.isPrefixOf_iff_prefix, String.toList_append]
  exact List.prefix_append _ _

theorem shiftFull_pfx (pfx : String) (n k : Nat) (x : String) : shiftFull pfx n k (pfx ++ x) = pfx ++ shift n k x := by
  unfold shiftFull
  rw [if_pos (isPrefixOf_append pfx x), String.toList_append, List.drop_left, String.ofList_toList]

theorem shiftFull_renum (pfx : String) (n k : Nat) : RenumP (shiftFull pfx n k) pfx n k := by
  intro m hm
  rw [anon_full_name, anon_full_name, shiftFull_pfx, shift_anonName hm]

theorem shiftFull_lt (pfx : String) (n k : Nat) {m : Nat} (hm : m < n) :
    shiftFull pfx n k (pfx ++ "_Anon" ++ toString m) = pfx ++ "_Anon" ++ toString m := by
  rw [anon_full_name, shiftFull_pfx, shift_anonName_lt hm]

theorem shiftFull_user (pfx : String) (n k : Nat) {x : String} (hx : isAnon x = false) :
    shiftFull pfx n k (pfx ++ x) = pfx ++ x := by
  rw [shiftFull_pfx, shift_user hx]

theorem shiftFull_injective (pfx : String) (n k : Nat) {s t : String}
    (h : shiftFull pfx n k s = shiftFull pfx n k t) : s = t := by
  have key : ∀ u : String, pfx.toList.isPrefixOf u.toList = true →
      u = pfx ++ String.ofList (u.toList.drop pfx.toList.length) := by
    intro u hu
    rw [List.isPrefixOf_iff_prefix, List.prefix_iff_eq_append] at hu
    apply String.toList_inj.1
    rw [String.toList_append, String.toList_ofList, hu]
  unfold shiftFull at h
  by_cases hs : pfx.toList.isPrefixOf s.toList = true <;> by_cases ht : pfx.toList.isPrefixOf t.toList = true
  · rw [if_pos hs, if_pos ht] at h
    have := shift_injective n k ((String.append_right_inj pfx).1 h)
    rw [key s hs, key t ht, this]
  · rw [if_pos hs, if_neg ht] at h
    rw [← h] at ht
    exact absurd (isPrefixOf_append pfx _) ht
  · rw [if_neg hs, if_pos ht] at h
    rw [h] at hs
    exact absurd (isPrefixOf_append pfx _) hs
  · rw [if_neg hs, if_neg ht] at h
    exact h



end concrete

/-! ### a decidable view of what a component denotes, for the examples of C14 (kinetics are left out) -/

instance instDecEqExcept {ε α} [DecidableEq ε] [DecidableEq α] : DecidableEq (Except ε α)
  | .ok a, .ok b => if h : a = b then isTrue (by rw [h]) else isFalse (fun c => h (by injection c))
  | .error a, .error b => if h : a = b then isTrue (by rw [h]) else isFalse (fun c => h (by injection c))
  | .ok _, .error _ => isFalse (fun c => nomatch c)
  | .error _, .ok _ => isFalse (fun c => nomatch c)

structure Obs where
  domains : List (String × List Char)
  baseSeqs : List (String × List Nuc)
  supSeqs : List (String × List Nuc)
  strands : List (String × Bool × List Nuc)
  structs : List StructD
  ports : List (List Nuc × Bool)
  anon : Nat
deriving DecidableEq

def obsComp (r : Except Denote.Err (Out × List (List Nuc × Bool) × Nat)) : Option Obs :=
  match r with
  | .ok (o, ports, n) => some ⟨o.domains, o.baseSeqs, o.supSeqs, o.strands, o.structs, ports, n⟩
  | .error _ => none

end Pepper.DenoteZero
