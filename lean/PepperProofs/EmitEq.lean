import PepperModel.Emit
/-!
# The equations of the emitted statement list (`PepperModel/Emit.lean`), once

What `Emit.instStmts` / `sysStmts` / `compsStmts` are on each form of tree, the two statements of one signal
(`sigStmts`), and which table entry a statement of `compStmts` comes from (`mem_compStmts`).  Imports the model only.  SysShift
still unfolds the three mutual emitters: its equations run against the textual copies `…With` of C18's statements;
`compStmts` itself is four appended maps over the tables and is unfolded where its order matters.
-/
namespace Pepper.Emit
open Pepper Pepper.Sys

/-- the two statements of one signal: its connector sequence and the `equal` of everything bound to it -/
def sigStmts (pfx : String) (lengths : List (String × Nat)) : String × List SigEntry → List Pil.Stmt :=
  fun (sg, entries) =>
    let len := (lengths.lookup sg).getD 0
    [Pil.Stmt.seq (pfx ++ sg) (List.replicate len 'N'),
     Pil.Stmt.equal ((pfx ++ sg) :: entries.map (fun e =>
        (match e.port with
         | .seq i _ => pfx ++ e.comp ++ "-" ++ i.name
         | .sig n => pfx ++ e.comp ++ "-" ++ n) ++ (if e.wc then "*" else "")))]

theorem instStmts_comp (st : Comp.St) : instStmts (.comp st) = compStmts st := by rw [instStmts]

theorem instStmts_sys (st : SysSt) : instStmts (.sys st) = sysStmts st := by rw [instStmts]

theorem sysStmts_eq (p n pfx : String) (t : List (String × String)) (sg : List (String × List SigEntry))
    (l : List (String × Nat)) (c : List (String × Inst)) (i o : List SigRef) :
    sysStmts (.mk p n pfx t sg l c i o) = compsStmts c ++ sg.flatMap (sigStmts pfx l) := by
  rw [sysStmts]; rfl

theorem compsStmts_eq : ∀ c : List (String × Inst), compsStmts c = c.flatMap (fun x => instStmts x.2)
  | [] => by rw [compsStmts]; rfl
  | (_, i) :: r => by rw [compsStmts, compsStmts_eq r, List.flatMap_cons]

theorem flatMap_split {α β} (f : α → List β) {l : List α} {a : α} (h : a ∈ l) :
    ∃ pre post, l.flatMap f = pre ++ f a ++ post := by
  obtain ⟨s, t, rfl⟩ := List.append_of_mem h
  exact ⟨s.flatMap f, t.flatMap f, by simp⟩

theorem mem_compStmts {s : Comp.St} {st : Pil.Stmt} : st ∈ compStmts s ↔
    (∃ e ∈ s.baseSeqs.filter (·.len != 0), st = .seq (s.pfx ++ e.name) e.const) ∨
    (∃ e ∈ s.supSeqs.filter (·.len != 0),
      st = .sup (s.pfx ++ e.name) ((e.items.filter (!·.dummy)).map (itemRaw s.pfx))) ∨
    (∃ e ∈ s.strands, st = .strand (s.pfx ++ e.name) e.dummy ((e.items.filter (!·.dummy)).map (itemRaw s.pfx))) ∨
    (∃ e ∈ s.structs, st = .struct (s.pfx ++ e.name) (some (String.ofList e.opt.fmtG ++ "nt"))
      (e.strands.map (s.pfx ++ ·)) e.struct) := by
  simp only [compStmts, List.mem_append, List.mem_map, or_assoc, eq_comm]

end Pepper.Emit
