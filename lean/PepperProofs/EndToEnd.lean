import PepperModel.Mfe
import PepperProofs.FinishText
import PepperProofs.ConstraintGenSim
import PepperProofs.CompEmit
/-!
# C06 end to end: vocabulary and the lemmas every stage shares

The chain: compile (`Sys.loadFile` ↦ `Inst`) → emitted PIL (`Emit.instStmts`) → `Pil.load` ↦ `spec` →
`getConstraints` ↦ arrays `a` → any nucleotide string `nts` with `ArraysGood a nts` → `Mfe.processResults` →
`Mfe.output` (the `.mfe` records `mfeRecs`) → `Finish.apply` on the saved tree ↦ `out` → `SatSrc`.

Three copies of the code table occur, one per tool (`Generated/Tables.lean`): `nupackTable`
(`design/DNA_nupack_classes.py`: the PIL reader, hence `Pil.load`, `CodesOk`, `bundleOk`), `pilTable`
(`design/PIL_DNA_classes.py`: the designer front-end, hence `processResults`, `output`, `Sat`, `Entries`) and `dnaTable`
(`DNA_classes.py`: the finisher, `Finish.apply`).  The chain asks of them only `load_specCodes`, `pil_lawful`, `pil_N`,
`pil_complBases`, `dna_compl`, and at the text level `code_alpha`.
-/
namespace Pepper.EndToEnd
open Pepper Pepper.Pil Pepper.ConstraintGen Pepper.LinkSpec

/-! ## generic lemmas on lists (nothing here is about the model) -/

theorem find?_filter_of_find? {α : Type} {l : List α} {p q : α → Bool} {a : α} (h : l.find? q = some a)
    (hp : p a = true) : (l.filter p).find? q = some a := by
  obtain ⟨hq, as, bs, rfl, hn⟩ := List.find?_eq_some_iff_append.1 h
  refine List.find?_eq_some_iff_append.2 ⟨hq, as.filter p, bs.filter p, ?_, fun x hx => hn x (List.mem_filter.1 hx).1⟩
  rw [List.filter_append, List.filter_cons_of_pos hp]

theorem foldlM_parts {α : Type} (g : α → Option (List Char)) (h : α → List Char) :
    ∀ (l : List α) (init : List Char), (∀ j ∈ l, g j = some (h j)) →
      l.foldlM (fun acc j => (g j).map (fun x => acc ++ x)) init = some (init ++ l.flatMap h) := by
  intro l
  induction l with
  | nil => intro init _; simp [List.foldlM, pure]
  | cons j r ih =>
    intro init hj
    rw [List.foldlM_cons, hj j List.mem_cons_self, Option.map_some, Option.bind_eq_bind, Option.bind_some,
      ih _ (fun x hx => hj x (List.mem_cons_of_mem _ hx)), List.flatMap_cons, List.append_assoc]

theorem nodup_flatMap_pair {α β : Type} (f g : α → β) : ∀ (l : List α), (l.map f).Nodup →
    (∀ a ∈ l, ∀ b ∈ l, f a ≠ g b) → (∀ a ∈ l, ∀ b ∈ l, g a = g b → f a = f b) →
    (l.flatMap (fun o => [f o, g o])).Nodup := by
  intro l hn hfg hg
  rw [List.Nodup, List.pairwise_flatMap]
  refine ⟨fun a ha => List.pairwise_pair.2 (hfg a ha a ha), (List.pairwise_map.1 hn).imp_of_mem ?_⟩
  intro a b ha hb hab x hx y hy
  simp only [List.mem_cons, List.not_mem_nil, or_false] at hx hy
  rcases hx with rfl | rfl <;> rcases hy with rfl | rfl
  · exact hab
  · exact hfg a ha b hb
  · exact (hfg b hb a ha).symm
  · exact fun h => hab (hg a ha b hb h)


/-- **the nucleotide string satisfies the emitted constraint arrays** (`a = (eq, wc, st)`, 0-based, `none` = blank /
    no partner): same length; a blank exactly where `st` is blank; elsewhere a base allowed by the code `st[i]`;
    equal to the letter at its representative `eq[i]`; complementary to the letter at `wc[i]` when there is one. -/
structure ArraysGood (a : Arrays) (nts : List Char) : Prop where
  len : nts.length = a.1.length
  blank : ∀ i : Nat, a.2.2[i]? = some none → nts[i]? = some ' '
  base : ∀ (i : Nat) (ch : Char), a.2.2[i]? = some (some ch) → ∃ b : Base, nts[i]? = some b.toChar ∧ allows Generated.pilTable ch b
  eq : ∀ i r : Nat, a.1[i]? = some (some r) → nts[i]? = nts[r]?
  wc : ∀ i w : Nat, a.2.1[i]? = some (some w) → ∀ b b' : Base, nts[i]? = some b.toChar → nts[w]? = some b'.toChar → b = b'.compl

def spell (asg : Var → Base) (l : List Nuc) : List Char := l.map (fun n => (val asg n).toChar)

/-- the domain position lies on some strand of the design (so the designer assigns it) -/
def onStrand (d : Design) (v : Var) : Bool := d.strands.any (fun x => x.2.2.any (fun n => decide (n.var = v)))

/-- the letter the tool chain writes for a nucleotide: its base where the position lies on a strand; otherwise
    (an undesigned sequence keeps its template) the template code, complemented for a starred occurrence -/
def letter (t : CodeTable) (d : Design) (asg : Var → Base) (n : Nuc) : Char :=
  if onStrand d n.var then (val asg n).toChar
  else match templateOf d n.var with
    | some tc => if n.comp then t.complD tc else tc
    | none => ' '

def spellT (t : CodeTable) (d : Design) (asg : Var → Base) (l : List Nuc) : List Char := l.map (letter t d asg)

/-- the entries of the finished output against the design, under an assignment of bases:
    every strand entry spells the strand's nucleotides (its domains concatenated, starred ones reverse-complemented)
    and carries the strand's dummy flag; every non-empty sequence entry named in the design spells its nucleotides
    (`spellT`: bases on designed positions, the template where the sequence is on no strand); every structure entry
    is the `+`-join of its strands' letters. -/
structure Entries (t : CodeTable) (d : Design) (asg : Var → Base) (out : Finish.Out) : Prop where
  strands : ∀ x ∈ d.strands, ∀ dm str, (x.1, dm, str) ∈ out.strands → dm = x.2.1 ∧ str = spell asg x.2.2
  seqs : ∀ x ∈ d.seqs, ∀ str, (x.1, str) ∈ out.seqs → str ≠ [] → str = spellT t d asg x.2
  structs : ∀ sd ∈ d.structs, ∀ str, (sd.name, str) ∈ out.structs →
    str = Finish.joinPlus (sd.strands.map (fun sn => spell asg (strandNucs d sn)))

/-- **the finished sequences satisfy the source**: some assignment of bases to the domain positions of the design `d`
    satisfies the design — every position allowed by its template, every `equals` entry (the ports bound to one
    signal) position-wise equal, every base pair of every structure's target Watson–Crick (`LinkSpec.Sat`) — and the
    entries of `out` are what it spells (`Entries`). -/
def SatSrc (t : CodeTable) (d : Design) (out : Finish.Out) : Prop :=
  ∃ asg : Var → Base, Sat t d asg ∧ Entries t d asg out

def complBases (t : CodeTable) : Bool :=
  t.complOf 'A' == some 'T' && t.complOf 'T' == some 'A' && t.complOf 'C' == some 'G' && t.complOf 'G' == some 'C'

/-- names written into the one namespace of the `.mfe` file -/
def mfeNames (spec : Spec) : List String :=
  spec.structs.map (·.name) ++ spec.seqs.flatMap (fun o => [o.name, o.name ++ "*"])

/-- no structure is named like a sequence or a starred sequence, and no two records share a name
    (violated by the known finding F13: `sequence X`, `structure X`) -/
def MfeNamesDistinct (spec : Spec) : Prop := (mfeNames spec).Nodup

instance (spec : Spec) : Decidable (MfeNamesDistinct spec) := by unfold MfeNamesDistinct; infer_instance

/-- the three numeric fields of a record as the model's `Mfe.output` writes them (`GC`: the opaque GC-content) -/
def mfeFields : List (List Char) := ["0.000000".toList, "GC".toList, "0".toList]

def strandVal (spec : Spec) (asg : Var → Base) (sn : String) : List Char :=
  spell asg (strandNucs (Pil.denote spec) sn)

/-- the records `Convert.output` writes after `process_results`: one per structure (the `+`-join of its strands),
    then for every sequence its letters and the starred record with their reverse complement -/
def mfeRecs (t : CodeTable) (spec : Spec) (asg : Var → Base) : List (List Char × Finish.Rec) :=
  (List.zip (List.range spec.structs.length) spec.structs).map (fun (p : Nat × StructObj) =>
      ((toString p.1).toList,
       (⟨p.2.name.toList, Mfe.joinPlus (p.2.strands.map (strandVal spec asg)), mfeFields, p.2.struct, p.2.struct⟩ : Finish.Rec)))
  ++ (List.zip (List.range spec.seqs.length) spec.seqs).flatMap (fun (p : Nat × SeqObj) =>
      [((toString (p.1 + spec.structs.length)).toList,
        (⟨p.2.name.toList, spellT t (Pil.denote spec) asg (viewNucs p.2 false), mfeFields,
          List.replicate p.2.len '.', List.replicate p.2.len '.'⟩ : Finish.Rec)),
       ((toString 0).toList,
        (⟨(p.2.name ++ "*").toList, spellT t (Pil.denote spec) asg (viewNucs p.2 true), mfeFields,
          List.replicate p.2.len '.', List.replicate p.2.len '.'⟩ : Finish.Rec))])

def mfeLines (t : CodeTable) (spec : Spec) (asg : Var → Base) : List String :=
  (Finish.renderLines (mfeRecs t spec asg) "0.000000".toList).map String.ofList

/-- what the `.mfe` reader hands to `apply_design` -/
def mfeDesign (t : CodeTable) (spec : Spec) (asg : Var → Base) : List (List Char × List Char) :=
  (mfeRecs t spec asg).map (fun x => (x.2.name, x.2.seq))

/-- `strand_start` as `process_results` reads it: the `strand_start` table of layout `mode`, by strand index -/
def startOf (mode : Layout) (spec : Spec) : StrandObj → Option Nat := fun st =>
  match strandIdx spec st.name with
  | some i => (layOf mode spec).strandStart.getD i none
  | none => none

def StartOk (spec : Spec) (start : StrandObj → Option Nat) (nts : List Char) (asg : Var → Base) : Prop :=
  ∀ st ∈ spec.strands, ∃ p, start st = some p ∧ (nts.drop p).take st.len = spell asg (nucsOfBases st.bases)

/-- the state after `process_results` -/
structure Good (spec : Spec) (asg : Var → Base) (a : Mfe.Assigned) : Prop where
  spells : ∀ n v, a.lookup n = some v → v ≠ [] → ∃ o, spec.findSeq n = some o ∧ v = spell asg (viewNucs o false) ∧
    ∀ m ∈ viewNucs o false, onStrand (Pil.denote spec) m.var = true
  covers : ∀ v, onStrand (Pil.denote spec) v = true → ∃ w, a.lookup v.dom = some w ∧ w ≠ []

/-- a component of the saved tree sits in the loaded specification as its PIL objects -/
structure CompIn (spec : Spec) (s : Comp.St) : Prop where
  wf : ∃ a, Comp.WF s a
  seqs : ∀ e ∈ s.seqs, e.len ≠ 0 → spec.findSeq (s.pfx ++ e.name) = some (Comp.pilObj s.pfx e)
  strands : ∀ x ∈ s.strands, spec.findStrand (s.pfx ++ x.name) = some (Comp.pilStrand s.pfx x)
  structs : ∀ e ∈ s.structs, Comp.pilStruct s.pfx s.strands e ∈ spec.structs

def TreeIn (spec : Spec) (inst : Sys.Inst) : Prop := ∀ s ∈ Finish.compsOf 64 inst, CompIn spec s

def Known (t : CodeTable) (d : Design) (n : Nuc) : Prop :=
  onStrand d n.var = true ∨ ∃ tc, templateOf d n.var = some tc ∧ t.isCode tc = true

theorem val_flip (asg : Var → Base) (n : Nuc) : val asg n.flip = (val asg n).compl := by
  unfold val Nuc.flip
  cases n.comp <;> simp [Base.compl_compl]

theorem spell_nil (asg : Var → Base) : spell asg [] = [] := rfl

theorem spell_append (asg : Var → Base) (a b : List Nuc) : spell asg (a ++ b) = spell asg a ++ spell asg b :=
  List.map_append

def baseOfChar : Char → Option Base
  | 'A' => some .A | 'C' => some .C | 'G' => some .G | 'T' => some .T | _ => none

theorem baseOfChar_toChar (b : Base) : baseOfChar b.toChar = some b := by cases b <;> rfl

theorem toChar_of_baseOfChar {c : Char} {b : Base} (h : baseOfChar c = some b) : c = b.toChar := by
  unfold baseOfChar at h
  split at h <;> cases h <;> rfl

theorem toChar_inj {b b' : Base} (h : b.toChar = b'.toChar) : b = b' :=
  Option.some.inj (by rw [← baseOfChar_toChar b, h, baseOfChar_toChar])

theorem filter_plus_spell (asg : Var → Base) (l : List Nuc) : (spell asg l).filter (· != '+') = spell asg l := by
  apply List.filter_eq_self.2
  intro c hc
  simp only [spell, List.mem_map] at hc
  obtain ⟨n, _, rfl⟩ := hc
  cases val asg n <;> decide

theorem filter_plus_joinPlus (asg : Var → Base) (ls : List (List Nuc)) :
    (Finish.joinPlus (ls.map (spell asg))).filter (· != '+') = spell asg ls.flatten := by
  induction ls with
  | nil => rfl
  | cons a r ih =>
    cases r with
    | nil => simp [Finish.joinPlus, filter_plus_spell]
    | cons b r' =>
      simp only [List.map_cons, Finish.joinPlus, List.filter_append, List.filter_cons, filter_plus_spell,
        List.flatten_cons, spell_append] at ih ⊢
      simp only [bne_self_eq_false, Bool.false_eq_true, if_false]
      rw [ih]

theorem spell_length (asg : Var → Base) (l : List Nuc) : (spell asg l).length = l.length := by simp [spell]

theorem spellT_nil (t : CodeTable) (d : Design) (asg : Var → Base) : spellT t d asg [] = [] := rfl

theorem spellT_length (t : CodeTable) (d : Design) (asg : Var → Base) (l : List Nuc) :
    (spellT t d asg l).length = l.length := by simp [spellT]

theorem spellT_flatMap {α : Type} (t : CodeTable) (d : Design) (asg : Var → Base) (f : α → List Nuc) (l : List α) :
    spellT t d asg (l.flatMap f) = l.flatMap (fun x => spellT t d asg (f x)) :=
  List.map_flatMap

theorem spell_flatMap {α : Type} (asg : Var → Base) (f : α → List Nuc) (l : List α) :
    spell asg (l.flatMap f) = l.flatMap (fun x => spell asg (f x)) :=
  List.map_flatMap

theorem spellT_eq_spell {t : CodeTable} {d : Design} {asg : Var → Base} {l : List Nuc}
    (h : ∀ n ∈ l, onStrand d n.var = true) : spellT t d asg l = spell asg l := by
  unfold spellT spell
  apply List.map_congr_left
  intro n hn
  simp [letter, h n hn]

theorem forall_rc {P : Nuc → Prop} (hP : ∀ n, P n → P n.flip) {l : List Nuc} (h : ∀ n ∈ l, P n) : ∀ n ∈ rc l, P n := by
  intro n hn
  simp only [rc, List.mem_map, List.mem_reverse] at hn
  obtain ⟨m, hm, rfl⟩ := hn
  exact hP m (h m hm)

theorem base_toChar_cases (b : Base) : b.toChar = 'A' ∨ b.toChar = 'C' ∨ b.toChar = 'G' ∨ b.toChar = 'T' := by
  cases b <;> simp [Base.toChar]

theorem complBases_spec {t : CodeTable} (hB : complBases t = true) (b : Base) :
    t.complOf b.toChar = some b.compl.toChar := by
  simp only [complBases, Bool.and_eq_true, beq_iff_eq] at hB
  obtain ⟨⟨⟨h1, h2⟩, h3⟩, h4⟩ := hB
  cases b <;> simp [Base.toChar, Base.compl, h1, h2, h3, h4]

theorem letter_spec {t : CodeTable} (hl : t.lawful = true) (hB : complBases t = true) {d : Design}
    (asg : Var → Base) {n : Nuc} (hk : Known t d n) :
    t.isCode (letter t d asg n) = true ∧ t.complD (letter t d asg n) = letter t d asg n.flip := by
  have hv : n.flip.var = n.var := rfl
  unfold letter
  rw [hv]
  by_cases ho : onStrand d n.var = true
  · simp only [ho, if_true]
    refine ⟨(CodeTable.complOf_isCode hl (complBases_spec hB _)).1, ?_⟩
    rw [CodeTable.complD, complBases_spec hB, val_flip]
    rfl
  · simp only [ho, Bool.false_eq_true, if_false]
    rcases hk with hk | ⟨tc, htc, hc⟩
    · exact absurd hk ho
    · simp only [htc]
      cases hcomp : n.comp
      · exact ⟨by simpa using hc, by simp [Nuc.flip, hcomp]⟩
      · refine ⟨by simpa using CodeTable.complD_isCode hl hc, ?_⟩
        simp only [Nuc.flip, hcomp, Bool.not_true, if_true, Bool.false_eq_true, if_false]
        exact CodeTable.complD_complD hl hc

theorem letter_isCode {t : CodeTable} (hl : t.lawful = true) (hB : complBases t = true) {d : Design}
    (asg : Var → Base) {n : Nuc} (hk : Known t d n) : t.isCode (letter t d asg n) = true :=
  (letter_spec hl hB asg hk).1

theorem wcStr_spellT {t : CodeTable} (hl : t.lawful = true) (hB : complBases t = true) {d : Design}
    (asg : Var → Base) {l : List Nuc} (hk : ∀ n ∈ l, Known t d n) :
    t.wcStr (spellT t d asg l) = some (spellT t d asg (rc l)) := by
  rw [CodeTable.wcStr_eq hl]
  · congr 1
    unfold spellT rc
    rw [← List.map_reverse, List.map_map, List.map_map]
    apply List.map_congr_left
    intro n hn
    exact (letter_spec hl hB asg (hk n (List.mem_reverse.1 hn))).2
  · intro c hc
    obtain ⟨n, hn, rfl⟩ := List.mem_map.1 hc
    exact letter_isCode hl hB asg (hk n hn)

theorem wcStr_spell {t : CodeTable} (hB : complBases t = true) (asg : Var → Base) (l : List Nuc) :
    t.wcStr (spell asg l) = some (spell asg (rc l)) := by
  unfold CodeTable.wcStr spell rc
  rw [← List.map_reverse, List.map_map]
  induction l.reverse with
  | nil => rfl
  | cons n r ih =>
    rw [List.map_cons, List.mapM_cons, ih]
    simp only [Function.comp, complBases_spec hB, val_flip, List.map_cons]
    rfl

theorem strandNucs_denote (spec : Spec) (sn : String) :
    strandNucs (Pil.denote spec) sn = match spec.findStrand sn with
      | some st => nucsOfBases st.bases
      | none => [] := by
  unfold strandNucs Pil.denote Spec.findStrand
  simp only [List.find?_map, Function.comp_def]
  cases spec.strands.find? (fun x => x.name == sn) <;> rfl

theorem onStrand_iff {d : Design} {v : Var} :
    onStrand d v = true ↔ ∃ x ∈ d.strands, ∃ n ∈ x.2.2, n.var = v := by
  simp only [onStrand, List.any_eq_true, decide_eq_true_eq]

theorem onStrand_of_strand {spec : Spec} {st : StrandObj} (hst : st ∈ spec.strands) :
    ∀ n ∈ nucsOfBases st.bases, onStrand (Pil.denote spec) n.var = true := by
  intro n hn
  rw [onStrand_iff]
  exact ⟨(st.name, st.dummy, nucsOfBases st.bases), by
    simp only [Pil.denote, List.mem_map]; exact ⟨st, hst, rfl⟩, n, hn, rfl⟩

theorem templateOf_denote {spec : Spec} (wf : SpecWF spec) {o : SeqObj} (ho : o ∈ spec.seqs) (hb : o.isSup = false)
    {k : Nat} (hk : k < o.len) : templateOf (Pil.denote spec) ⟨o.name, k⟩ = o.template[k]? := by
  unfold templateOf Pil.denote
  simp only [List.find?_map, Function.comp_def]
  have hfind : (spec.baseSeqs.filter (·.len != 0)).find? (fun x => x.name == o.name) = some o :=
    find?_filter_of_find? (find?_filter_of_find? (wf.seqFind o ho) (by rw [hb]; rfl))
      (by simpa using Nat.ne_of_gt (Nat.zero_lt_of_lt hk))
  rw [hfind]
  rfl

theorem known_base {t : CodeTable} {spec : Spec} (wf : SpecWF spec) (ok : SpecCodes t spec) {o : SeqObj}
    (ho : o ∈ spec.seqs) (hb : o.isSup = false) : ∀ n ∈ fwd o.name o.len, Known t (Pil.denote spec) n := by
  intro n hn
  simp only [fwd, List.mem_map, List.mem_range] at hn
  obtain ⟨k, hk, rfl⟩ := hn
  right
  have hlen := (wf.base o ho hb).1
  obtain ⟨c, hc⟩ : ∃ c, o.template[k]? = some c := by
    have : k < o.template.length := by omega
    exact ⟨o.template[k], List.getElem?_eq_getElem this⟩
  refine ⟨c, by rw [templateOf_denote wf ho hb hk]; exact hc, ?_⟩
  have hob : o ∈ spec.baseSeqs := by
    simp only [Spec.baseSeqs, List.mem_filter, hb, Bool.not_false, and_true]; exact ho
  exact ok.templates o hob c (List.mem_of_getElem? hc)

theorem joinPlus_eq (l : List (List Char)) : Mfe.joinPlus l = Finish.joinPlus l := by
  induction l with
  | nil => rfl
  | cons a r ih =>
    cases r with
    | nil => rfl
    | cons b r' => simp only [Mfe.joinPlus, Finish.joinPlus, ih]

end Pepper.EndToEnd
