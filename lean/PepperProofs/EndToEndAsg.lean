import PepperProofs.EndToEnd
import PepperProofs.ConstraintGenTotalT
import PepperProofs.ConstraintGenComp
import PepperProofs.ConstraintGenLoad
/-!
# C06 end to end, stage 1: a nucleotide string that satisfies the arrays IS an assignment satisfying the specification,
# and where `process_results` reads the strands on it

`assignment_of_good`: the loaded document enters through `exact_of_load` (ConstraintGenLoad).  Two non-blank indices
whose nucleotides the design forces equal / complementary carry equal / complementary letters (`letters_respect`: they
share `eq[·]`, resp. `wc[i]` is a position forced equal to the other one), so the letters define a partial assignment
of the domain positions on the line; `core_extend` (over `LinkSpec.core`, fed by `Seeded.classes_of_graphSat`) extends it
to all positions.
`startOk_of_started` is the layout fact for either mode.
-/
namespace Pepper.EndToEnd
open Pepper Pepper.Pil Pepper.ConstraintGen Pepper.LinkSpec

/-- **`LinkSpec.core`, extending a partial assignment.**  `F x b`: item `x` is already given base `b`.  If `F` respects
    the relation and every given base suits the whole class of its item, a satisfying total assignment extends `F`.
    This is the core itself for the constraint "suits `x` and is what `F` gives `x`": a class with a given member
    takes its base from that member, any other class a common base. -/
theorem core_extend {α : Type} {R : α → Bool → α → Prop} {ok : α → Base → Prop} (E : ParityEquiv R)
    (hself : ∀ x, ¬ R x true x) (hcom : ∀ x, ∃ b, ∀ y p, R x p y → ok y (flipB b p))
    (F : α → Base → Prop)
    (hF : ∀ x y p b b', R x p y → F x b → F y b' → b' = flipB b p)
    (hFok : ∀ x b, F x b → ∀ y p, R x p y → ok y (flipB b p)) :
    ∃ a, ASat R ok a ∧ ∀ x b, F x b → a x = b := by
  have hcom' : ∀ x, ∃ b, ∀ y p, R x p y → ok y (flipB b p) ∧ ∀ b', F y b' → b' = flipB b p := by
    intro x
    by_cases h : ∃ y p b, R x p y ∧ F y b
    · obtain ⟨y0, p0, b0, hr0, hf0⟩ := h
      refine ⟨flipB b0 p0, fun y p hr => ?_⟩
      have h1 : R y0 (p0 ^^ p) y := E.trans (E.symm hr0) hr
      rw [flipB_flipB]
      exact ⟨hFok y0 b0 hf0 y _ h1, fun b' hb' => hF y0 y _ b0 b' h1 hf0 hb'⟩
    · obtain ⟨b, hb⟩ := hcom x
      exact ⟨b, fun y p hr => ⟨hb y p hr, fun b' hb' => absurd ⟨y, p, b', hr, hb'⟩ h⟩⟩
  obtain ⟨a, hok, hR⟩ := (LinkSpec.core (ok := fun x b => ok x b ∧ ∀ b', F x b' → b' = b) E).2 ⟨hself, hcom'⟩
  exact ⟨a, ⟨fun x => (hok x).1, hR⟩, fun x b hb => ((hok x).2 b hb).symm⟩

theorem flipB_false (b : Base) : flipB b false = b := LinkSpec.flipB_false b

section Line
variable {mode : Layout} {stmts : List Stmt} {spec : Spec} {s : Seeds} {c : Cons} {a : Arrays} {nts : List Char}

theorem letters_respect (hload : Pil.load Generated.nupackTable stmts {} = .ok spec)
    (hs : seeds mode spec = .ok s) (hb : build s = .ok c) (ha : getConstraints mode spec = .ok a)
    (hg : ArraysGood a nts) {i j : Nat} {ci cj : Char} (hi : a.2.2[i]? = some (some ci))
    (hj : a.2.2[j]? = some (some cj)) {m n : Nuc} (hm : denOf mode spec i = some m) (hn : denOf mode spec j = some n)
    {p : Bool} (hr : NucReach (Pil.denote spec) m p n) {bi bj : Base} (hbi : nts[i]? = some bi.toChar)
    (hbj : nts[j]? = some bj.toChar) : bj = flipB bi p := by
  obtain ⟨S, _, G⟩ := exact_of_load hload hs hb ha
  -- the equal case, for any two indices
  have hEq : ∀ {i j : Nat} {ci cj : Char}, a.2.2[i]? = some (some ci) → a.2.2[j]? = some (some cj) →
      ∀ {m n : Nuc}, denOf mode spec i = some m → denOf mode spec j = some n → NucReach (Pil.denote spec) m false n →
      ∀ {bi bj : Base}, nts[i]? = some bi.toChar → nts[j]? = some bj.toChar → bj = bi := by
    intro i j ci cj hi hj m n hm hn hr bi bj hbi hbj
    have he := (eq_iff_forced_equal S pil_N.2 G hi hj hm hn).2 hr
    obtain ⟨v, hv, hsv⟩ := S.eq_semMin pil_N.2 G hi hm
    cases v with
    | none => exact absurd (NucReach.refl _ m) (hsv i ci m hi hm)
    | some r =>
      have h1 := hg.eq i r hv
      have h2 := hg.eq j r (he ▸ hv)
      have : nts[i]? = nts[j]? := h1.trans h2.symm
      rw [hbi, hbj] at this
      exact (toChar_inj (Option.some.inj this)).symm
  cases p with
  | false => exact hEq hi hj hm hn hr hbi hbj
  | true =>
    obtain ⟨w, hw, hsw⟩ := S.wc_semMin pil_N.2 G hi hm
    cases w with
    | none => exact absurd hr (hsw j cj n hj hn)
    | some r =>
      obtain ⟨⟨chr, nr, hr1, hr2, hr3⟩, _⟩ := hsw
      obtain ⟨br, hbr, _⟩ := hg.base r chr hr1
      have h1 : bi = br.compl := hg.wc i r hw bi br hbi hbr
      have h2 : NucReach (Pil.denote spec) n false nr := by
        have := NucReach.trans (NucReach.symm hr) hr3
        simpa using this
      have h3 : br = bj := hEq hj hr1 hn hr2 h2 hbj hbr
      rw [flipB_true, h1, h3, Base.compl_compl]

theorem assignment_of_good (hload : Pil.load Generated.nupackTable stmts {} = .ok spec)
    (hs : seeds mode spec = .ok s) (hb : build s = .ok c) (ha : getConstraints mode spec = .ok a)
    (hg : ArraysGood a nts) :
    ∃ asg : Var → Base, Sat Generated.pilTable (Pil.denote spec) asg ∧
      ∀ (i : Nat) (m : Nuc), denOf mode spec i = some m → (∃ ch, a.2.2[i]? = some (some ch)) →
        nts[i]? = some (val asg m).toChar := by
  obtain ⟨S, hgs, G⟩ := exact_of_load hload hs hb ha
  obtain ⟨hself, hcom⟩ := forall_and.1 (S.classes_of_graphSat hgs)
  -- the partial assignment read off the line
  let F : Var → Base → Prop := fun v b => ∃ (i : Nat) (ch : Char) (m : Nuc) (bi : Base),
    a.2.2[i]? = some (some ch) ∧ denOf mode spec i = some m ∧ m.var = v ∧ nts[i]? = some bi.toChar ∧
      b = flipB bi m.comp
  have hF : ∀ x y p b b', ParityReach (Pil.denote spec) x p y → F x b → F y b' → b' = flipB b p := by
    rintro x y p b b' hr ⟨i, ci, m, bi, hi, hm, rfl, hbi, rfl⟩ ⟨j, cj, n, bj, hj, hn, rfl, hbj, rfl⟩
    have hq : NucReach (Pil.denote spec) m ((p != m.comp) != n.comp) n := by
      unfold NucReach
      have : ((((p != m.comp) != n.comp) != m.comp) != n.comp) = p := by
        cases p <;> cases m.comp <;> cases n.comp <;> rfl
      rw [this]; exact hr
    have := letters_respect hload hs hb ha hg hi hj hm hn hq hbi hbj
    rw [this, flipB_flipB, flipB_flipB]
    cases p <;> cases m.comp <;> cases n.comp <;> rfl
  have hFok : ∀ x b, F x b → ∀ y p, ParityReach (Pil.denote spec) x p y →
      okVar Generated.pilTable (Pil.denote spec) y (flipB b p) := by
    rintro x b ⟨i, ci, m, bi, hi, hm, rfl, hbi, rfl⟩ y p hr
    obtain ⟨b0, hb0, hal⟩ := hg.base i ci hi
    have : b0 = bi := toChar_inj (Option.some.inj (hb0.symm.trans hbi))
    subst this
    exact (S.template_bits pil_N.2 G hi hm b0).1 hal y p hr
  obtain ⟨asg, hA, hext⟩ := core_extend (parityEquiv (Pil.denote spec)) hself hcom F hF hFok
  refine ⟨asg, (sat_iff_asat _ _ _).2 hA, ?_⟩
  rintro i m hm ⟨ch, hch⟩
  obtain ⟨bi, hbi, _⟩ := hg.base i ch hch
  have := hext m.var (flipB bi m.comp) ⟨i, ch, m, bi, hch, hm, rfl, hbi, rfl⟩
  rw [hbi, val_eq, this, flipB_flipB]
  cases m.comp <;> rfl

end Line

theorem slice_spells {nts : List Char} {asg : Var → Base} {l : List Nuc} {p len : Nat} (hlen : l.length = len)
    (h : ∀ x < len, ∃ m, l[x]? = some m ∧ nts[p + x]? = some (val asg m).toChar) :
    (nts.drop p).take len = spell asg l := by
  apply List.ext_getElem?
  intro x
  by_cases hx : x < len
  · obtain ⟨m, hm, hn⟩ := h x hx
    rw [List.getElem?_take, if_pos hx, List.getElem?_drop, hn]
    simp [spell, hm]
  · rw [List.getElem?_take, if_neg hx]
    symm
    rw [List.getElem?_eq_none_iff, spell_length]
    omega

theorem strandIdx_of_mem {spec : Spec} (wf : SpecWF spec) {k : Nat} {st : StrandObj} (hk : spec.strands[k]? = some st) :
    strandIdx spec st.name = some k := by
  unfold strandIdx
  rw [List.findIdx?_eq_some_iff_getElem]
  obtain ⟨hlt, he⟩ := List.getElem?_eq_some_iff.1 hk
  refine ⟨hlt, by simp [he], ?_⟩
  intro j hj hp
  have hjl : j < spec.strands.length := by omega
  have hname : spec.strands[j].name = st.name := by simpa using hp
  -- two indices with the same name contradict `strandNames`
  have h1 : (spec.strands.map (·.name))[j]? = some st.name := by
    rw [List.getElem?_map, List.getElem?_eq_getElem hjl]; simp [hname]
  have h2 : (spec.strands.map (·.name))[k]? = some st.name := by
    rw [List.getElem?_map, hk]; rfl
  have := nodup_index_unique wf.strandNames h1 h2
  omega

/-- **Layout, either mode**: when every strand has a start in the layout table, the string read there spells the
    strand under an assignment that reads the letters of the non-blank indices (stage 1): position `start + x` is the
    row of the strand's `x`-th nucleotide (`sPos_row`), and a row is a non-blank index denoting it (`Seeded.row_letter`) -/
theorem startOk_of_started {mode : Layout} {stmts : List Stmt} {spec : Spec}
    (hload : Pil.load Generated.nupackTable stmts {} = .ok spec)
    {a : Arrays} (ha : getConstraints mode spec = .ok a) {nts : List Char} {asg : Var → Base}
    (hasg : ∀ (i : Nat) (m : Nuc), denOf mode spec i = some m → (∃ ch, a.2.2[i]? = some (some ch)) →
      nts[i]? = some (val asg m).toChar)
    (St : ∀ q ∈ enum spec.strands, Started (layOf mode spec) q.1) :
    StartOk spec (startOf mode spec) nts asg := by
  obtain ⟨s, c, hs, hb⟩ := getConstraintsT_ok ha
  obtain ⟨S, _, G⟩ := exact_of_load hload hs hb ha
  intro st hst
  obtain ⟨k, hlt, hk⟩ := List.getElem_of_mem hst
  have hk' : spec.strands[k]? = some st := by rw [List.getElem?_eq_getElem hlt, hk]
  have hq : (k, st) ∈ enum spec.strands := mem_enum_of_getElem? hk'
  obtain ⟨p0, hp0⟩ := St _ hq
  refine ⟨p0, by unfold startOf; rw [strandIdx_of_mem S.wf hk']; exact hp0,
    slice_spells (S.wf.strandLen st hst) fun x hx => ?_⟩
  obtain ⟨m, hm, hrow⟩ := sPos_row S.wf hq (St _ hq) hx
  have e : sPos (layOf mode spec) k x = p0 + x := by unfold sPos; rw [hp0]; rfl
  obtain ⟨hden, _, hch⟩ := S.row_letter G (e ▸ hrow)
  exact ⟨m, hm, hasg _ m hden hch⟩

/-- **Layout, strand mode**: every strand has a start (the sum over the earlier strands of length + `strandGap` blanks) -/
theorem startOk_strand {stmts : List Stmt} {spec : Spec} (hload : Pil.load Generated.nupackTable stmts {} = .ok spec)
    {a : Arrays} (ha : getConstraints .strand spec = .ok a) {nts : List Char} {asg : Var → Base}
    (hasg : ∀ (i : Nat) (m : Nuc), denOf .strand spec i = some m → (∃ ch, a.2.2[i]? = some (some ch)) →
      nts[i]? = some (val asg m).toChar) :
    StartOk spec (startOf .strand spec) nts asg :=
  startOk_of_started hload ha hasg fun _ hq => started_strand hq

/-- **Layout, structure mode**: when every strand is non-empty and occurs in some structure, every strand has a start
    (the place of its first listing in a structure) -/
theorem startOk_struct {stmts : List Stmt} {spec : Spec} (hload : Pil.load Generated.nupackTable stmts {} = .ok spec)
    (hp : Placed spec) (hne : ∀ o ∈ spec.strands, o.len ≠ 0)
    {a : Arrays} (ha : getConstraints .struct spec = .ok a) {nts : List Char} {asg : Var → Base}
    (hasg : ∀ (i : Nat) (m : Nuc), denOf .struct spec i = some m → (∃ ch, a.2.2[i]? = some (some ch)) →
      nts[i]? = some (val asg m).toChar) :
    StartOk spec (startOf .struct spec) nts asg := by
  have wf := load_wf hload
  exact startOk_of_started hload ha hasg fun q hq =>
    laid_struct wf hp q hq (Nat.pos_of_ne_zero (hne q.2 (mem_enum hq).1))

end Pepper.EndToEnd
