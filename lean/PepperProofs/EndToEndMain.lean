import PepperProofs.EndToEndAsg
import PepperProofs.EndToEndMfe
import PepperProofs.EndToEndTree
import PepperProofs.EndToEndFinish
/-!
# C06 end to end: the composition

`end_to_end_loaded` chains the stage lemmas for a loaded tree, for either layout: `assignment_of_good` and the layout
fact `startOk_strand` / `startOk_struct` (EndToEndAsg), `processResults_ok` and `output_ok` (EndToEndMfe), `finish_ok`
(EndToEndFinish) over `treeIn_of_load` (EndToEndTree).  C06 `end_to_end`, `end_to_end_component`, `end_to_end_struct`
put C02 / C01 in front: their conclusion is about the design the SOURCE denotes.

Stage 3 is stated on the record list (`mfeRecs`, whose lines carry the opaque `GC` token).  The text level puts the
reader round trip `Finish.finishText_render` behind it, with a float in place of `GC`: `finish_text_of_records`, given
that the records are readable; `EndToEndText.lean` derives that from the compile (it needs the name alphabet).  The
record lists with a float in that field stand at the end of the file.
-/
namespace Pepper.EndToEnd
open Pepper Pepper.Pil Pepper.ConstraintGen Pepper.LinkSpec

theorem pil_complBases : complBases Generated.pilTable = true := by decide

/-- the strings of the strands as `process_results` collects them -/
def strandSeqs (spec : Spec) (asg : Var → Base) : List (String × List Char) :=
  spec.strands.map (fun st => (st.name, spell asg (nucsOfBases st.bases)))

theorem entries_congr {t : CodeTable} {d d' : Design} (h : Comp.DesignEquiv d d') {asg : Var → Base} {out : Finish.Out}
    (he : Entries t d asg out) : Entries t d' asg out := by
  obtain ⟨dom, sq, str, stc, kin, eq⟩ := d
  obtain ⟨dom', sq', str', stc', kin', eq'⟩ := d'
  obtain ⟨rfl, rfl, rfl, rfl, _⟩ := h
  exact ⟨he.strands, he.seqs, he.structs⟩

/-- **The chain for a loaded tree, either layout**, relative to the layout fact that every strand has a start (`started_strand` / `laid_struct`).  Stated against any design `d` equivalent to the
    one the specification denotes (C01 / C02 give the design the SOURCE denotes). -/
theorem end_to_end_loaded {mode : Layout} {Q : Sys.SSrc → Prop} {pfx : String} {inst : Sys.Inst}
    (hL : LoadInv.Loaded (fun c => LoadInv.StmtNamesOk c = true ∧ Comp.CodesOk Generated.nupackTable c = true) Q pfx inst)
    {spec : Spec} (hload : Pil.load Generated.nupackTable (Emit.instStmts inst) {} = .ok spec) {d : Design}
    (hequiv : Comp.DesignEquiv (Pil.denote spec) d) (hn : MfeNamesDistinct spec) {a : Arrays}
    (ha : getConstraints mode spec = .ok a) {nts : List Char} (hg : ArraysGood a nts)
    (hstarted : ∀ q ∈ enum spec.strands, Started (layOf mode spec) q.1) :
    ∃ (asg : Var → Base) (assigned : Mfe.Assigned) (out : Finish.Out),
      Mfe.processResults Generated.pilTable spec (startOf mode spec) nts = .ok (assigned, strandSeqs spec asg) ∧
      Good spec asg assigned ∧
      Mfe.output Generated.pilTable spec assigned (strandSeqs spec asg) = some (mfeLines Generated.pilTable spec asg) ∧
      Finish.apply Generated.dnaTable inst (mfeDesign Generated.pilTable spec asg) = .ok out ∧
      Sat Generated.pilTable d asg ∧ Entries Generated.pilTable d asg out := by
  have wf := load_wf hload
  have ok := load_specCodes hload
  obtain ⟨s, c, hs, hb⟩ := getConstraintsT_ok ha
  obtain ⟨asg, hsat, hasg⟩ := assignment_of_good hload hs hb ha hg
  obtain ⟨assigned, hpr, hgood⟩ :=
    processResults_ok pil_complBases wf (startOk_of_started hload ha hasg hstarted)
  obtain ⟨out, hap, hent⟩ :=
    finish_ok pil_lawful pil_complBases dna_compl wf ok hn (treeIn_of_load hL hload) asg
  have ⟨hdom, _, hstr, hsts, heq⟩ := hequiv
  exact ⟨asg, assigned, out, hpr, hgood, output_ok pil_lawful pil_complBases wf ok hgood, hap,
    DesSys.SatEq.sat_of ⟨hdom, heq, hstr, by rw [hsts]⟩ hsat, entries_congr hequiv hent⟩

open Pepper.Sys Pepper.SysProofs in
theorem loaded_of_file {b : Bundle} {fuel : Nat} {base : String} {args : Nat} {argKey pfx path : String}
    {includes : List String} {anon : Nat} {inst : Inst} {a' : Nat}
    (hfile : Sys.loadFile b fuel base args argKey pfx path includes anon = .ok (inst, a'))
    (hb : bundleOk Generated.nupackTable b = true) :
    LoadInv.Loaded (fun c => LoadInv.StmtNamesOk c = true ∧ Comp.CodesOk Generated.nupackTable c = true)
      (fun s => sysNamesOk s = true) pfx inst :=
  LoadInv.loadFile_loaded
    (fun _ _ hl => ⟨LoadInv.stmtNamesOk_of_user (bundleOk_comp hb hl).1, (bundleOk_comp hb hl).2⟩)
    (fun _ _ hl => bundleOk_sys hb hl) _ _ _ _ _ _ _ _ _ _ hfile

open Pepper.Sys Pepper.SysProofs in
/-- the chain for whatever `load_file` returns (C02 in front): against the design the SOURCE denotes -/
theorem end_to_end_tree {mode : Layout} {b : Bundle} {fuel : Nat} {base : String} {args : Nat}
    {argKey pfx path : String} {includes : List String} {anon : Nat} {inst : Inst} {a' : Nat}
    (hfile : Sys.loadFile b fuel base args argKey pfx path includes anon = .ok (inst, a'))
    (hb : bundleOk Generated.nupackTable b = true)
    {spec : Spec} (hload : Pil.load Generated.nupackTable (Emit.instStmts inst) {} = .ok spec)
    (hn : MfeNamesDistinct spec) {a : Arrays}
    (ha : getConstraints mode spec = .ok a) {nts : List Char} (hg : ArraysGood a nts)
    (hstarted : ∀ q ∈ enum spec.strands, Started (layOf mode spec) q.1) :
    ∃ (d : Design) (ports : List (List Nuc × Bool)) (asg : Var → Base) (assigned : Mfe.Assigned) (out : Finish.Out),
      Denote.denoteFile b fuel base args argKey pfx path includes anon = .ok (d, ports, a') ∧
      Mfe.processResults Generated.pilTable spec (startOf mode spec) nts = .ok (assigned, strandSeqs spec asg) ∧
      Good spec asg assigned ∧
      Mfe.output Generated.pilTable spec assigned (strandSeqs spec asg) = some (mfeLines Generated.pilTable spec asg) ∧
      Finish.apply Generated.dnaTable inst (mfeDesign Generated.pilTable spec asg) = .ok out ∧
      Sat Generated.pilTable d asg ∧ Entries Generated.pilTable d asg out := by
  obtain ⟨d, ports, hden, _, hI⟩ := tree_full Generated.nupackTable b hb fuel base args argKey pfx path includes anon inst a' hfile
  obtain ⟨spec', hload', hequiv, _⟩ := hI.load
  cases hload.symm.trans hload'
  obtain ⟨asg, assigned, out, h⟩ := end_to_end_loaded (loaded_of_file hfile hb) hload hequiv hn ha hg hstarted
  exact ⟨d, ports, asg, assigned, out, hden, h⟩

/-- the chain for one loaded component (C01 in front) -/
theorem end_to_end_comp {mode : Layout} {src : Comp.Src} {n : Nat} {pfx : String} {anon : Nat} {st : Comp.St} {a' : Nat}
    (hcomp : Comp.load src n pfx anon = .ok (st, a'))
    (hnames : Comp.UserNamesOk src = true) (hcodes : Comp.CodesOk Generated.nupackTable src = true)
    {spec : Spec} (hload : Pil.load Generated.nupackTable (Emit.compStmts st) {} = .ok spec)
    (hn : MfeNamesDistinct spec) {a : Arrays}
    (ha : getConstraints mode spec = .ok a) {nts : List Char} (hg : ArraysGood a nts)
    (hstarted : ∀ q ∈ enum spec.strands, Started (layOf mode spec) q.1) :
    ∃ (o : Denote.Out) (ports : List (List Nuc × Bool)) (asg : Var → Base) (assigned : Mfe.Assigned) (out : Finish.Out),
      Denote.denoteComp src pfx anon = .ok (o, ports, a') ∧
      Mfe.processResults Generated.pilTable spec (startOf mode spec) nts = .ok (assigned, strandSeqs spec asg) ∧
      Good spec asg assigned ∧
      Mfe.output Generated.pilTable spec assigned (strandSeqs spec asg) = some (mfeLines Generated.pilTable spec asg) ∧
      Finish.apply Generated.dnaTable (.comp st) (mfeDesign Generated.pilTable spec asg) = .ok out ∧
      Sat Generated.pilTable (o.design []) asg ∧ Entries Generated.pilTable (o.design []) asg out := by
  obtain ⟨spec', o, ports, hload', hden, hequiv, _⟩ :=
    Comp.compile_preserves Generated.nupackTable src n pfx anon st a' hcomp hnames hcodes
  cases hload.symm.trans hload'
  obtain ⟨asg, assigned, out, h⟩ := end_to_end_loaded (Q := fun _ => True)
    (LoadInv.Loaded.comp ⟨LoadInv.stmtNamesOk_of_user hnames, hcodes⟩ hcomp)
    (by rw [Emit.instStmts_comp]; exact hload) hequiv hn ha hg hstarted
  exact ⟨o, ports, asg, assigned, out, hden, h⟩

/-- the records with a float `g` in the GC-content field (the model writes the opaque token `GC` there) -/
def mfeRecsGC (t : CodeTable) (spec : Spec) (asg : Var → Base) (g : List Char) : List (List Char × Finish.Rec) :=
  (mfeRecs t spec asg).map (fun x => (x.1, { x.2 with fields := ["0.000000".toList, g, "0".toList] }))

theorem mfeRecsGC_design (t : CodeTable) (spec : Spec) (asg : Var → Base) (g : List Char) :
    (mfeRecsGC t spec asg g).map (fun x => (x.2.name, x.2.seq)) = mfeDesign t spec asg := by
  unfold mfeRecsGC mfeDesign
  rw [List.map_map]
  rfl

theorem finish_text_of_readable {tF : CodeTable} {rs : List (List Char × Finish.Rec)} {total : List Char}
    (ht : Finish.okWord Finish.isNumChar total = true) (hv : Finish.validFloat total = true)
    (hwf : ∀ x ∈ rs, Finish.wfRec Generated.alphaMfeSeq x = true) (inst : Sys.Inst) (out : Finish.Out) :
    Finish.finishText tF Generated.alphaMfeSeq inst (Finish.render rs total) = .ok out ↔
      Finish.apply tF inst (rs.map (fun x => (x.2.name, x.2.seq))) = .ok out :=
  Finish.finishText_render (by decide) ht hv rs hwf

theorem finish_text_of_records {tF : CodeTable} {t : CodeTable} {spec : Spec} {asg : Var → Base} {g : List Char}
    (hg1 : Finish.okWord Finish.isNumChar g = true) (hg2 : Finish.validFloat g = true)
    (hwf : ∀ x ∈ mfeRecsGC t spec asg g, Finish.wfRec Generated.alphaMfeSeq x = true) (inst : Sys.Inst)
    (out : Finish.Out) :
    Finish.finishText tF Generated.alphaMfeSeq inst (Finish.render (mfeRecsGC t spec asg g) "0.000000".toList) = .ok out ↔
      Finish.apply tF inst (mfeDesign t spec asg) = .ok out := by
  rw [← mfeRecsGC_design t spec asg g]
  exact finish_text_of_readable (by decide) (by decide) hwf inst out

/-- the executable form of `ArraysGood` -/
def arraysGoodB (a : Arrays) (nts : List Char) : Bool :=
  nts.length == a.1.length
  && (List.range a.2.2.length).all (fun i => match a.2.2[i]? with
      | some none => nts[i]? == some ' '
      | some (some ch) => (match (nts[i]?).bind baseOfChar with
          | some b => decide (allows Generated.pilTable ch b)
          | none => false)
      | none => true)
  && (List.range a.1.length).all (fun i => match a.1[i]? with
      | some (some r) => nts[i]? == nts[r]?
      | _ => true)
  && (List.range a.2.1.length).all (fun i => match a.2.1[i]? with
      | some (some w) => (match (nts[i]?).bind baseOfChar, (nts[w]?).bind baseOfChar with
          | some b, some b' => decide (b = b'.compl)
          | _, _ => true)
      | _ => true)

theorem arraysGood_of_check {a : Arrays} {nts : List Char} (h : arraysGoodB a nts = true) : ArraysGood a nts := by
  simp only [arraysGoodB, Bool.and_eq_true, beq_iff_eq, List.all_eq_true, List.mem_range] at h
  obtain ⟨⟨⟨h0, h1⟩, h2⟩, h3⟩ := h
  refine ⟨h0, ?_, ?_, ?_, ?_⟩
  · intro i hi
    have := h1 i (getElem?_lt hi)
    rw [hi] at this
    simpa using this
  · intro i ch hi
    have := h1 i (getElem?_lt hi)
    rw [hi] at this
    simp only at this
    cases hb : (nts[i]?).bind baseOfChar with
    | none => rw [hb] at this; cases this
    | some b =>
      rw [hb] at this
      obtain ⟨c, hn, hc⟩ := Option.bind_eq_some_iff.1 hb
      exact ⟨b, by rw [hn, toChar_of_baseOfChar hc], of_decide_eq_true this⟩
  · intro i r hi
    have := h2 i (getElem?_lt hi)
    rw [hi] at this
    simpa using this
  · intro i w hi b b' hb hb'
    have := h3 i (getElem?_lt hi)
    rw [hi] at this
    simp only [hb, hb', Option.bind_some, baseOfChar_toChar, decide_eq_true_eq] at this
    exact this

end Pepper.EndToEnd

/-! ### the record lists with a float in the GC-content field

`mfeRecsGC` (above: one free token for all records) and `mfeRecsTok` (one free token per record) are `mfeRecs` with
`withGC` applied record by record; `EndToEndText.mfeRecsGc` (GcFloat.lean) carries the token Python prints. -/
namespace Pepper.EndToEndText
open Pepper Pepper.Pil Pepper.ConstraintGen Pepper.LinkSpec Pepper.EndToEnd

theorem map_mapIdx' {α β γ : Type} (g : β → γ) (h : α → γ) (l : List α) (f : Nat → α → β)
    (hf : ∀ i x, g (f i x) = h x) : (l.mapIdx f).map g = l.map h :=
  List.ext_getElem? fun i => by
    simp only [List.getElem?_map, List.getElem?_mapIdx, Option.map_map, Function.comp_def, hf]

theorem mapIdx_const {α β : Type} (f : α → β) (l : List α) : l.mapIdx (fun _ x => f x) = l.map f := by
  rw [← List.map_id (l.mapIdx _)]
  exact map_mapIdx' id f l _ (fun _ _ => rfl)

def withGC (x : List Char × Finish.Rec) (g : List Char) : List Char × Finish.Rec :=
  (x.1, { x.2 with fields := ["0.000000".toList, g, "0".toList] })

def mfeRecsTok (t : CodeTable) (spec : Spec) (asg : Var → Base) (gc : Nat → List Char) :
    List (List Char × Finish.Rec) :=
  (mfeRecs t spec asg).mapIdx (fun i x => withGC x (gc i))

theorem mfeRecsGC_eq (t : CodeTable) (spec : Spec) (asg : Var → Base) (g : List Char) :
    mfeRecsGC t spec asg g = mfeRecsTok t spec asg (fun _ => g) := by
  unfold mfeRecsGC mfeRecsTok withGC
  rw [mapIdx_const]

theorem mfeRecsTok_design (t : CodeTable) (spec : Spec) (asg : Var → Base) (gc : Nat → List Char) :
    (mfeRecsTok t spec asg gc).map (fun x => (x.2.name, x.2.seq)) = mfeDesign t spec asg := by
  unfold mfeRecsTok mfeDesign
  exact map_mapIdx' _ _ _ _ (fun _ _ => rfl)

theorem withGC_mk (num name seq : List Char) (fields : List (List Char)) (s1 s2 g : List Char) :
    withGC (num, ⟨name, seq, fields, s1, s2⟩) g = (num, ⟨name, seq, ["0.000000".toList, g, "0".toList], s1, s2⟩) := rfl

end Pepper.EndToEndText
