import PepperProofs.EndToEnd
/-!
# C06 end to end, the `.mfe` stage

`Mfe.processResults` on a nucleotide string that spells every strand succeeds and leaves a `Good` state
(`processResults_ok`), and only on such a string does it return the strands' letters (`startOk_of_processResults`);
what the writer reads from a `Good` state, with the record printers left open, is `output_reads`; `Mfe.output` writes
exactly the records `mfeRecs` (`output_ok`, its instance; `Mfe.outputGc` is the other, GcFloat.lean).
-/
namespace Pepper.EndToEnd
open Pepper Pepper.Pil Pepper.ConstraintGen Pepper.LinkSpec

variable {t : CodeTable} {spec : Spec} {asg : Var → Base}

theorem viewNucs_not (o : SeqObj) (r : Bool) : viewNucs o (!r) = rc (viewNucs o r) := by
  cases r
  · exact viewNucs_true o
  · simp only [Bool.not_true, viewNucs_true, rc_rc]

theorem forall_view {P : Nuc → Prop} (hP : ∀ n, P n → P n.flip) {o : SeqObj} {r : Bool}
    (h : ∀ n ∈ viewNucs o r, P n) (r' : Bool) : ∀ n ∈ viewNucs o r', P n := by
  by_cases e : r' = r
  · rw [e]; exact h
  · rw [Bool.eq_not_of_ne e, viewNucs_not]; exact forall_rc hP h

theorem nucsOfItem_inv (spec : Spec) (i : ItemRef) : nucsOfItem spec i.inv = rc (nucsOfItem spec i) := by
  unfold nucsOfItem ItemRef.inv
  cases spec.findSeq i.name with
  | none => rfl
  | some o => exact viewNucs_not o i.rev

/-- the items of a view of a super-sequence, as `set_seq` / `get_seq` walk them -/
def viewItems (o : SeqObj) (rev : Bool) : List ItemRef := if rev then o.items.reverse.map ItemRef.inv else o.items

theorem viewNucs_items (wf : SpecWF spec) {o : SeqObj} (ho : o ∈ spec.seqs) (hs : o.isSup = true)
    (rev : Bool) : viewNucs o rev = (viewItems o rev).flatMap (nucsOfItem spec) := by
  have h0 : viewNucs o false = o.items.flatMap (nucsOfItem spec) := by
    rw [viewNucs_false]; exact (wf.sup o ho hs).nucs
  cases rev
  · simpa [viewItems] using h0
  · rw [viewNucs_true, h0, rc_flatMap]
    simp only [viewItems, if_true, List.flatMap_map, nucsOfItem_inv]

theorem viewItems_earlier (wf : SpecWF spec) {o : SeqObj} {k : Nat} (hk : spec.seqs[k]? = some o)
    (hs : o.isSup = true) (rev : Bool) :
    ∀ it ∈ viewItems o rev, ∃ o' j, spec.findSeq it.name = some o' ∧ spec.seqs[j]? = some o' ∧ j < k := by
  intro it hit
  have key : ∀ it ∈ o.items, ∃ o' j, spec.findSeq it.name = some o' ∧ spec.seqs[j]? = some o' ∧ j < k := by
    intro it hit
    obtain ⟨j, o', hj, hjo, hf⟩ := wf.supEarlier k o hk hs it hit
    exact ⟨o', j, hf, hjo, hj⟩
  cases rev
  · exact key it (by simpa [viewItems] using hit)
  · simp only [viewItems, if_true, List.mem_map, List.mem_reverse] at hit
    obtain ⟨it', hit', rfl⟩ := hit
    exact key it' hit'

theorem seqIdx_inj (wf : SpecWF spec) {o : SeqObj} {j k : Nat} (hj : spec.seqs[j]? = some o)
    (hk : spec.seqs[k]? = some o) : j = k := by
  have hj' : (spec.seqs.map (·.name))[j]? = some o.name := by rw [List.getElem?_map, hj]; rfl
  have hk' : (spec.seqs.map (·.name))[k]? = some o.name := by rw [List.getElem?_map, hk]; rfl
  exact nodup_index_unique wf.seqNames hj' hk'

theorem known_viewNucs {t : CodeTable} {spec : Spec} (wf : SpecWF spec) (ok : SpecCodes t spec) {o : SeqObj}
    (ho : o ∈ spec.seqs) (rev : Bool) : ∀ n ∈ viewNucs o rev, Known t (Pil.denote spec) n := by
  obtain ⟨k, hk⟩ := List.getElem?_of_mem ho
  -- the items of a super-sequence sit at smaller indices
  induction k using Nat.strongRecOn generalizing o rev with
  | _ k ih =>
    refine forall_view (fun _ h => h) (r := false) ?_ rev
    cases hs : o.isSup
    · rw [(wf.base o ho hs).2]; exact known_base wf ok ho hs
    · rw [viewNucs_items wf ho hs false]
      intro n hn
      obtain ⟨it, hit, hn⟩ := List.mem_flatMap.1 hn
      obtain ⟨o', j, hf, hj, hlt⟩ := viewItems_earlier wf hk hs false it hit
      rw [nucsOfItem_of_find hf] at hn
      exact ih j hlt (List.mem_of_getElem? hj) it.rev hj n hn

theorem lookup_record (a : Mfe.Assigned) (x n : String) (v : List Char) :
    (a.filter (·.1 != x) ++ [(x, v)]).lookup n = if n = x then some v else a.lookup n := by
  induction a with
  | nil =>
    by_cases h : n = x
    · subst h; simp
    · simp [List.lookup_cons, h, beq_eq_false_iff_ne.2 h]
  | cons p r ih =>
    obtain ⟨k, w⟩ := p
    by_cases hk : k = x
    · subst hk
      by_cases h : n = k
      · subst h; simpa [List.filter_cons] using ih
      · simpa [List.filter_cons, List.lookup_cons, h, beq_eq_false_iff_ne.2 h] using ih
    · by_cases h : n = k
      · subst h; simp [hk]
      · simpa [List.filter_cons, hk, List.lookup_cons, beq_eq_false_iff_ne.2 h] using ih

/-! ### the invariant of `set_seq`

`set_seq` on an object that is already set only compares and hands nothing down.  So that the atomic sequences under
it are set afterwards all the same, one must know that it WAS handed down when it was set: a set object is closed
(`ClosedBelow`), and a step keeps what was set, spells what it sets and closes what it newly sets (`Step`). -/

/-- the atomic sequence of every nucleotide of the region has been set -/
def Cov (a : Mfe.Assigned) (l : List Nuc) : Prop := ∀ m ∈ l, ∃ w, a.lookup m.var.dom = some w ∧ w ≠ []

/-- set values stay -/
def Mono (a a' : Mfe.Assigned) : Prop := ∀ n v, a.lookup n = some v → v ≠ [] → a'.lookup n = some v

/-- every set sequence spells its nucleotides, all of them on strands (`Good.spells`) -/
def Spells (spec : Spec) (asg : Var → Base) (a : Mfe.Assigned) : Prop :=
  ∀ n v, a.lookup n = some v → v ≠ [] → ∃ o, spec.findSeq n = some o ∧ v = spell asg (viewNucs o false) ∧
    ∀ m ∈ viewNucs o false, onStrand (Pil.denote spec) m.var = true

/-- a set object at an index below `b` has been handed down to its atomic sequences.  The bound: `set_seq` records the
    object at index `k` before it sets its parts (all at lower indices), so closure fails at `k` meanwhile -/
def ClosedBelow (spec : Spec) (b : Nat) (a : Mfe.Assigned) : Prop :=
  ∀ n v o j, a.lookup n = some v → v ≠ [] → spec.findSeq n = some o → spec.seqs[j]? = some o → j < b →
    Cov a (viewNucs o false)

/-- what a run of `set_seq` calls that hands the region `l` down does to the state -/
structure Step (spec : Spec) (asg : Var → Base) (a a' : Mfe.Assigned) (l : List Nuc) : Prop where
  sp : Spells spec asg a'
  mono : Mono a a'
  cov : Cov a' l
  /-- a set value of the new state is an old one or has been handed down -/
  rel : ∀ n v, a'.lookup n = some v → v ≠ [] → a.lookup n = some v ∨ ∀ o, spec.findSeq n = some o → Cov a' (viewNucs o false)

theorem Cov.mono {a a' : Mfe.Assigned} {l : List Nuc} (h : Cov a l) (hm : Mono a a') : Cov a' l := by
  intro m hm'
  obtain ⟨w, hw, hne⟩ := h m hm'
  exact ⟨w, hm _ _ hw hne, hne⟩

theorem Cov.append {a : Mfe.Assigned} {l l' : List Nuc} (h : Cov a l) (h' : Cov a l') : Cov a (l ++ l') := by
  intro m hm
  rcases List.mem_append.1 hm with hm | hm
  · exact h m hm
  · exact h' m hm

theorem Step.refl {a : Mfe.Assigned} (hsp : Spells spec asg a) : Step spec asg a a [] :=
  ⟨hsp, fun _ _ h _ => h, fun _ h => (nomatch h), fun _ _ h _ => Or.inl h⟩

theorem Step.trans {a b c : Mfe.Assigned} {l l' : List Nuc}
    (h1 : Step spec asg a b l) (h2 : Step spec asg b c l') : Step spec asg a c (l ++ l') := by
  refine ⟨h2.sp, fun n v h hv => h2.mono n v (h1.mono n v h hv) hv, (h1.cov.mono h2.mono).append h2.cov, ?_⟩
  intro n v h hv
  rcases h2.rel n v h hv with h0 | h0
  · rcases h1.rel n v h0 hv with h00 | h00
    · exact Or.inl h00
    · exact Or.inr (fun o ho => (h00 o ho).mono h2.mono)
  · exact Or.inr h0

theorem ClosedBelow.le {b b' : Nat} {a : Mfe.Assigned} (h : ClosedBelow spec b a) (hb : b' ≤ b) : ClosedBelow spec b' a :=
  fun n v o j h1 h2 h3 h4 h5 => h n v o j h1 h2 h3 h4 (by omega)

theorem ClosedBelow.step {b : Nat} {a a' : Mfe.Assigned} {l : List Nuc}
    (h : ClosedBelow spec b a) (st : Step spec asg a a' l) : ClosedBelow spec b a' := by
  intro n v o j h1 h2 h3 h4 h5
  rcases st.rel n v h1 h2 with h0 | h0
  · exact (h n v o j h0 h2 h3 h4 h5).mono st.mono
  · exact h0 o h3

theorem fwdValue_spell (hB : complBases t = true) (asg : Var → Base) (o : SeqObj) (r : Bool) :
    Mfe.fwdValue t r (spell asg (viewNucs o r)) = .ok (spell asg (viewNucs o false)) := by
  cases r
  · simp [Mfe.fwdValue]
  · simp only [Mfe.fwdValue, if_true, wcStr_spell hB, viewNucs_true, rc_rc]

theorem spell_view_length (wf : SpecWF spec) (asg : Var → Base) {o : SeqObj} (ho : o ∈ spec.seqs) (r : Bool) :
    (spell asg (viewNucs o r)).length = o.len := by
  rw [spell_length, viewNucs_length, wf.seqLen o ho]

theorem spell_strand_length (wf : SpecWF spec) (asg : Var → Base) {st : StrandObj} (hst : st ∈ spec.strands) :
    (spell asg (nucsOfBases st.bases)).length = st.len := by
  rw [spell_length, wf.strandLen st hst]

/-- what `set_seq` on a view of the object at an index below `fuel` does -/
def SeqStep (t : CodeTable) (spec : Spec) (asg : Var → Base) (fuel : Nat) : Prop :=
  ∀ (a : Mfe.Assigned) (i : ItemRef) (o : SeqObj) (k : Nat), spec.findSeq i.name = some o → spec.seqs[k]? = some o → k < fuel →
    (∀ m ∈ viewNucs o false, onStrand (Pil.denote spec) m.var = true) → Spells spec asg a → ClosedBelow spec (k + 1) a →
    ∃ a', Mfe.setSeq t spec fuel a i (spell asg (viewNucs o i.rev)) = .ok a' ∧ Step spec asg a a' (viewNucs o i.rev)

theorem setList_step (wf : SpecWF spec) {fuel : Nat}
    (hS : SeqStep t spec asg fuel) (b : Nat) : ∀ (items : List ItemRef) (a : Mfe.Assigned),
    (∀ it ∈ items, ∃ o j, spec.findSeq it.name = some o ∧ spec.seqs[j]? = some o ∧ j < fuel ∧ j < b) →
    (∀ m ∈ items.flatMap (nucsOfItem spec), onStrand (Pil.denote spec) m.var = true) → Spells spec asg a → ClosedBelow spec b a →
    ∃ a', Mfe.setList t spec fuel a items (spell asg (items.flatMap (nucsOfItem spec))) = .ok a' ∧
      Step spec asg a a' (items.flatMap (nucsOfItem spec)) := by
  intro items
  induction items with
  | nil =>
    intro a _ _ hsp _
    exact ⟨a, by rw [Mfe.setList], Step.refl hsp⟩
  | cons it r ih =>
    intro a hres hon hsp hcl
    obtain ⟨o, j, hf, hj, hjf, hjb⟩ := hres it List.mem_cons_self
    have ho : o ∈ spec.seqs := List.mem_of_getElem? hj
    have hit : nucsOfItem spec it = viewNucs o it.rev := nucsOfItem_of_find hf
    rw [List.flatMap_cons, hit] at hon ⊢
    obtain ⟨a1, he1, st1⟩ := hS a it o j hf hj hjf
      (forall_view (fun _ h => h) (fun m hm => hon m (List.mem_append_left _ hm)) false) hsp (hcl.le (by omega))
    obtain ⟨a2, he2, st2⟩ := ih a1 (fun x hx => hres x (List.mem_cons_of_mem _ hx))
      (fun m hm => hon m (List.mem_append_right _ hm)) st1.sp (hcl.step st1)
    refine ⟨a2, ?_, st1.trans st2⟩
    rw [Mfe.setList]
    simp only [hf, spell_append]
    rw [List.take_left' (spell_view_length wf asg ho it.rev), List.drop_left' (spell_view_length wf asg ho it.rev), he1]
    exact he2

theorem spell_ne_nil {l : List Nuc} {m : Nuc} (h : m ∈ l) : spell asg l ≠ [] := by
  intro e
  rw [List.map_eq_nil_iff.1 e] at h
  cases h

theorem setFresh_step (wf : SpecWF spec) {fuel : Nat}
    (hS : SeqStep t spec asg fuel) {a : Mfe.Assigned} {i : ItemRef} {o : SeqObj} {k : Nat}
    (hf : spec.findSeq i.name = some o) (hk : spec.seqs[k]? = some o) (hkf : k < fuel + 1)
    (hon : ∀ m ∈ viewNucs o false, onStrand (Pil.denote spec) m.var = true) (hsp : Spells spec asg a)
    (hcl : ClosedBelow spec (k + 1) a) (hunset : ∀ w, a.lookup i.name = some w → w = []) :
    ∃ a', Mfe.setFresh t spec fuel a i o (spell asg (viewNucs o i.rev)) (spell asg (viewNucs o false)) = .ok a' ∧
      Step spec asg a a' (viewNucs o i.rev) := by
  have ho : o ∈ spec.seqs := List.mem_of_getElem? hk
  generalize ha1 : a.filter (·.1 != i.name) ++ [(i.name, spell asg (viewNucs o false))] = a1
  have hself : a1.lookup i.name = some (spell asg (viewNucs o false)) := by rw [← ha1, lookup_record, if_pos rfl]
  have hne : ∀ n, n ≠ i.name → a1.lookup n = a.lookup n := by intro n hn; rw [← ha1, lookup_record, if_neg hn]
  have hsp1 : Spells spec asg a1 := by
    intro n v hl hv
    by_cases hn : n = i.name
    · subst hn
      rw [hself] at hl
      exact ⟨o, hf, (Option.some.inj hl).symm, hon⟩
    · rw [hne n hn] at hl; exact hsp n v hl hv
  have hmono1 : Mono a a1 := by
    intro n v hl hv
    by_cases hn : n = i.name
    · subst hn; exact absurd (hunset v hl) hv
    · rw [hne n hn]; exact hl
  -- a step from the recorded state that ends with `o` handed down is a step from `a`
  have lift : ∀ a' l, Step spec asg a1 a' l → Cov a' (viewNucs o false) → Step spec asg a a' (viewNucs o i.rev) := by
    intro a' l st hc
    refine ⟨st.sp, fun n v h hv => st.mono n v (hmono1 n v h hv) hv, forall_view (fun _ h => h) hc i.rev, ?_⟩
    intro n v hl hv
    rcases st.rel n v hl hv with h0 | h0
    · by_cases hn : n = i.name
      · subst hn
        right
        intro o' ho'
        rw [hf] at ho'; cases ho'; exact hc
      · left; rw [← hne n hn]; exact h0
    · exact Or.inr h0
  rw [Mfe.setFresh, ha1]
  cases hs : o.isSup
  · simp only [Bool.not_false, if_true]
    refine ⟨a1, rfl, lift a1 [] (Step.refl hsp1) fun m hm => ⟨_, ?_, spell_ne_nil (asg := asg) hm⟩⟩
    have : m.var.dom = i.name := by
      rw [(wf.base o ho hs).2] at hm
      simp only [fwd, List.mem_map, List.mem_range] at hm
      obtain ⟨x, _, rfl⟩ := hm
      exact (findSeq_mem hf).2
    rw [this]; exact hself
  · simp only [Bool.not_true, Bool.false_eq_true, if_false]
    have hcl1 : ClosedBelow spec k a1 := by
      intro n v o' j h1 h2 h3 h4 h5
      have hn : n ≠ i.name := by
        intro e
        subst e
        rw [hf] at h3; cases h3
        have := seqIdx_inj wf h4 hk
        omega
      rw [hne n hn] at h1
      exact (hcl n v o' j h1 h2 h3 h4 (by omega)).mono hmono1
    have hv := viewNucs_items wf ho hs i.rev
    obtain ⟨a2, he, st⟩ := setList_step wf hS k (viewItems o i.rev) a1
      (by
        intro it hit
        obtain ⟨o', j, h1, h2, h3⟩ := viewItems_earlier wf hk hs i.rev it hit
        exact ⟨o', j, h1, h2, by omega, h3⟩)
      (by rw [← hv]; exact forall_view (fun _ h => h) hon i.rev) hsp1 hcl1
    rw [← hv] at he st
    exact ⟨a2, he, lift a2 _ st (forall_view (fun _ h => h) st.cov false)⟩

theorem setSeq_step (hB : complBases t = true) (wf : SpecWF spec) (asg : Var → Base) :
    ∀ fuel, SeqStep t spec asg fuel := by
  intro fuel
  induction fuel with
  | zero => intro a i o k _ _ hk; omega
  | succ fuel ih =>
    intro a i o k hf hk hkf hon hsp hcl
    have ho : o ∈ spec.seqs := List.mem_of_getElem? hk
    rw [Mfe.setSeq]
    simp only [hf, fwdValue_spell hB]
    simp only [spell_view_length wf asg ho, bne_self_eq_false, Bool.and_false, Bool.false_eq_true, if_false]
    -- nothing recorded, the empty placeholder, or a value
    rcases hl : a.lookup i.name with _ | _ | ⟨c, old⟩
    · exact setFresh_step wf ih hf hk hkf hon hsp hcl (by intro w hw; rw [hl] at hw; cases hw)
    · exact setFresh_step wf ih hf hk hkf hon hsp hcl (by intro w hw; rw [hl] at hw; cases hw; rfl)
    · obtain ⟨o', ho', hv, _⟩ := hsp i.name _ hl (List.cons_ne_nil c old)
      rw [hf] at ho'; cases ho'
      simp only [List.isEmpty_cons, Bool.not_false, if_true]
      simp only [hv, beq_self_eq_true, if_true]
      -- already set: only compared; it was handed down when it was set
      exact ⟨a, rfl, { Step.refl hsp with
        cov := forall_view (fun _ h => h) (hcl i.name _ o k hl (List.cons_ne_nil c old) hf hk (by omega)) i.rev }⟩

theorem setStrand_step (hB : complBases t = true) (wf : SpecWF spec) (asg : Var → Base)
    {st : StrandObj} (hst : st ∈ spec.strands) {a : Mfe.Assigned} (hsp : Spells spec asg a)
    (hcl : ClosedBelow spec spec.seqs.length a) :
    ∃ a', Mfe.setStrand t spec a st (spell asg (nucsOfBases st.bases)) = .ok a' ∧
      Step spec asg a a' (nucsOfBases st.bases) := by
  have hok := wf.strand st hst
  unfold Mfe.setStrand
  simp only [spell_strand_length wf asg hst, bne_self_eq_false, Bool.false_eq_true, if_false]
  rw [hok.nucs]
  apply setList_step wf (setSeq_step hB wf asg (spec.seqs.length + 2)) spec.seqs.length st.items a _ _ hsp hcl
  · intro it hit
    obtain ⟨o, hf⟩ := Option.isSome_iff_exists.1 (hok.resolve it hit)
    obtain ⟨j, hj⟩ := List.getElem?_of_mem (findSeq_mem hf).1
    have hlt : j < spec.seqs.length := (List.getElem?_eq_some_iff.1 hj).1
    exact ⟨o, j, hf, hj, by omega, hlt⟩
  · rw [← hok.nucs]; exact onStrand_of_strand hst

/-- the loop body of `process_results` -/
def prStep (t : CodeTable) (spec : Spec) (start : StrandObj → Option Nat) (nts : List Char)
    (acc : Mfe.Assigned × List (String × List Char)) (st : StrandObj) : Except Mfe.Err (Mfe.Assigned × List (String × List Char)) :=
  match start st with
  | none => Except.error Mfe.Err.index
  | some p =>
    let s := (nts.drop p).take st.len
    if s.length != st.len then Except.error Mfe.Err.index
    else match Mfe.setStrand t spec acc.1 st s with
      | .ok a' => Except.ok (a', acc.2 ++ [(st.name, s)])
      | .error e => Except.error e

theorem processResults_eq (t : CodeTable) (spec : Spec) (start : StrandObj → Option Nat) (nts : List Char) :
    Mfe.processResults t spec start nts = spec.strands.foldlM (prStep t spec start nts) ([], []) := rfl

theorem prLoop (hB : complBases t = true) (wf : SpecWF spec)
    {start : StrandObj → Option Nat} {nts : List Char} (hst : StartOk spec start nts asg) :
    ∀ (L : List StrandObj) (a : Mfe.Assigned) (acc : List (String × List Char)), (∀ st ∈ L, st ∈ spec.strands) →
      Spells spec asg a → ClosedBelow spec spec.seqs.length a →
      ∃ a', L.foldlM (prStep t spec start nts) (a, acc) =
          .ok (a', acc ++ L.map (fun st => (st.name, spell asg (nucsOfBases st.bases)))) ∧
        Step spec asg a a' (L.flatMap (fun st => nucsOfBases st.bases)) := by
  intro L
  induction L with
  | nil =>
    intro a acc _ hsp _
    exact ⟨a, by simp [List.foldlM, pure, Except.pure], Step.refl hsp⟩
  | cons st r ih =>
    intro a acc hL hsp hcl
    have hmem := hL st List.mem_cons_self
    obtain ⟨p, hp, hslice⟩ := hst st hmem
    obtain ⟨a1, he1, st1⟩ := setStrand_step hB wf asg hmem hsp hcl
    obtain ⟨a2, he2, st2⟩ := ih a1 (acc ++ [(st.name, spell asg (nucsOfBases st.bases))])
      (fun x hx => hL x (List.mem_cons_of_mem _ hx)) st1.sp (hcl.step st1)
    refine ⟨a2, ?_, st1.trans st2⟩
    have : prStep t spec start nts (a, acc) st = .ok (a1, acc ++ [(st.name, spell asg (nucsOfBases st.bases))]) := by
      simp only [prStep, hp, hslice, spell_strand_length wf asg hmem, bne_self_eq_false, Bool.false_eq_true, if_false, he1]
    rw [List.foldlM_cons, this, ok_bind, he2, List.append_assoc]
    rfl

theorem processResults_ok {t : CodeTable} (hB : complBases t = true) {spec : Spec} (wf : SpecWF spec)
    {asg : Var → Base} {start : StrandObj → Option Nat} {nts : List Char} (hst : StartOk spec start nts asg) :
    ∃ a, Mfe.processResults t spec start nts =
        .ok (a, spec.strands.map (fun st => (st.name, spell asg (nucsOfBases st.bases)))) ∧ Good spec asg a := by
  obtain ⟨a, he, st⟩ := prLoop hB wf hst spec.strands [] [] (fun _ h => h)
    (fun n v h => by cases h) (fun n v o j h => by cases h)
  refine ⟨a, by rw [processResults_eq, he]; simp, st.sp, ?_⟩
  intro v hv
  obtain ⟨x, hx, n, hn, rfl⟩ := onStrand_iff.1 hv
  simp only [Pil.denote, List.mem_map] at hx
  obtain ⟨s, hs, rfl⟩ := hx
  exact st.cov n (List.mem_flatMap.2 ⟨s, hs, hn⟩)

theorem prLoop_inv {t : CodeTable} {spec : Spec} {start : StrandObj → Option Nat} {nts : List Char} :
    ∀ (L : List StrandObj) (a : Mfe.Assigned) (acc : List (String × List Char)) (a' : Mfe.Assigned)
      (acc' : List (String × List Char)),
      L.foldlM (prStep t spec start nts) (a, acc) = .ok (a', acc') →
      acc' = acc ++ L.map (fun st => (st.name,
          match start st with | some p => (nts.drop p).take st.len | none => [])) ∧
        ∀ st ∈ L, ∃ p, start st = some p
  | [], _, _, _, _, h => by cases h; exact ⟨by simp, fun _ hm => nomatch hm⟩
  | st :: r, a, acc, a', acc', h => by
    rw [List.foldlM_cons] at h
    obtain ⟨⟨a1, acc1⟩, hs, h⟩ := bind_ok h
    obtain ⟨e1, e2⟩ := prLoop_inv r a1 acc1 a' acc' h
    unfold prStep at hs
    split at hs
    · cases hs
    · rename_i p hst
      simp only at hs
      split at hs
      · cases hs
      · split at hs
        · cases hs
          exact ⟨by rw [e1, List.map_cons, hst]; simp, List.forall_mem_cons.2 ⟨⟨p, hst⟩, e2⟩⟩
        · cases hs

theorem startOk_of_processResults {t : CodeTable} {spec : Spec} {start : StrandObj → Option Nat} {nts : List Char}
    {asg : Var → Base} {assigned : Mfe.Assigned}
    (hpr : Mfe.processResults t spec start nts =
      .ok (assigned, spec.strands.map (fun st => (st.name, spell asg (nucsOfBases st.bases))))) :
    StartOk spec start nts asg := by
  rw [processResults_eq] at hpr
  obtain ⟨e1, e2⟩ := prLoop_inv _ _ _ _ _ hpr
  intro st hst
  obtain ⟨p, hp⟩ := e2 st hst
  refine ⟨p, hp, ?_⟩
  rw [List.nil_append] at e1
  have := List.map_inj_left.1 e1 st hst
  simp only [hp, Prod.mk.injEq, true_and] at this
  exact this.symm

/-- an atomic sequence that has not been set is on no strand, so it keeps its template -/
theorem spellT_unset (wf : SpecWF spec) {a : Mfe.Assigned}
    (hg : Good spec asg a) {o : SeqObj} (ho : o ∈ spec.seqs) (hb : o.isSup = false)
    (hunset : ∀ w, a.lookup o.name = some w → w = []) :
    spellT t (Pil.denote spec) asg (viewNucs o false) = o.template := by
  obtain ⟨hlen, hv⟩ := wf.base o ho hb
  rw [hv]
  apply List.ext_getElem
  · simp [spellT, fwd, hlen]
  · intro x h1 h2
    have hx : x < o.len := by omega
    simp only [spellT, fwd, List.map_map, List.getElem_map, List.getElem_range, Function.comp]
    have hoff : onStrand (Pil.denote spec) ⟨o.name, x⟩ = false := by
      cases hon : onStrand (Pil.denote spec) ⟨o.name, x⟩ with
      | false => rfl
      | true =>
        obtain ⟨w, hw, hne⟩ := hg.covers _ hon
        exact absurd (hunset w hw) hne
    simp only [letter, hoff, Bool.false_eq_true, if_false, templateOf_denote wf ho hb hx, List.getElem?_eq_getElem h2]

theorem getSeq_ok {t : CodeTable} (hl : t.lawful = true) (hB : complBases t = true) {spec : Spec} (wf : SpecWF spec)
    (ok : SpecCodes t spec) {asg : Var → Base} {a : Mfe.Assigned} (hg : Good spec asg a) :
    ∀ (fuel k : Nat) (o : SeqObj) (rev : Bool), spec.seqs[k]? = some o → k < fuel →
      Mfe.getSeq t spec a fuel ⟨o.name, rev⟩ = some (spellT t (Pil.denote spec) asg (viewNucs o rev)) := by
  intro fuel
  induction fuel with
  | zero => intro k o rev _ hk; omega
  | succ fuel ih =>
    intro k o rev hk hkf
    have ho : o ∈ spec.seqs := List.mem_of_getElem? hk
    -- a forward value that is the letters of the forward view gives the letters of either view
    have fin : ∀ w, w = spellT t (Pil.denote spec) asg (viewNucs o false) →
        (if rev = true then t.wcStr w else some w) = some (spellT t (Pil.denote spec) asg (viewNucs o rev)) := by
      intro w hw
      subst hw
      cases rev
      · rfl
      · rw [if_pos rfl, wcStr_spellT hl hB asg (known_viewNucs wf ok ho false), viewNucs_true]
    -- the branch where nothing has been set
    have hunsetCase : (∀ w, a.lookup o.name = some w → w = []) →
        (if (!o.isSup) = true then (if rev = true then t.wcStr o.template else some o.template)
         else List.foldlM (fun acc j => Option.map (fun x => acc ++ x) (Mfe.getSeq t spec a fuel j)) []
            (if rev = true then List.map ItemRef.inv o.items.reverse else o.items)) =
          some (spellT t (Pil.denote spec) asg (viewNucs o rev)) := by
      intro hunset
      cases hs : o.isSup
      · simp only [Bool.not_false, if_true]
        exact fin _ (spellT_unset (t := t) wf hg ho hs hunset).symm
      · simp only [Bool.not_true, Bool.false_eq_true, if_false]
        have := foldlM_parts (fun j => Mfe.getSeq t spec a fuel j)
          (fun j => spellT t (Pil.denote spec) asg (nucsOfItem spec j)) (viewItems o rev) [] (by
            intro j hj
            obtain ⟨o', x, h1, h2, h3⟩ := viewItems_earlier wf hk hs rev j hj
            have hn : o'.name = j.name := (findSeq_mem h1).2
            have hj' : j = ⟨o'.name, j.rev⟩ := by cases j; cases hn; rfl
            rw [nucsOfItem_of_find h1, hj']
            exact ih x o' j.rev h2 (by omega))
        rw [viewNucs_items wf ho hs rev, spellT_flatMap]
        simpa [viewItems] using this
    rw [Mfe.getSeq]
    simp only [wf.seqFind o ho]
    rcases hlk : a.lookup o.name with _ | _ | ⟨c, v⟩
    · exact hunsetCase (by intro w hw; rw [hlk] at hw; cases hw)
    · exact hunsetCase (by intro w hw; rw [hlk] at hw; cases hw; rfl)
    · obtain ⟨o', ho', hvs, hon⟩ := hg.spells o.name _ hlk (List.cons_ne_nil c v)
      rw [wf.seqFind o ho] at ho'; cases ho'
      simp only [List.isEmpty_cons, Bool.false_eq_true, if_false]
      exact fin _ (hvs.trans (spellT_eq_spell hon).symm)

theorem lookup_strandVal {spec : Spec} (asg : Var → Base) {sn : String} (h : (spec.findStrand sn).isSome = true) :
    List.lookup sn (spec.strands.map (fun st => (st.name, spell asg (nucsOfBases st.bases)))) =
      some (strandVal spec asg sn) := by
  rw [strandVal, strandNucs_denote]
  unfold Spec.findStrand at h ⊢
  generalize spec.strands = L at h ⊢
  induction L with
  | nil => cases h
  | cons st r ih =>
    rw [List.map_cons, List.lookup_cons]
    rw [List.find?_cons] at h ⊢
    by_cases hn : st.name = sn
    · subst hn; simp
    · rw [beq_eq_false_iff_ne.2 hn] at h ⊢
      rw [beq_eq_false_iff_ne.2 (Ne.symm hn)]
      exact ih h

/-- **what the writer reads from the state**: the loop of `Convert.output` over the structures and the one over the
    sequences, with what is printed per structure (`rs`), per sequence (`rq`) and how the blocks are put together (`F`)
    left open — `Mfe.output` and `Mfe.outputGc` are both of this form -/
theorem output_reads {t : CodeTable} (hl : t.lawful = true) (hB : complBases t = true) {spec : Spec} (wf : SpecWF spec)
    (ok : SpecCodes t spec) {asg : Var → Base} {a : Mfe.Assigned} (hg : Good spec asg a) {γ δ ε : Type}
    (rs : Nat → StructObj → List (List Char) → γ) (rq : Nat → SeqObj → List Char → List Char → δ)
    (F : List γ → List δ → ε) :
    (do let x ← (List.zip (List.range spec.structs.length) spec.structs).mapM (fun (p : Nat × StructObj) => do
          let parts ← p.2.strands.mapM (fun sn =>
            (spec.strands.map (fun st => (st.name, spell asg (nucsOfBases st.bases)))).lookup sn)
          pure (rs p.1 p.2 parts))
        let y ← (List.zip (List.range spec.seqs.length) spec.seqs).mapM (fun (p : Nat × SeqObj) => do
          let s ← Mfe.getSeq t spec a (spec.seqs.length + 2) ⟨p.2.name, false⟩
          let w ← t.wcStr s
          pure (rq p.1 p.2 s w))
        pure (F x y)) =
      some (F ((List.zip (List.range spec.structs.length) spec.structs).map
                (fun p => rs p.1 p.2 (p.2.strands.map (strandVal spec asg))))
              ((List.zip (List.range spec.seqs.length) spec.seqs).map
                (fun p => rq p.1 p.2 (spellT t (Pil.denote spec) asg (viewNucs p.2 false))
                  (spellT t (Pil.denote spec) asg (viewNucs p.2 true))))) := by
  refine mapM_mapM_some ?_ ?_
  · intro ⟨n, so⟩ hp
    have hso : so ∈ spec.structs := (List.of_mem_zip hp).2
    simp only
    rw [mapM_option_some_of_forall (g := strandVal spec asg) (fun sn hsn => lookup_strandVal asg ((wf.struct so hso).1 sn hsn))]
    rfl
  · intro ⟨n, o⟩ hp
    have ho : o ∈ spec.seqs := (List.of_mem_zip hp).2
    obtain ⟨k, hk⟩ := List.getElem?_of_mem ho
    have hlt : k < spec.seqs.length := (List.getElem?_eq_some_iff.1 hk).1
    simp only
    rw [getSeq_ok hl hB wf ok hg (spec.seqs.length + 2) k o false hk (by omega)]
    simp only [bind, Option.bind]
    rw [wcStr_spellT hl hB asg (known_viewNucs wf ok ho false), ← viewNucs_true]
    rfl

theorem renderRec_strings (num name : String) (seq s1 s2 : List Char) (fields : List (List Char)) :
    (Finish.renderRec num.toList ⟨name.toList, seq, fields, s1, s2⟩).map String.ofList =
      [num ++ ":" ++ name, String.ofList (seq ++ fields.flatMap (' ' :: ·)), String.ofList s1, String.ofList s2] := by
  simp only [Finish.renderRec, List.map_cons, List.map_nil]
  rw [show num.toList ++ ':' :: name.toList = num.toList ++ ([':'] ++ name.toList) from rfl, String.ofList_append,
    String.ofList_append, String.ofList_toList, String.ofList_toList, String.append_assoc]

theorem record_eq (n : Nat) (name : String) (seq s1 s2 : List Char) :
    Mfe.record n name seq s1 s2 =
      (Finish.renderRec (toString n).toList ⟨name.toList, seq, mfeFields, s1, s2⟩).map String.ofList := by
  have e : String.ofList (mfeFields.flatMap (' ' :: ·)) = " 0.000000 GC 0" := by decide +kernel
  rw [renderRec_strings, String.ofList_append, e]
  rfl

theorem output_ok {t : CodeTable} (hl : t.lawful = true) (hB : complBases t = true) {spec : Spec} (wf : SpecWF spec)
    (ok : SpecCodes t spec) {asg : Var → Base} {a : Mfe.Assigned} (hg : Good spec asg a) :
    Mfe.output t spec a (spec.strands.map (fun st => (st.name, spell asg (nucsOfBases st.bases)))) =
      some (mfeLines t spec asg) := by
  refine (output_reads hl hB wf ok hg
    (fun n so parts => Mfe.record n so.name (Mfe.joinPlus parts) so.struct so.struct)
    (fun n o s w => Mfe.record (n + spec.structs.length) o.name s (List.replicate o.len '.') (List.replicate o.len '.')
      ++ Mfe.record 0 (o.name ++ "*") w (List.replicate o.len '.') (List.replicate o.len '.'))
    (fun x y => x.flatten ++ y.flatten ++ ["Total n(s*) = 0.000000"])).trans (congrArg some ?_)
  unfold mfeLines Finish.renderLines mfeRecs
  rw [List.map_append, List.flatMap_append, List.map_append, List.flatMap_map, List.flatMap_assoc,
    List.map_flatMap, List.map_flatMap, List.flatMap_def, List.flatMap_def]
  simp only [List.flatMap_cons, List.flatMap_nil, List.append_nil, List.map_append, ← record_eq]
  rfl

end Pepper.EndToEnd
