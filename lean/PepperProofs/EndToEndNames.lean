import PepperProofs.EndToEnd
import PepperProofs.ConstraintGenLoad
import PepperProofs.SysPil
/-!
# C06 end to end: the names of the `.mfe` records of a loaded tree are pairwise distinct (`mfeNamesDistinct_of_tree`)

No `sequence` / `sup-sequence` statement of a loaded tree carries a name ending in `*` (`seqNames_noStar_of_loaded`;
with `load_seqNames` this covers every sequence name of the loaded specification), and the loader rejects duplicate
names; so the record names are distinct once no structure is named like a (starred) sequence.
-/
namespace Pepper.EndToEnd
open Pepper Pepper.Pil

def seqNameOf : Stmt → Option String
  | .seq n _ => some n
  | .sup n _ => some n
  | _ => none

theorem _root_.Pepper.Pil.Adds.seqNames {tbl : CodeTable} {s δ : Spec} {st : Stmt} (h : Adds tbl s st δ) :
    δ.seqs.map (·.name) = (seqNameOf st).toList := by
  cases h <;> rfl

theorem load_seqNames {tbl : CodeTable} : ∀ (ys : List Stmt) (s0 s1 : Spec), Pil.load tbl ys s0 = .ok s1 →
    s1.seqs.map (·.name) = s0.seqs.map (·.name) ++ ys.filterMap seqNameOf := by
  intro ys
  induction ys with
  | nil =>
    intro s0 s1 h
    cases h
    simp
  | cons x r ih =>
    intro s0 s1 h
    obtain ⟨sa, ha, h⟩ := load_cons_inv h
    obtain ⟨δ, rfl, hδ⟩ := add_eq_ok.1 ha
    rw [ih _ s1 h, SysProofs.specAppend, List.map_append, hδ.seqNames, List.append_assoc, List.filterMap_cons]
    cases seqNameOf x <;> rfl

/-- the genuine content of the known finding F13: no structure is named like a sequence or a starred sequence -/
def StructSeqApart (spec : Spec) : Prop :=
  ∀ so ∈ spec.structs, ∀ o ∈ spec.seqs, so.name ≠ o.name ∧ so.name ≠ o.name ++ "*"

instance (spec : Spec) : Decidable (StructSeqApart spec) := by unfold StructSeqApart; infer_instance

def NoStar (n : String) : Prop := ∀ m : String, n ≠ m ++ "*"

theorem noStar_of_endsOk {n : String} (h : Comp.endsOk n = true) (p : String) : NoStar (p ++ n) := by
  intro m heq
  have h1 := congrArg (fun s => s.toList.reverse) heq
  simp only [String.toList_append, List.reverse_append] at h1
  have hs : "*".toList.reverse = ['*'] := by decide
  rw [hs] at h1
  unfold Comp.endsOk at h
  cases hr : n.toList.reverse with
  | nil => rw [hr] at h; cases h
  | cons c r =>
    rw [hr] at h h1
    simp only [List.cons_append, List.nil_append, List.cons.injEq] at h1
    simp only [bne_iff_ne, ne_eq] at h
    exact h h1.1

theorem seqNames_noStar_of_loaded {P : Comp.Src → Prop} (hP : ∀ c, P c → LoadInv.StmtNamesOk c = true) {pfx : String}
    {inst : Sys.Inst} (hL : LoadInv.Loaded P (fun s => SysProofs.sysNamesOk s = true) pfx inst) :
    ∀ st ∈ Emit.instStmts inst, ∀ n, seqNameOf st = some n → NoStar n := by
  induction hL with
  | comp hPc hload =>
    rename_i c k pfx a s a'
    intro st hst n hn
    have hw : Comp.WF s a' := (LoadInv.load_inv_all hload (hP c hPc)).1.wf
    rw [Emit.instStmts_comp] at hst
    -- a `sequence` or `sup-sequence` statement carries the name of an entry of `s.seqs` behind the prefix
    rcases Emit.mem_compStmts.1 hst with ⟨e, he, rfl⟩ | ⟨e, he, rfl⟩ | ⟨t, ht, rfl⟩ | ⟨e, he, rfl⟩
    · cases hn; exact noStar_of_endsOk (hw.seqs.entries e ((Comp.mem_baseF s e).1 he).1).nameOk _
    · cases hn; exact noStar_of_endsOk (hw.seqs.entries e ((Comp.mem_supF s e).1 he).1).nameOk _
    · cases hn
    · cases hn
  | sys hQ hsub hinv hio ih =>
    intro st hst n hn
    rw [Emit.instStmts_sys, Emit.sysStmts_eq] at hst
    rcases List.mem_append.1 hst with hst | hst
    · obtain ⟨c, hc, hs⟩ := List.mem_flatMap.1 (Emit.compsStmts_eq _ ▸ hst)
      exact ih c hc st hs n hn
    · simp only [List.mem_flatMap] at hst
      obtain ⟨x, hx, hsx⟩ := hst
      simp only [Emit.sigStmts, List.mem_cons, List.mem_nil_iff, or_false] at hsx
      rcases hsx with rfl | rfl
      · simp only [seqNameOf, Option.some.injEq] at hn
        subst hn
        have hok := SysProofs.sigNameOk_of_stmts (List.all_eq_true.1 hQ) x.1 (hinv.sigIn x hx)
        simp only [SysProofs.sigNameOk, Bool.and_eq_true] at hok
        exact noStar_of_endsOk hok.1 _
      · cases hn

theorem mfeNamesDistinct_of_tree {tbl : CodeTable} {pfx : String} {inst : Sys.Inst}
    (hL : LoadInv.Loaded (fun c => LoadInv.StmtNamesOk c = true ∧ Comp.CodesOk tbl c = true)
      (fun s => SysProofs.sysNamesOk s = true) pfx inst)
    {spec : Spec} (hload : Pil.load tbl (Emit.instStmts inst) {} = .ok spec) (h : StructSeqApart spec) :
    MfeNamesDistinct spec := by
  have hns : ∀ o ∈ spec.seqs, NoStar o.name := by
    intro o ho
    have hm : o.name ∈ spec.seqs.map (·.name) := List.mem_map.2 ⟨o, ho, rfl⟩
    rw [load_seqNames _ _ _ hload] at hm
    simp only [List.map_nil, List.nil_append, List.mem_filterMap] at hm
    obtain ⟨st, hst, hn⟩ := hm
    exact seqNames_noStar_of_loaded (fun _ h => h.1) hL st hst o.name hn
  unfold MfeNamesDistinct mfeNames
  rw [List.nodup_append]
  refine ⟨load_structNames_nodup _ _ _ hload (by simp), ?_, ?_⟩
  · apply nodup_flatMap_pair (fun o : SeqObj => o.name) (fun o : SeqObj => o.name ++ "*")
    · exact (ConstraintGen.load_wf hload).seqNames
    · intro a ha b _
      exact hns a ha b.name
    · intro a _ b _ hab
      exact (String.append_left_inj _).1 hab
  · intro a ha b hb hab
    obtain ⟨so, hso, rfl⟩ := List.mem_map.1 ha
    simp only [List.mem_flatMap, List.mem_cons, List.mem_nil_iff, or_false] at hb
    obtain ⟨o, ho, hbo⟩ := hb
    have := h so hso o ho
    rcases hbo with rfl | rfl
    · exact this.1 hab
    · exact this.2 hab

end Pepper.EndToEnd
