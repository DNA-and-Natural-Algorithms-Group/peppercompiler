import PepperProofs.EndToEndMain
import PepperProofs.ParsePilLoad
/-!
# C06 end to end, at the level of the `.mfe` TEXT: the records a compiled program's `.mfe` carries are readable

`Finish.wfRec α` is what the `.mfe` reader (`nupack_out_grammar.document`) needs of a record.  This file derives it for
the records `mfeRecs` of a compiled program, through the condition `SpecReadable` on the loaded specification:
`Pil.load` keeps it (`load_readable`), and the statements a compiled component / tree emits establish it — zero-length
sequences are NOT emitted (`Emit.compStmts` filters them, as `compiler.py` does), a super-sequence / strand of
non-zero length has a non-dummy item, strands and signals of length 0 are refused by the compiler (`LoadInv.load_NZ`,
`SysInv.lensPos`).  Results: `specReadable_of_tree`, `rec_readable` / `recs_readable`, `finish_text_tokens`;
`nameChar_var` is where the `.pil` reader's name alphabet meets the `.mfe` reader's `isVarChar`.
-/
namespace Pepper.EndToEndText
open Pepper Pepper.Pil Pepper.ConstraintGen Pepper.LinkSpec Pepper.EndToEnd

/-- **what the `.mfe` reader needs of a loaded specification** (decidable): every sequence name and structure name is
    non-empty over `[A-Za-z0-9_-]`; no sequence and no strand has length 0; every structure has a strand and a
    non-empty text over `.()+` -/
def specReadable (spec : Spec) : Bool :=
  spec.seqs.all (fun o => ParsePil.nameOk o.name && o.len != 0) &&
  spec.strands.all (fun o => o.len != 0) &&
  spec.structs.all (fun so => ParsePil.nameOk so.name && !so.strands.isEmpty && !so.struct.isEmpty &&
    so.struct.all Finish.isStructChar)

structure SpecReadable (spec : Spec) : Prop where
  seqs : ∀ o ∈ spec.seqs, ParsePil.nameOk o.name = true ∧ o.len ≠ 0
  strands : ∀ o ∈ spec.strands, o.len ≠ 0
  structs : ∀ so ∈ spec.structs, ParsePil.nameOk so.name = true ∧ so.strands ≠ [] ∧ so.struct ≠ [] ∧
    so.struct.all Finish.isStructChar = true

theorem specReadable_iff {spec : Spec} : specReadable spec = true ↔ SpecReadable spec := by
  simp only [specReadable, Bool.and_eq_true, List.all_eq_true, bne_iff_ne, ne_eq, Bool.not_eq_true',
    List.isEmpty_eq_false_iff]
  constructor
  · rintro ⟨⟨h1, h2⟩, h3⟩
    exact ⟨h1, h2, fun so hso => ⟨(h3 so hso).1.1.1, (h3 so hso).1.1.2, (h3 so hso).1.2, List.all_eq_true.2 (h3 so hso).2⟩⟩
  · rintro ⟨h1, h2, h3⟩
    exact ⟨⟨h1, h2⟩, fun so hso => ⟨⟨⟨(h3 so hso).1, (h3 so hso).2.1⟩, (h3 so hso).2.2.1⟩, List.all_eq_true.1 (h3 so hso).2.2.2⟩⟩

theorem okWord_nat (n : Nat) : Finish.okWord Char.isDigit (toString n).toList = true :=
  Finish.okWord_iff.2 (toString_nat_spec n)

theorem nameChar_var {c : Char} (h : ParsePil.isNameChar c = true) : Finish.isVarChar c = true := by
  simp only [ParsePil.isNameChar, Finish.isVarChar, Bool.or_eq_true] at h ⊢
  exact Or.inl h

theorem okWord_name {s : String} (h : ParsePil.nameOk s = true) (star : Bool) :
    Finish.okWord Finish.isVarChar (if star then s ++ "*" else s).toList = true := by
  simp only [ParsePil.nameOk, Bool.and_eq_true, Bool.not_eq_true', List.isEmpty_eq_false_iff, List.all_eq_true] at h
  rw [Finish.okWord_iff]
  cases star
  · exact ⟨h.1, fun c hc => nameChar_var (h.2 c hc)⟩
  · simp only [if_true, String.toList_append]
    refine ⟨fun hn => h.1 (List.append_eq_nil_iff.1 hn).1, fun c hc => ?_⟩
    rcases List.mem_append.1 hc with hc | hc
    · exact nameChar_var (h.2 c hc)
    · have : ∀ c ∈ "*".toList, Finish.isVarChar c = true := by decide
      exact this c hc

theorem isCode_alpha {c : Char} (h : Generated.pilTable.isCode c = true) : Generated.alphaMfeSeq.contains c = true :=
  code_alpha c (assoc_isSome_mem _ c h)

theorem base_alpha (b : Base) : Generated.alphaMfeSeq.contains b.toChar = true := by cases b <;> decide

theorem mem_joinPlus {c : Char} : ∀ {l : List (List Char)}, c ∈ Mfe.joinPlus l → c = '+' ∨ ∃ x ∈ l, c ∈ x
  | [], h => nomatch h
  | [x], h => Or.inr ⟨x, by simp, h⟩
  | x :: y :: r, h => by
    simp only [Mfe.joinPlus, List.mem_append, List.mem_cons] at h
    rcases h with h | h | h
    · exact Or.inr ⟨x, by simp, h⟩
    · exact Or.inl h
    · rcases mem_joinPlus (l := y :: r) h with h | ⟨z, hz, hc⟩
      · exact Or.inl h
      · exact Or.inr ⟨z, List.mem_cons_of_mem _ hz, hc⟩

theorem joinPlus_ne_nil {l : List (List Char)} (hl : l ≠ []) (h : ∀ x ∈ l, x ≠ []) : Mfe.joinPlus l ≠ [] := by
  cases l with
  | nil => exact absurd rfl hl
  | cons x r =>
    cases r with
    | nil => exact h x (by simp)
    | cons y r' => simp [Mfe.joinPlus]

theorem strandVal_ne_nil {spec : Spec} (wf : SpecWF spec) (hz : ∀ o ∈ spec.strands, o.len ≠ 0) (asg : Var → Base)
    {sn : String} (hs : (spec.findStrand sn).isSome = true) : strandVal spec asg sn ≠ [] := by
  obtain ⟨st, hst⟩ := Option.isSome_iff_exists.1 hs
  have hm := (findStrand_mem hst).1
  intro hnil
  have hl := congrArg List.length hnil
  unfold strandVal at hl
  rw [spell_length, strandNucs_denote, hst] at hl
  simp only [List.length_nil] at hl
  rw [wf.strandLen st hm] at hl
  exact hz st hm hl

theorem structVals_ne_nil {spec : Spec} (wf : SpecWF spec) (hr : SpecReadable spec) (asg : Var → Base)
    {so : StructObj} (hso : so ∈ spec.structs) :
    so.strands.map (strandVal spec asg) ≠ [] ∧ ∀ v ∈ so.strands.map (strandVal spec asg), v ≠ [] := by
  refine ⟨by simpa using (hr.structs so hso).2.1, fun v hv => ?_⟩
  obtain ⟨sn, hsn, rfl⟩ := List.mem_map.1 hv
  exact strandVal_ne_nil wf hr.strands asg ((wf.struct so hso).1 sn hsn)

theorem wfRec_withGC {α num name seq s1 s2 g : List Char} {fields : List (List Char)}
    (h1 : Finish.okWord Char.isDigit num = true) (h2 : Finish.okWord Finish.isVarChar name = true)
    (h3 : Finish.okWord (α.contains ·) seq = true)
    (hg1 : Finish.okWord Finish.isNumChar g = true) (hg2 : Finish.validFloat g = true)
    (h4 : Finish.okWord Finish.isStructChar s1 = true) (h5 : Finish.okWord Finish.isStructChar s2 = true) :
    Finish.wfRec α (withGC (num, ⟨name, seq, fields, s1, s2⟩) g) = true := by
  simp only [Finish.wfRec, withGC, Bool.and_eq_true]
  exact ⟨⟨⟨⟨⟨h1, h2⟩, h3⟩, ⟨⟨⟨⟨by decide, by decide⟩, hg1⟩, hg2⟩, by decide⟩⟩, h4⟩, h5⟩

theorem rec_readable {spec : Spec} (wf : SpecWF spec) (ok : SpecCodes Generated.pilTable spec)
    (hr : SpecReadable spec) (asg : Var → Base) {x : List Char × Finish.Rec}
    (hx : x ∈ mfeRecs Generated.pilTable spec asg) {g : List Char}
    (hg1 : Finish.okWord Finish.isNumChar g = true) (hg2 : Finish.validFloat g = true) :
    Finish.wfRec Generated.alphaMfeSeq (withGC x g) = true := by
  unfold mfeRecs at hx
  rcases List.mem_append.1 hx with h | h
  · obtain ⟨p, hp, rfl⟩ := List.mem_map.1 h
    have hso : p.2 ∈ spec.structs := (List.of_mem_zip hp).2
    obtain ⟨hname, _, hs1, hs2⟩ := hr.structs p.2 hso
    obtain ⟨hne, hall⟩ := structVals_ne_nil wf hr asg hso
    have hst := Finish.okWord_iff.2 ⟨hs1, List.all_eq_true.1 hs2⟩
    refine wfRec_withGC (okWord_nat _) (okWord_name hname false)
      (Finish.okWord_iff.2 ⟨joinPlus_ne_nil hne hall, fun c hc => ?_⟩) hg1 hg2 hst hst
    rcases mem_joinPlus hc with rfl | ⟨v, hv, hcv⟩
    · decide
    · obtain ⟨sn, _, rfl⟩ := List.mem_map.1 hv
      simp only [strandVal, spell, List.mem_map] at hcv
      obtain ⟨m, _, rfl⟩ := hcv
      exact base_alpha _
  · obtain ⟨p, hp, hx⟩ := List.mem_flatMap.1 h
    have ho : p.2 ∈ spec.seqs := (List.of_mem_zip hp).2
    obtain ⟨hname, hlen⟩ := hr.seqs p.2 ho
    have hdots : Finish.okWord Finish.isStructChar (List.replicate p.2.len '.') = true := by
      rw [Finish.okWord_iff]
      refine ⟨fun h => hlen (by simpa using congrArg List.length h), fun c hc => ?_⟩
      rw [List.eq_of_mem_replicate hc]; decide
    -- the plain and the starred record at once
    have both : ∀ (star : Bool) (n : Nat), Finish.wfRec Generated.alphaMfeSeq (withGC ((toString n).toList,
        ⟨(if star then p.2.name ++ "*" else p.2.name).toList,
          spellT Generated.pilTable (Pil.denote spec) asg (viewNucs p.2 star), mfeFields,
          List.replicate p.2.len '.', List.replicate p.2.len '.'⟩) g) = true := by
      intro star n
      refine wfRec_withGC (okWord_nat n) (okWord_name hname star) (Finish.okWord_iff.2 ⟨?_, ?_⟩) hg1 hg2 hdots hdots
      · intro h
        have := congrArg List.length h
        rw [spellT_length, viewNucs_length, wf.seqLen p.2 ho] at this
        exact hlen this
      · intro c hc
        simp only [spellT, List.mem_map] at hc
        obtain ⟨m, hm, rfl⟩ := hc
        exact isCode_alpha (letter_isCode pil_lawful pil_complBases asg (known_viewNucs wf ok ho star m hm))
    simp only [List.mem_cons, List.mem_nil_iff, or_false] at hx
    rcases hx with rfl | rfl
    · exact both false _
    · exact both true _

theorem recs_readable {spec : Spec} (wf : SpecWF spec) (ok : SpecCodes Generated.pilTable spec)
    (hr : SpecReadable spec) (asg : Var → Base) {gc : Nat → List Char}
    (hgc : ∀ i, Finish.okWord Finish.isNumChar (gc i) = true ∧ Finish.validFloat (gc i) = true) :
    ∀ x ∈ mfeRecsTok Generated.pilTable spec asg gc, Finish.wfRec Generated.alphaMfeSeq x = true := by
  intro x hx
  unfold mfeRecsTok at hx
  obtain ⟨i, hi, rfl⟩ := List.mem_mapIdx.1 hx
  exact rec_readable wf ok hr asg (List.getElem_mem hi) (hgc i).1 (hgc i).2

/-- **the zero-length clause is necessary**: a sequence of length 0 in the specification makes its record unreadable
    (the reader's `seq = Word(…)` needs one letter; and the real `Convert.output` divides by `seq.length`) -/
theorem unreadable_of_zero {spec : Spec} (wf : SpecWF spec) {o : SeqObj} (ho : o ∈ spec.seqs) (hz : o.len = 0)
    (t : CodeTable) (asg : Var → Base) (g : List Char) :
    ∃ x ∈ mfeRecsGC t spec asg g, Finish.wfRec Generated.alphaMfeSeq x = false := by
  obtain ⟨k, hzip⟩ := mem_zip_range ho
  unfold mfeRecsGC mfeRecs
  refine ⟨_, List.mem_map.2 ⟨_, List.mem_append_right _ (List.mem_flatMap.2 ⟨(k, o), hzip, List.mem_cons_self⟩), rfl⟩, ?_⟩
  have hnil : spellT t (Pil.denote spec) asg (viewNucs o false) = [] :=
    List.eq_nil_of_length_eq_zero (by rw [spellT_length, wf.seqLen o ho, hz])
  simp [Finish.wfRec, hnil, Finish.okWord]

def StmtReadable : Pil.Stmt → Prop
  | .seq n t => ParsePil.nameOk n = true ∧ t ≠ []
  | .sup n its => ParsePil.nameOk n = true ∧ its ≠ []
  | .strand _ _ its => its ≠ []
  | .struct n _ _ st => ParsePil.nameOk n = true ∧ st ≠ []
  | _ => True

theorem sum_lens_ne_zero {s : Spec} (hs : ∀ o ∈ s.seqs, o.len ≠ 0) {items : List String}
    {R : List (ItemRef × SeqObj)} (h : resolveItems s items = .ok R) (hne : items ≠ []) :
    (R.map (fun x => x.2.len)).sum ≠ 0 := by
  have hmem := WellFormed.resolveItems_find h
  cases items with
  | nil => exact absurd rfl hne
  | cons x xs =>
    obtain ⟨p, _, h⟩ := bind_ok h
    obtain ⟨r, _, h⟩ := bind_ok h
    cases h
    have := hs p.2 (findSeq_mem (hmem p (by simp))).1
    simp only [List.map_cons, List.sum_cons]
    omega

theorem add_readable {tbl : CodeTable} {s s' : Spec} {st : Stmt} (hr : SpecReadable s)
    (hst : StmtReadable st) (h : s.add tbl st = .ok s') : SpecReadable s' := by
  have hlen := fun o ho => (hr.seqs o ho).2
  obtain ⟨δ, rfl, hδ⟩ := add_eq_ok.1 h
  cases hδ with
  | seq =>
    rw [SysProofs.specAppend_seq]
    exact ⟨forall_mem_snoc hr.seqs ⟨hst.1, fun hz => hst.2 (List.eq_nil_of_length_eq_zero hz)⟩, hr.strands,
      hr.structs⟩
  | sup _ resolved =>
    rw [SysProofs.specAppend_seq]
    exact ⟨forall_mem_snoc hr.seqs ⟨hst.1, sum_lens_ne_zero hlen resolved hst.2⟩, hr.strands, hr.structs⟩
  | strand _ resolved =>
    rw [SysProofs.specAppend_strand]
    exact ⟨hr.seqs, forall_mem_snoc hr.strands (sum_lens_ne_zero hlen resolved hst), hr.structs⟩
  | struct =>
    obtain ⟨hch, hss⟩ := ParsePil.add_struct_shape h
    rw [SysProofs.specAppend_struct]
    exact ⟨hr.seqs, hr.strands, forall_mem_snoc hr.structs ⟨hst.1, by simpa using hss, hst.2, hch⟩⟩
  | equal =>
    rw [SysProofs.specAppend_equal]
    exact ⟨hr.seqs, hr.strands, hr.structs⟩
  | kinetic =>
    rw [SysProofs.specAppend_nil_right]
    exact hr

theorem load_readable {tbl : CodeTable} (ys : List Stmt) (s0 s1 : Spec) (h : Pil.load tbl ys s0 = .ok s1)
    (hst : ∀ st ∈ ys, StmtReadable st) (hr : SpecReadable s0) : SpecReadable s1 :=
  load_invariant SpecReadable ys (fun _ st _ hm hr ha => add_readable hr (hst st hm) ha) hr h

theorem specReadable_empty : SpecReadable {} :=
  ⟨fun _ h => (nomatch h), fun _ h => (nomatch h), fun _ h => (nomatch h)⟩

theorem items_ne_nil : ∀ {l : List Comp.ItemRef}, (l.map (·.len)).sum ≠ 0 → l.filter (!·.dummy) ≠ []
  | [], h => absurd rfl h
  | i :: r, h => by
    by_cases hi : i.len = 0
    · simpa [List.filter_cons, Comp.ItemRef.dummy, hi] using items_ne_nil (l := r) (by simpa [hi] using h)
    · simp [Comp.ItemRef.dummy, hi]

theorem compStmts_readable {s : Comp.St} {a : Nat} (hw : Comp.WF s a) (hn : ParsePil.compNamesOk s = true)
    (hz : LoadInv.NZ s) : ∀ st ∈ Emit.compStmts s, StmtReadable st := by
  simp only [ParsePil.compNamesOk, Bool.and_eq_true, List.all_eq_true] at hn
  obtain ⟨⟨⟨⟨h1, h2⟩, _⟩, h4⟩, _⟩ := hn
  intro st hst
  rcases Emit.mem_compStmts.1 hst with ⟨e, he, rfl⟩ | ⟨e, he, rfl⟩ | ⟨t, ht, rfl⟩ | ⟨e, he, rfl⟩
  · obtain ⟨hel, hb, hlen⟩ := (Comp.mem_baseF s e).mp he
    obtain ⟨_, hc, _⟩ := (hw.seqs.entries e hel).base hb
    refine And.intro (h1 e he) (fun hnil => hlen ?_)
    rw [← hc, hnil]; rfl
  · obtain ⟨hel, hsup, hlen⟩ := (Comp.mem_supF s e).mp he
    obtain ⟨_, _, hsum, _⟩ := (hw.seqs.entries e hel).sup hsup
    exact And.intro (h2 e he).1
      (fun hnil => items_ne_nil (by rw [← hsum]; exact hlen) (List.map_eq_nil_iff.1 hnil))
  · intro hnil
    exact items_ne_nil (by rw [← (hw.strands t ht).len]; exact hz.1 t ht) (List.map_eq_nil_iff.1 hnil)
  · exact And.intro (h4 e he).1.1 (hz.2 e he)

theorem instNamesOk_of_mem : ∀ {comps : List (String × Sys.Inst)}, ParsePil.compsNamesOk comps = true →
    ∀ c ∈ comps, ParsePil.instNamesOk c.2 = true
  | [], _, _, hc => nomatch hc
  | (n, i) :: r, h, c, hc => by
    simp only [ParsePil.compsNamesOk, Bool.and_eq_true] at h
    rcases List.mem_cons.1 hc with rfl | hc
    · exact h.1
    · exact instNamesOk_of_mem h.2 c hc

open Pepper.Sys Pepper.LoadInv in
/-- the statements a loaded tree emits are readable: the components' statements, and for every signal a connector
    sequence `pfx ++ signal` of the signal's length, which is not 0 (`system_class.py`: "Dummy signals are not
    allowed") -/
theorem instStmts_readable {Q : Sys.SSrc → Prop} {pfx : String} {inst : Sys.Inst}
    (hL : Loaded (fun c => StmtNamesOk c = true) Q pfx inst) :
    ParsePil.instNamesOk inst = true → ∀ st ∈ Emit.instStmts inst, StmtReadable st := by
  induction hL with
  | comp hP hload =>
    intro hn st hst
    rw [Emit.instStmts_comp] at hst
    simp only [ParsePil.instNamesOk] at hn
    exact compStmts_readable (load_inv_all hload hP).1.wf hn (LoadInv.load_NZ hload) st hst
  | sys hQ hsub hinv hio ih =>
    rename_i s path name pfx tm sg lens comps
    intro hn st hst
    simp only [ParsePil.instNamesOk, ParsePil.sysNamesOk, ParsePil.signalsEmitOk, Bool.and_eq_true, List.all_eq_true] at hn
    rw [Emit.instStmts_sys, Emit.sysStmts_eq] at hst
    rcases List.mem_append.1 hst with hst | hst
    · obtain ⟨c, hc, hs⟩ := List.mem_flatMap.1 (Emit.compsStmts_eq _ ▸ hst)
      exact ih c hc (instNamesOk_of_mem hn.1 c hc) st hs
    · simp only [List.mem_flatMap] at hst
      obtain ⟨x, hx, hsx⟩ := hst
      simp only [Emit.sigStmts, List.mem_cons, List.mem_nil_iff, or_false] at hsx
      rcases hsx with rfl | rfl
      · have hk : x.1 ∈ lens.map (·.1) := by rw [hinv.keys]; exact List.mem_map.2 ⟨x, hx, rfl⟩
        obtain ⟨l, hl⟩ := Option.isSome_iff_exists.1 (lookup_isSome_iff_mem_keys.2 hk)
        have hl0 : l ≠ 0 := hinv.lensPos _ (lookup_mem hl)
        refine And.intro (hn.2 x hx).1 (fun hnil => hl0 ?_)
        simpa [hl] using congrArg List.length hnil
      · trivial

open Pepper.Sys Pepper.LoadInv in
theorem specReadable_of_tree {tbl : CodeTable} {Q : Sys.SSrc → Prop} {pfx : String} {inst : Sys.Inst}
    (hL : Loaded (fun c => StmtNamesOk c = true) Q pfx inst) (hn : ParsePil.instNamesOk inst = true)
    {spec : Spec} (hload : Pil.load tbl (Emit.instStmts inst) {} = .ok spec) : SpecReadable spec :=
  load_readable _ _ _ hload (instStmts_readable hL hn) specReadable_empty

theorem finish_text_tokens {tF : CodeTable} {spec : Spec} (wf : SpecWF spec)
    (ok : SpecCodes Generated.pilTable spec) (hr : SpecReadable spec) (asg : Var → Base) {gc : Nat → List Char}
    (hgc : ∀ i, Finish.okWord Finish.isNumChar (gc i) = true ∧ Finish.validFloat (gc i) = true)
    (inst : Sys.Inst) (out : Finish.Out) :
    Finish.finishText tF Generated.alphaMfeSeq inst
        (Finish.render (mfeRecsTok Generated.pilTable spec asg gc) "0.000000".toList) = .ok out ↔
      Finish.apply tF inst (mfeDesign Generated.pilTable spec asg) = .ok out := by
  rw [← mfeRecsTok_design _ _ _ gc]
  exact finish_text_of_readable (by decide) (by decide) (recs_readable wf ok hr asg hgc) inst out

end Pepper.EndToEndText
