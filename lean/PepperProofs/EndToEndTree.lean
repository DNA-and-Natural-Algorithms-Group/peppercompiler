import PepperProofs.LoadInvFinish
import PepperProofs.EndToEnd
import PepperProofs.ConstraintGenLoad
import PepperProofs.SysPil
/-!
# C06 end to end: every component of a loaded tree sits in the loaded specification (`treeIn_of_load`)

`compStmts_block`: the statements of every component of a tree are a contiguous block of the statements of the tree.
`compIn_of_block`: such a block, loaded between whatever comes before and after it, adds what it loads to alone —
the frame lemma under global uniqueness `Pil.load_frame_nodup` (PilAdd.lean), the names of the result being distinct
because it loaded — so the component's objects are found in the result.  `treeIn_of_load` puts the two together.
-/
namespace Pepper.EndToEnd
open Pepper Pepper.Pil Pepper.ConstraintGen Pepper.LinkSpec Pepper.SysProofs Pepper.WellFormed

theorem compStmts_block (inst : Sys.Inst) :
    ∀ n, ∀ s ∈ Finish.compsOf n inst, ∃ pre post, Emit.instStmts inst = pre ++ Emit.compStmts s ++ post := by
  refine fun n s hs => Finish.compsOf_induct
    (P := fun s inst => ∃ pre post, Emit.instStmts inst = pre ++ Emit.compStmts s ++ post)
    (fun s => ⟨[], [], by simp [Emit.instStmts_comp]⟩) ?_ n inst s hs
  intro st c s hc ⟨pre, post, he⟩
  obtain ⟨_, _, _, _, _, _, comps, _, _⟩ := st
  obtain ⟨pre', post', he'⟩ := Emit.flatMap_split (fun x => Emit.instStmts x.2) (l := comps) hc
  rw [Emit.instStmts_sys, Emit.sysStmts_eq, Emit.compsStmts_eq, he', he]
  generalize List.flatMap _ _ = sigs
  exact ⟨pre' ++ pre, post ++ post' ++ sigs, by simp only [List.append_assoc]⟩

theorem compIn_of_block {tbl : CodeTable} {s : Comp.St} {a : Nat} (hw : Comp.WF s a)
    (hcodes : ∀ e ∈ s.seqs, e.const.all tbl.isCode = true) {pre post : List Stmt} {spec : Spec}
    (hload : Pil.load tbl (pre ++ Emit.compStmts s ++ post) {} = .ok spec) : CompIn spec s := by
  have wf := load_wf hload
  obtain ⟨s1, h1, h3⟩ := load_append_inv _ _ _ _ hload
  obtain ⟨s0, h0, h2⟩ := load_append_inv _ _ _ _ h1
  obtain ⟨d, rfl⟩ := load_extends _ _ _ h3
  cases load_frame_nodup tbl (Emit.compStmts s) {} (compSpec s) s1 (comp_spec tbl hw hcodes)
    (by rw [specAppend_nil_right]; exact h2) (nodup_map_of_append_left wf.seqNames) (nodup_map_of_append_left wf.strandNames)
  refine ⟨⟨a, hw⟩, ?_, ?_, ?_⟩
  · intro e he hz
    exact wf.seqFind _ (List.mem_append_left _ (List.mem_append_right _ (findSeq_mem (compSpec_find hw he hz)).1))
  · intro x hx
    exact wf.strandFind _ (List.mem_append_left _ (List.mem_append_right _ (List.mem_map.2 ⟨x, hx, rfl⟩)))
  · intro e he
    exact List.mem_append_left _ (List.mem_append_right _ (List.mem_map.2 ⟨e, he, rfl⟩))

theorem treeIn_of_load {tbl : CodeTable} {Q : Sys.SSrc → Prop} {pfx : String} {inst : Sys.Inst}
    (hL : LoadInv.Loaded (fun c => LoadInv.StmtNamesOk c = true ∧ Comp.CodesOk tbl c = true) Q pfx inst)
    {spec : Pil.Spec} (hload : Pil.load tbl (Emit.instStmts inst) {} = .ok spec) : TreeIn spec inst := by
  intro s hs
  obtain ⟨_, _, _, _, _, hP, hl⟩ := hL.comps 64 s hs
  obtain ⟨pre, post, he⟩ := compStmts_block inst 64 s hs
  rw [he] at hload
  obtain ⟨hw, hci⟩ := Comp.load_WF_codes hl (List.all_eq_true.mp hP.1)
  exact compIn_of_block hw (hci tbl hP.2) hload

end Pepper.EndToEnd
