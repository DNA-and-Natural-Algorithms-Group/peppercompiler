import PepperModel.Finish
import PepperProofs.Codes
import PepperProofs.Basic
/-!
# Proofs about the design-file reader and `apply_design` (`PepperModel/Finish.lean`)

`applyComp` is read as four `mapM` loops and `apply` as one loop over the components (`applyComp_eq`,
`apply_eq_mapM`); everything about success comes from what success of one loop body means, everything about what is
read from one congruence theorem (`apply_congr`).  The file also holds the specification vocabulary of C17 / C06
(`AtomOk`, `IsConcat`, `IsJoin`, `CompRel`, `Relations`, `relevant`, `wfB`) and the snapshot of C16.  The reader of the
design text is in `FinishText.lean`, the saved state read against the emitted `.pil` in `FinishDecls.lean`.
-/
namespace Pepper.Finish
open Pepper.Comp Pepper.Sys

attribute [local simp] bind_eq_ok pure_eq_ok map_eq_ok fmap_eq_ok

/-! ### generic list / monad lemmas -/

/-- two lists of the same length related position by position (core has no `List.Forall₂`) -/
inductive Forall₂ {α β} (R : α → β → Prop) : List α → List β → Prop
  | nil : Forall₂ R [] []
  | cons {a b as bs} : R a b → Forall₂ R as bs → Forall₂ R (a :: as) (b :: bs)

@[simp] theorem Forall₂.nil_left_iff {α β} {R : α → β → Prop} {l' : List β} : Forall₂ R [] l' ↔ [] = l' :=
  ⟨fun h => by cases h; rfl, fun h => h ▸ .nil⟩

@[simp] theorem Forall₂.cons_left_iff {α β} {R : α → β → Prop} {a : α} {l : List α} {l' : List β} :
    Forall₂ R (a :: l) l' ↔ ∃ b, R a b ∧ ∃ bs, Forall₂ R l bs ∧ b :: bs = l' :=
  ⟨fun h => by cases h with | cons h1 h2 => exact ⟨_, h1, _, h2, rfl⟩, fun ⟨_, h1, _, h2, e⟩ => e ▸ .cons h1 h2⟩

theorem Forall₂.of_mem_left {α β} {R : α → β → Prop} {l : List α} {l' : List β}
    (h : Forall₂ R l l') {a : α} (ha : a ∈ l) : ∃ b ∈ l', R a b := by
  induction h with
  | nil => cases ha
  | cons h1 _ ih =>
    rcases List.mem_cons.1 ha with rfl | ha
    · exact ⟨_, List.mem_cons_self, h1⟩
    · obtain ⟨b, hb, hr⟩ := ih ha
      exact ⟨b, List.mem_cons_of_mem _ hb, hr⟩

theorem Forall₂.of_mem_right {α β} {R : α → β → Prop} {l : List α} {l' : List β}
    (h : Forall₂ R l l') {b : β} (hb : b ∈ l') : ∃ a ∈ l, R a b := by
  induction h with
  | nil => cases hb
  | cons h1 _ ih =>
    rcases List.mem_cons.1 hb with rfl | hb
    · exact ⟨_, List.mem_cons_self, h1⟩
    · obtain ⟨a, ha, hr⟩ := ih hb
      exact ⟨a, List.mem_cons_of_mem _ ha, hr⟩

theorem Forall₂.length_eq {α β} {R : α → β → Prop} {l : List α} {l' : List β}
    (h : Forall₂ R l l') : l.length = l'.length := by
  induction h with
  | nil => rfl
  | cons _ _ ih => simp [ih]

theorem Forall₂.map_eq {α β γ} {R : α → β → Prop} {f : α → γ} {g : β → γ} {l : List α} {l' : List β}
    (h : Forall₂ R l l') (hf : ∀ a b, R a b → g b = f a) : l'.map g = l.map f := by
  induction h with
  | nil => rfl
  | cons h1 _ ih => simp [hf _ _ h1, ih]

theorem Forall₂.filter_map_eq {α β γ} {R : α → β → Prop} {f : α → γ} {g : β → γ} {p : α → Bool} {q : β → Bool}
    {l : List α} {l' : List β} (h : Forall₂ R l l') (hf : ∀ a b, R a b → g b = f a ∧ q b = p a) :
    (l'.filter q).map g = (l.filter p).map f := by
  induction h with
  | nil => rfl
  | cons h1 _ ih =>
    obtain ⟨e1, e2⟩ := hf _ _ h1
    simp only [List.filter_cons, e2]
    split
    · simp [e1, ih]
    · exact ih

theorem Forall₂.flatMap {α β γ δ} {R : α → β → Prop} {f : α → List γ} {g : β → List δ} {S : γ → δ → Prop}
    {l : List α} {l' : List β} (h : Forall₂ R l l') (hf : ∀ a b, R a b → Forall₂ S (f a) (g b)) :
    Forall₂ S (l.flatMap f) (l'.flatMap g) := by
  induction h with
  | nil => exact .nil
  | cons h1 _ ih =>
    simp only [List.flatMap_cons]
    have := hf _ _ h1
    generalize f _ = x at this
    generalize g _ = y at this
    induction this with
    | nil => exact ih
    | cons h2 _ ih2 => exact .cons h2 ih2

theorem forall₂_map_right {α β : Type} {R : α → β → Prop} {f : α → β} {l : List α} (h : ∀ a ∈ l, R a (f a)) :
    Forall₂ R l (l.map f) := by
  induction l with
  | nil => exact .nil
  | cons x r ih =>
    exact .cons (h x List.mem_cons_self) (ih (fun a ha => h a (List.mem_cons_of_mem _ ha)))

theorem flatMap_map_eq {α β γ} {R : α → β → Prop} {l : List α} {l' : List β} (h : Forall₂ R l l')
    {f : α → List γ} {g : β → List γ} (hfg : ∀ a b, R a b → g b = f a) : l'.flatMap g = l.flatMap f := by
  induction h with
  | nil => rfl
  | cons h1 _ ih => simp [hfg _ _ h1, ih]

theorem mapM_ok_iff {α β ε} {f : α → Except ε β} {R : α → β → Prop} (h : ∀ x y, f x = .ok y ↔ R x y)
    {l : List α} {ys : List β} : l.mapM f = .ok ys ↔ Forall₂ R l ys := by
  induction l generalizing ys with
  | nil => simp only [List.mapM_nil, pure_eq_ok, Forall₂.nil_left_iff]
  | cons a r ih => simp only [List.mapM_cons, bind_eq_ok, pure_eq_ok, h, ih, Forall₂.cons_left_iff]

theorem mapM_ok_iff_map {α β ε} {f : α → Except ε β} {g : α → β} {P : α → Prop}
    (h : ∀ x y, f x = .ok y ↔ y = g x ∧ P x) {l : List α} {ys : List β} :
    l.mapM f = .ok ys ↔ ys = l.map g ∧ ∀ x ∈ l, P x := by
  induction l generalizing ys with
  | nil =>
    simp only [List.mapM_nil, pure_eq_ok, List.map_nil, List.not_mem_nil, false_imp_iff, implies_true, and_true]
    exact eq_comm
  | cons a r ih =>
    simp only [List.mapM_cons, bind_eq_ok, pure_eq_ok, h, ih, List.map_cons, List.forall_mem_cons]
    constructor
    · rintro ⟨_, ⟨rfl, hp⟩, _, ⟨rfl, hr⟩, rfl⟩; exact ⟨rfl, hp, hr⟩
    · rintro ⟨rfl, hp, hr⟩; exact ⟨_, ⟨rfl, hp⟩, _, ⟨rfl, hr⟩, rfl⟩

theorem mapM_eq_of_map_eq {α α' β γ ε} {π : α → γ} {π' : α' → γ} {f : α → Except ε β} {g : α' → Except ε β}
    {l : List α} {l' : List α'} (h : l.map π = l'.map π')
    (hfg : ∀ x ∈ l, ∀ y ∈ l', π x = π' y → f x = g y) : l.mapM f = l'.mapM g := by
  induction l generalizing l' with
  | nil => cases l' with
    | nil => rfl
    | cons _ _ => cases h
  | cons a r ih =>
    cases l' with
    | nil => cases h
    | cons a' r' =>
      simp only [List.map_cons, List.cons.injEq] at h
      rw [List.mapM_cons, List.mapM_cons, hfg a List.mem_cons_self a' List.mem_cons_self h.1,
        ih h.2 (fun x hx y hy => hfg x (List.mem_cons_of_mem _ hx) y (List.mem_cons_of_mem _ hy))]

/-! ### the model's own functions: `wcStr`, `lookupLast`, `compsOf` -/

theorem wcStr_length {t : CodeTable} (hl : t.lawful = true) {s w : List Char} (h : t.wcStr s = some w) :
    w.length = s.length := by
  rw [CodeTable.wcStr_eq hl s (CodeTable.wcStr_isCode hl h)] at h
  cases h
  simp

/-- with distinct keys, any record of the list is the one the dict keeps -/
theorem lookupLast_of_mem {d : List (List Char × List Char)} (hn : (d.map (·.1)).Nodup) {n v : List Char}
    (h : (n, v) ∈ d) : lookupLast d n = some v := by
  exact congrArg (Option.map (·.2))
    (find?_of_mem_nodup (·.1) (by rw [List.map_reverse]; exact nodup_reverse hn) (List.mem_reverse.2 h) rfl)

/-- **how `compsOf` sits in the tree**: a component it lists is a leaf, reached from the root through
    `components`; whatever goes up along that path holds of the root.  The fuel plays no part. -/
theorem compsOf_induct {P : Comp.St → Inst → Prop} (leaf : ∀ s, P s (.comp s))
    (node : ∀ {st : SysSt} {c : String × Inst} {s : Comp.St}, c ∈ st.components → P s c.2 → P s (.sys st)) :
    ∀ (n : Nat) (inst : Inst), ∀ s ∈ compsOf n inst, P s inst := by
  intro n
  induction n with
  | zero => intro inst s hs; cases hs
  | succ k ih =>
    intro inst s hs
    cases inst with
    | comp st => cases List.mem_singleton.1 hs; exact leaf _
    | sys st =>
      obtain ⟨c, hc, hs⟩ := List.mem_flatMap.1 hs
      exact node hc (ih c.2 s hs)

/-! ### the vocabulary of C17 / C06 -/

def catOuts (outs : List Out) : Out :=
  ⟨outs.flatMap (·.seqs), outs.flatMap (·.strands), outs.flatMap (·.structs)⟩

/-- the value `apply_design` stores in an atomic sequence of component `s`: the record of its full name
    (nothing for a zero-length dummy) -/
def atomVal (d : List (List Char × List Char)) (s : Comp.St) (e : SeqE) : List Char :=
  if e.len == 0 then [] else (lookupLast d (s.pfx ++ e.name).toList).getD []

/-- full name ↦ value for the atomic sequences of one component, in table order -/
def atomAssign (d : List (List Char × List Char)) (s : Comp.St) : List (String × List Char) :=
  s.baseSeqs.map (fun e => (s.pfx ++ e.name, atomVal d s e))

/-- **length and complementarity** for one atomic sequence: the design has a record of its full name with
    the declared length, and the record of the starred name is its reverse complement -/
def AtomOk (t : CodeTable) (d : List (List Char × List Char)) (s : Comp.St) (e : SeqE) : Prop :=
  ∃ v w, lookupLast d (s.pfx ++ e.name).toList = some v ∧ v.length = e.len ∧
    t.wcStr v = some w ∧ lookupLast d (s.pfx ++ e.name ++ "*").toList = some w

/-- **concatenation**: `x` is the concatenation, over the base references `bs`, of the value assigned to the
    referenced atomic sequence — reverse-complemented for a reversed reference -/
def IsConcat (t : CodeTable) (assign : List (String × List Char)) (pfx : String) (bs : List BaseRef)
    (x : List Char) : Prop :=
  ∃ parts, Forall₂ (fun (b : BaseRef) (p : List Char) =>
      ∃ v, assign.lookup (pfx ++ b.name) = some v ∧ (if b.rev = true then t.wcStr v = some p else p = v)) bs parts
    ∧ x = parts.flatten

/-- **structure–sequence**: `x` is the `+`-join of the values of the named strands (first strand of each
    name among the strands just written) and the design's record of the structure's name is exactly `x` -/
def IsJoin (d : List (List Char × List Char)) (pfx : String) (strands : List (String × Bool × List Char))
    (e : StructE) (x : List Char) : Prop :=
  ∃ parts, Forall₂ (fun (n : String) (p : List Char) =>
      ∃ y, strands.find? (·.1 == pfx ++ n) = some y ∧ y.2.2 = p) e.strands parts
    ∧ x = joinPlus parts ∧ lookupLast d (pfx ++ e.name).toList = some x

/-- what one component's share `o` of the output satisfies -/
structure CompRel (t : CodeTable) (d : List (List Char × List Char)) (s : Comp.St) (o : Out) : Prop where
  /-- every non-dummy atomic sequence has a record of the right length whose starred record is its complement -/
  atoms : ∀ e ∈ s.baseSeqs, e.len ≠ 0 → AtomOk t d s e
  /-- one `.seqs` entry per sequence (atomic and super), in table order, each the concatenation of its bases -/
  seqs : Forall₂ (fun (e : SeqE) (x : String × List Char) =>
      x.1 = s.pfx ++ e.name ∧ IsConcat t (atomAssign d s) s.pfx e.bases x.2) s.seqs o.seqs
  /-- one entry per strand, with its dummy flag, each the concatenation of its bases -/
  strands : Forall₂ (fun (e : StrandE) (x : String × Bool × List Char) =>
      x.1 = s.pfx ++ e.name ∧ x.2.1 = e.dummy ∧ IsConcat t (atomAssign d s) s.pfx e.bases x.2.2) s.strands o.strands
  /-- one entry per structure: the join of its strands, equal to the structure's own record -/
  structs : Forall₂ (fun (e : StructE) (x : String × List Char) =>
      x.1 = s.pfx ++ e.name ∧ IsJoin d s.pfx o.strands e x.2) s.structs o.structs

/-- the relations of C17 / C06 for a whole tree: the output is, in component order, one share per component,
    each satisfying `CompRel` -/
def Relations (t : CodeTable) (inst : Inst) (d : List (List Char × List Char)) (out : Out) : Prop :=
  ∃ outs, Forall₂ (CompRel t d) (compsOf 64 inst) outs ∧ out = catOuts outs

/-- the names whose records `apply` reads for one component -/
def relevantComp (s : Comp.St) : List (List Char) :=
  (s.baseSeqs.filter (·.len != 0)).flatMap (fun e =>
    [(s.pfx ++ e.name).toList, (s.pfx ++ e.name ++ "*").toList])
  ++ s.structs.map (fun e => (s.pfx ++ e.name).toList)

/-- full names of the non-dummy atomic sequences, those names with `*` appended, structure full names -/
def relevant (inst : Inst) : List (List Char) := (compsOf 64 inst).flatMap relevantComp

/-- atomic names are distinct within the component, an atomic sequence is its own single base sequence,
    strand names are distinct within the component (what `Comp.load` builds) -/
def wfCompB (s : Comp.St) : Bool :=
  decide ((s.baseSeqs.map (·.name)).Nodup)
  && s.baseSeqs.all (fun e => decide (e.bases = [⟨e.name, false, e.len⟩]))
  && decide ((s.strands.map (·.name)).Nodup)

def wfB (inst : Inst) : Bool := (compsOf 64 inst).all wfCompB

/-! ### `applyComp` as four `mapM` loops

The four bodies get names here (`atomEntry`, `seqEntry`, `strandEntry`, `structEntry`), each with its `*_ok_iff`; that
a loop depends only on part of its input comes from `mapM_eq_of_map_eq`. -/

variable {t : CodeTable} {d d' : List (List Char × List Char)} {s s' : Comp.St} {o o' : Out} {inst : Inst} {out : Out}
  {assign : List (String × List Char)} {pfx : String} {strands : List (String × Bool × List Char)}

/-- the tests `assignBases` makes on the record `r` of a non-dummy atomic sequence of length `len` and on the
    record `rs` of its starred name.  The records are parameters: every fact about the tests is about variables. -/
def checkAtom (t : CodeTable) (len : Nat) (r rs : Option (List Char)) : Except Err (List Char) :=
  match r with
  | none => .error .missing
  | some sq =>
    if sq.length != len then .error .length
    else match t.wcStr sq with
      | none => .error .letter
      | some w => match rs with
        | none => .error .missing
        | some ws => if ws != w then .error .complement else .ok sq

/-- the body of `assignBases` -/
def atomEntry (t : CodeTable) (d : List (List Char × List Char)) (s : Comp.St) (e : SeqE) :
    Except Err (String × List Char) :=
  if e.len == 0 then .ok (s.pfx ++ e.name, [])
  else (checkAtom t e.len (lookupLast d (s.pfx ++ e.name).toList) (lookupLast d (s.pfx ++ e.name ++ "*").toList)).map
    (s.pfx ++ e.name, ·)

/-- `"".join(seq.seq for seq in x.base_seqs)` over the values just assigned -/
def seqOf (t : CodeTable) (assign : List (String × List Char)) (pfx : String) (bs : List BaseRef) :
    Except Err (List Char) :=
  match concatBases assign t pfx bs with
  | some x => .ok x
  | none => .error .letter

def seqEntry (t : CodeTable) (assign : List (String × List Char)) (pfx : String) (e : SeqE) :
    Except Err (String × List Char) := do
  let x ← seqOf t assign pfx e.bases
  pure (pfx ++ e.name, x)

def strandEntry (t : CodeTable) (assign : List (String × List Char)) (pfx : String) (e : StrandE) :
    Except Err (String × Bool × List Char) := do
  let x ← seqOf t assign pfx e.bases
  pure (pfx ++ e.name, e.dummy, x)

/-- the values of the strands a structure names (the first strand of that name, as `find?` does) -/
def partsOf (pfx : String) (strands : List (String × Bool × List Char)) (names : List String) :
    Except Err (List (List Char)) :=
  names.mapM (fun n => match strands.find? (·.1 == pfx ++ n) with
    | some x => Except.ok x.2.2 | none => Except.error Err.missing)

def structEntry (d : List (List Char × List Char)) (pfx : String) (strands : List (String × Bool × List Char))
    (e : StructE) : Except Err (String × List Char) := do
  let parts ← partsOf pfx strands e.strands
  let sq := joinPlus parts
  match lookupLast d (pfx ++ e.name).toList with
    | none => throw Err.missing
    | some r => if r != sq then throw Err.structure else pure (pfx ++ e.name, sq)

theorem assignBases_eq_mapM (t : CodeTable) (d : List (List Char × List Char)) (s : Comp.St) (l : List SeqE) :
    assignBases t d s l = l.mapM (atomEntry t d s) := by
  induction l with
  | nil => rfl
  | cons e r ih =>
    simp only [assignBases, List.mapM_cons, atomEntry, checkAtom, ← ih]
    generalize lookupLast d (s.pfx ++ e.name).toList = r1
    generalize lookupLast d (s.pfx ++ e.name ++ "*").toList = r2
    generalize assignBases t d s r = rest
    split
    · cases rest <;> rfl
    · cases r1 with
      | none => rfl
      | some sq =>
        dsimp only
        split
        · rfl
        · cases t.wcStr sq with
          | none => rfl
          | some w =>
            cases r2 with
            | none => rfl
            | some ws => dsimp only; split <;> cases rest <;> rfl

theorem checkAtom_some_ok_iff {len : Nat} {v v' : List Char} {rs : Option (List Char)} :
    checkAtom t len (some v) rs = .ok v' ↔
      v = v' ∧ v.length = len ∧ ∃ w, t.wcStr v = some w ∧ rs = some w := by
  unfold checkAtom
  dsimp only
  by_cases h2 : v.length = len
  · cases t.wcStr v with
    | none => simp [h2]
    | some w =>
      cases rs with
      | none => simp [h2]
      | some ws => by_cases h5 : ws = w <;> simp [h2, h5]
  · simp [h2]

theorem atomEntry_ok_iff {e : SeqE} {y : String × List Char} :
    atomEntry t d s e = .ok y ↔ y = (s.pfx ++ e.name, atomVal d s e) ∧ (e.len ≠ 0 → AtomOk t d s e) := by
  unfold atomEntry atomVal AtomOk
  by_cases h0 : e.len = 0
  · simp only [h0, beq_self_eq_true, if_true, ne_eq, not_true_eq_false, false_imp_iff, and_true, Except.ok.injEq]
    exact eq_comm
  · have hb : (e.len == 0) = false := by simpa using h0
    simp only [hb, Bool.false_eq_true, if_false, map_eq_ok, ne_eq, h0, not_false_eq_true, forall_const]
    cases lookupLast d (s.pfx ++ e.name).toList with
    | none => simp only [checkAtom, reduceCtorEq, false_and, exists_false, and_false]
    | some v =>
      simp only [checkAtom_some_ok_iff, Option.some.injEq, Option.getD_some]
      constructor
      · rintro ⟨_, ⟨rfl, hlen, w, hw, hws⟩, rfl⟩
        exact ⟨rfl, _, w, rfl, hlen, hw, hws⟩
      · rintro ⟨rfl, _, w, rfl, hlen, hw, hws⟩
        exact ⟨_, ⟨rfl, hlen, w, hw, hws⟩, rfl⟩

theorem applyComp_eq (t : CodeTable) (d : List (List Char × List Char)) (s : Comp.St) :
    applyComp t d s = (do
      let assign ← s.baseSeqs.mapM (atomEntry t d s)
      let seqs ← s.seqs.mapM (seqEntry t assign s.pfx)
      let strands ← s.strands.mapM (strandEntry t assign s.pfx)
      let structs ← s.structs.mapM (structEntry d s.pfx strands)
      pure ⟨seqs, strands, structs⟩) := by
  rw [← assignBases_eq_mapM]
  rfl

theorem apply_eq_mapM (t : CodeTable) (inst : Inst) (d : List (List Char × List Char)) :
    apply t inst d = catOuts <$> (compsOf 64 inst).mapM (applyComp t d) := by
  -- the fold appends each component's share to what it has; generalise the empty start to any `acc`
  have h : ∀ (l : List Comp.St) (acc : Out),
      l.foldlM (fun (acc : Out) (s : Comp.St) =>
        match applyComp t d s with
        | .ok o => Except.ok ⟨acc.seqs ++ o.seqs, acc.strands ++ o.strands, acc.structs ++ o.structs⟩
        | .error e => Except.error e) acc
      = (fun outs => (⟨acc.seqs ++ (catOuts outs).seqs, acc.strands ++ (catOuts outs).strands,
            acc.structs ++ (catOuts outs).structs⟩ : Out)) <$> l.mapM (applyComp t d) := by
    intro l
    induction l with
    | nil => intro acc; simp [catOuts, pure, Except.pure, Functor.map, Except.map]
    | cons s r ih =>
      intro acc
      simp only [List.foldlM_cons, List.mapM_cons]
      cases applyComp t d s with
      | error e => rfl
      | ok o =>
        simp only [bind, Except.bind, ih]
        cases r.mapM (applyComp t d) with
        | error e => rfl
        | ok outs => simp [catOuts, pure, Except.pure, Functor.map, Except.map]
  exact (h _ {}).trans (by simp)

theorem seqOfBase_eq_some_iff {b : BaseRef} {p : List Char} :
    seqOfBase assign t pfx b = some p ↔
      ∃ v, assign.lookup (pfx ++ b.name) = some v ∧ (if b.rev = true then t.wcStr v = some p else p = v) := by
  unfold seqOfBase
  cases assign.lookup (pfx ++ b.name) with
  | none => simp
  | some v => by_cases hb : b.rev = true <;> simp [hb, eq_comm]

theorem concatBases_eq_some_iff {bs : List BaseRef} {x : List Char} :
    concatBases assign t pfx bs = some x ↔ IsConcat t assign pfx bs x := by
  simp only [IsConcat, ← seqOfBase_eq_some_iff]
  induction bs generalizing x with
  | nil =>
    simp only [concatBases, Forall₂.nil_left_iff, Option.some.injEq]
    exact ⟨fun h => ⟨[], rfl, h.symm⟩, fun ⟨_, h, e⟩ => by subst h; exact e.symm⟩
  | cons b r ih =>
    simp only [concatBases, Forall₂.cons_left_iff]
    constructor
    · intro h
      split at h
      · rename_i y z hy hz
        obtain ⟨ps, hps, rfl⟩ := ih.1 hz
        exact ⟨_, ⟨y, hy, ps, hps, rfl⟩, by cases h; rfl⟩
      · cases h
    · rintro ⟨_, ⟨y, hy, ps, hps, rfl⟩, rfl⟩
      simp only [hy, ih.2 ⟨ps, hps, rfl⟩, List.flatten_cons]

theorem seqOf_ok_iff {bs : List BaseRef} {x : List Char} :
    seqOf t assign pfx bs = .ok x ↔ IsConcat t assign pfx bs x := by
  rw [← concatBases_eq_some_iff, seqOf]
  cases concatBases assign t pfx bs <;> simp

theorem seqEntry_ok_iff {e : SeqE} {x : String × List Char} :
    seqEntry t assign pfx e = .ok x ↔ x.1 = pfx ++ e.name ∧ IsConcat t assign pfx e.bases x.2 := by
  obtain ⟨x1, x2⟩ := x
  simp only [seqEntry, bind_eq_ok, pure_eq_ok, seqOf_ok_iff, Prod.mk.injEq]
  exact ⟨fun ⟨_, h, e1, e2⟩ => ⟨e1.symm, e2 ▸ h⟩, fun ⟨e1, h⟩ => ⟨_, h, e1.symm, rfl⟩⟩

theorem strandEntry_ok_iff {e : StrandE} {x : String × Bool × List Char} :
    strandEntry t assign pfx e = .ok x ↔ x.1 = pfx ++ e.name ∧ x.2.1 = e.dummy ∧ IsConcat t assign pfx e.bases x.2.2 := by
  obtain ⟨x1, x2, x3⟩ := x
  simp only [strandEntry, bind_eq_ok, pure_eq_ok, seqOf_ok_iff, Prod.mk.injEq]
  exact ⟨fun ⟨_, h, e1, e2, e3⟩ => ⟨e1.symm, e2.symm, e3 ▸ h⟩, fun ⟨e1, e2, h⟩ => ⟨_, h, e1.symm, e2.symm, rfl⟩⟩

theorem partsOf_ok_iff {names : List String} {parts : List (List Char)} :
    partsOf pfx strands names = .ok parts ↔
      Forall₂ (fun (n : String) (p : List Char) =>
        ∃ y, strands.find? (·.1 == pfx ++ n) = some y ∧ y.2.2 = p) names parts := by
  unfold partsOf
  refine mapM_ok_iff (fun n p => ?_)
  cases strands.find? (·.1 == pfx ++ n) <;> simp

theorem structEntry_ok_iff {e : StructE} {x : String × List Char} :
    structEntry d pfx strands e = .ok x ↔
      ∃ parts, partsOf pfx strands e.strands = .ok parts ∧
        lookupLast d (pfx ++ e.name).toList = some (joinPlus parts) ∧ x = (pfx ++ e.name, joinPlus parts) := by
  simp only [structEntry, bind_eq_ok]
  refine exists_congr (fun parts => and_congr_right (fun _ => ?_))
  cases lookupLast d (pfx ++ e.name).toList with
  | none => simp [throw, throwThe, MonadExceptOf.throw]
  | some r =>
    by_cases hr : r = joinPlus parts
    · simp [hr, eq_comm (a := x)]
    · simp [hr, throw, throwThe, MonadExceptOf.throw]

theorem structEntry_ok_iff_isJoin {e : StructE} {x : String × List Char} :
    structEntry d pfx strands e = .ok x ↔ x.1 = pfx ++ e.name ∧ IsJoin d pfx strands e x.2 := by
  obtain ⟨x1, x2⟩ := x
  simp only [structEntry_ok_iff, partsOf_ok_iff, IsJoin, Prod.mk.injEq]
  exact ⟨fun ⟨parts, h, hl, e1, e2⟩ => ⟨e1, parts, h, e2, e2 ▸ hl⟩,
    fun ⟨e1, parts, h, e2, hl⟩ => ⟨parts, h, e2 ▸ hl, e1, e2⟩⟩

theorem applyComp_ok_iff :
    applyComp t d s = .ok o ↔
      ∃ assign, s.baseSeqs.mapM (atomEntry t d s) = .ok assign ∧
        s.seqs.mapM (seqEntry t assign s.pfx) = .ok o.seqs ∧
        s.strands.mapM (strandEntry t assign s.pfx) = .ok o.strands ∧
        s.structs.mapM (structEntry d s.pfx o.strands) = .ok o.structs := by
  simp only [applyComp_eq, bind_eq_ok, pure_eq_ok]
  exact ⟨fun ⟨a, ha, _, hs, _, hst, _, hstr, e⟩ => e ▸ ⟨a, ha, hs, hst, hstr⟩,
    fun ⟨a, ha, hs, hst, hstr⟩ => ⟨a, ha, _, hs, _, hst, _, hstr, rfl⟩⟩

theorem applyComp_ok_iff_rel : applyComp t d s = .ok o ↔ CompRel t d s o := by
  simp only [applyComp_ok_iff, mapM_ok_iff_map (fun _ _ => atomEntry_ok_iff), mapM_ok_iff (fun _ _ => seqEntry_ok_iff),
    mapM_ok_iff (fun _ _ => strandEntry_ok_iff), mapM_ok_iff (fun _ _ => structEntry_ok_iff_isJoin)]
  exact ⟨fun ⟨_, ⟨e, hat⟩, hs, hst, hstr⟩ => by subst e; exact ⟨hat, hs, hst, hstr⟩,
    fun h => ⟨_, ⟨rfl, h.atoms⟩, h.seqs, h.strands, h.structs⟩⟩

theorem apply_ok_iff :
    apply t inst d = .ok out ↔
      ∃ outs, Forall₂ (fun s o => applyComp t d s = .ok o) (compsOf 64 inst) outs ∧ out = catOuts outs := by
  simp only [apply_eq_mapM, fmap_eq_ok, mapM_ok_iff (fun _ _ => Iff.rfl), eq_comm (a := out)]

theorem apply_ok_iff_relations : apply t inst d = .ok out ↔ Relations t inst d out := by
  simp only [apply_ok_iff, applyComp_ok_iff_rel, Relations]

/-! ### what `apply` reads: the snapshot, the congruence, a single corrupted record -/

/-- what `apply` reads of one component -/
structure SnapComp where
  pfx : String
  seqs : List (String × Bool × Nat × List BaseRef)       -- name, is-super, length, `base_seqs`
  strands : List (String × Bool × List BaseRef)           -- name, dummy flag, `base_seqs`
  structs : List (String × List String)                   -- name, names of its strands
deriving Repr, DecidableEq

def snapComp (s : Comp.St) : SnapComp :=
  ⟨s.pfx, s.seqs.map (fun e => (e.name, e.isSup, e.len, e.bases)),
   s.strands.map (fun e => (e.name, e.dummy, e.bases)), s.structs.map (fun e => (e.name, e.strands))⟩

/-- the snapshot of a saved system: one `SnapComp` per component, in `System.components` order -/
def snapshot (inst : Inst) : List SnapComp := (compsOf 64 inst).map snapComp

theorem baseSeqs_snap (s : Comp.St) :
    s.baseSeqs.map (fun e => (e.name, e.len)) =
      ((snapComp s).seqs.filter (fun x => !x.2.1)).map (fun x => (x.1, x.2.2.1)) := by
  simp only [St.baseSeqs, snapComp, List.filter_map, List.map_map]
  rfl

theorem mem_relevantComp {n : List Char} :
    n ∈ relevantComp s ↔
      (∃ e ∈ s.baseSeqs, e.len ≠ 0 ∧ (n = (s.pfx ++ e.name).toList ∨ n = (s.pfx ++ e.name ++ "*").toList)) ∨
      ∃ e ∈ s.structs, n = (s.pfx ++ e.name).toList := by
  simp only [relevantComp, List.mem_append, List.mem_flatMap, List.mem_filter, List.mem_map, List.mem_cons,
    List.not_mem_nil, or_false, bne_iff_ne, ne_eq, and_assoc, eq_comm (a := n)]

/-- the two records `apply` reads for an atomic sequence are the same in both designs -/
structure SameAtom (d d' : List (List Char × List Char)) (s : Comp.St) (e : SeqE) : Prop where
  plain : lookupLast d' (s.pfx ++ e.name).toList = lookupLast d (s.pfx ++ e.name).toList
  star : lookupLast d' (s.pfx ++ e.name ++ "*").toList = lookupLast d (s.pfx ++ e.name ++ "*").toList

theorem atomEntry_congr {e e' : SeqE}
    (hp : s'.pfx = s.pfx) (hn : e'.name = e.name) (hlen : e'.len = e.len) (h : e.len ≠ 0 → SameAtom d d' s e) :
    atomEntry t d' s' e' = atomEntry t d s e := by
  unfold atomEntry
  rw [hp, hn, hlen]
  by_cases h0 : e.len = 0
  · simp only [h0, beq_self_eq_true, if_true]
  · rw [(h h0).plain, (h h0).star]

theorem applyComp_congr (hs : snapComp s' = snapComp s) (hd : ∀ n ∈ relevantComp s, lookupLast d' n = lookupLast d n) :
    applyComp t d' s' = applyComp t d s := by
  have hp : s'.pfx = s.pfx := congrArg SnapComp.pfx hs
  have h1 : s'.baseSeqs.mapM (atomEntry t d' s') = s.baseSeqs.mapM (atomEntry t d s) := by
    refine mapM_eq_of_map_eq (π := fun e => (e.name, e.len)) (π' := fun e => (e.name, e.len))
      (by rw [baseSeqs_snap, baseSeqs_snap, hs]) (fun e' _ e he hee' => ?_)
    simp only [Prod.mk.injEq] at hee'
    exact atomEntry_congr hp hee'.1 hee'.2 (fun h0 =>
      ⟨hd _ (mem_relevantComp.2 (.inl ⟨e, he, h0, .inl rfl⟩)), hd _ (mem_relevantComp.2 (.inl ⟨e, he, h0, .inr rfl⟩))⟩)
  have h2 : ∀ a, s'.seqs.mapM (seqEntry t a s'.pfx) = s.seqs.mapM (seqEntry t a s.pfx) := by
    refine fun a => mapM_eq_of_map_eq (congrArg SnapComp.seqs hs) (fun x _ y _ hxy => ?_)
    simp only [Prod.mk.injEq] at hxy
    simp only [seqEntry, hp, hxy.1, hxy.2.2.2]
  have h3 : ∀ a, s'.strands.mapM (strandEntry t a s'.pfx) = s.strands.mapM (strandEntry t a s.pfx) := by
    refine fun a => mapM_eq_of_map_eq (congrArg SnapComp.strands hs) (fun x _ y _ hxy => ?_)
    simp only [Prod.mk.injEq] at hxy
    simp only [strandEntry, hp, hxy.1, hxy.2.1, hxy.2.2]
  have h4 : ∀ st, s'.structs.mapM (structEntry d' s'.pfx st) = s.structs.mapM (structEntry d s.pfx st) := by
    refine fun st => mapM_eq_of_map_eq (congrArg SnapComp.structs hs) (fun x _ y hy hxy => ?_)
    simp only [Prod.mk.injEq] at hxy
    simp only [structEntry, hp, hxy.1, hxy.2, hd _ (mem_relevantComp.2 (.inr ⟨y, hy, rfl⟩))]
  simp only [applyComp_eq, h1, h2, h3, h4]

theorem apply_congr {i i' : Inst}
    (hs : snapshot i' = snapshot i) (hd : ∀ n ∈ relevant i, lookupLast d' n = lookupLast d n) :
    apply t i' d' = apply t i d := by
  rw [apply_eq_mapM, apply_eq_mapM]
  exact congrArg _ (mapM_eq_of_map_eq hs (fun _ _ s hs hss' =>
    applyComp_congr hss' (fun n hn => hd n (List.mem_flatMap.2 ⟨s, hs, hn⟩))))

theorem toList_ne_star (a : String) : a.toList ≠ (a ++ "*").toList := by
  intro h
  have := congrArg List.length h
  simp [String.toList_append] at this

/-- in two designs that pass the tests on an atomic sequence, its record and its starred record change together:
    `wcStr` is a function, and injective -/
theorem AtomOk.pair (hl : t.lawful = true) {e : SeqE} (h : AtomOk t d s e) (h' : AtomOk t d' s e) :
    lookupLast d' (s.pfx ++ e.name).toList = lookupLast d (s.pfx ++ e.name).toList ↔
      lookupLast d' (s.pfx ++ e.name ++ "*").toList = lookupLast d (s.pfx ++ e.name ++ "*").toList := by
  obtain ⟨v, w, hv, _, hw, hws⟩ := h
  obtain ⟨v', w', hv', _, hw', hws'⟩ := h'
  rw [hv, hv', hws, hws', Option.some.injEq, Option.some.injEq]
  constructor
  · rintro rfl
    exact Option.some.inj (hw'.symm.trans hw)
  · rintro rfl
    exact CodeTable.wcStr_inj hl hw' hw

/-- … and a structure's record changes only if an atomic record of its component does: the same records give
    the same assignment, hence the same strands, and the structure's record is their join -/
theorem applyComp_struct_follows (h : applyComp t d s = .ok o) (h' : applyComp t d' s = .ok o')
    (hat : ∀ e ∈ s.baseSeqs, e.len ≠ 0 → SameAtom d d' s e)
    {e : StructE} (he : e ∈ s.structs) :
    lookupLast d' (s.pfx ++ e.name).toList = lookupLast d (s.pfx ++ e.name).toList := by
  obtain ⟨a, ha, _, hst, hstr⟩ := applyComp_ok_iff.1 h
  obtain ⟨a', ha', _, hst', hstr'⟩ := applyComp_ok_iff.1 h'
  rw [mapM_congr (fun x hx => atomEntry_congr rfl rfl rfl (hat x hx)), ha] at ha'
  cases ha'
  rw [← Except.ok.inj (hst.symm.trans hst')] at hstr'
  obtain ⟨x, _, hx⟩ := mapM_ok_mem hstr _ he
  obtain ⟨x', _, hx'⟩ := mapM_ok_mem hstr' _ he
  obtain ⟨parts, hp, hlk, _⟩ := structEntry_ok_iff.1 hx
  obtain ⟨parts', hp', hlk', _⟩ := structEntry_ok_iff.1 hx'
  rw [hp] at hp'
  cases hp'
  exact hlk'.trans hlk.symm

theorem applyComp_single (hl : t.lawful = true) (h : applyComp t d s = .ok o) (h' : applyComp t d' s = .ok o')
    {n : List Char} (hn : n ∈ relevantComp s)
    (hsame : ∀ m ∈ relevantComp s, m ≠ n → lookupLast d' m = lookupLast d m) :
    lookupLast d' n = lookupLast d n := by
  have hr := applyComp_ok_iff_rel.1 h
  have hr' := applyComp_ok_iff_rel.1 h'
  -- of the two records of an atomic sequence one is not `n`, so it is unchanged, and the other follows
  have atom : ∀ e ∈ s.baseSeqs, e.len ≠ 0 → SameAtom d d' s e := by
    intro e he h0
    have hpair := (hr.atoms e he h0).pair hl (hr'.atoms e he h0)
    have hm := fun m c => hsame m (mem_relevantComp.2 (.inl ⟨e, he, h0, c⟩))
    by_cases hp : (s.pfx ++ e.name).toList = n
    · have hs := hm _ (.inr rfl) (hp ▸ Ne.symm (toList_ne_star _))
      exact ⟨hpair.2 hs, hs⟩
    · have := hm _ (.inl rfl) hp
      exact ⟨this, hpair.1 this⟩
  rcases mem_relevantComp.1 hn with ⟨e, he, h0, rfl | rfl⟩ | ⟨e, he, rfl⟩
  · exact (atom e he h0).plain
  · exact (atom e he h0).star
  · exact applyComp_struct_follows h h' atom he

/-! ### `Relations` read entry by entry -/

theorem lookup_map_name {pfx : String} {g : SeqE → List Char} {l : List SeqE}
    (hn : (l.map (·.name)).Nodup) {e : SeqE} (he : e ∈ l) :
    (l.map (fun e => (pfx ++ e.name, g e))).lookup (pfx ++ e.name) = some (g e) := by
  refine lookup_of_mem_nodup ?_ (List.mem_map.2 ⟨e, he, rfl⟩)
  rw [List.map_map]
  exact nodup_prefixed pfx SeqE.name hn

theorem CompRel.atomic_entry (hr : CompRel t d s o) (hw : wfCompB s = true) {e : SeqE} (he : e ∈ s.baseSeqs) :
    (s.pfx ++ e.name, atomVal d s e) ∈ o.seqs := by
  simp only [wfCompB, Bool.and_eq_true, decide_eq_true_eq, List.all_eq_true] at hw
  obtain ⟨⟨hnd, hb⟩, _⟩ := hw
  obtain ⟨⟨x1, x2⟩, hx, hx1, hc⟩ := hr.seqs.of_mem_left (List.mem_filter.1 he).1
  -- the one base sequence is the atomic sequence itself: the concatenation is its assigned value
  have hv := concatBases_eq_some_iff.2 hc
  simp only [hb e he, concatBases, seqOfBase, atomAssign, lookup_map_name hnd he, Bool.false_eq_true, if_false,
    List.append_nil, Option.some.injEq] at hv
  dsimp only at hx1
  subst hx1 hv
  exact hx

theorem Relations.seq_names (h : Relations t inst d out) :
    out.seqs.map (·.1) = (compsOf 64 inst).flatMap (fun s => s.seqs.map (fun e => s.pfx ++ e.name)) := by
  obtain ⟨outs, ho, rfl⟩ := h
  simp only [catOuts, List.map_flatMap]
  exact flatMap_map_eq ho (fun _ _ hr => hr.seqs.map_eq (fun _ _ h => h.1))

theorem Relations.strand_names (h : Relations t inst d out) :
    out.strands.map (·.1) = (compsOf 64 inst).flatMap (fun s => s.strands.map (fun e => s.pfx ++ e.name)) := by
  obtain ⟨outs, ho, rfl⟩ := h
  simp only [catOuts, List.map_flatMap]
  exact flatMap_map_eq ho (fun _ _ hr => hr.strands.map_eq (fun _ _ h => h.1))

theorem Relations.struct_names (h : Relations t inst d out) :
    out.structs.map (·.1) = (compsOf 64 inst).flatMap (fun s => s.structs.map (fun e => s.pfx ++ e.name)) := by
  obtain ⟨outs, ho, rfl⟩ := h
  simp only [catOuts, List.map_flatMap]
  exact flatMap_map_eq ho (fun _ _ hr => hr.structs.map_eq (fun _ _ h => h.1))

theorem Relations.real_strand_names (h : Relations t inst d out) :
    (out.strands.filter (fun x => !x.2.1)).map (·.1) =
      (compsOf 64 inst).flatMap (fun s => (s.strands.filter (fun e => !e.dummy)).map (fun e => s.pfx ++ e.name)) := by
  obtain ⟨outs, ho, rfl⟩ := h
  simp only [catOuts, List.filter_flatMap, List.map_flatMap]
  exact flatMap_map_eq ho (fun _ _ hr => hr.strands.filter_map_eq (fun _ _ h => ⟨h.1, by rw [h.2.1]⟩))

end Pepper.Finish
