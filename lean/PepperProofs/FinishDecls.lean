import PepperModel.Finish
import PepperProofs.EmitEq
import PepperProofs.Basic
/-!
# What a statement list declares, kind by kind, against the saved state (C16)

`pil*Decls` read the declarations off emitted statements, `st*Decls` off the tables of a component; for a whole tree
`treeSeqDecls` and `allComps` (the fuel-free `compsOf`: `compsOf_allComps`, for fuel above the `depth` of the tree);
`allConstLen`: in every component the constraint strings have the recorded lengths (the hypothesis of the tree form).
`compStmts_decls` / `instStmts_decls`: the emitter writes exactly what the tables hold.
-/
namespace Pepper.Finish
open Pepper.Comp Pepper.Sys

def pilSeqDecls (l : List Pil.Stmt) : List (String × Nat) :=
  l.filterMap (fun st => match st with | .seq n tpl => some (n, tpl.length) | _ => none)

def pilSupDecls (l : List Pil.Stmt) : List (String × List String) :=
  l.filterMap (fun st => match st with | .sup n items => some (n, items) | _ => none)

def pilStrandDecls (l : List Pil.Stmt) : List (String × Bool × List String) :=
  l.filterMap (fun st => match st with | .strand n dummy items => some (n, dummy, items) | _ => none)

def pilStructDecls (l : List Pil.Stmt) : List (String × List String × List Char) :=
  l.filterMap (fun st => match st with | .struct n _ strands s => some (n, strands, s) | _ => none)

def stSeqDecls (s : Comp.St) : List (String × Nat) :=
  (s.baseSeqs.filter (·.len != 0)).map (fun e => (s.pfx ++ e.name, e.len))

def stSupDecls (s : Comp.St) : List (String × List String) :=
  (s.supSeqs.filter (·.len != 0)).map (fun e =>
    (s.pfx ++ e.name, (e.items.filter (!·.dummy)).map (Emit.itemRaw s.pfx)))

def stStrandDecls (s : Comp.St) : List (String × Bool × List String) :=
  s.strands.map (fun e => (s.pfx ++ e.name, e.dummy, (e.items.filter (!·.dummy)).map (Emit.itemRaw s.pfx)))

def stStructDecls (s : Comp.St) : List (String × List String × List Char) :=
  s.structs.map (fun e => (s.pfx ++ e.name, e.strands.map (s.pfx ++ ·), e.struct))

/-- the recorded length of an atomic sequence is the length of its constraint string (what
    `Constraint.resolve` returns, `resolve_length`; an invariant of loaded components) -/
def constLenB (s : Comp.St) : Bool := s.baseSeqs.all (fun e => e.const.length == e.len)

theorem pilSeqDecls_append (a b : List Pil.Stmt) : pilSeqDecls (a ++ b) = pilSeqDecls a ++ pilSeqDecls b :=
  List.filterMap_append

theorem pilSupDecls_append (a b : List Pil.Stmt) : pilSupDecls (a ++ b) = pilSupDecls a ++ pilSupDecls b :=
  List.filterMap_append

theorem pilStrandDecls_append (a b : List Pil.Stmt) :
    pilStrandDecls (a ++ b) = pilStrandDecls a ++ pilStrandDecls b := List.filterMap_append

theorem pilStructDecls_append (a b : List Pil.Stmt) :
    pilStructDecls (a ++ b) = pilStructDecls a ++ pilStructDecls b := List.filterMap_append

theorem flatMap_fun_nil {α γ} (l : List α) : l.flatMap (fun _ => ([] : List γ)) = [] :=
  List.flatMap_eq_nil_iff.2 (fun _ _ => rfl)

theorem compStmts_decls (s : Comp.St) :
    (constLenB s = true → pilSeqDecls (Emit.compStmts s) = stSeqDecls s) ∧
    pilSupDecls (Emit.compStmts s) = stSupDecls s ∧
    pilStrandDecls (Emit.compStmts s) = stStrandDecls s ∧
    pilStructDecls (Emit.compStmts s) = stStructDecls s := by
  simp only [constLenB, List.all_eq_true, beq_iff_eq, Emit.compStmts, pilSeqDecls, pilSupDecls, pilStrandDecls,
    pilStructDecls, stSeqDecls, stSupDecls, stStrandDecls, stStructDecls, List.filterMap_append, List.filterMap_map,
    Function.comp_def, filterMap_none, List.filterMap_eq_map', List.append_nil, List.nil_append, and_true]
  exact fun h => List.map_congr_left (fun e he => by rw [h e (List.mem_filter.1 he).1])

mutual
/-- all components of a tree in `System.components` order (no fuel) -/
def allComps : Inst → List Comp.St
  | .comp st => [st]
  | .sys st => allCompsSys st
def allCompsSys : SysSt → List Comp.St
  | .mk _ _ _ _ _ _ components _ _ => allCompsList components
def allCompsList : List (String × Inst) → List Comp.St
  | [] => []
  | (_, i) :: r => allComps i ++ allCompsList r
end

mutual
def depth : Inst → Nat
  | .comp _ => 0
  | .sys st => depthSys st
def depthSys : SysSt → Nat
  | .mk _ _ _ _ _ _ components _ _ => depthList components
def depthList : List (String × Inst) → Nat
  | [] => 0
  | (_, i) :: r => max (depth i + 1) (depthList r)
end

mutual
/-- the sequences a tree's `.pil` declares: per component its non-dummy atomic sequences, and after the
    components of each system one sequence per signal, of the signal's length -/
def treeSeqDecls : Inst → List (String × Nat)
  | .comp st => stSeqDecls st
  | .sys st => treeSeqDeclsSys st
def treeSeqDeclsSys : SysSt → List (String × Nat)
  | .mk _ _ pfx _ signals lengths components _ _ =>
    treeSeqDeclsList components ++ signals.map (fun x => (pfx ++ x.1, (lengths.lookup x.1).getD 0))
def treeSeqDeclsList : List (String × Inst) → List (String × Nat)
  | [] => []
  | (_, i) :: r => treeSeqDecls i ++ treeSeqDeclsList r
end

mutual
def allConstLen : Inst → Bool
  | .comp st => constLenB st
  | .sys st => allConstLenSys st
def allConstLenSys : SysSt → Bool
  | .mk _ _ _ _ _ _ components _ _ => allConstLenList components
def allConstLenList : List (String × Inst) → Bool
  | [] => true
  | (_, i) :: r => allConstLen i && allConstLenList r
end

mutual
theorem compsOf_allComps : ∀ (i : Inst) (fuel : Nat), depth i < fuel → compsOf fuel i = allComps i
  | .comp st, fuel, h => by
    cases fuel with
    | zero => cases h
    | succ f => simp [compsOf, allComps]
  | .sys (.mk p n pf t sg l c is os), fuel, h => by
    cases fuel with
    | zero => cases h
    | succ f =>
      simp only [compsOf, allComps, allCompsSys, SysSt.components]
      exact compsOf_allCompsList c f (by simp only [depth, depthSys] at h; omega)
theorem compsOf_allCompsList : ∀ (c : List (String × Inst)) (fuel : Nat), depthList c ≤ fuel →
    c.flatMap (fun x => compsOf fuel x.2) = allCompsList c
  | [], _, _ => rfl
  | (_, i) :: r, fuel, h => by
    simp only [depthList] at h
    simp only [List.flatMap_cons, allCompsList]
    rw [compsOf_allComps i fuel (by omega), compsOf_allCompsList r fuel (by omega)]
end

mutual
theorem instStmts_decls : ∀ (i : Inst),
    (allConstLen i = true → pilSeqDecls (Emit.instStmts i) = treeSeqDecls i) ∧
    pilSupDecls (Emit.instStmts i) = (allComps i).flatMap stSupDecls ∧
    pilStrandDecls (Emit.instStmts i) = (allComps i).flatMap stStrandDecls ∧
    pilStructDecls (Emit.instStmts i) = (allComps i).flatMap stStructDecls
  | .comp st => by
    simp only [Emit.instStmts_comp, allComps, allConstLen, treeSeqDecls, List.flatMap_cons, List.flatMap_nil,
      List.append_nil]
    exact compStmts_decls st
  | .sys (.mk p n pfx t sg l c is os) => by
    obtain ⟨h1, h2, h3, h4⟩ := compsStmts_decls c
    simp only [Emit.instStmts_sys, Emit.sysStmts_eq, allComps, allCompsSys, allConstLen, allConstLenSys, treeSeqDecls,
      treeSeqDeclsSys, pilSeqDecls_append, pilSupDecls_append, pilStrandDecls_append, pilStructDecls_append,
      h2, h3, h4]
    -- what is left are the signals' statements, a `sequence` and an `equal` each
    simp only [Emit.sigStmts, pilSeqDecls, pilSupDecls, pilStrandDecls, pilStructDecls, List.filterMap_flatMap,
      List.filterMap_cons, List.filterMap_nil, List.length_replicate, ← List.map_eq_flatMap, flatMap_fun_nil,
      List.append_nil] at h1 ⊢
    exact ⟨fun hc => by rw [h1 hc], trivial, trivial, trivial⟩
theorem compsStmts_decls : ∀ (c : List (String × Inst)),
    (allConstLenList c = true → pilSeqDecls (Emit.compsStmts c) = treeSeqDeclsList c) ∧
    pilSupDecls (Emit.compsStmts c) = (allCompsList c).flatMap stSupDecls ∧
    pilStrandDecls (Emit.compsStmts c) = (allCompsList c).flatMap stStrandDecls ∧
    pilStructDecls (Emit.compsStmts c) = (allCompsList c).flatMap stStructDecls
  | [] => ⟨fun _ => rfl, rfl, rfl, rfl⟩
  | (_, i) :: r => by
    obtain ⟨h1, h2, h3, h4⟩ := instStmts_decls i
    obtain ⟨k1, k2, k3, k4⟩ := compsStmts_decls r
    rw [Emit.compsStmts]
    simp only [allCompsList, allConstLenList, treeSeqDeclsList, pilSeqDecls_append,
      pilSupDecls_append, pilStrandDecls_append, pilStructDecls_append, List.flatMap_append, h2, h3, h4, k2, k3,
      k4, Bool.and_eq_true]
    exact ⟨fun hc => by rw [h1 hc.1, k1 hc.2], trivial, trivial, trivial⟩
end

end Pepper.Finish
