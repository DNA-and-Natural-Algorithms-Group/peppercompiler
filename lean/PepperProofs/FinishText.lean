import PepperModel.Finish
import PepperProofs.Basic
/-!
# The reader of the design text (`.mfe`) against its writer

`finishText` is `finish` up to the point where files are written: read the text, apply it.  `render` mirrors the
writer `Convert.output`; a line is cut into pyparsing `Word`s by character class, and that a class change ends a word
is said once (`scanWords_word`); the five line formats are read back from it (`parseRecords_render`,
`readDesign_render`, `finishText_render`).
-/
namespace Pepper.Finish
open Pepper.Comp Pepper.Sys

attribute [local simp] bind_eq_ok pure_eq_ok map_eq_ok fmap_eq_ok

variable {t : CodeTable} {inst : Inst} {out : Out}

inductive Failure
  | unreadable                      -- the design file does not parse (`read_design` raises)
  | inconsistent (e : Err)          -- `apply_design` trips one of its assertions / a `KeyError`
deriving Repr, DecidableEq

def finishText (t : CodeTable) (alpha : List Char) (inst : Inst) (text : List Char) : Except Failure Out :=
  match readDesign alpha text with
  | none => .error .unreadable
  | some d => match apply t inst d with
    | .ok o => .ok o
    | .error e => .error (.inconsistent e)

theorem finishText_ok_iff {alpha : List Char} {text : List Char} :
    finishText t alpha inst text = .ok out ↔ ∃ d, readDesign alpha text = some d ∧ apply t inst d = .ok out := by
  unfold finishText
  cases readDesign alpha text with
  | none => simp
  | some d =>
    simp only [Option.some.injEq, exists_eq_left']
    cases apply t inst d <;> simp

/-!
`render` mirrors `Convert.output` (`design/constraint_load.py`): per record the four lines
`<int>:<name>`, `<seq> <float> <float> <int>`, target structure, mfe structure — each ended by a newline —
and then the trailer `Total n(s*) = <float>` without a final newline.  The header number is carried along
with the record (`Convert.output` prints the running index, `0` for starred views); the reader ignores it. -/

def renderRec (num : List Char) (r : Rec) : List (List Char) :=
  [num ++ ':' :: r.name, r.seq ++ r.fields.flatMap (' ' :: ·), r.target, r.mfe]

def renderLines (rs : List (List Char × Rec)) (total : List Char) : List (List Char) :=
  rs.flatMap (fun x => renderRec x.1 x.2) ++ [trailerPrefix ++ ' ' :: total]

def unlines : List (List Char) → List Char
  | [] => []
  | [l] => l
  | l :: r => l ++ '\n' :: unlines r

def render (rs : List (List Char × Rec)) (total : List Char) : List Char := unlines (renderLines rs total)

def okWord (p : Char → Bool) (w : List Char) : Bool := !w.isEmpty && w.all p

/-- a record the writer can produce: no field empty, each over its own alphabet, numeric fields valid -/
def wfRec (alpha : List Char) (x : List Char × Rec) : Bool :=
  okWord Char.isDigit x.1 && okWord isVarChar x.2.name && okWord (alpha.contains ·) x.2.seq
  && (match x.2.fields with
      | [f1, f2, f3] => okWord isNumChar f1 && validFloat f1 && okWord isNumChar f2 && validFloat f2
                        && okWord Char.isDigit f3
      | _ => false)
  && okWord isStructChar x.2.target && okWord isStructChar x.2.mfe

/-- the sequence alphabet contains neither blanks nor a newline (true of every `pyparsing.Word` alphabet
    the live grammar uses; checked by `decide` for the generated one) -/
def okAlpha (alpha : List Char) : Bool := alpha.all (fun c => c != ' ' && c != '\t' && c != '\n')

theorem splitLines_eq : ∀ s, splitLines s = s.splitOn '\n' :=
  eq_splitOn rfl fun d r a b e => by rw [splitLines, e]

theorem unlines_eq : ∀ ls, unlines ls = ['\n'].intercalate ls :=
  eq_intercalate rfl (fun _ => rfl) fun _ _ _ => rfl

theorem splitLines_unlines {ls : List (List Char)} (hne : ls ≠ []) (h : ∀ l ∈ ls, ∀ c ∈ l, c ≠ '\n') :
    splitLines (unlines ls) = ls := by
  rw [splitLines_eq, unlines_eq, List.splitOn_intercalate _ (fun l hl m => h l hl _ m rfl) hne]

variable {alpha : List Char} {p : Char → Bool}

theorem okWord_iff {w : List Char} : okWord p w = true ↔ w ≠ [] ∧ ∀ c ∈ w, p c = true := by
  cases w <;> simp [okWord]

/-- a character class whose words a line can be cut into: it has no blank, tab or newline -/
structure WordClass (p : Char → Bool) : Prop where
  blank : p ' ' = false
  tab : p '\t' = false
  nl : p '\n' = false

theorem WordClass.notWs (hp : WordClass p) {c : Char} (h : p c = true) : isWs c = false := by
  simp [isWs, ne_of_pred h hp.blank, ne_of_pred h hp.tab]

theorem WordClass.no_nl (hp : WordClass p) {w : List Char} (hw : okWord p w = true) :
    ∀ c ∈ w, c ≠ '\n' :=
  fun c hc => ne_of_pred ((okWord_iff.1 hw).2 c hc) hp.nl

theorem digitClass : WordClass Char.isDigit := ⟨by decide, by decide, by decide⟩

theorem varClass : WordClass isVarChar := ⟨by decide, by decide, by decide⟩

theorem numClass : WordClass isNumChar := ⟨by decide, by decide, by decide⟩

theorem structClass : WordClass isStructChar := ⟨by decide, by decide, by decide⟩

theorem colonClass : WordClass (· == ':') := ⟨by decide, by decide, by decide⟩

theorem alphaClass (ha : okAlpha alpha = true) : WordClass (alpha.contains ·) := by
  simp only [okAlpha, List.all_eq_true, Bool.and_eq_true, bne_iff_ne] at ha
  refine ⟨?_, ?_, ?_⟩ <;>
  · apply Bool.eq_false_iff.2
    intro hc
    have := ha _ (List.contains_iff_mem.1 hc)
    simp at this

theorem scanWords_word {ps : List (Char → Bool)} {w rest : List Char} (hp : WordClass p)
    (hw : okWord p w = true) (hrest : ∀ c r, rest = c :: r → p c = false) :
    scanWords (p :: ps) (w ++ rest) = (scanWords ps rest).map (w :: ·) := by
  obtain ⟨hne, hall⟩ := okWord_iff.1 hw
  obtain ⟨c, r, rfl⟩ := List.exists_cons_of_ne_nil hne
  have hd : ((c :: r) ++ rest).dropWhile isWs = (c :: r) ++ rest :=
    List.dropWhile_cons_of_neg (by simp [hp.notWs (hall c List.mem_cons_self)])
  have ht : rest.takeWhile p = [] := by
    cases rest with
    | nil => rfl
    | cons a l => exact List.takeWhile_cons_of_neg (by simp [hrest a l rfl])
  simp only [scanWords, hd, List.takeWhile_append_of_pos hall, ht, List.append_nil, List.isEmpty_cons,
    Bool.false_eq_true, if_false, List.drop_left]

theorem scanWords_word_blank {ps : List (Char → Bool)} {w rest : List Char} (hp : WordClass p)
    (hw : okWord p w = true) : scanWords (p :: ps) (w ++ ' ' :: rest) = (scanWords ps (' ' :: rest)).map (w :: ·) :=
  scanWords_word hp hw (fun _ _ h => by cases h; exact hp.blank)

theorem scanWords_end : scanWords [] [] = some [] := rfl

theorem scanWords_last {w : List Char} (hp : WordClass p) (hw : okWord p w = true) :
    scanWords [p] w = some [w] := by
  have := scanWords_word (ps := []) (rest := []) hp hw nofun
  rwa [List.append_nil] at this

theorem scanWords_skip_blank (p : Char → Bool) (ps : List (Char → Bool)) (l : List Char) :
    scanWords (p :: ps) (' ' :: l) = scanWords (p :: ps) l := by
  simp only [scanWords]
  rw [List.dropWhile_cons_of_pos (by decide)]

theorem trailerPrefix_eq : trailerPrefix = ['T', 'o', 't', 'a', 'l', ' ', 'n', '(', 's', '*', ')', ' ', '='] :=
  String.toList_ofList

theorem parseHeader_render {num name : List Char} (hnum : okWord Char.isDigit num = true)
    (hname : okWord isVarChar name = true) : parseHeader (num ++ ':' :: name) = some name := by
  have hcolon : scanWords [(· == ':'), isVarChar] (':' :: name) = some [[':'], name] := by
    have := scanWords_word colonClass (ps := [isVarChar]) (w := [':']) (rest := name) rfl (fun c r h =>
      beq_false_of_ne (ne_of_pred ((okWord_iff.1 hname).2 c (h ▸ List.mem_cons_self)) (by decide)))
    rwa [scanWords_last varClass hname] at this
  rw [parseHeader, scanWords_word digitClass hnum (fun c r h => by cases h; decide), hcolon]
  rfl

theorem not_trailer {num rest : List Char} (hnum : okWord Char.isDigit num = true) :
    (((num ++ rest).dropWhile isWs).take trailerPrefix.length == trailerPrefix) = false := by
  obtain ⟨c, cs, rfl⟩ := List.exists_cons_of_ne_nil (okWord_iff.1 hnum).1
  have hc : c.isDigit = true := (okWord_iff.1 hnum).2 c List.mem_cons_self
  rw [List.cons_append, List.dropWhile_cons_of_neg (by simp [digitClass.notWs hc]), trailerPrefix_eq]
  exact beq_false_of_ne (fun h => ne_of_pred hc (by decide) (List.cons.inj h).1)

theorem scanSeqLine_render (ha : okAlpha alpha = true) {sq f1 f2 f3 : List Char}
    (hsq : okWord (alpha.contains ·) sq = true) (h1 : okWord isNumChar f1 = true)
    (h2 : okWord isNumChar f2 = true) (h3 : okWord Char.isDigit f3 = true) :
    scanWords [(alpha.contains ·), isNumChar, isNumChar, Char.isDigit]
      (sq ++ [f1, f2, f3].flatMap (' ' :: ·)) = some [sq, f1, f2, f3] := by
  simp only [List.flatMap_cons, List.flatMap_nil, List.append_nil, List.cons_append]
  rw [scanWords_word_blank (alphaClass ha) hsq, scanWords_skip_blank, scanWords_word_blank numClass h1,
    scanWords_skip_blank, scanWords_word_blank numClass h2, scanWords_skip_blank, scanWords_last digitClass h3]
  rfl

/-- `wfRec alpha x` field by field; `f1 f2 f3` are the three numeric fields -/
structure WfRec (alpha : List Char) (x : List Char × Rec) (f1 f2 f3 : List Char) : Prop where
  fields : x.2.fields = [f1, f2, f3]
  num : okWord Char.isDigit x.1 = true
  name : okWord isVarChar x.2.name = true
  seq : okWord (alpha.contains ·) x.2.seq = true
  n1 : okWord isNumChar f1 = true
  v1 : validFloat f1 = true
  n2 : okWord isNumChar f2 = true
  v2 : validFloat f2 = true
  n3 : okWord Char.isDigit f3 = true
  target : okWord isStructChar x.2.target = true
  mfe : okWord isStructChar x.2.mfe = true

theorem wfRec_fields {x : List Char × Rec} (h : wfRec alpha x = true) : ∃ f1 f2 f3, WfRec alpha x f1 f2 f3 := by
  simp only [wfRec, Bool.and_eq_true, and_assoc] at h
  obtain ⟨hnum, hname, hseq, hfields, htg, hmf⟩ := h
  split at hfields
  · rename_i f1 f2 f3 hf
    simp only [Bool.and_eq_true, and_assoc] at hfields
    obtain ⟨h1, v1, h2, v2, h3⟩ := hfields
    exact ⟨f1, f2, f3, hf, hnum, hname, hseq, h1, v1, h2, v2, h3, htg, hmf⟩
  · cases hfields

theorem parseRecords_renderRec (ha : okAlpha alpha = true) {x : List Char × Rec}
    (hx : wfRec alpha x = true) (fuel : Nat) (rest : List (List Char)) :
    parseRecords alpha (fuel + 1) (renderRec x.1 x.2 ++ rest) = (parseRecords alpha fuel rest).map (x.2 :: ·) := by
  obtain ⟨f1, f2, f3, w⟩ := wfRec_fields hx
  obtain ⟨num, name, sq, fields, tg, mf⟩ := x
  cases (w.fields : fields = _)
  simp only [renderRec, List.cons_append, List.nil_append, parseRecords, not_trailer w.num,
    parseHeader_render w.num w.name, scanSeqLine_render ha w.seq w.n1 w.n2 w.n3, scanWords_last structClass w.target,
    scanWords_last structClass w.mfe, w.v1, w.v2, Bool.false_eq_true, if_false, Bool.and_self, if_true]

theorem parseRecords_render (ha : okAlpha alpha = true) {total : List Char}
    (ht : okWord isNumChar total = true) (hv : validFloat total = true)
    (rs : List (List Char × Rec)) (hrs : ∀ x ∈ rs, wfRec alpha x = true) (fuel : Nat) (hf : rs.length ≤ fuel) :
    parseRecords alpha (fuel + 1) (renderLines rs total) = some (rs.map (·.2)) := by
  induction rs generalizing fuel with
  | nil =>
    have hd : (trailerPrefix ++ ' ' :: total).dropWhile isWs = trailerPrefix ++ ' ' :: total := by
      rw [trailerPrefix_eq]; rfl
    simp [renderLines, parseRecords, hd, scanWords_skip_blank, scanWords_last numClass ht, hv]
  | cons x r ih =>
    obtain ⟨fuel, rfl⟩ := Nat.exists_eq_add_one_of_ne_zero (Nat.ne_zero_of_lt hf)
    have : renderLines (x :: r) total = renderRec x.1 x.2 ++ renderLines r total := by
      simp [renderLines]
    rw [this, parseRecords_renderRec ha (hrs x List.mem_cons_self),
      ih (fun y hy => hrs y (List.mem_cons_of_mem _ hy)) fuel (Nat.le_of_succ_le_succ hf)]
    rfl

theorem renderLines_length (rs : List (List Char × Rec)) (total : List Char) :
    (renderLines rs total).length = 4 * rs.length + 1 := by
  simp only [renderLines, renderRec, List.length_append, List.length_flatMap, List.length_cons, List.length_nil,
    List.map_const', List.sum_replicate_nat, Nat.mul_comm]

theorem renderRec_no_nl (ha : okAlpha alpha = true) {x : List Char × Rec}
    (hx : wfRec alpha x = true) : ∀ l ∈ renderRec x.1 x.2, ∀ c ∈ l, c ≠ '\n' := by
  obtain ⟨f1, f2, f3, w⟩ := wfRec_fields hx
  obtain ⟨num, name, sq, fields, tg, mf⟩ := x
  cases (w.fields : fields = _)
  intro l hl
  simp only [renderRec, List.mem_cons, List.not_mem_nil, or_false] at hl
  rcases hl with rfl | rfl | rfl | rfl
  · simp only [List.forall_mem_append, List.forall_mem_cons]
    exact ⟨digitClass.no_nl w.num, by decide, varClass.no_nl w.name⟩
  · simp only [List.flatMap_cons, List.flatMap_nil, List.append_nil, List.forall_mem_append, List.forall_mem_cons]
    exact ⟨(alphaClass ha).no_nl w.seq, ⟨by decide, numClass.no_nl w.n1⟩, ⟨by decide, numClass.no_nl w.n2⟩, by decide,
      digitClass.no_nl w.n3⟩
  · exact structClass.no_nl w.target
  · exact structClass.no_nl w.mfe

theorem renderLines_no_nl (ha : okAlpha alpha = true) {total : List Char}
    (ht : okWord isNumChar total = true) (rs : List (List Char × Rec)) (hrs : ∀ x ∈ rs, wfRec alpha x = true) :
    ∀ l ∈ renderLines rs total, ∀ c ∈ l, c ≠ '\n' := by
  intro l hl
  simp only [renderLines, List.mem_append, List.mem_flatMap, List.mem_singleton] at hl
  rcases hl with ⟨x, hx, hl⟩ | rfl
  · exact renderRec_no_nl ha (hrs x hx) l hl
  · rw [trailerPrefix_eq]
    simp only [List.forall_mem_append, List.forall_mem_cons]
    exact ⟨by decide, by decide, numClass.no_nl ht⟩

theorem readDesign_render (ha : okAlpha alpha = true) {total : List Char}
    (ht : okWord isNumChar total = true) (hv : validFloat total = true)
    (rs : List (List Char × Rec)) (hrs : ∀ x ∈ rs, wfRec alpha x = true) :
    readDesign alpha (render rs total) = some (rs.map (fun x => (x.2.name, x.2.seq))) := by
  have hsl : splitLines (render rs total) = renderLines rs total :=
    splitLines_unlines (by simp [renderLines]) (renderLines_no_nl ha ht rs hrs)
  simp only [readDesign, hsl]
  rw [parseRecords_render ha ht hv rs hrs _ (by rw [renderLines_length]; omega)]
  simp [List.map_map, Function.comp_def]

theorem finishText_render (ha : okAlpha alpha = true) {total : List Char}
    (ht : okWord isNumChar total = true) (hv : validFloat total = true)
    (rs : List (List Char × Rec)) (hrs : ∀ x ∈ rs, wfRec alpha x = true) :
    finishText t alpha inst (render rs total) = .ok out ↔
      apply t inst (rs.map (fun x => (x.2.name, x.2.seq))) = .ok out := by
  rw [finishText_ok_iff, readDesign_render ha ht hv rs hrs]
  simp

end Pepper.Finish
