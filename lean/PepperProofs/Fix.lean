import PepperProofs.FixSpecIff
import PepperProofs.CompFind
import PepperProofs.Codes
import PepperProofs.Basic
import PepperProofs.Notation
/-!
# Fixed sequences (C12): the code path `Fix.fixItem` / `fixList` / `fixStrand` / `fixStruct` / `fixSignal`
against the specification `FixSpec.specFix` (positions read off `base_seqs`, one `narrow` per letter)

Two narrowings commute because intersection of base sets does, so a fold of `narrow` may be permuted; a fix
only changes constraint strings (`skel`) and keeps `wfB`; an atomic `fix_seq` is such a fold over its own
indices, and the composite cases follow by induction on the reference depth.
-/
namespace Pepper.FixSpec
open Pepper.Comp Pepper.Fix Pepper.CodeTable Pepper.Sys

theorem zip_append_take_drop {α β} (a b : List α) (s : List β) (h : a.length ≤ s.length) :
    (a ++ b).zip s = a.zip (s.take a.length) ++ b.zip (s.drop a.length) := by
  conv => lhs; rw [← List.take_append_drop a.length s]
  rw [List.zip_append (by rw [List.length_take, Nat.min_eq_left h])]

theorem zip_flatMap {γ α β} (l : List γ) (f : γ → List α) (g : γ → List β)
    (h : ∀ x ∈ l, (f x).length = (g x).length) :
    (l.flatMap f).length = (l.flatMap g).length ∧
      (l.flatMap f).zip (l.flatMap g) = l.flatMap fun x => (f x).zip (g x) := by
  induction l with
  | nil => exact ⟨rfl, rfl⟩
  | cons x r ih =>
    obtain ⟨h1, h2⟩ := ih fun y hy => h y (List.mem_cons_of_mem _ hy)
    have hx := h x List.mem_cons_self
    simp only [List.flatMap_cons, List.length_append, List.zip_append hx, hx, h1, h2, and_self]

theorem flatMap_snd_zip {α β} (a : List α) (b : List (List β)) (h : b.length ≤ a.length) :
    (a.zip b).flatMap (·.2) = b.flatten := by
  induction a generalizing b with
  | nil => cases b <;> simp_all
  | cons x r ih =>
    cases b with
    | nil => rfl
    | cons y s =>
      rw [List.zip_cons_cons, List.flatMap_cons, List.flatten_cons, ih s (Nat.le_of_succ_le_succ h)]

theorem foldlM_cons_except {ε σ α} (f : σ → α → Except ε σ) (s : σ) (a : α) (r : List α) :
    (a :: r).foldlM f s = match f s a with | .ok s' => r.foldlM f s' | .error e => .error e := by
  rw [List.foldlM_cons]
  cases f s a <;> rfl

theorem foldlM_congr_inv {ε σ α} {f g : σ → α → Except ε σ} (Inv : σ → Prop) (l : List α)
    (hfg : ∀ s, ∀ a ∈ l, Inv s → f s a = g s a) (hinv : ∀ s, ∀ a ∈ l, ∀ s', Inv s → g s a = .ok s' → Inv s')
    (s : σ) (hs : Inv s) : l.foldlM f s = l.foldlM g s := by
  induction l generalizing s with
  | nil => rfl
  | cons a r ih =>
    rw [foldlM_cons_except, foldlM_cons_except, hfg s a List.mem_cons_self hs]
    cases hx : g s a with
    | error err => rfl
    | ok s1 =>
      exact ih (fun s b hb => hfg s b (List.mem_cons_of_mem _ hb)) (fun s b hb => hinv s b (List.mem_cons_of_mem _ hb))
        s1 (hinv s a List.mem_cons_self s1 hs hx)

def updateAt {α κ β} (get : α → κ → Option β) (set : α → κ → β → α) (f : β → Option β) (k : κ) (a : α) : Option α :=
  (get a k).bind fun b => (f b).map (set a k)

theorem updateAt_comm {α κ β} [DecidableEq κ] {get : α → κ → Option β} {set : α → κ → β → α}
    (get_set_self : ∀ a k b b0, get a k = some b0 → get (set a k b) k = some b)
    (get_set_ne : ∀ a k k' b, k ≠ k' → get (set a k b) k' = get a k')
    (set_set : ∀ a k b b', set (set a k b) k b' = set a k b')
    (set_comm : ∀ a k k' b b', k ≠ k' → set (set a k b) k' b' = set (set a k' b') k b)
    (f g : β → Option β) (a : α) (k k' : κ) (hfg : k = k' → ∀ b, (f b).bind g = (g b).bind f) :
    (updateAt get set f k a).bind (updateAt get set g k') = (updateAt get set g k' a).bind (updateAt get set f k) := by
  by_cases h : k = k'
  · subst h
    -- two updates of the same cell are one update by the composition
    have same : ∀ f g : β → Option β,
        (updateAt get set f k a).bind (updateAt get set g k) = updateAt get set (fun b => (f b).bind g) k a := by
      intro f g
      unfold updateAt
      cases hb : get a k with
      | none => rfl
      | some b =>
        simp only [Option.bind_some]
        cases f b with
        | none => rfl
        | some b1 =>
          simp only [Option.bind_some, Option.map_some, get_set_self a k b1 b hb]
          cases g b1 with
          | none => rfl
          | some b2 => exact congrArg some (set_set a k b1 b2)
    rw [same, same, funext (hfg rfl)]
  · -- updates of different cells: the second one reads the cell it finds in `a`
    have diff : ∀ (f g : β → Option β) (k k' : κ), k ≠ k' →
        (updateAt get set f k a).bind (updateAt get set g k') =
          (get a k).bind fun b => (get a k').bind fun b' => (f b).bind fun b1 => (g b').map fun b2 =>
            set (set a k b1) k' b2 := by
      intro f g k k' h
      unfold updateAt
      cases get a k with
      | none => rfl
      | some b =>
        simp only [Option.bind_some]
        cases f b with
        | none => cases get a k' <;> rfl
        | some b1 => simp only [Option.bind_some, Option.map_some, get_set_ne a k k' b1 h]
    rw [diff f g k k' h, diff g f k' k (Ne.symm h)]
    cases get a k with
    | none => cases get a k' <;> rfl
    | some b =>
      cases get a k' with
      | none => rfl
      | some b' =>
        simp only [Option.bind_some]
        cases f b with
        | none => cases g b' <;> rfl
        | some b1 =>
          cases g b' with
          | none => rfl
          | some b2 => exact congrArg some (set_comm a k k' b1 b2 h)

variable {t : CodeTable}

theorem intersect_isCode {c d e : Char} (h : t.intersect c d = .ok e) :
    t.isCode c = true ∧ t.isCode d = true := by
  unfold intersect at h
  cases hc : t.groupOf c with
  | none => rw [hc] at h; cases h
  | some g =>
    cases hd : t.groupOf d with
    | none => rw [hc, hd] at h; cases h
    | some g' => exact ⟨isCode_iff.2 ⟨g, hc⟩, isCode_iff.2 ⟨g', hd⟩⟩

theorem interO_eq_some {c d e : Char} : interO t c d = some e ↔ t.intersect c d = .ok e := by
  unfold interO
  cases t.intersect c d with
  | ok e' => exact ⟨fun h => congrArg Except.ok (Option.some.inj h), fun h => congrArg some (Except.ok.inj h)⟩
  | error _ => exact ⟨fun h => (nomatch h), fun h => (nomatch h)⟩

theorem interO_eq_some_iff (hl : t.lawful = true) {c d e : Char} :
    interO t c d = some e ↔
      t.isCode c = true ∧ t.isCode d = true ∧ t.isCode e = true ∧ t.maskC e = t.maskC c &&& t.maskC d := by
  rw [interO_eq_some]
  constructor
  · intro h
    obtain ⟨hc, hd⟩ := intersect_isCode h
    exact ⟨hc, hd, (intersect_eq_ok_iff hl hc hd).1 h⟩
  · rintro ⟨hc, hd, he⟩
    exact (intersect_eq_ok_iff hl hc hd).2 he

theorem interO_eq_none_iff (hl : t.lawful = true) {c d : Char}
    (hc : t.isCode c = true) (hd : t.isCode d = true) :
    interO t c d = none ↔ t.maskC c &&& t.maskC d = 0 := by
  constructor
  · intro h
    apply Decidable.byContradiction
    intro h0
    obtain ⟨e, he, _⟩ := intersect_ok hl hc hd h0
    simp [interO, he] at h
  · intro h0
    simp [interO, intersect_empty hl hc hd h0]

theorem interO_bind_iff (hl : t.lawful = true) {x d d' e : Char} :
    (interO t x d).bind (interO t · d') = some e ↔
      t.isCode x = true ∧ t.isCode d = true ∧ t.isCode d' = true ∧ t.isCode e = true ∧
      t.maskC e = t.maskC x &&& t.maskC d &&& t.maskC d' := by
  constructor
  · intro h
    obtain ⟨y, hy, hye⟩ := Option.bind_eq_some_iff.1 h
    obtain ⟨hx, hd, _, hm⟩ := (interO_eq_some_iff hl).1 hy
    obtain ⟨_, hd', he, hm'⟩ := (interO_eq_some_iff hl).1 hye
    exact ⟨hx, hd, hd', he, by rw [hm', hm]⟩
  · rintro ⟨hx, hd, hd', he, hm⟩
    cases hy : interO t x d with
    | none =>
      rw [(interO_eq_none_iff hl hx hd).1 hy, Nat.zero_and] at hm
      exact absurd hm (Nat.ne_of_gt (maskC_pos hl he).1)
    | some y =>
      obtain ⟨_, _, hyc, hmy⟩ := (interO_eq_some_iff hl).1 hy
      exact (interO_eq_some_iff hl).2 ⟨hyc, hd', he, by rw [hm, hmy]⟩

theorem interO_comm3 (hl : t.lawful = true) (x d d' : Char) :
    (interO t x d).bind (interO t · d') = (interO t x d').bind (interO t · d) := by
  apply Option.ext
  intro e
  rw [interO_bind_iff hl, interO_bind_iff hl]
  have hc : t.maskC x &&& t.maskC d &&& t.maskC d' = t.maskC x &&& t.maskC d' &&& t.maskC d := by
    rw [Nat.and_assoc, Nat.and_comm (t.maskC d), ← Nat.and_assoc]
  rw [hc]
  constructor <;> (rintro ⟨a, b, c, d, e⟩; exact ⟨a, c, b, d, e⟩)

theorem narrowC_inv {cs cs' : List Char} {i : Nat} {d : Char}
    (h : narrowC t cs i d = some cs') :
    ∃ x y, cs[i]? = some x ∧ interO t x d = some y ∧ cs' = cs.set i y := by
  unfold narrowC at h
  obtain ⟨x, hx, h⟩ := Option.bind_eq_some_iff.1 h
  obtain ⟨y, hy, h⟩ := Option.map_eq_some_iff.1 h
  exact ⟨x, y, hx, hy, h.symm⟩

theorem narrowC_length {t : CodeTable} {cs cs' : List Char} {i : Nat} {d : Char}
    (h : narrowC t cs i d = some cs') : cs'.length = cs.length := by
  obtain ⟨_, y, _, _, rfl⟩ := narrowC_inv h
  exact List.length_set

theorem narrowC_append (t : CodeTable) (pre : List Char) (x : Char) (cs : List Char) (d : Char) :
    narrowC t (pre ++ x :: cs) pre.length d = (interO t x d).map fun z => pre ++ z :: cs := by
  unfold narrowC
  simp

theorem narrowC_comm (hl : t.lawful = true) (cs : List Char) (i j : Nat) (d d' : Char) :
    (narrowC t cs i d).bind (narrowC t · j d') = (narrowC t cs j d').bind (narrowC t · i d) :=
  updateAt_comm (get := fun (cs : List Char) i => cs[i]?) (set := List.set)
    (fun _ _ _ _ h => List.getElem?_set_self (List.getElem?_eq_some_iff.1 h).1)
    (fun _ _ _ _ h => List.getElem?_set_ne h) (fun _ _ _ _ => List.set_set ..)
    (fun _ _ _ _ _ h => List.set_comm _ _ h) (interO t · d) (interO t · d') cs i j
    (fun _ x => interO_comm3 hl x d d')

def upd (n : String) (c : List Char) (e : SeqE) : SeqE := if e.name == n then { e with const := c } else e

theorem setConst_seqs (st : St) (n : String) (c : List Char) :
    (setConst st n c).seqs = st.seqs.map (upd n c) := rfl

theorem upd_name (n : String) (c : List Char) (e : SeqE) : (upd n c e).name = e.name := by
  unfold upd; split <;> rfl

theorem upd_of_name {n : String} {e : SeqE} (h : e.name = n) (c : List Char) :
    upd n c e = { e with const := c } := by
  unfold upd; rw [if_pos (beq_iff_eq.2 h)]

theorem upd_of_ne {n : String} {e : SeqE} (h : e.name ≠ n) (c : List Char) : upd n c e = e := by
  unfold upd; rw [if_neg (fun hb => h (eq_of_beq hb))]

theorem findSeq_setConst (st : St) (n m : String) (c : List Char) :
    (setConst st n c).findSeq m = (st.findSeq m).map (upd n c) :=
  findE_map (upd n c) (upd_name n c) st.seqs m

theorem findSeq_setConst_self {st : St} {n : String} {e : SeqE} (h : st.findSeq n = some e) (c : List Char) :
    (setConst st n c).findSeq n = some { e with const := c } := by
  rw [findSeq_setConst, h, Option.map_some, upd_of_name (findE_some h).2]

theorem findSeq_setConst_ne (st : St) {n m : String} (h : n ≠ m) (c : List Char) :
    (setConst st n c).findSeq m = st.findSeq m := by
  rw [findSeq_setConst]
  cases he : st.findSeq m with
  | none => rfl
  | some e => rw [Option.map_some, upd_of_ne (fun h' => h (h'.symm.trans (findE_some he).2))]

theorem names_setConst (st : St) (n : String) (c : List Char) :
    (setConst st n c).seqs.map (·.name) = st.seqs.map (·.name) := by
  rw [setConst_seqs, List.map_map]
  exact List.map_congr_left fun e _ => upd_name n c e

theorem setConst_setConst (st : St) (n : String) (c c' : List Char) :
    setConst (setConst st n c) n c' = setConst st n c' := by
  show ({ st with seqs := (st.seqs.map (upd n c)).map (upd n c') } : St) = { st with seqs := st.seqs.map (upd n c') }
  rw [List.map_map]
  refine congrArg (fun l => ({ st with seqs := l } : St)) (List.map_congr_left fun e _ => ?_)
  unfold Function.comp
  by_cases h1 : e.name = n
  · rw [upd_of_name h1, upd_of_name h1, upd_of_name (e := { e with const := c }) h1]
  · rw [upd_of_ne h1, upd_of_ne h1]

theorem setConst_comm (st : St) {n m : String} (h : n ≠ m) (c c' : List Char) :
    setConst (setConst st n c) m c' = setConst (setConst st m c') n c := by
  show ({ st with seqs := (st.seqs.map (upd n c)).map (upd m c') } : St) =
    { st with seqs := (st.seqs.map (upd m c')).map (upd n c) }
  rw [List.map_map, List.map_map]
  refine congrArg (fun l => ({ st with seqs := l } : St)) (List.map_congr_left fun e _ => ?_)
  unfold Function.comp
  by_cases h1 : e.name = n
  · have h2 : e.name ≠ m := fun h2 => h (h1.symm.trans h2)
    rw [upd_of_ne h2, upd_of_name h1, upd_of_ne (e := { e with const := c }) h2]
  · rw [upd_of_ne h1, upd_of_ne (e := upd m c' e) (by rw [upd_name]; exact h1)]

theorem eq_of_findSeq {st : St} (hn : (st.seqs.map (·.name)).Nodup) {n : String} {e e' : SeqE}
    (h : st.findSeq n = some e) (he' : e' ∈ st.seqs) (hname : e'.name = n) : e' = e :=
  Option.some.inj (((hname ▸ findE_of_mem hn he' : findE st.seqs n = some e').symm).trans h)

theorem setConst_self {st : St} (hn : (st.seqs.map (·.name)).Nodup) {n : String} {e : SeqE}
    (h : st.findSeq n = some e) : setConst st n e.const = st := by
  have : st.seqs.map (upd n e.const) = st.seqs := by
    conv => rhs; rw [← List.map_id st.seqs]
    apply List.map_congr_left
    intro e' he'
    by_cases h1 : e'.name = n
    · rw [upd_of_name h1, eq_of_findSeq hn h he' h1]; rfl
    · exact upd_of_ne h1 _
  show ({ st with seqs := st.seqs.map (upd n e.const) } : St) = st
  rw [this]

theorem narrow_inv {st st' : St} {p : Pos} {c : Char} (h : narrow t st p c = some st') :
    ∃ e x y, st.findSeq p.1 = some e ∧ e.const[p.2.1]? = some x ∧ interO t x (codeFor t p c) = some y ∧
      st' = setConst st p.1 (e.const.set p.2.1 y) := by
  unfold narrow at h
  obtain ⟨e, he, h⟩ := Option.bind_eq_some_iff.1 h
  obtain ⟨c', hc', h⟩ := Option.map_eq_some_iff.1 h
  obtain ⟨x, y, hx, hy, rfl⟩ := narrowC_inv hc'
  exact ⟨e, x, y, he, hx, hy, h.symm⟩

theorem narrow_eq (st : St) (p : Pos) (c : Char) :
    narrow t st p c = ((st.findSeq p.1).map (·.const)).bind fun cs =>
      (narrowC t cs p.2.1 (codeFor t p c)).map (setConst st p.1) := by
  unfold narrow
  cases st.findSeq p.1 <;> rfl

theorem narrow_setConst (st : St) {n : String} {e : SeqE} (he : st.findSeq n = some e) (pre : List Char)
    (x : Char) (cs : List Char) (y : Char) :
    narrow t (setConst st n (pre ++ x :: cs)) (n, pre.length, false) y =
      (interO t x y).map fun z => setConst st n (pre ++ z :: cs) := by
  rw [narrow_eq]
  show (((setConst st n (pre ++ x :: cs)).findSeq n).map (·.const)).bind _ = _
  rw [findSeq_setConst_self he, Option.map_some, Option.bind_some]
  show (narrowC t (pre ++ x :: cs) pre.length y).map _ = _
  rw [narrowC_append, Option.map_map]
  exact congrArg (Option.map · _) (funext fun z => setConst_setConst st n _ _)

theorem narrow_comm (hl : t.lawful = true) (st : St) (p q : Pos) (c d : Char) :
    (narrow t st p c).bind (narrow t · q d) = (narrow t st q d).bind (narrow t · p c) := by
  simp only [narrow_eq]
  refine updateAt_comm (get := fun (st : St) n => (st.findSeq n).map (·.const)) (set := setConst)
    (fun st n c c0 h => ?_) (fun st n m c h => by rw [findSeq_setConst_ne st h])
    setConst_setConst (fun st n m c c' h => setConst_comm st h c c') _ _ st p.1 q.1
    (fun _ cs => narrowC_comm hl cs _ _ _ _)
  obtain ⟨e, he, _⟩ := Option.map_eq_some_iff.1 h
  rw [findSeq_setConst_self he]
  rfl

theorem specFold_cons (t : CodeTable) (st : St) (p : Pos) (c : Char) (r : List (Pos × Char)) :
    specFold t st ((p, c) :: r) = (narrow t st p c).bind fun st' => specFold t st' r := rfl

theorem specFold_append (t : CodeTable) (st : St) (l1 l2 : List (Pos × Char)) :
    specFold t st (l1 ++ l2) = (specFold t st l1).bind (specFold t · l2) := by
  induction l1 generalizing st with
  | nil => rfl
  | cons a r ih =>
    obtain ⟨p, c⟩ := a
    simp only [List.cons_append, specFold_cons]
    cases narrow t st p c with
    | none => rfl
    | some st' => simp [ih]

theorem specFold_perm (hl : t.lawful = true) {l1 l2 : List (Pos × Char)} (h : l1.Perm l2)
    (st : St) : specFold t st l1 = specFold t st l2 := by
  induction h generalizing st with
  | nil => rfl
  | cons a _ ih =>
    obtain ⟨p, c⟩ := a
    simp only [specFold_cons]
    congr 1; funext st'; exact ih st'
  | swap a b l =>
    obtain ⟨p, c⟩ := a
    obtain ⟨q, d⟩ := b
    simp only [specFold_cons]
    rw [← Option.bind_assoc, ← Option.bind_assoc, narrow_comm hl]
  | trans _ _ ih1 ih2 => rw [ih1, ih2]

theorem specFold_move {t : CodeTable} (hl : t.lawful = true) (st : St) (l : List (Pos × Char)) (p : Pos) (c : Char) :
    (specFold t st l).bind (narrow t · p c) = (narrow t st p c).bind (specFold t · l) := by
  rw [← specFold_cons, ← specFold_perm hl (List.perm_append_singleton (p, c) l) st, specFold_append]
  congr 1
  funext s
  show _ = (narrow t s p c).bind some
  cases narrow t s p c <;> rfl

@[simp] theorem sk_name (e : SeqE) : (sk e).name = e.name := rfl
@[simp] theorem sk_bases (e : SeqE) : (sk e).bases = e.bases := rfl
@[simp] theorem sk_items (e : SeqE) : (sk e).items = e.items := rfl
@[simp] theorem sk_len (e : SeqE) : (sk e).len = e.len := rfl
@[simp] theorem sk_isSup (e : SeqE) : (sk e).isSup = e.isSup := rfl
@[simp] theorem skel_strands (st : St) : (skel st).strands = st.strands := rfl
@[simp] theorem skel_structs (st : St) : (skel st).structs = st.structs := rfl
theorem skel_seqs (st : St) : (skel st).seqs = st.seqs.map sk := rfl

theorem findSeq_skel (st : St) (n : String) : (skel st).findSeq n = (st.findSeq n).map sk :=
  findE_map sk sk_name st.seqs n

theorem findStrand_skel (st : St) (n : String) : (skel st).findStrand n = st.findStrand n := rfl

theorem idxOf_skel (st : St) (n : String) : idxOf (skel st) n = idxOf st n := by
  unfold idxOf
  rw [skel_seqs, List.findIdx_map]
  rfl

theorem basesOfView_sk (e : SeqE) (r : Bool) : basesOfView (sk e) r = basesOfView e r := rfl

theorem basesOfItem_skel (st : St) : basesOfItem (skel st) = basesOfItem st := by
  funext i
  unfold basesOfItem
  rw [findSeq_skel]
  cases st.findSeq i.name <;> rfl

theorem itemOK_skel (st : St) (b : Nat) : itemOK (skel st) b = itemOK st b := by
  funext i
  unfold itemOK
  rw [findSeq_skel, idxOf_skel]
  cases st.findSeq i.name <;> rfl

theorem seqOK_skel (st : St) (e : SeqE) : seqOK (skel st) (sk e) = seqOK st e := by
  unfold seqOK
  rw [itemOK_skel, basesOfItem_skel, sk_name, idxOf_skel]
  rfl

theorem strandOK_skel (st : St) : strandOK (skel st) = strandOK st := by
  funext s
  unfold strandOK
  rw [itemOK_skel, basesOfItem_skel, skel_seqs, List.length_map]

theorem structOK_skel (st : St) : structOK (skel st) = structOK st := rfl

theorem shapeB_skel (st : St) : shapeB (skel st) = shapeB st := by
  unfold shapeB
  rw [strandOK_skel, structOK_skel, skel_seqs, List.all_map, List.map_map,
    show seqOK (skel st) ∘ sk = seqOK st from funext (seqOK_skel st)]
  rfl

theorem posOfView_skel (st : St) (n : String) (r : Bool) : posOfView (skel st) n r = posOfView st n r := by
  unfold posOfView
  rw [findSeq_skel]
  cases st.findSeq n <;> rfl

theorem skel_setConst (st : St) (n : String) (c : List Char) : skel (setConst st n c) = skel st := by
  show ({ st with seqs := (st.seqs.map (upd n c)).map sk } : St) = { st with seqs := st.seqs.map sk }
  rw [List.map_map]
  congr 1
  refine List.map_congr_left fun e _ => ?_
  unfold Function.comp upd sk
  split <;> rfl

theorem narrow_skel {st st' : St} {p : Pos} {c : Char} (h : narrow t st p c = some st') :
    skel st' = skel st := by
  obtain ⟨_, _, _, _, _, _, rfl⟩ := narrow_inv h
  exact skel_setConst _ _ _

theorem specFold_skel {st st' : St} {l : List (Pos × Char)} (h : specFold t st l = some st') :
    skel st' = skel st := by
  induction l generalizing st with
  | nil => cases h; rfl
  | cons a r ih =>
    obtain ⟨s1, h1, h2⟩ := Option.bind_eq_some_iff.1 h
    rw [ih h2, narrow_skel h1]

theorem posOfView_congr {st st' : St} (h : skel st' = skel st) (n : String) (r : Bool) :
    posOfView st' n r = posOfView st n r := by
  rw [← posOfView_skel st', h, posOfView_skel]

theorem seqs_length_congr {st st' : St} (h : skel st' = skel st) : st'.seqs.length = st.seqs.length := by
  simpa only [skel_seqs, List.length_map] using congrArg (fun s : St => s.seqs.length) h

theorem strands_congr {st st' : St} (h : skel st' = skel st) : st'.strands = st.strands :=
  show (skel st').strands = (skel st).strands from congrArg St.strands h

theorem structs_congr {st st' : St} (h : skel st' = skel st) : st'.structs = st.structs :=
  show (skel st').structs = (skel st).structs from congrArg St.structs h

theorem wfB_shape {st : St} (h : wfB t st = true) : shapeB st = true := (wfB_iff.1 h).1

theorem wfB_nodup {st : St} (h : wfB t st = true) : (st.seqs.map (·.name)).Nodup :=
  (shapeB_iff.1 (wfB_shape h)).1

theorem wfB_seqOK {st : St} (h : wfB t st = true) {e : SeqE} (he : e ∈ st.seqs) :
    seqOK st e = true :=
  (shapeB_iff.1 (wfB_shape h)).2.1 e he

theorem wfB_strandOK {st : St} (h : wfB t st = true) {s : StrandE} (hs : s ∈ st.strands) :
    strandOK st s = true :=
  (shapeB_iff.1 (wfB_shape h)).2.2.1 s hs

theorem wfB_structOK {st : St} (h : wfB t st = true) {x : StructE} (hx : x ∈ st.structs) :
    ∀ n ∈ x.strands, (st.findStrand n).isSome = true :=
  structOK_iff.1 ((shapeB_iff.1 (wfB_shape h)).2.2.2 x hx)

theorem wfB_constOK {st : St} (h : wfB t st = true) {e : SeqE} (he : e ∈ st.seqs) :
    (∀ c ∈ e.const, t.isCode c = true) ∧ (e.isSup = false → e.const.length = e.len) :=
  constOK_iff.1 ((wfB_iff.1 h).2 e he)

theorem narrow_wf (hl : t.lawful = true) {st st' : St} {p : Pos} {c : Char}
    (hw : wfB t st = true) (h : narrow t st p c = some st') : wfB t st' = true := by
  have hsk := narrow_skel h
  obtain ⟨e, x, y, he, hx, hy, rfl⟩ := narrow_inv h
  refine wfB_iff.2 ⟨by rw [← shapeB_skel, hsk, shapeB_skel]; exact wfB_shape hw, fun e1 he1 => ?_⟩
  rw [setConst_seqs] at he1
  obtain ⟨e0, he0, rfl⟩ := List.mem_map.1 he1
  by_cases hname : e0.name = p.1
  · -- the entry written to: the new letter is a code, the length is that of the old string
    obtain rfl := eq_of_findSeq (wfB_nodup hw) he he0 hname
    obtain ⟨hcodes, hlen⟩ := wfB_constOK hw he0
    rw [upd_of_name hname]
    refine constOK_iff.2 ⟨fun a ha => ?_, fun hs => by rw [List.length_set]; exact hlen hs⟩
    rcases List.mem_or_eq_of_mem_set ha with h | h
    · exact hcodes a h
    · rw [h]; exact ((interO_eq_some_iff hl).1 hy).2.2.1
  · rw [upd_of_ne hname]
    exact (wfB_iff.1 hw).2 e0 he0

theorem specFold_wf (hl : t.lawful = true) {st st' : St} {l : List (Pos × Char)}
    (hw : wfB t st = true) (h : specFold t st l = some st') : wfB t st' = true := by
  induction l generalizing st with
  | nil => cases h; exact hw
  | cons a r ih =>
    obtain ⟨s1, h1, h2⟩ := Option.bind_eq_some_iff.1 h
    exact ih (narrow_wf hl hw h1) h2

def charAt (st : St) (n : String) (i : Nat) : Option Char := (st.findSeq n).bind (·.const[i]?)

def maskAt (t : CodeTable) (st : St) (n : String) (i : Nat) : Nat :=
  match charAt st n i with
  | some c => t.maskC c
  | none => 0

theorem narrow_charAt {st st' : St} {p : Pos} {c : Char} (h : narrow t st p c = some st')
    (n : String) (i : Nat) :
    charAt st' n i =
      if n = p.1 ∧ i = p.2.1 then (charAt st n i).bind (interO t · (codeFor t p c)) else charAt st n i := by
  obtain ⟨e, x, y, he, hx, hy, rfl⟩ := narrow_inv h
  unfold charAt
  by_cases hn : n = p.1
  · subst hn
    rw [findSeq_setConst_self he, he, Option.bind_some, Option.bind_some]
    by_cases hi : i = p.2.1
    · subst hi
      rw [if_pos ⟨rfl, rfl⟩, hx, Option.bind_some, hy]
      exact List.getElem?_set_self (List.getElem?_eq_some_iff.1 hx).1
    · rw [if_neg (fun hh => hi hh.2)]
      exact List.getElem?_set_ne (Ne.symm hi)
  · rw [if_neg (fun hh => hn hh.1), findSeq_setConst_ne st (Ne.symm hn)]

theorem specFold_frame {st st' : St} {l : List (Pos × Char)} (h : specFold t st l = some st')
    (n : String) (i : Nat) (hni : ∀ pc ∈ l, ¬ (pc.1.1 = n ∧ pc.1.2.1 = i)) : charAt st' n i = charAt st n i := by
  induction l generalizing st with
  | nil => cases h; rfl
  | cons a r ih =>
    obtain ⟨s1, h1, h2⟩ := Option.bind_eq_some_iff.1 h
    rw [ih h2 (fun pc hpc => hni pc (List.mem_cons_of_mem _ hpc)), narrow_charAt h1,
      if_neg (fun hh => hni a List.mem_cons_self ⟨hh.1.symm, hh.2.symm⟩)]

/-- the masks of the letters that land on position `(n, i)`, complemented where the position is flagged -/
def hits (t : CodeTable) (l : List (Pos × Char)) (n : String) (i : Nat) : List Nat :=
  l.filterMap fun pc =>
    if pc.1.1 = n ∧ pc.1.2.1 = i then some (if pc.1.2.2 then complMask (t.maskC pc.2) else t.maskC pc.2) else none

/-- the specification's total complement is `CodeTable.complD`, for which the lemmas about complements are stated -/
theorem complC_eq (t : CodeTable) : complC t = t.complD := rfl

theorem maskC_codeFor (hl : t.lawful = true) (p : Pos) {c : Char} (hc : t.isCode c = true) :
    t.maskC (codeFor t p c) = if p.2.2 then complMask (t.maskC c) else t.maskC c := by
  unfold codeFor
  split
  · rw [complC_eq]
    exact complOf_mask hl (complOf_eq_complD hl hc)
  · rfl

theorem narrow_maskAt (hl : t.lawful = true) {st st' : St} {p : Pos} {c : Char}
    (h : narrow t st p c = some st') (hc : t.isCode c = true) (n : String) (i : Nat) :
    maskAt t st' n i =
      if p.1 = n ∧ p.2.1 = i then maskAt t st n i &&& (if p.2.2 then complMask (t.maskC c) else t.maskC c)
      else maskAt t st n i := by
  have hch := narrow_charAt h n i
  obtain ⟨e, x, y, he, hx, hy, _⟩ := narrow_inv h
  unfold maskAt
  rw [hch]
  by_cases hni : p.1 = n ∧ p.2.1 = i
  · obtain ⟨rfl, rfl⟩ := hni
    have hcx : charAt st p.1 p.2.1 = some x := by unfold charAt; rw [he]; exact hx
    rw [if_pos ⟨rfl, rfl⟩, if_pos ⟨rfl, rfl⟩, hcx, Option.bind_some, hy]
    show t.maskC y = t.maskC x &&& _
    rw [((interO_eq_some_iff hl).1 hy).2.2.2, maskC_codeFor hl p hc]
  · rw [if_neg (fun hh => hni ⟨hh.1.symm, hh.2.symm⟩), if_neg hni]

theorem specFold_masks (hl : t.lawful = true) {st st' : St} {l : List (Pos × Char)}
    (h : specFold t st l = some st') (hc : ∀ pc ∈ l, t.isCode pc.2 = true) (n : String) (i : Nat) :
    maskAt t st' n i = (hits t l n i).foldl (· &&& ·) (maskAt t st n i) := by
  induction l generalizing st with
  | nil => cases h; rfl
  | cons a r ih =>
    obtain ⟨s1, h1, h2⟩ := Option.bind_eq_some_iff.1 h
    rw [ih h2 (fun pc hpc => hc pc (List.mem_cons_of_mem _ hpc)), narrow_maskAt hl h1 (hc a List.mem_cons_self)]
    unfold hits
    rw [List.filterMap_cons]
    by_cases hni : a.1.1 = n ∧ a.1.2.1 = i
    · rw [if_pos hni, if_pos hni]
      rfl
    · rw [if_neg hni, if_neg hni]

theorem itemOK_itemsOfView {st : St} {b : Nat} {e : SeqE} (h : ∀ i ∈ e.items, itemOK st b i = true) (rev : Bool) :
    ∀ i ∈ itemsOfView e rev, itemOK st b i = true := by
  intro i hi
  unfold itemsOfView at hi
  cases rev
  · exact h i hi
  · obtain ⟨j, hj, rfl⟩ := List.mem_map.1 hi
    exact h j (List.mem_reverse.1 hj)

theorem itemsOfView_len_sum (e : SeqE) (rev : Bool) :
    ((itemsOfView e rev).map (·.len)).sum = (e.items.map (·.len)).sum := by
  unfold itemsOfView
  cases rev
  · rfl
  · rw [if_pos rfl, List.map_map, List.map_reverse, List.sum_reverse]
    rfl

/-- an optional fold that ran dry has met an empty intersection -/
def okOrEmpty : Option St → Except Fix.Err St
  | some s => .ok s
  | none => .error .empty

theorem toOption_okOrEmpty (o : Option St) : (okOrEmpty o).toOption = o := by
  cases o <;> rfl

theorem specFix_of_length_ne {st : St} {pos : List Pos} {str : List Char}
    (h : pos.length ≠ str.length) : specFix t st pos str = .error .length := by
  unfold specFix
  rw [if_pos (bne_iff_ne.2 h)]

theorem specFix_of_length_eq {st : St} {pos : List Pos} {str : List Char}
    (h : pos.length = str.length) : specFix t st pos str = okOrEmpty (specFold t st (pos.zip str)) := by
  unfold specFix
  rw [if_neg (fun hb => bne_iff_ne.1 hb h)]
  rfl

theorem specFix_checked {st : St} {pos : List Pos} {str : List Char} {len : Nat}
    (hpl : pos.length = len) {x : Except Fix.Err St}
    (h : str.length = len → x = okOrEmpty (specFold t st (pos.zip str))) :
    (if str.length != len then .error .length else x) = specFix t st pos str := by
  by_cases hlen : str.length = len
  · rw [if_neg (fun hb => bne_iff_ne.1 hb hlen), specFix_of_length_eq (hpl.trans hlen.symm), h hlen]
  · rw [if_pos (bne_iff_ne.2 hlen), specFix_of_length_ne (by rw [hpl]; exact Ne.symm hlen)]

theorem specFix_ok {st st' : St} {pos : List Pos} {str : List Char}
    (h : specFix t st pos str = .ok st') : pos.length = str.length ∧ specFold t st (pos.zip str) = some st' := by
  by_cases hlen : pos.length = str.length
  · rw [specFix_of_length_eq hlen] at h
    refine ⟨hlen, ?_⟩
    rw [← toOption_okOrEmpty (specFold t st (pos.zip str)), h]
    rfl
  · rw [specFix_of_length_ne hlen] at h
    cases h

theorem specFix_toOption (t : CodeTable) (st : St) (pos : List Pos) (str : List Char) :
    (specFix t st pos str).toOption = if pos.length = str.length then specFold t st (pos.zip str) else none := by
  by_cases h : pos.length = str.length
  · rw [specFix_of_length_eq h, toOption_okOrEmpty, if_pos h]
  · rw [specFix_of_length_ne h, if_neg h]
    rfl

theorem flipPos_flipPos (p : Pos) : flipPos (flipPos p) = p := by
  obtain ⟨n, i, f⟩ := p
  unfold flipPos
  rw [Bool.not_not]

theorem map_flip_flip (l : List Pos) : (l.map flipPos).map flipPos = l := by
  rw [List.map_map]
  conv => rhs; rw [← List.map_id l]
  apply List.map_congr_left
  intro p _; exact flipPos_flipPos p

theorem posOfBase_length (b : BaseRef) : (posOfBase b).length = b.len := by
  unfold posOfBase; split <;> simp

theorem posOfBases_length (bs : List BaseRef) : (posOfBases bs).length = (bs.map (·.len)).sum := by
  unfold posOfBases
  induction bs with
  | nil => rfl
  | cons b r ih => rw [List.flatMap_cons, List.length_append, posOfBase_length, ih, List.map_cons, List.sum_cons]

theorem posOfBase_inv (b : BaseRef) : posOfBase b.inv = (posOfBase b).reverse.map flipPos := by
  obtain ⟨n, r, l⟩ := b
  cases r <;> simp [posOfBase, BaseRef.inv, flipPos, List.map_reverse, Function.comp_def]

theorem posOfBases_rev (bs : List BaseRef) :
    posOfBases (bs.reverse.map BaseRef.inv) = (posOfBases bs).reverse.map flipPos := by
  unfold posOfBases
  rw [List.reverse_flatMap, List.map_flatMap, List.flatMap_map]
  congr 1
  funext b
  simp [posOfBase_inv]

theorem posOfBases_flatMap {α} (l : List α) (f : α → List BaseRef) :
    posOfBases (l.flatMap f) = l.flatMap (fun x => posOfBases (f x)) := by
  unfold posOfBases
  rw [List.flatMap_assoc]

theorem posOfView_found {st : St} {n : String} {e : SeqE} (he : st.findSeq n = some e) (r : Bool) :
    posOfView st n r = posOfBases (basesOfView e r) := by
  unfold posOfView basesOfView
  rw [he]
  cases r
  · rfl
  · exact (posOfBases_rev e.bases).symm

theorem posOfView_true (st : St) (n : String) : posOfView st n true = (posOfView st n false).reverse.map flipPos := by
  unfold posOfView
  cases st.findSeq n <;> rfl

theorem posOfBases_basesOfItem (st : St) : (fun i => posOfBases (basesOfItem st i)) = posOfItem st := by
  funext i
  unfold basesOfItem posOfItem
  cases he : st.findSeq i.name with
  | none => unfold posOfView; rw [he]; rfl
  | some e => rw [posOfView_found he]

theorem posOfItem_inv (st : St) (i : ItemRef) : posOfItem st i.inv = (posOfItem st i).reverse.map flipPos := by
  unfold posOfItem ItemRef.inv
  cases i.rev
  · exact posOfView_true st i.name
  · show posOfView st i.name false = _
    rw [posOfView_true st i.name, ← List.map_reverse, List.reverse_reverse, map_flip_flip]

theorem posOfView_length {st : St} (hw : wfB t st = true) {n : String} {e : SeqE}
    (he : st.findSeq n = some e) (r : Bool) : (posOfView st n r).length = e.len := by
  have h0 : (posOfView st n false).length = e.len := by
    rw [posOfView_found he, posOfBases_length]
    exact seqOK_bases_len (wfB_seqOK hw (findE_some he).1)
  cases r
  · exact h0
  · rw [posOfView_true, List.length_map, List.length_reverse, h0]

theorem posOfItem_length {st : St} (hw : wfB t st = true) {b : Nat} {i : ItemRef}
    (h : itemOK st b i = true) : (posOfItem st i).length = i.len := by
  obtain ⟨e', he', hl', _⟩ := itemOK_iff.1 h
  unfold posOfItem
  rw [posOfView_length hw he', hl']

theorem posOfBases_items {st : St} {bases : List BaseRef} {items : List ItemRef}
    (hb : bases = items.flatMap (basesOfItem st)) : posOfBases bases = items.flatMap (posOfItem st) := by
  rw [hb, posOfBases_flatMap, posOfBases_basesOfItem]

theorem posOfView_sup {st : St} {n : String} {e : SeqE} (he : st.findSeq n = some e)
    (hb : e.bases = e.items.flatMap (basesOfItem st)) (r : Bool) :
    posOfView st n r = (itemsOfView e r).flatMap (posOfItem st) := by
  have hf : posOfView st n false = e.items.flatMap (posOfItem st) :=
    (posOfView_found he false).trans (posOfBases_items hb)
  unfold itemsOfView
  cases r
  · exact hf
  · rw [posOfView_true, hf, if_pos rfl, List.reverse_flatMap, List.map_flatMap, List.flatMap_map]
    congr 1
    funext i
    exact (posOfItem_inv st i).symm

theorem narrow_flip (hl : t.lawful = true) (st : St) (p : Pos) {c : Char}
    (hc : t.isCode c = true) : narrow t st (flipPos p) c = narrow t st p (complC t c) := by
  obtain ⟨n, i, f⟩ := p
  unfold narrow flipPos codeFor
  cases f
  · rfl
  · simp only [Bool.not_true, Bool.false_eq_true, if_false, if_true]
    rw [complC_eq, complD_complD hl hc]

theorem specFold_flip (hl : t.lawful = true) (st : St) (pos : List Pos) (s : List Char)
    (hs : ∀ c ∈ s, t.isCode c = true) :
    specFold t st ((pos.map flipPos).zip s) = specFold t st (pos.zip (s.map (complC t))) := by
  induction pos generalizing st s with
  | nil => rfl
  | cons p r ih =>
    cases s with
    | nil => rfl
    | cons c s =>
      simp only [List.map_cons, List.zip_cons_cons, specFold_cons]
      rw [narrow_flip hl st p (hs c List.mem_cons_self)]
      congr 1
      funext st'
      exact ih st' s (fun c h => hs c (List.mem_cons_of_mem _ h))

/-- the fold may be read backwards because narrowings commute -/
theorem specFold_rev (hl : t.lawful = true) (st : St) (pos : List Pos) (str : List Char)
    (hs : ∀ c ∈ str, t.isCode c = true) (hlen : pos.length = str.length) :
    specFold t st ((pos.reverse.map flipPos).zip str) = specFold t st (pos.zip (wc t str)) := by
  have h1 : (pos.reverse.map flipPos).zip str = ((pos.map flipPos).zip str.reverse).reverse := by
    rw [List.zip_eq_zipWith, List.zip_eq_zipWith,
      List.reverse_zipWith (by rw [List.length_map, List.length_reverse, hlen]), List.reverse_reverse,
      List.map_reverse]
  rw [h1, specFold_perm hl (List.reverse_perm _), specFold_flip hl st pos str.reverse (fun c h => hs c (List.mem_reverse.1 h))]
  rfl

theorem wc_eq (t : CodeTable) (s : List Char) : wc t s = s.reverse.map t.complD := rfl

theorem wcStr_eq_wc (hl : t.lawful = true) (s : List Char) (h : ∀ c ∈ s, t.isCode c = true) :
    t.wcStr s = some (wc t s) := by
  rw [wc_eq]
  exact wcStr_eq hl s h

theorem wc_codes (hl : t.lawful = true) {s : List Char} (h : ∀ c ∈ s, t.isCode c = true) :
    ∀ c ∈ wc t s, t.isCode c = true := by
  intro c hc
  rw [wc_eq] at hc
  obtain ⟨a, ha, rfl⟩ := List.mem_map.1 hc
  exact complD_isCode hl (h a (List.mem_reverse.1 ha))

theorem wc_length (t : CodeTable) (s : List Char) : (wc t s).length = s.length := by
  unfold wc
  rw [List.length_map, List.length_reverse]

theorem wc_wc (hl : t.lawful = true) (s : List Char) (h : ∀ c ∈ s, t.isCode c = true) :
    wc t (wc t s) = s := by
  have := wcStr_wcStr hl s h
  rw [wcStr_eq_wc hl s h, Option.bind_some, wcStr_eq_wc hl _ (wc_codes hl h)] at this
  exact Option.some.inj this

theorem specFix_star (hl : t.lawful = true) {st : St} (hw : wfB t st = true) {n : String} {e : SeqE}
    (he : st.findSeq n = some e) (str : List Char) (hc : ∀ c ∈ str, t.isCode c = true) :
    specFix t st (posOfView st n true) str = specFix t st (posOfView st n false) (wc t str) := by
  have hpl := posOfView_length hw he
  by_cases hlen : e.len = str.length
  · rw [specFix_of_length_eq ((hpl true).trans hlen),
      specFix_of_length_eq ((hpl false).trans (hlen.trans (wc_length t str).symm)), posOfView_true,
      specFold_rev hl st _ str hc ((hpl false).trans hlen)]
  · rw [specFix_of_length_ne (by rw [hpl true]; exact hlen),
      specFix_of_length_ne (by rw [hpl false, wc_length]; exact hlen)]

theorem fixItem_zero (t : CodeTable) (s : St) (name : String) (rev : Bool) (str : List Char) :
    fixItem t 0 s name rev str = .error .key := by
  rw [fixItem]

theorem fixItem_succ (t : CodeTable) (fuel : Nat) (s : St) (name : String) (rev : Bool) (str : List Char) :
    fixItem t (fuel + 1) s name rev str =
      match s.findSeq name with
      | none => .error .key
      | some e =>
        if !e.isSup then
          match (if rev then t.wcStr str else some str) with
          | none => .error .key
          | some f =>
            if f.length != e.len then .error .length
            else match fixConst t e.const f with
              | .ok c => .ok (setConst s name c)
              | .error x => .error x
        else
          if str.length != e.len then .error .length
          else fixList t fuel s (itemsOfView e rev) str := by
  rw [fixItem]
  rfl

theorem fixList_nil (t : CodeTable) (fuel : Nat) (s : St) (str : List Char) :
    fixList t fuel s [] str = .ok s := by
  rw [fixList]

theorem fixList_cons (t : CodeTable) (fuel : Nat) (s : St) (i : ItemRef) (r : List ItemRef) (str : List Char) :
    fixList t fuel s (i :: r) str =
      match fixItem t fuel s i.name i.rev (str.take i.len) with
      | .ok s' => fixList t fuel s' r (str.drop i.len)
      | .error x => .error x := by
  rw [fixList]
  rfl

/-- `Sequence.fix_seq` letter by letter: with the prefix `pre` done, the rest `cs` against `f` narrows the
    positions from `pre.length` on in turn; codes on both sides, so `intersect` can only fail with `empty` -/
theorem fixConst_fold (hl : t.lawful = true) {n : String} (cs : List Char) :
    ∀ (st : St) (e : SeqE) (pre f : List Char), st.findSeq n = some e → cs.length = f.length →
      (∀ c ∈ cs, t.isCode c = true) → (∀ c ∈ f, t.isCode c = true) →
      (match fixConst t cs f with
        | .ok c => Except.ok (setConst st n (pre ++ c))
        | .error x => .error x) =
      okOrEmpty (specFold t (setConst st n (pre ++ cs))
        (((List.range' pre.length cs.length).map fun i => ((n, i, false) : Pos)).zip f)) := by
  induction cs with
  | nil =>
    intro st e pre f _ hlen _ _
    cases f with
    | cons _ _ => cases hlen
    | nil =>
      unfold fixConst
      rfl
  | cons x cs ih =>
    intro st e pre f he hlen hcs hf
    cases f with
    | nil => cases hlen
    | cons y f =>
      have hx := hcs x List.mem_cons_self
      have hy := hf y List.mem_cons_self
      rw [List.length_cons, List.range'_succ, List.map_cons, List.zip_cons_cons, specFold_cons,
        narrow_setConst st he]
      unfold fixConst interO
      by_cases h0 : t.maskC x &&& t.maskC y = 0
      · rw [intersect_empty hl hx hy h0]
        rfl
      · obtain ⟨z, hz, _⟩ := intersect_ok hl hx hy h0
        rw [hz]
        simp only [Option.map_some, Option.bind_some]
        have := ih st e (pre ++ [z]) f he (Nat.succ.inj hlen)
          (fun c h => hcs c (List.mem_cons_of_mem _ h)) (fun c h => hf c (List.mem_cons_of_mem _ h))
        simp only [List.length_append, List.length_singleton, List.append_assoc, List.singleton_append] at this
        rw [← this]
        cases fixConst t cs f <;> rfl

theorem fixAtomic_spec (hl : t.lawful = true) {st : St} (hw : wfB t st = true) {n : String} {e : SeqE}
    (he : st.findSeq n = some e) (hs : e.isSup = false) (f : List Char) (hf : ∀ c ∈ f, t.isCode c = true) :
    (if f.length != e.len then (Except.error Fix.Err.length : Except Fix.Err St)
     else match fixConst t e.const f with
       | .ok c => .ok (setConst st n c)
       | .error x => .error x) = specFix t st (posOfView st n false) f := by
  have hco := wfB_constOK hw (findE_some he).1
  have hpos : posOfView st n false = (List.range e.len).map fun i => ((n, i, false) : Pos) := by
    rw [posOfView_found he]
    unfold basesOfView posOfBases
    rw [if_neg Bool.false_ne_true, ((seqOK_iff_base hs).1 (wfB_seqOK hw (findE_some he).1)).2, (findE_some he).2]
    simp [posOfBase]
  rw [hpos]
  refine specFix_checked (by rw [List.length_map, List.length_range]) fun hlen => ?_
  have key := fixConst_fold hl e.const st e [] f he (by rw [hco.2 hs, hlen]) hco.1 hf
  rw [List.nil_append, setConst_self (wfB_nodup hw) he, hco.2 hs] at key
  rw [List.range_eq_range']
  exact key

/-- a super-sequence only refers to super-sequences defined before it (`idxOf`), so fuel above a bound on its own
    index is enough -/
def FixItemSpec (t : CodeTable) (fuel : Nat) : Prop :=
  ∀ (st : St) (n : String) (rev : Bool) (str : List Char) (e : SeqE) (bound : Nat), wfB t st = true →
    st.findSeq n = some e → bound < fuel → (e.isSup = true → idxOf st n < bound) → (∀ c ∈ str, t.isCode c = true) →
    fixItem t fuel st n rev str = specFix t st (posOfView st n rev) str

theorem fixList_spec (hl : t.lawful = true) (fuel : Nat) (P : FixItemSpec t fuel) :
    ∀ (items : List ItemRef) (st : St) (str : List Char) (bound : Nat), wfB t st = true → bound < fuel →
      (∀ i ∈ items, itemOK st bound i = true) → str.length = (items.map (·.len)).sum →
      (∀ c ∈ str, t.isCode c = true) →
      fixList t fuel st items str = okOrEmpty (specFold t st ((items.flatMap (posOfItem st)).zip str)) := by
  intro items
  induction items with
  | nil =>
    intro st str bound _ _ _ _ _
    rw [fixList_nil]
    rfl
  | cons i r ih =>
    intro st str bound hw hb hok hlen hcodes
    have hoki := hok i List.mem_cons_self
    obtain ⟨e', he', _, _, hidx⟩ := itemOK_iff.1 hoki
    rw [List.map_cons, List.sum_cons] at hlen
    have hle : i.len ≤ str.length := hlen ▸ Nat.le_add_right _ _
    have hposl : (posOfItem st i).length = i.len := posOfItem_length hw hoki
    have htake : (str.take i.len).length = i.len := by rw [List.length_take, Nat.min_eq_left hle]
    have hP : fixItem t fuel st i.name i.rev (str.take i.len) = specFix t st (posOfItem st i) (str.take i.len) :=
      P st i.name i.rev _ e' bound hw he' hb hidx (fun c h => hcodes c (List.mem_of_mem_take h))
    rw [fixList_cons, hP, specFix_of_length_eq (hposl.trans htake.symm), List.flatMap_cons,
      zip_append_take_drop _ _ _ (hposl ▸ hle), hposl, specFold_append]
    cases h1 : specFold t st ((posOfItem st i).zip (str.take i.len)) with
    | none => rfl
    | some s' =>
      -- the items left are read in `s'`, which differs from `st` in constraint strings only
      have hsk := specFold_skel h1
      show fixList t fuel s' r (str.drop i.len) = okOrEmpty (specFold t s' _)
      rw [ih s' (str.drop i.len) bound (specFold_wf hl hw h1) hb
        (fun j hj => by rw [← itemOK_skel s', hsk, itemOK_skel]; exact hok j (List.mem_cons_of_mem _ hj))
        (by rw [List.length_drop, hlen, Nat.add_sub_cancel_left]) (fun c h => hcodes c (List.mem_of_mem_drop h)),
        show posOfItem s' = posOfItem st from funext fun j => posOfView_congr hsk j.name j.rev]

theorem fixItem_spec (hl : t.lawful = true) : ∀ fuel, FixItemSpec t fuel := by
  intro fuel
  induction fuel with
  | zero => intro st n rev str e bound _ _ hb; cases hb
  | succ fuel ih =>
    intro st n rev str e bound hw he hb hidx hcodes
    rw [fixItem_succ, he]
    simp only
    cases hs : e.isSup
    · -- atomic sequence
      simp only [Bool.not_false, if_true]
      cases rev
      · exact fixAtomic_spec hl hw he hs str hcodes
      · rw [specFix_star hl hw he str hcodes, if_pos rfl, wcStr_eq_wc hl str hcodes]
        exact fixAtomic_spec hl hw he hs _ (wc_codes hl hcodes)
    · -- super-sequence
      simp only [Bool.not_true, Bool.false_eq_true, if_false]
      obtain ⟨_, hitems, hbases, hsum⟩ := (seqOK_iff_sup hs).1 (wfB_seqOK hw (findE_some he).1)
      rw [(findE_some he).2] at hitems
      refine specFix_checked (posOfView_length hw he rev) fun hlen => ?_
      rw [posOfView_sup he hbases rev]
      exact fixList_spec hl fuel ih (itemsOfView e rev) st str (idxOf st n) hw
        (Nat.lt_of_lt_of_le (hidx hs) (Nat.le_of_lt_succ hb))
        (itemOK_itemsOfView hitems rev) (by rw [itemsOfView_len_sum, hlen, hsum]) hcodes

theorem fixItem_top (hl : t.lawful = true) {st : St} (hw : wfB t st = true) {n : String} {e : SeqE}
    (he : st.findSeq n = some e) (fuel : Nat) (hfuel : st.seqs.length < fuel) (rev : Bool) (str : List Char)
    (hcodes : ∀ c ∈ str, t.isCode c = true) :
    fixItem t fuel st n rev str = specFix t st (posOfView st n rev) str :=
  fixItem_spec hl fuel st n rev str e st.seqs.length hw he hfuel
    (fun _ => List.findIdx_lt_length_of_exists ⟨e, (findE_some he).1, beq_iff_eq.2 (findE_some he).2⟩) hcodes

theorem fix_port {t : CodeTable} (hl : t.lawful = true) {cs : St} (hw : wfB t cs = true) {n : String} {e : SeqE}
    (he : cs.findSeq n = some e) (parity : Bool) (str : List Char) (hc : ∀ c ∈ str, t.isCode c = true) :
    fixItem t (cs.seqs.length + 1) cs n parity str =
      specFix t cs (posOfView cs n false) (if parity then wc t str else str) := by
  rw [fixItem_top hl hw he _ (Nat.lt_succ_self _) parity str hc]
  cases parity
  · rfl
  · exact specFix_star hl hw he str hc

/-- `Strand.fix_seq` -/
theorem fixStrand_spec (hl : t.lawful = true) {st : St} (hw : wfB t st = true) {s : StrandE}
    (hs : s ∈ st.strands) (str : List Char) (hcodes : ∀ c ∈ str, t.isCode c = true) :
    fixStrand t st s str = specFix t st (posOfBases s.bases) str := by
  obtain ⟨hitems, hbases, hsum, hbl⟩ := strandOK_iff.1 (wfB_strandOK hw hs)
  unfold fixStrand fixItems
  refine specFix_checked (by rw [posOfBases_length, hbl]) fun hlen => ?_
  rw [posOfBases_items hbases]
  exact fixList_spec hl _ (fixItem_spec hl _) s.items st str st.seqs.length hw (Nat.lt_succ_self _) hitems
    (hlen.trans hsum) hcodes

def specFixAll (t : CodeTable) (st : St) (l : List (List Pos × List Char)) : Except Fix.Err St :=
  l.foldlM (fun s x => specFix t s x.1 x.2) st

theorem specFixAll_cons (t : CodeTable) (st : St) (x : List Pos × List Char) (r : List (List Pos × List Char)) :
    specFixAll t st (x :: r) =
      match specFix t st x.1 x.2 with
      | .ok s' => specFixAll t s' r
      | .error e => .error e := by
  unfold specFixAll
  rw [List.foldlM_cons]
  cases specFix t st x.1 x.2 <;> rfl

theorem specFixAll_of_lengths (t : CodeTable) : ∀ (l : List (List Pos × List Char)) (st : St),
    (∀ x ∈ l, x.1.length = x.2.length) →
    specFixAll t st l = okOrEmpty (specFold t st (l.flatMap fun x => x.1.zip x.2)) := by
  intro l
  induction l with
  | nil => intro st _; rfl
  | cons x r ih =>
    intro st h
    rw [specFixAll_cons, specFix_of_length_eq (h x List.mem_cons_self), List.flatMap_cons, specFold_append]
    cases specFold t st (x.1.zip x.2) with
    | none => rfl
    | some s' => exact ih s' fun y hy => h y (List.mem_cons_of_mem _ hy)

theorem specFixAll_eq_specFix (t : CodeTable) (l : List (List Pos × List Char)) (st : St)
    (h : ∀ x ∈ l, x.1.length = x.2.length) :
    specFixAll t st l = specFix t st (l.flatMap (·.1)) (l.flatMap (·.2)) := by
  obtain ⟨hlen, hzip⟩ := zip_flatMap l (·.1) (·.2) h
  rw [specFixAll_of_lengths t l st h, specFix_of_length_eq hlen, hzip]

theorem specFixAll_of_bad_length (t : CodeTable) : ∀ (l : List (List Pos × List Char)) (st : St),
    (∃ x ∈ l, x.1.length ≠ x.2.length) → ∃ err, specFixAll t st l = .error err := by
  intro l
  induction l with
  | nil => intro st ⟨_, h, _⟩; cases h
  | cons x r ih =>
    intro st ⟨y, hy, hne⟩
    rw [specFixAll_cons]
    cases h : specFix t st x.1 x.2 with
    | error e => exact ⟨e, rfl⟩
    | ok s' =>
      rcases List.mem_cons.1 hy with rfl | hy'
      · exact absurd (specFix_ok h).1 hne
      · exact ih s' ⟨y, hy', hne⟩

theorem specFixAll_toOption (t : CodeTable) (st : St) (l : List (List Pos × List Char)) :
    (specFixAll t st l).toOption =
      if l.all (fun x => x.1.length == x.2.length) then specFold t st (l.flatMap fun x => x.1.zip x.2) else none := by
  cases hall : l.all (fun x => x.1.length == x.2.length) with
  | true =>
    rw [specFixAll_of_lengths t l st fun x hx => beq_iff_eq.1 (List.all_eq_true.1 hall x hx), toOption_okOrEmpty]
    rfl
  | false =>
    obtain ⟨x, hx, hne⟩ := List.all_eq_false.1 hall
    obtain ⟨err, he⟩ := specFixAll_of_bad_length t l st ⟨x, hx, fun h => hne (beq_iff_eq.2 h)⟩
    rw [he]
    rfl

theorem specFix_keeps (hl : t.lawful = true) {st acc acc' : St} {pos : List Pos} {str : List Char}
    (hinv : wfB t acc = true ∧ skel acc = skel st) (h : specFix t acc pos str = .ok acc') :
    wfB t acc' = true ∧ skel acc' = skel st :=
  ⟨specFold_wf hl hinv.1 (specFix_ok h).2, (specFold_skel (specFix_ok h).2).trans hinv.2⟩

/-- any number of `fix_seq` calls in a row, as the compile driver makes them: together they are `specFixAll` over the
    positions read in the *original* component, because a fix only changes constraint strings -/
theorem fixItem_all (hl : t.lawful = true) {st : St} (hw : wfB t st = true) (l : List (String × Bool × List Char))
    (hfound : ∀ x ∈ l, (st.findSeq x.1).isSome = true) (hcodes : ∀ x ∈ l, ∀ c ∈ x.2.2, t.isCode c = true) :
    l.foldlM (fun s x => fixItem t (s.seqs.length + 1) s x.1 x.2.1 x.2.2) st =
      specFixAll t st (l.map fun x => (posOfView st x.1 x.2.1, x.2.2)) := by
  unfold specFixAll
  rw [List.foldlM_map]
  refine foldlM_congr_inv (fun acc => wfB t acc = true ∧ skel acc = skel st) l (fun acc x hx hinv => ?_)
    (fun acc x _ acc' hinv h => specFix_keeps hl hinv h) st ⟨hw, rfl⟩
  obtain ⟨e, he⟩ := Option.isSome_iff_exists.1 (hfound x hx)
  have hf := findSeq_skel acc x.1
  rw [hinv.2, findSeq_skel, he] at hf
  cases he' : acc.findSeq x.1 with
  | none => rw [he'] at hf; cases hf
  | some e' =>
    rw [fixItem_top hl hinv.1 he' _ (Nat.lt_succ_self _) x.2.1 x.2.2 (hcodes x hx), posOfView_congr hinv.2]

theorem structParts_ok {st : St} (hw : wfB t st = true) {x : StructE} (hx : x ∈ st.structs)
    {str : List Char} (hcodes : ∀ c ∈ str, c = '+' ∨ t.isCode c = true) :
    ∀ np ∈ x.strands.zip (Notation.splitOn '+' str),
      (∃ s, st.findStrand np.1 = some s) ∧ ∀ c ∈ np.2, t.isCode c = true := by
  intro np hnp
  obtain ⟨h1, h2⟩ := List.of_mem_zip hnp
  refine ⟨Option.isSome_iff_exists.1 (wfB_structOK hw hx np.1 h1),
    fun c hc => ?_⟩
  obtain ⟨hm, hne⟩ := mem_of_mem_splitOn (Notation.splitOn_eq '+' str ▸ h2) hc
  exact (hcodes c hm).resolve_left hne

/-- the strands stay where they are because a fix only changes constraint strings -/
theorem fixStruct_fold (hl : t.lawful = true) {st : St} (hw : wfB t st = true) {x : StructE}
    (hx : x ∈ st.structs) (str : List Char) (hcodes : ∀ c ∈ str, c = '+' ∨ t.isCode c = true)
    (hcount : (Notation.splitOn '+' str).length = x.strands.length) :
    fixStruct t st x str = specFixAll t st
      ((x.strands.zip (Notation.splitOn '+' str)).map fun np => (posOfStrandName st np.1, np.2)) := by
  unfold fixStruct specFixAll
  simp only
  rw [if_neg (fun hb => bne_iff_ne.1 hb hcount), List.foldlM_map]
  refine foldlM_congr_inv (fun acc => wfB t acc = true ∧ skel acc = skel st) _
    (fun acc np hnp hinv => ?_) (fun acc np _ acc' hinv h => ?_) st ⟨hw, rfl⟩
  · obtain ⟨hwa, hsk⟩ := hinv
    obtain ⟨⟨s, hs⟩, hc⟩ := structParts_ok hw hx hcodes np hnp
    have hs' : acc.findStrand np.1 = some s := by
      unfold St.findStrand
      rw [strands_congr hsk]
      exact hs
    unfold posOfStrandName
    simp only [hs, hs']
    exact fixStrand_spec hl hwa (List.mem_of_find?_eq_some hs') np.2 hc
  · exact specFix_keeps hl hinv h

theorem specFixStruct_of_count_eq (t : CodeTable) (st : St) (x : StructE) (str : List Char)
    (hcount : (Notation.splitOn '+' str).length = x.strands.length) :
    specFixStruct t st x str =
      if (x.strands.zip (Notation.splitOn '+' str)).all (fun np => (posOfStrandName st np.1).length == np.2.length)
      then specFix t st ((x.strands.zip (Notation.splitOn '+' str)).flatMap (fun np => posOfStrandName st np.1))
        (Notation.splitOn '+' str).flatten
      else .error .length := by
  unfold specFixStruct
  simp only [hcount, bne_self_eq_false, Bool.false_eq_true, if_false]
  cases List.all _ _ <;> rfl

theorem specFixStruct_of_lengths (t : CodeTable) (st : St) (x : StructE) (str : List Char)
    (hcount : (Notation.splitOn '+' str).length = x.strands.length)
    (hlens : ∀ np ∈ x.strands.zip (Notation.splitOn '+' str), (posOfStrandName st np.1).length = np.2.length) :
    specFixStruct t st x str =
      specFix t st ((x.strands.zip (Notation.splitOn '+' str)).flatMap (fun np => posOfStrandName st np.1))
        (Notation.splitOn '+' str).flatten := by
  rw [specFixStruct_of_count_eq t st x str hcount,
    if_pos (List.all_eq_true.2 fun np hnp => beq_iff_eq.2 (hlens np hnp))]

theorem fixNamed_comp_sequence (t : CodeTable) (fuel : Nat) (s : St) (name : String) (str : List Char) :
    fixNamed t .sequence (fuel + 1) (.comp s) name str =
      match s.findSeq name with
      | none => .ok none
      | some _ => (fixItem t (s.seqs.length + 1) s name false str).map (fun s' => some (.comp s')) := rfl

/-- what the loop of `fix_signal` needs of a system: the components directly below it are well-formed (a sub-system
    below it is handed to `fix_signal` itself, by the code and by the specification alike) -/
def LeavesWF (t : CodeTable) (st : SysSt) : Prop :=
  ∀ cn cs, (cn, Inst.comp cs) ∈ st.components → wfB t cs = true

theorem leavesWF_of_wfInst {fuel : Nat} {st : SysSt} (h : wfInst t (fuel + 1) (.sys st) = true) : LeavesWF t st :=
  fun cn cs hm => (wfInst_comp t fuel cs).symm.trans ((wfInst_sys_succ t fuel st).1 h (cn, .comp cs) hm)

theorem leavesWF_updComp {st : SysSt} (h : LeavesWF t st) (cn : String) {sub' : Inst}
    (hs : ∀ cs, sub' = .comp cs → wfB t cs = true) : LeavesWF t (updComp st cn sub') := by
  obtain ⟨p, n, pf, tm, sg, l, comps, i, o⟩ := st
  intro c cs hq
  obtain ⟨⟨c0, x⟩, hcx, heq⟩ := List.mem_map.1 hq
  simp only at heq
  split at heq
  · exact hs cs (Prod.mk.inj heq).2
  · cases heq
    exact h c cs hcx

theorem sigStepSpec_leaves (hl : t.lawful = true) (fuel : Nat) (str : List Char) (acc : SysSt) (e : SigEntry)
    (acc' : SysSt) (hinv : LeavesWF t acc) (h : sigStepSpec t fuel str acc e = .ok acc') : LeavesWF t acc' := by
  unfold sigStepSpec at h
  simp only at h
  split at h
  · cases h
  · rename_i sub hlk
    split at h
    · -- a component's port
      split at h
      · obtain ⟨cs', hx, rfl⟩ := map_ok h
        refine leavesWF_updComp hinv _ fun _ hcs => ?_
        cases hcs
        exact specFold_wf hl (hinv _ _ (lookup_mem hlk)) (specFix_ok hx).2
      · cases h
    · -- a sub-system's signal: no component directly below changes
      split at h
      · cases h
      · cases h
      · cases h
        exact leavesWF_updComp hinv _ fun _ hcs => nomatch hcs
    · cases h

theorem fixSignal_spec {t : CodeTable} (hl : t.lawful = true) (fuel : Nat) (st : SysSt) (name : String)
    (str : List Char) (hc : ∀ c ∈ str, t.isCode c = true) (hw : wfInst t (fuel + 1) (.sys st) = true) :
    fixSignal t (fuel + 1) st name str =
      match st.signals.lookup name with
      | none => .ok none
      | some entries => (entries.foldlM (sigStepSpec t fuel str) st).map some := by
  unfold fixSignal
  cases st.signals.lookup name with
  | none => rfl
  | some entries =>
    refine congrArg (Except.map some) (foldlM_congr_inv (LeavesWF t) entries (fun acc e _ hinv => ?_)
      (fun acc e _ acc' => sigStepSpec_leaves hl fuel str acc e acc') st (leavesWF_of_wfInst hw))
    obtain ⟨p, n, pf, tm, sg, l, comps, i, o⟩ := acc
    unfold sigStepSpec
    simp only [SysSt.components]
    cases hlk : comps.lookup e.comp with
    | none => rfl
    | some sub =>
      simp only
      cases hp : e.port with
      | seq it bs =>
        cases sub with
        | sys ss => rfl
        | comp cs =>
          simp only
          cases hf : cs.findSeq it.name with
          | none => rw [fixItem_succ, hf]; rfl
          | some e' => rw [FixSpec.fix_port hl (hinv _ _ (lookup_mem hlk)) hf e.wc str hc]; rfl
      | sig sn =>
        cases sub with
        | comp cs => rfl
        | sys ss =>
          simp only
          cases hwc : e.wc
          · rfl
          · rw [if_pos rfl, wcStr_eq_wc hl str hc]; rfl

end Pepper.FixSpec
