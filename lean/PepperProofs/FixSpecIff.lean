import PepperModel.FixSpec
import PepperProofs.Basic
/-!
The Boolean well-formedness checks of `PepperModel/FixSpec.lean` (`itemOK`, `seqOK`, `strandOK`, `structOK`, `constOK`,
`shapeB`, `wfB`, `wfInst`) as propositions, one `iff` each: `PepperProofs/Fix.lean` reads them left to right,
`PepperProofs/LoadInv.lean` / `LoadInvSys.lean` build them right to left.
-/
namespace Pepper.FixSpec
open Pepper.Comp Pepper.Sys

theorem itemOK_iff {st : St} {b : Nat} {i : ItemRef} : itemOK st b i = true ↔
    ∃ e', st.findSeq i.name = some e' ∧ e'.len = i.len ∧ e'.isSup = i.isSup ∧
      (e'.isSup = true → idxOf st i.name < b) := by
  unfold itemOK
  cases he : st.findSeq i.name with
  | none => exact ⟨fun h => (nomatch h), fun ⟨_, h, _⟩ => (nomatch h)⟩
  | some e' =>
    simp only [Bool.and_eq_true, beq_iff_eq, Bool.or_eq_true, Bool.not_eq_true', decide_eq_true_eq, Option.some.injEq,
      exists_eq_left']
    cases e'.isSup <;> simp [and_assoc]

theorem seqOK_iff_base {st : St} {e : SeqE} (hs : e.isSup = false) : seqOK st e = true ↔
    (e.bases.map (·.len)).sum = e.len ∧ e.bases = [⟨e.name, false, e.len⟩] := by
  simp only [seqOK, Bool.and_eq_true, hs, Bool.false_eq_true, if_false, decide_eq_true_eq, beq_iff_eq]

theorem seqOK_iff_sup {st : St} {e : SeqE} (hs : e.isSup = true) : seqOK st e = true ↔
    (e.bases.map (·.len)).sum = e.len ∧ (∀ i ∈ e.items, itemOK st (idxOf st e.name) i = true) ∧
      e.bases = e.items.flatMap (basesOfItem st) ∧ e.len = (e.items.map (·.len)).sum := by
  simp only [seqOK, Bool.and_eq_true, hs, if_true, decide_eq_true_eq, List.all_eq_true, beq_iff_eq, and_assoc]

theorem seqOK_bases_len {st : St} {e : SeqE} (h : seqOK st e = true) : (e.bases.map (·.len)).sum = e.len := by
  cases hs : e.isSup
  · exact ((seqOK_iff_base hs).1 h).1
  · exact ((seqOK_iff_sup hs).1 h).1

theorem seqOK_sup_bases {st : St} {e : SeqE} (hs : e.isSup = true) (h : seqOK st e = true) :
    e.bases = e.items.flatMap (basesOfItem st) := ((seqOK_iff_sup hs).1 h).2.2.1

theorem strandOK_iff {st : St} {s : StrandE} : strandOK st s = true ↔
    (∀ i ∈ s.items, itemOK st st.seqs.length i = true) ∧ s.bases = s.items.flatMap (basesOfItem st) ∧
      s.len = (s.items.map (·.len)).sum ∧ (s.bases.map (·.len)).sum = s.len := by
  simp only [strandOK, Bool.and_eq_true, decide_eq_true_eq, List.all_eq_true, beq_iff_eq, and_assoc]

theorem strandOK_bases {st : St} {s : StrandE} (h : strandOK st s = true) :
    s.bases = s.items.flatMap (basesOfItem st) := (strandOK_iff.1 h).2.1

theorem structOK_iff {st : St} {x : StructE} :
    structOK st x = true ↔ ∀ n ∈ x.strands, (st.findStrand n).isSome = true := by
  simp only [structOK, List.all_eq_true]

theorem constOK_iff {t : CodeTable} {e : SeqE} : constOK t e = true ↔
    (∀ c ∈ e.const, t.isCode c = true) ∧ (e.isSup = false → e.const.length = e.len) := by
  simp only [constOK, Bool.and_eq_true, List.all_eq_true, Bool.or_eq_true, beq_iff_eq]
  cases e.isSup <;> simp

theorem shapeB_iff {st : St} : shapeB st = true ↔
    (st.seqs.map (·.name)).Nodup ∧ (∀ e ∈ st.seqs, seqOK st e = true) ∧
      (∀ s ∈ st.strands, strandOK st s = true) ∧ ∀ x ∈ st.structs, structOK st x = true := by
  simp only [shapeB, Bool.and_eq_true, decide_eq_true_eq, List.all_eq_true, and_assoc]

theorem wfB_iff {t : CodeTable} {st : St} :
    wfB t st = true ↔ shapeB st = true ∧ ∀ e ∈ st.seqs, constOK t e = true := by
  simp only [wfB, Bool.and_eq_true, List.all_eq_true]

theorem wfInst_comp (t : CodeTable) (fuel : Nat) (s : St) : wfInst t fuel (.comp s) = wfB t s := by
  cases fuel <;> rfl

theorem wfInst_sys_succ (t : CodeTable) (fuel : Nat) (st : SysSt) :
    wfInst t (fuel + 1) (.sys st) = true ↔ ∀ p ∈ st.components, wfInst t fuel p.2 = true := by
  simp [wfInst, List.all_eq_true]

end Pepper.FixSpec
