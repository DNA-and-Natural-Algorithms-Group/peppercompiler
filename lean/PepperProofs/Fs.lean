import PepperModel.Fs
/-!
# Lemmas for C20

Names: scratch names of different temp names differ (`tempFiles_disjoint`, string-append injectivity), hence distinct
names give independent footprints (`indep_of_namesDistinct`); the straight-line process `toolOps` of a tool run stays
inside its footprint (`toolOps_within`).  Processes: a process run alone depends only on, and changes only, its footprint
(`run_frame`, `run_outside`); the interleaving invariant `Inv` (`Inv.step`) gives `sched_spec`, induction over the job
list `seq_spec`; both end in a `Settled` file system, and two of those hold the same files (`Settled.same`).
-/
namespace Pepper.Fs

@[simp] theorem Fs.read_set_self (fs : Fs) (p : Path) (v : Option String) : (fs.set p v).read p = v := by
  simp [Fs.set, Fs.read]

theorem Fs.read_set_other (fs : Fs) {p q : Path} (v : Option String) (h : q ≠ p) :
    (fs.set p v).read q = fs.read q := by
  have hb : (q == p) = false := by simp [h]
  simp [Fs.set, Fs.read, List.lookup_cons, hb]

theorem Fs.same_refl (a : Fs) : Fs.same a a := fun _ => rfl
theorem Fs.same_symm {a b : Fs} (h : Fs.same a b) : Fs.same b a := fun p => (h p).symm
theorem Fs.same_trans {a b c : Fs} (h : Fs.same a b) (h' : Fs.same b c) : Fs.same a c :=
  fun p => (h p).trans (h' p)

theorem run_frame {R W : List Path} : ∀ (P : Proc), P.Within R W → ∀ (fs fs' : Fs) (log : List (Option String)),
    (∀ p, p ∈ R ∨ p ∈ W → fs.read p = fs'.read p) →
    (P.run fs log).2 = (P.run fs' log).2 ∧
      ∀ p, p ∈ R ∨ p ∈ W → (P.run fs log).1.read p = (P.run fs' log).1.read p := by
  have set_agree : ∀ {fs fs' : Fs} (p : Path) (v : Option String),
      (∀ q, q ∈ R ∨ q ∈ W → fs.read q = fs'.read q) →
      ∀ q, q ∈ R ∨ q ∈ W → (fs.set p v).read q = (fs'.set p v).read q := by
    intro fs fs' p v h q hq
    by_cases e : q = p
    · subst e; simp
    · rw [Fs.read_set_other _ _ e, Fs.read_set_other _ _ e]; exact h q hq
  intro P
  induction P with
  | done => intro _ fs fs' log h; exact ⟨rfl, h⟩
  | read p k ih =>
    intro hw fs fs' log h
    simp only [Proc.run]
    rw [h p (Or.inl hw.1)]
    exact ih (fs'.read p) (hw.2 _) fs fs' _ h
  | write p c k ih => intro hw fs fs' log h; exact ih hw.2 _ _ log (set_agree p _ h)
  | remove p k ih => intro hw fs fs' log h; exact ih hw.2 _ _ log (set_agree p _ h)

theorem run_outside {R W : List Path} : ∀ (P : Proc), P.Within R W → ∀ (fs : Fs) (log : List (Option String)) (q : Path),
    q ∉ W → (P.run fs log).1.read q = fs.read q := by
  intro P
  induction P with
  | done => intro _ fs log q _; rfl
  | read p k ih => intro hw fs log q hq; exact ih _ (hw.2 _) fs _ q hq
  | write p c k ih =>
    intro hw fs log q hq
    exact (ih hw.2 _ log q hq).trans (Fs.read_set_other _ _ (fun e => hq (e ▸ hw.1)))
  | remove p k ih =>
    intro hw fs log q hq
    exact (ih hw.2 _ log q hq).trans (Fs.read_set_other _ _ (fun e => hq (e ▸ hw.1)))

theorem Thread.step_job (t : Thread) (fs : Fs) : (t.step fs).2.job = t.job := by
  unfold Thread.step; split <;> rfl

theorem Thread.step_run (t : Thread) (fs : Fs) :
    (t.step fs).2.proc.run (t.step fs).1 (t.step fs).2.log = t.proc.run fs t.log := by
  unfold Thread.step
  split <;> rename_i h <;> simp [h, Proc.run]

theorem Thread.step_within {R W : List Path} (t : Thread) (fs : Fs) (h : t.proc.Within R W) :
    (t.step fs).2.proc.Within R W := by
  unfold Thread.step
  split <;> rename_i e <;> rw [e] at h <;> simp only [Proc.Within] at h
  · simp [e, Proc.Within]
  · exact h.2 _
  · exact h.2
  · exact h.2

theorem Thread.step_read {R W : List Path} (t : Thread) (fs : Fs) (h : t.proc.Within R W) {q : Path} (hq : q ∉ W) :
    (t.step fs).1.read q = fs.read q := by
  unfold Thread.step
  -- `done` and `read` leave the file system alone: `rw` closes them by `rfl`
  split <;> rename_i e <;> rw [e] at h
  · exact Fs.read_set_other _ _ fun eq => hq (eq ▸ h.1)
  · exact Fs.read_set_other _ _ fun eq => hq (eq ▸ h.1)

theorem stepThreads_cases (i : Nat) (fs : Fs) (ts : List Thread) :
    stepThreads i fs ts = (fs, ts) ∨
    ∃ l₁ t l₂, ts = l₁ ++ t :: l₂ ∧ stepThreads i fs ts = ((t.step fs).1, l₁ ++ (t.step fs).2 :: l₂) := by
  fun_induction stepThreads i fs ts with
  | case1 => exact .inl rfl
  | case2 fs t ts => exact .inr ⟨[], t, ts, rfl, rfl⟩
  | case3 n fs t ts ih =>
    rcases ih with h | ⟨l₁, u, l₂, e, h⟩
    · left; rw [h]
    · right; exact ⟨t :: l₁, u, l₂, by rw [e]; rfl, by rw [h]; rfl⟩

def Solo (fs0 : Fs) (j : Job) : Fs × List (Option String) := j.proc.run fs0 []

theorem Indep.symm {a b : Job} (h : Indep a b) : Indep b a :=
  ⟨fun p hp hq => h.1 p hq hp, h.2.2, h.2.1⟩

/-- the rest of thread `t`, run alone from the current file system, gives what its job gives alone from `fs0` -/
structure Good (fs0 fs : Fs) (t : Thread) : Prop where
  within : t.proc.Within t.job.reads t.job.writes
  log : (t.proc.run fs t.log).2 = (Solo fs0 t.job).2
  agree : ∀ p, p ∈ t.job.reads ∨ p ∈ t.job.writes → (t.proc.run fs t.log).1.read p = (Solo fs0 t.job).1.read p

structure Inv (fs0 : Fs) (js : List Job) (c : Config) : Prop where
  jobs : c.threads.map Thread.job = js
  good : ∀ t ∈ c.threads, Good fs0 c.fs t
  frame : ∀ p, (∀ j ∈ js, p ∉ j.writes) → c.fs.read p = fs0.read p

theorem Good.of_indep {fs0 fs : Fs} {x t : Thread} (g : Good fs0 fs x) (hi : Indep x.job t.job)
    (ht : t.proc.Within t.job.reads t.job.writes) : Good fs0 (t.step fs).1 x := by
  have hfr : ∀ q, q ∈ x.job.reads ∨ q ∈ x.job.writes → (t.step fs).1.read q = fs.read q := fun q hq =>
    t.step_read fs ht fun hp => hq.elim (fun hq => hi.2.1 _ hq hp) (fun hq => hi.1 _ hq hp)
  obtain ⟨h1, h2⟩ := run_frame x.proc g.within _ fs x.log hfr
  exact ⟨g.within, h1.trans g.log, fun q hq => (h2 q hq).trans (g.agree q hq)⟩

theorem Inv.init {fs0 : Fs} {js : List Job} (hw : ∀ j ∈ js, j.proc.Within j.reads j.writes) :
    Inv fs0 js (Config.init fs0 js) := by
  refine ⟨?_, ?_, fun _ _ => rfl⟩
  · simp [Config.init, List.map_map, Function.comp_def, Thread.start]
  · intro t ht
    simp only [Config.init, List.mem_map] at ht
    obtain ⟨j, hj, rfl⟩ := ht
    exact ⟨hw j hj, rfl, fun _ _ => rfl⟩

theorem Inv.step {fs0 : Fs} {js : List Job} (hi : js.Pairwise Indep) {c : Config} (inv : Inv fs0 js c) (i : Nat) :
    Inv fs0 js (c.stepAt i) := by
  rcases stepThreads_cases i c.fs c.threads with h | ⟨l₁, t, l₂, e, h⟩
  · have : c.stepAt i = c := by simp [Config.stepAt, h]
    rw [this]; exact inv
  · have hc : c.stepAt i = ⟨(t.step c.fs).1, l₁ ++ (t.step c.fs).2 :: l₂⟩ := by simp [Config.stepAt, h]
    rw [hc]
    have hj := inv.jobs
    rw [e] at hj
    simp only [List.map_append, List.map_cons] at hj
    have hi' := hi
    rw [← hj, List.pairwise_append, List.pairwise_cons] at hi'
    obtain ⟨_, ⟨hr, _⟩, hl⟩ := hi'
    have tmem : t ∈ c.threads := by rw [e]; simp
    have gt := inv.good t tmem
    refine ⟨?_, ?_, ?_⟩
    · simp only [List.map_append, List.map_cons, Thread.step_job]; exact hj
    · intro x hx
      simp only [List.mem_append, List.mem_cons] at hx
      rcases hx with hx | hx | hx
      · have gx := inv.good x (by rw [e]; simp [hx])
        exact gx.of_indep (hl _ (List.mem_map_of_mem hx) _ (List.mem_cons_self)) gt.within
      · subst hx
        refine ⟨?_, ?_, ?_⟩
        · rw [Thread.step_job]; exact Thread.step_within t _ gt.within
        · rw [Thread.step_run, Thread.step_job]; exact gt.log
        · rw [Thread.step_run, Thread.step_job]; exact gt.agree
      · have gx := inv.good x (by rw [e]; simp [hx])
        exact gx.of_indep (hr _ (List.mem_map_of_mem hx)).symm gt.within
    · intro p hp
      exact (t.step_read c.fs gt.within (hp t.job (by rw [← inv.jobs]; exact List.mem_map_of_mem tmem))).trans
        (inv.frame p hp)

theorem Inv.sched {fs0 : Fs} {js : List Job} (hi : js.Pairwise Indep) (s : List Nat) :
    ∀ {c : Config}, Inv fs0 js c → Inv fs0 js (runSched s c) := by
  induction s with
  | nil => intro c h; exact h
  | cons i s ih => intro c h; exact ih (h.step hi i)

theorem Thread.done_of_isDone {t : Thread} (h : t.isDone = true) : t.proc = .done := by
  unfold Thread.isDone at h
  split at h
  · assumption
  · cases h

/-- `fs` holds what each job of `js` writes when run alone from `fs0`, and `fs0` where none of them writes -/
structure Settled (fs0 : Fs) (js : List Job) (fs : Fs) : Prop where
  own : ∀ j ∈ js, ∀ p ∈ j.writes, fs.read p = (Solo fs0 j).1.read p
  rest : ∀ p, (∀ j ∈ js, p ∉ j.writes) → fs.read p = fs0.read p

theorem Settled.same {js : List Job} {fs0 a b : Fs} (ha : Settled fs0 js a) (hb : Settled fs0 js b) : Fs.same a b := by
  intro p
  by_cases h : ∃ j ∈ js, p ∈ j.writes
  · obtain ⟨j, hj, hp⟩ := h
    rw [ha.own j hj p hp, hb.own j hj p hp]
  · have h' : ∀ j ∈ js, p ∉ j.writes := fun j hj hp => h ⟨j, hj, hp⟩
    rw [ha.rest p h', hb.rest p h']

theorem sched_spec {js : List Job} (hw : ∀ j ∈ js, j.proc.Within j.reads j.writes) (hi : js.Pairwise Indep)
    (fs0 : Fs) (s : List Nat) (hc : (runSched s (Config.init fs0 js)).complete = true) :
    (runSched s (Config.init fs0 js)).logs = js.map (fun j => (Solo fs0 j).2) ∧
    Settled fs0 js (runSched s (Config.init fs0 js)).fs := by
  have inv := Inv.sched hi s (Inv.init (fs0 := fs0) hw)
  generalize runSched s (Config.init fs0 js) = c at inv hc
  have hd : ∀ t ∈ c.threads, t.proc = .done := fun t ht => Thread.done_of_isDone (List.all_eq_true.1 hc t ht)
  refine ⟨?_, ?_, inv.frame⟩
  · rw [← inv.jobs, Config.logs, List.map_map]
    refine List.map_congr_left fun t ht => ?_
    have := (inv.good t ht).log
    rwa [hd t ht] at this
  · intro j hj p hp
    rw [← inv.jobs] at hj
    obtain ⟨t, ht, rfl⟩ := List.mem_map.1 hj
    have := (inv.good t ht).agree p (Or.inr hp)
    rwa [hd t ht] at this

theorem seq_spec (fs0 : Fs) : ∀ (js : List Job), (∀ j ∈ js, j.proc.Within j.reads j.writes) → js.Pairwise Indep →
    ∀ (fs : Fs), (∀ j ∈ js, ∀ p, p ∈ j.reads ∨ p ∈ j.writes → fs.read p = fs0.read p) →
    (runSeq fs js).2 = js.map (fun j => (Solo fs0 j).2) ∧
    (∀ j ∈ js, ∀ p ∈ j.writes, (runSeq fs js).1.read p = (Solo fs0 j).1.read p) ∧
    (∀ p, (∀ j ∈ js, p ∉ j.writes) → (runSeq fs js).1.read p = fs.read p) := by
  intro js
  induction js with
  | nil => intro _ _ fs _; exact ⟨rfl, fun _ hj => absurd hj List.not_mem_nil, fun _ _ => rfl⟩
  | cons j js ih =>
    intro hw hi fs hag
    rw [List.pairwise_cons] at hi
    obtain ⟨hij, hi⟩ := hi
    have hwj := hw j List.mem_cons_self
    obtain ⟨f1, f2⟩ := run_frame j.proc hwj fs fs0 [] (hag j List.mem_cons_self)
    have out := run_outside j.proc hwj fs []
    -- `j` has not touched what the later jobs read or write
    have hag' : ∀ k ∈ js, ∀ p, p ∈ k.reads ∨ p ∈ k.writes → (j.proc.run fs []).1.read p = fs0.read p :=
      fun k hk p hp =>
        (out p fun hpj => hp.elim (fun hp => (hij k hk).2.2 p hp hpj) (fun hp => (hij k hk).1 p hpj hp)).trans
          (hag k (List.mem_cons_of_mem _ hk) p hp)
    obtain ⟨g1, g2, g3⟩ := ih (fun k hk => hw k (List.mem_cons_of_mem _ hk)) hi _ hag'
    refine ⟨?_, ?_, fun p hp => ?_⟩
    · simp only [runSeq, List.map_cons, g1]
      rw [f1]; rfl
    · intro k hk p hp
      rcases List.mem_cons.1 hk with rfl | hk
      · exact (g3 p fun m hm hpm => (hij m hm).1 p hp hpm).trans (f2 p (Or.inr hp))
      · exact g2 k hk p hp
    · exact (g3 p fun m hm => hp m (List.mem_cons_of_mem _ hm)).trans (out p (hp j List.mem_cons_self))

theorem seq_spec_perm {js js' : List Job} (hperm : js'.Perm js) (hw : ∀ j ∈ js, j.proc.Within j.reads j.writes)
    (hi : js.Pairwise Indep) (fs0 : Fs) :
    (runSeq fs0 js').2 = js'.map (fun j => (Solo fs0 j).2) ∧ Settled fs0 js (runSeq fs0 js').1 := by
  obtain ⟨b1, b2, b3⟩ := seq_spec fs0 js' (fun j hj => hw j (hperm.mem_iff.1 hj))
    (hperm.symm.pairwise hi (fun h => h.symm)) fs0 (fun _ _ _ _ => rfl)
  exact ⟨b1, fun j hj => b2 j (hperm.mem_iff.2 hj), fun p hp => b3 p (fun j hj => hp j (hperm.mem_iff.1 hj))⟩

theorem append_ext_inj {a b e e' : String} (h : a ++ e = b ++ e') (hl : e.length = e'.length) : a = b ∧ e = e' := by
  have h' := congrArg String.toList h
  rw [String.toList_append, String.toList_append] at h'
  have hl' : e.toList.length = e'.toList.length := by
    rw [String.length_toList, String.length_toList]; exact hl
  obtain ⟨h1, h2⟩ := List.append_inj' h' hl'
  exact ⟨String.toList_inj.1 h1, String.toList_inj.1 h2⟩

theorem mem_tempFiles {p t : String} : p ∈ tempFiles t ↔ ∃ e ∈ tempExts, p = t ++ e := by
  simp only [tempFiles, List.mem_map, eq_comm]

theorem tempFiles_disjoint {t t' p : String} (h : t ≠ t') (hp : p ∈ tempFiles t) : p ∉ tempFiles t' := by
  have three : ∀ e ∈ tempExts, e.length = 3 := by decide +kernel
  intro hp'
  obtain ⟨e, he, rfl⟩ := mem_tempFiles.1 hp
  obtain ⟨e', he', h'⟩ := mem_tempFiles.1 hp'
  exact h (append_ext_inj h' ((three e he).trans (three e' he').symm)).1

theorem not_mem_tempFiles_of_ext {n t : String} (h : hasTempExt n = false) : n ∉ tempFiles t := by
  intro hn
  obtain ⟨e, he, rfl⟩ := mem_tempFiles.1 hn
  have : hasTempExt (t ++ e) = true := by
    simp only [hasTempExt, List.any_eq_true]
    refine ⟨e, he, ?_⟩
    rw [List.isSuffixOf_iff_suffix, String.toList_append]
    exact List.suffix_append _ _
  rw [this] at h
  cases h

theorem mem_writesOf {i : Invocation} {p : Path} :
    p ∈ writesOf i ↔ (∃ t ∈ tempRoots i, p ∈ tempFiles t) ∨ p ∈ outNames i := by
  simp [writesOf, List.mem_flatMap]

theorem crossFree_iff {A B : Invocation} : crossFree A B = true ↔
    (∀ n, n ∈ outNames A ∨ n ∈ observes A → ∀ t ∈ tempRoots B, n ∉ tempFiles t) ∧
    (∀ n ∈ observes A, n ∉ outNames B) := by
  simp only [crossFree, Bool.and_eq_true, List.all_eq_true, List.mem_append, Bool.not_eq_true',
    List.contains_eq_mem, decide_eq_false_iff_not]

theorem namesDistinct_iff {A B : Invocation} : namesDistinct A B = true ↔
    (∀ n ∈ outNames A, n ∉ outNames B) ∧ (∀ t ∈ tempRoots A, t ∉ tempRoots B) := by
  simp [namesDistinct, List.all_eq_true]

theorem observes_not_written {A B : Invocation} (h : crossFree A B = true) : ∀ p ∈ observes A, p ∉ writesOf B := by
  obtain ⟨h1, h2⟩ := crossFree_iff.1 h
  intro p hA hB
  rcases mem_writesOf.1 hB with ⟨t, ht, hp⟩ | hp
  · exact h1 p (Or.inr hA) t ht hp
  · exact h2 p hA hp

theorem indep_of_namesDistinct {A B : Invocation} (hn : namesDistinct A B = true) (hs : sideCond A B = true) :
    (∀ p ∈ writesOf A, p ∉ writesOf B) ∧ (∀ p ∈ observes A, p ∉ writesOf B) ∧
    (∀ p ∈ observes B, p ∉ writesOf A) := by
  obtain ⟨hno, hnt⟩ := namesDistinct_iff.1 hn
  simp only [sideCond, Bool.and_eq_true] at hs
  refine ⟨fun p hA hB => ?_, observes_not_written hs.1, observes_not_written hs.2⟩
  rcases mem_writesOf.1 hA with ⟨t, ht, hp⟩ | hp <;> rcases mem_writesOf.1 hB with ⟨t', ht', hp'⟩ | hp'
  · exact tempFiles_disjoint (fun e => hnt t ht (by rw [e]; exact ht')) hp hp'
  · exact (crossFree_iff.1 hs.2).1 p (Or.inl hp') t ht hp
  · exact (crossFree_iff.1 hs.1).1 p (Or.inl hp) t' ht' hp'
  · exact hno p hp hp'

theorem ofOps_within {R W : List Path} : ∀ (ops : List Op), (∀ o ∈ ops, o.within R W) →
    ∀ log, (Proc.ofOps ops log).Within R W := by
  intro ops
  induction ops with
  | nil => intro _ _; trivial
  | cons o ops ih =>
    intro h log
    have ho := h o List.mem_cons_self
    have hr := fun x hx => h x (List.mem_cons_of_mem _ hx)
    cases o with
    | read p => exact ⟨ho, fun v => ih hr _⟩
    | write p f => exact ⟨ho, ih hr _⟩
    | remove p => exact ⟨ho, ih hr _⟩

theorem toolOps_within (i : Invocation) (content : Path → List (Option String) → String) :
    ∀ o ∈ toolOps i content, o.within (observes i) (writesOf i) := by
  -- one operation, any invocation: a read of an input, a write or removal of a result or of a scratch file
  have rd : ∀ p ∈ readsOf i, (Op.read p).within (observes i) (writesOf i) := fun p hp => List.mem_append_left _ hp
  have out : ∀ p ∈ outNames i, p ∈ writesOf i := fun p hp => mem_writesOf.2 (.inr hp)
  have tmp : ∀ t ∈ tempRoots i, ∀ p ∈ tempFiles t, p ∈ writesOf i := fun t ht p hp => mem_writesOf.2 (.inl ⟨t, ht, hp⟩)
  obtain ⟨tool, a⟩ := i
  cases tool with
  | compile =>
    simp only [toolOps, List.forall_mem_append, List.forall_mem_map, List.forall_mem_cons]
    exact ⟨rd, out _ List.mem_cons_self, out _ (List.mem_cons_of_mem _ List.mem_cons_self), fun _ h => nomatch h⟩
  | finish =>
    simp only [toolOps, List.forall_mem_append, List.forall_mem_map, List.forall_mem_cons]
    exact ⟨⟨rd _ List.mem_cons_self, rd _ (List.mem_cons_of_mem _ List.mem_cons_self), out _ List.mem_cons_self,
      fun _ h => nomatch h⟩, fun p hp => out p (List.mem_cons_of_mem _ hp)⟩
  | design =>
    simp only [toolOps]
    cases hf : designInfile a with
    | none => exact fun _ h => nomatch h
    | some f =>
      simp only [readsOf, outNames, tempRoots, hf] at rd out tmp
      have tmp := tmp _ List.mem_cons_self
      simp only [List.forall_mem_append, List.forall_mem_map, List.forall_mem_cons]
      refine ⟨⟨rd _ List.mem_cons_self, tmp⟩, ?_⟩
      split
      · exact fun _ h => nomatch h
      · rename_i hj
        rw [if_neg hj] at rd out
        simp only [List.forall_mem_append, List.forall_mem_cons]
        refine ⟨⟨rd _ (List.mem_cons_of_mem _ List.mem_cons_self), out _ List.mem_cons_self, fun _ h => nomatch h⟩, ?_⟩
        split
        · -- the four names removed are the scratch files again, in another order
          have sub : ∀ e ∈ [".st", ".wc", ".eq", ".sp"], e ∈ tempExts := by decide
          exact List.forall_mem_map.2 (List.forall_mem_map (l := [".st", ".wc", ".eq", ".sp"]).2 fun e he =>
            tmp _ (List.mem_map_of_mem (sub e he)))
        · exact fun _ h => nomatch h

theorem toolJob_within (i : Invocation) (content : Path → List (Option String) → String) :
    (toolJob i content).proc.Within (toolJob i content).reads (toolJob i content).writes :=
  ofOps_within _ (toolOps_within i content) []

end Pepper.Fs
