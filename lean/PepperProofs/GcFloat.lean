import PepperProofs.GcToken
import PepperProofs.EndToEndText
/-!
# The `.mfe` text with the token Python prints in the GC-content field

`Mfe.outputGc` writes exactly the records `mfeRecsGc` (`outputGc_ok`, an instance of `output_reads`); each is a record
of `mfeRecs` with a token `gcToken k n`, `0 < n`, `k ≤ n` (`mem_mfeRecsGc`), which has the shape the reader accepts
(`GcToken.lean`), so they are readable (`recsGc_readable`) and finishing their text is finishing the record list
(`finish_text_gc`).
-/
namespace Pepper.EndToEndText
open Pepper Pepper.Pil Pepper.ConstraintGen Pepper.LinkSpec Pepper.EndToEnd Pepper.GcFloat

/-- the three numeric fields `"%f %f %d" % (0, k / n, 0)` -/
def gcFields (k n : Nat) : List (List Char) := [fmtF0, gcToken k n, fmtD0]

/-- the records `Convert.output` writes after `process_results`, WITH the GC-content field it prints: `mfeRecs` with
    `gcFields (count of C and G) (length)` in place of the opaque `mfeFields` — for a structure the length is the sum of
    its strands' lengths (the `+` signs are not counted), the starred record of a sequence carries the token of the
    forward sequence -/
def mfeRecsGc (t : CodeTable) (spec : Spec) (asg : Var → Base) : List (List Char × Finish.Rec) :=
  (List.zip (List.range spec.structs.length) spec.structs).map (fun (p : Nat × StructObj) =>
      ((toString p.1).toList,
       (⟨p.2.name.toList, Mfe.joinPlus (p.2.strands.map (strandVal spec asg)),
         gcFields (gcCount (Mfe.joinPlus (p.2.strands.map (strandVal spec asg))))
           ((p.2.strands.map (strandVal spec asg)).map List.length).sum,
         p.2.struct, p.2.struct⟩ : Finish.Rec)))
  ++ (List.zip (List.range spec.seqs.length) spec.seqs).flatMap (fun (p : Nat × SeqObj) =>
      [((toString (p.1 + spec.structs.length)).toList,
        (⟨p.2.name.toList, spellT t (Pil.denote spec) asg (viewNucs p.2 false),
          gcFields (gcCount (spellT t (Pil.denote spec) asg (viewNucs p.2 false))) p.2.len,
          List.replicate p.2.len '.', List.replicate p.2.len '.'⟩ : Finish.Rec)),
       ((toString 0).toList,
        (⟨(p.2.name ++ "*").toList, spellT t (Pil.denote spec) asg (viewNucs p.2 true),
          gcFields (gcCount (spellT t (Pil.denote spec) asg (viewNucs p.2 false))) p.2.len,
          List.replicate p.2.len '.', List.replicate p.2.len '.'⟩ : Finish.Rec))])

/-- the lines of the `.mfe` file, every character of it (`"\n".join` of them is the file) -/
def mfeLinesGc (t : CodeTable) (spec : Spec) (asg : Var → Base) : List String :=
  (Finish.renderLines (mfeRecsGc t spec asg) fmtF0).map String.ofList

theorem mfeRecsGc_design (t : CodeTable) (spec : Spec) (asg : Var → Base) :
    (mfeRecsGc t spec asg).map (fun x => (x.2.name, x.2.seq)) = mfeDesign t spec asg := by
  unfold mfeRecsGc mfeDesign mfeRecs
  simp only [List.map_append, List.map_map, List.map_flatMap, List.map_cons, List.map_nil, Function.comp_def]

theorem recordGc_eq (n : Nat) (name : String) (seq s1 s2 : List Char) (k m : Nat) :
    Mfe.recordGc n name seq s1 s2 k m =
      (Finish.renderRec (toString n).toList ⟨name.toList, seq, gcFields k m, s1, s2⟩).map String.ofList := by
  -- stated for arbitrary fields: with `fmtF0` in the goal the kernel evaluates the formatter
  have e : ∀ a b c : List Char, seq ++ ' ' :: a ++ ' ' :: b ++ ' ' :: c = seq ++ [a, b, c].flatMap (' ' :: ·) := by
    intro a b c; simp [List.append_assoc]
  rw [renderRec_strings, Mfe.recordGc, recordLine, e]
  rfl

theorem outputGc_ok {t : CodeTable} (hl : t.lawful = true) (hB : complBases t = true) {spec : Spec} (wf : SpecWF spec)
    (ok : SpecCodes t spec) {asg : Var → Base} {a : Mfe.Assigned} (hg : Good spec asg a) :
    Mfe.outputGc t spec a (spec.strands.map (fun st => (st.name, spell asg (nucsOfBases st.bases)))) =
      some (mfeLinesGc t spec asg) := by
  refine (output_reads hl hB wf ok hg
    (fun n so parts => Mfe.recordGc n so.name (Mfe.joinPlus parts) so.struct so.struct (gcCount (Mfe.joinPlus parts))
      (parts.map List.length).sum)
    (fun n o s w => Mfe.recordGc (n + spec.structs.length) o.name s (List.replicate o.len '.') (List.replicate o.len '.')
        (gcCount s) o.len
      ++ Mfe.recordGc 0 (o.name ++ "*") w (List.replicate o.len '.') (List.replicate o.len '.') (gcCount s) o.len)
    (fun x y => x.flatten ++ y.flatten ++ ["Total n(s*) = " ++ String.ofList fmtF0])).trans (congrArg some ?_)
  unfold mfeLinesGc Finish.renderLines mfeRecsGc
  rw [List.map_append, List.flatMap_append, List.map_append, List.flatMap_map, List.flatMap_assoc,
    List.map_flatMap, List.map_flatMap, List.flatMap_def, List.flatMap_def]
  simp only [List.flatMap_cons, List.flatMap_nil, List.append_nil, List.map_append, ← recordGc_eq]
  rfl

theorem gcCount_append (a b : List Char) : gcCount (a ++ b) = gcCount a + gcCount b := by
  unfold gcCount; simp only [List.count_append]; omega

/-- a letter counted as `G` is not one counted as `C` -/
theorem gcCount_le_length (s : List Char) : gcCount s ≤ s.length := by
  unfold gcCount
  have h := List.length_eq_countP_add_countP (· == 'C') (l := s)
  have : s.count 'G' ≤ s.countP (fun a => ¬ (a == 'C') = true) := by
    rw [List.count_eq_countP]
    exact List.countP_mono_left (fun x _ hx => by rw [beq_iff_eq] at hx; subst hx; decide)
  rw [List.count_eq_countP]
  omega

theorem gcCount_joinPlus_le : ∀ l : List (List Char), gcCount (Mfe.joinPlus l) ≤ (l.map List.length).sum
  | [] => by simp [Mfe.joinPlus, gcCount]
  | [x] => by simpa [Mfe.joinPlus] using gcCount_le_length x
  | x :: y :: r => by
    have ih := gcCount_joinPlus_le (y :: r)
    have hx := gcCount_le_length x
    have hplus : gcCount ('+' :: Mfe.joinPlus (y :: r)) = gcCount (Mfe.joinPlus (y :: r)) := by
      unfold gcCount; rw [List.count_cons_of_ne (by decide), List.count_cons_of_ne (by decide)]
    simp only [Mfe.joinPlus, gcCount_append, hplus, List.map_cons, List.sum_cons] at ih ⊢
    omega

theorem sum_lengths_pos {l : List (List Char)} (hl : l ≠ []) (h : ∀ x ∈ l, x ≠ []) : 0 < (l.map List.length).sum := by
  obtain ⟨x, hx⟩ := List.exists_mem_of_ne_nil l hl
  exact List.sum_pos_iff_exists_pos_nat.2 ⟨_, List.mem_map_of_mem hx, List.length_pos_iff.2 (h x hx)⟩

theorem gcFields_eq (k n : Nat) : gcFields k n = ["0.000000".toList, gcToken k n, "0".toList] := by
  rw [gcFields, fmtF0_eq, fmtD0_eq]

theorem mem_mfeRecsGc {spec : Spec} (wf : SpecWF spec) (hr : SpecReadable spec) {t : CodeTable} {asg : Var → Base}
    {x : List Char × Finish.Rec} (h : x ∈ mfeRecsGc t spec asg) :
    ∃ y ∈ mfeRecs t spec asg, ∃ k n, 0 < n ∧ k ≤ n ∧ x = withGC y (gcToken k n) := by
  unfold mfeRecsGc at h
  simp only [gcFields_eq] at h
  rcases List.mem_append.1 h with h | h
  · obtain ⟨p, hp, rfl⟩ := List.mem_map.1 h
    have hso : p.2 ∈ spec.structs := (List.of_mem_zip hp).2
    obtain ⟨hne, hall⟩ := structVals_ne_nil wf hr asg hso
    exact ⟨_, List.mem_append_left _ (List.mem_map.2 ⟨p, hp, rfl⟩), _, _, sum_lengths_pos hne hall,
      gcCount_joinPlus_le _, (withGC_mk ..).symm⟩
  · obtain ⟨p, hp, hx⟩ := List.mem_flatMap.1 h
    have ho : p.2 ∈ spec.seqs := (List.of_mem_zip hp).2
    have hlen : (spellT t (Pil.denote spec) asg (viewNucs p.2 false)).length = p.2.len := by
      rw [spellT_length, wf.seqLen p.2 ho]
    have hk : gcCount (spellT t (Pil.denote spec) asg (viewNucs p.2 false)) ≤ p.2.len := by
      rw [← hlen]; exact gcCount_le_length _
    have hpos : 0 < p.2.len := Nat.pos_of_ne_zero (hr.seqs p.2 ho).2
    simp only [List.mem_cons, List.mem_nil_iff, or_false] at hx
    rcases hx with rfl | rfl
    · exact ⟨_, List.mem_append_right _ (List.mem_flatMap.2 ⟨p, hp, List.mem_cons_self⟩), _, _, hpos, hk, (withGC_mk ..).symm⟩
    · exact ⟨_, List.mem_append_right _ (List.mem_flatMap.2 ⟨p, hp, List.mem_cons_of_mem _ List.mem_cons_self⟩),
        _, _, hpos, hk, (withGC_mk ..).symm⟩

theorem recsGc_readable {spec : Spec} (wf : SpecWF spec) (ok : SpecCodes Generated.pilTable spec)
    (hr : SpecReadable spec) (asg : Var → Base) :
    ∀ x ∈ mfeRecsGc Generated.pilTable spec asg, Finish.wfRec Generated.alphaMfeSeq x = true := by
  intro x hx
  obtain ⟨y, hy, k, n, hn, hkn, rfl⟩ := mem_mfeRecsGc wf hr hx
  have hs := gcToken_shape hn hkn
  exact rec_readable wf ok hr asg hy (Shape.numWord hs) (Shape.validFloat hs)

theorem finish_text_gc {tF : CodeTable} {spec : Spec} (wf : SpecWF spec)
    (ok : SpecCodes Generated.pilTable spec) (hr : SpecReadable spec) (asg : Var → Base)
    (inst : Sys.Inst) (out : Finish.Out) :
    Finish.finishText tF Generated.alphaMfeSeq inst
        (Finish.render (mfeRecsGc Generated.pilTable spec asg) fmtF0) = .ok out ↔
      Finish.apply tF inst (mfeDesign Generated.pilTable spec asg) = .ok out := by
  rw [← mfeRecsGc_design, fmtF0_eq]
  exact finish_text_of_readable (by decide) (by decide) (recsGc_readable wf ok hr asg) inst out

theorem render_mfeLinesGc (t : CodeTable) (spec : Spec) (asg : Var → Base) :
    Finish.render (mfeRecsGc t spec asg) fmtF0 = Finish.unlines ((mfeLinesGc t spec asg).map String.toList) := by
  unfold Finish.render mfeLinesGc
  rw [List.map_map]
  congr 1
  simp [Function.comp_def]

theorem outputGc_of_processResults {t : CodeTable} (hl : t.lawful = true) (hB : complBases t = true) {spec : Spec}
    (wf : SpecWF spec) (ok : SpecCodes t spec) {start : StrandObj → Option Nat} {nts : List Char}
    {asg : Var → Base} {assigned : Mfe.Assigned}
    (hpr : Mfe.processResults t spec start nts = .ok (assigned, strandSeqs spec asg)) :
    Mfe.outputGc t spec assigned (strandSeqs spec asg) = some (mfeLinesGc t spec asg) := by
  obtain ⟨a, hpr', hgood⟩ := processResults_ok hB wf (startOk_of_processResults hpr)
  rw [hpr] at hpr'
  simp only [Except.ok.injEq, Prod.mk.injEq] at hpr'
  rw [hpr'.1]
  exact outputGc_ok hl hB wf ok hgood

end Pepper.EndToEndText
