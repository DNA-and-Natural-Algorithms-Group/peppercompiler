import PepperModel.GcFloat
import PepperProofs.FinishText
/-!
# The GC-content token `"%f" % (k / n)`: shape and value

`roundHalfEven` is within half a unit (`roundHalfEven_err`); nothing else about it is used.  `divRne` is within half an ulp of
`k·2^s / n` and IS a 53-bit significand (`binade_spec`, `divRne_normal`).  `gcToken` has the shape `d.dddddd`
(`gcToken_shape`), so the `.mfe` reader's float field accepts it; `tokVal6` decodes it (`gcToken_err`: its distance to
`k/n`).  Nothing of the C06 chain is used; the records that carry the token are in `GcFloat.lean`.
-/
namespace Pepper.GcFloat

/-- the rounded quotient is within half a unit: `|roundHalfEven a b · b − a| ≤ b / 2` -/
theorem roundHalfEven_err (a b : Nat) (hb : 0 < b) :
    2 * (roundHalfEven a b * b) ≤ 2 * a + b ∧ 2 * a ≤ 2 * (roundHalfEven a b * b) + b := by
  have h := Nat.div_add_mod a b
  have hm := Nat.mod_lt a hb
  unfold roundHalfEven
  simp only
  rw [Nat.mul_comm] at h
  split
  · rename_i hc
    simp only [Bool.or_eq_true, decide_eq_true_eq, Bool.and_eq_true, beq_iff_eq] at hc
    rw [Nat.add_mul, Nat.one_mul]
    generalize a / b * b = x at *
    omega
  · rename_i hc
    simp only [Bool.or_eq_true, decide_eq_true_eq, Bool.and_eq_true, beq_iff_eq, not_or, not_and] at hc
    generalize a / b * b = x at *
    omega

theorem roundHalfEven_le {a b c : Nat} (hb : 0 < b) (h : a ≤ c * b) : roundHalfEven a b ≤ c := by
  have h1 := (roundHalfEven_err a b hb).1
  refine Nat.le_of_lt_succ (Nat.lt_of_mul_lt_mul_right (a := b) ?_)
  rw [Nat.succ_mul]
  omega

theorem roundHalfEven_ge {a b c : Nat} (hb : 0 < b) (h : c * b ≤ a) : c ≤ roundHalfEven a b := by
  have h2 := (roundHalfEven_err a b hb).2
  refine Nat.le_of_lt_succ (Nat.lt_of_mul_lt_mul_right (a := b) ?_)
  rw [Nat.succ_mul]
  omega

theorem roundHalfEven_exact (c b : Nat) (hb : 0 < b) : roundHalfEven (c * b) b = c :=
  Nat.le_antisymm (roundHalfEven_le hb (Nat.le_refl _)) (roundHalfEven_ge hb (Nat.le_refl _))

theorem binade_ge (k n : Nat) : 52 ≤ binade k n := by
  unfold binade; simp only; split <;> omega

theorem divRne_zero (n : Nat) : divRne 0 n = (0, 0) := rfl

theorem divRne_pos {k n : Nat} (hk : k ≠ 0) :
    divRne k n = (roundHalfEven (k * 2 ^ binade k n) n, binade k n) := by
  unfold divRne
  simp [hk]

/-- `m / 2^s` is within half a unit in the last place of `k / n`: `|m·n − k·2^s| ≤ n / 2` -/
theorem divRne_err (k n : Nat) (hn : 0 < n) :
    2 * ((divRne k n).1 * n) ≤ 2 * (k * 2 ^ (divRne k n).2) + n ∧
      2 * (k * 2 ^ (divRne k n).2) ≤ 2 * ((divRne k n).1 * n) + n := by
  by_cases hk : k = 0
  · subst hk; simp only [divRne_zero]; omega
  · simp only [divRne_pos hk]; exact roundHalfEven_err _ _ hn

theorem divRne_exp (k n : Nat) (hk : k ≠ 0) : 52 ≤ (divRne k n).2 := by
  simp only [divRne_pos hk]; exact binade_ge k n

theorem divRne_le_one {k n : Nat} (hn : 0 < n) (hkn : k ≤ n) : (divRne k n).1 ≤ 2 ^ (divRne k n).2 := by
  by_cases hk : k = 0
  · subst hk; simp only [divRne_zero]; omega
  · simp only [divRne_pos hk]
    exact roundHalfEven_le hn (by rw [Nat.mul_comm k]; exact Nat.mul_le_mul_left _ hkn)

/-- `binade k n` is the exponent that puts the scaled quotient of `0 < k ≤ n` into `[2^52, 2^53)` -/
theorem binade_spec {k n : Nat} (hk : k ≠ 0) (hkn : k ≤ n) :
    2 ^ 52 * n ≤ k * 2 ^ binade k n ∧ k * 2 ^ binade k n < 2 ^ 53 * n := by
  have hn0 : n ≠ 0 := by omega
  have hl : k.log2 ≤ n.log2 := (Nat.le_log2 hn0).2 (Nat.le_trans (Nat.log2_self_le hk) hkn)
  have hpow : ∀ j, 2 ^ (k.log2 + j) * 2 ^ (52 + (n.log2 - k.log2)) = 2 ^ (52 + j) * 2 ^ n.log2 := by
    intro j; rw [← Nat.pow_add, ← Nat.pow_add]; congr 1; omega
  -- `k` scaled by the first candidate exponent lies in `[2^52 · 2^log n, 2^53 · 2^log n)`, and `n` in `[2^log n, 2 · 2^log n)`
  have h1 : 2 ^ 52 * 2 ^ n.log2 ≤ k * 2 ^ (52 + (n.log2 - k.log2)) := by
    rw [← hpow 0]; exact Nat.mul_le_mul_right _ (Nat.log2_self_le hk)
  have h2 : k * 2 ^ (52 + (n.log2 - k.log2)) < 2 ^ 53 * 2 ^ n.log2 := by
    rw [← hpow 1]; exact Nat.mul_lt_mul_of_pos_right Nat.lt_log2_self (Nat.two_pow_pos _)
  have b1 := Nat.log2_self_le hn0
  have b2 : n < 2 ^ (n.log2 + 1) := Nat.lt_log2_self
  rw [Nat.pow_succ] at b2
  unfold binade
  simp only
  generalize 52 + (n.log2 - k.log2) = s at *
  split
  · generalize k * 2 ^ s = y at *
    omega
  · rw [@Nat.pow_succ 2 s, ← Nat.mul_assoc]
    generalize k * 2 ^ s = y at *
    omega

/-- **the significand is a 53-bit significand**: for `0 < k ≤ n` the scaled quotient lies in the binade `[2^52, 2^53)`, so
    the rounded value `m` satisfies `2^52 ≤ m ≤ 2^53` (`m = 2^53` when rounding carries into the next binade: then
    `m / 2^s = 2^52 / 2^(s-1)` is again a double) -/
theorem divRne_normal {k n : Nat} (hk : k ≠ 0) (hkn : k ≤ n) :
    2 ^ 52 * n ≤ k * 2 ^ (divRne k n).2 ∧ k * 2 ^ (divRne k n).2 < 2 ^ 53 * n ∧
      2 ^ 52 ≤ (divRne k n).1 ∧ (divRne k n).1 ≤ 2 ^ 53 := by
  have hn : 0 < n := by omega
  obtain ⟨h1, h2⟩ := binade_spec hk hkn
  simp only [divRne_pos hk]
  exact ⟨h1, h2, roundHalfEven_ge hn h1, roundHalfEven_le hn (Nat.le_of_lt h2)⟩

theorem digit_isDigit (x : Nat) : (digit x).isDigit = true := by
  obtain ⟨h1, h2, _⟩ := digitChar_spec (x % 10) (Nat.mod_lt _ (by omega))
  rw [digit, h1]; exact h2

theorem digit_val (x : Nat) : (digit x).toNat - 48 = x % 10 := by
  obtain ⟨h1, _, h3⟩ := digitChar_spec (x % 10) (Nat.mod_lt _ (by omega))
  rw [digit, h1]; exact h3

theorem pad6_isDigit (f : Nat) : ∀ c ∈ pad6 f, c.isDigit = true := by
  simp [pad6, digit_isDigit]

/-- `d.dddddd`: one digit `0` or `1`, a point, six digits -/
def Shape (w : List Char) : Prop := ∃ d f, d ≤ 1 ∧ f < 1000000 ∧ w = digit d :: '.' :: pad6 f

theorem fmtF6_eq {m s : Nat} (h : m ≤ 2 ^ s) :
    fmtF6 m s = digit (roundHalfEven (m * 1000000) (2 ^ s) / 1000000) :: '.' ::
      pad6 (roundHalfEven (m * 1000000) (2 ^ s) % 1000000) ∧
    roundHalfEven (m * 1000000) (2 ^ s) ≤ 1000000 := by
  have hq : roundHalfEven (m * 1000000) (2 ^ s) ≤ 1000000 :=
    roundHalfEven_le (Nat.two_pow_pos _) (by rw [Nat.mul_comm]; exact Nat.mul_le_mul_left _ h)
  refine ⟨?_, hq⟩
  unfold fmtF6
  simp only
  generalize roundHalfEven (m * 1000000) (2 ^ s) = q at *
  have : q / 1000000 = 0 ∨ q / 1000000 = 1 := by omega
  rcases this with e | e <;> rw [e] <;> rfl

theorem gcToken_shape {k n : Nat} (hn : 0 < n) (hkn : k ≤ n) : Shape (gcToken k n) := by
  obtain ⟨h1, h2⟩ := fmtF6_eq (divRne_le_one hn hkn)
  exact ⟨_, _, by omega, Nat.mod_lt _ (by omega), h1⟩

theorem Shape.chars {w : List Char} (h : Shape w) : w.length = 8 ∧ ∀ c ∈ w, c.isDigit = true ∨ c = '.' := by
  obtain ⟨d, f, _, _, rfl⟩ := h
  refine ⟨rfl, fun c hc => ?_⟩
  rcases List.mem_cons.1 hc with rfl | hc
  · exact Or.inl (digit_isDigit d)
  · rcases List.mem_cons.1 hc with rfl | hc
    · exact Or.inr rfl
    · exact Or.inl (pad6_isDigit f c hc)

theorem Shape.numWord {w : List Char} (h : Shape w) : Finish.okWord Finish.isNumChar w = true := by
  obtain ⟨hlen, hc⟩ := Shape.chars h
  refine Finish.okWord_iff.2 ⟨List.ne_nil_of_length_pos (by omega), fun c hm => ?_⟩
  rcases hc c hm with hd | rfl
  · simp [Finish.isNumChar, hd]
  · decide

theorem Shape.validFloat {w : List Char} (h : Shape w) : Finish.validFloat w = true := by
  obtain ⟨d, f, _, _, rfl⟩ := h
  have hne : digit d ≠ '-' := ne_of_pred (digit_isDigit d) (by decide)
  unfold Finish.validFloat
  split
  · rename_i r heq
    exact absurd (List.cons.inj heq).1 hne
  · have hp : Char.isDigit '.' = false := by decide
    simpa [List.takeWhile, List.dropWhile, digit_isDigit, hp] using pad6_isDigit f

/-- the value a `d.dddddd` token denotes, in units of `10^-6` -/
def tokVal6 : List Char → Option Nat
  | [c0, p, c1, c2, c3, c4, c5, c6] =>
    if p == '.' && [c0, c1, c2, c3, c4, c5, c6].all Char.isDigit then
      some ((c0.toNat - 48) * 1000000 + (c1.toNat - 48) * 100000 + (c2.toNat - 48) * 10000 + (c3.toNat - 48) * 1000
        + (c4.toNat - 48) * 100 + (c5.toNat - 48) * 10 + (c6.toNat - 48))
    else none
  | _ => none

/-- one more decimal digit: the digit at `b` on top of the part below `b` -/
theorem digit_step (x b : Nat) : x / b % 10 * b + x % b = x % (b * 10) := by
  rw [Nat.mod_mul, Nat.mul_comm b, Nat.add_comm]

theorem tokVal6_shape {d f : Nat} (hd : d < 10) (hf : f < 1000000) :
    tokVal6 (digit d :: '.' :: pad6 f) = some (d * 1000000 + f) := by
  unfold pad6 tokVal6
  simp only [List.all_cons, List.all_nil, digit_isDigit]
  rw [if_pos (by decide)]
  -- the digits of `f` fold up from the right by `digit_step`; `omega` over the seven `/`, `%` is far slower
  simp only [digit_val, Nat.mod_eq_of_lt hd, Nat.add_assoc, digit_step, Nat.reduceMul, Nat.mod_eq_of_lt hf]

theorem gcToken_zero (n : Nat) : gcToken 0 n = "0.000000".toList := by
  unfold gcToken
  rw [divRne_zero]
  decide

theorem fmtF0_eq : fmtF0 = "0.000000".toList := by decide

theorem fmtD0_eq : fmtD0 = "0".toList := by decide

/-- the micro-units the token denotes: the double `m / 2^s` rounded to 6 decimals -/
def microOf (k n : Nat) : Nat := roundHalfEven ((divRne k n).1 * 1000000) (2 ^ (divRne k n).2)

theorem tokVal6_gcToken {k n : Nat} (hn : 0 < n) (hkn : k ≤ n) : tokVal6 (gcToken k n) = some (microOf k n) := by
  obtain ⟨h1, h2⟩ := fmtF6_eq (divRne_le_one hn hkn)
  unfold gcToken microOf
  simp only
  rw [h1, tokVal6_shape (by omega) (Nat.mod_lt _ (by omega))]
  apply congrArg some
  omega

/-- two roundings in a row: `V` is `m·D / A` and `m` is `k·A / n`, each within half a unit; then `V` is `k·D / n`
    within `1/2 + D / (2·A)`: `2·A·|V·n − k·D| ≤ n·(A + D)`, both directions in `Nat` -/
theorem round_twice {V m k n A D : Nat}
    (a : 2 * (V * A) ≤ 2 * (m * D) + A ∧ 2 * (m * D) ≤ 2 * (V * A) + A)
    (b : 2 * (m * n) ≤ 2 * (k * A) + n ∧ 2 * (k * A) ≤ 2 * (m * n) + n) :
    2 * (V * A) * n ≤ 2 * (k * A) * D + (A * n + n * D) ∧ 2 * (k * A) * D ≤ 2 * (V * A) * n + (A * n + n * D) := by
  -- the first pair times `n`, the second times `D`: both speak of `2·m·n·D`
  have hm : 2 * (m * D) * n = 2 * (m * n) * D := by ac_rfl
  constructor
  · calc 2 * (V * A) * n ≤ (2 * (m * D) + A) * n := Nat.mul_le_mul_right n a.1
      _ = 2 * (m * n) * D + A * n := by rw [Nat.add_mul, hm]
      _ ≤ (2 * (k * A) + n) * D + A * n := Nat.add_le_add_right (Nat.mul_le_mul_right _ b.1) _
      _ = _ := by rw [Nat.add_mul, Nat.add_assoc, Nat.add_comm (A * n)]
  · calc 2 * (k * A) * D ≤ (2 * (m * n) + n) * D := Nat.mul_le_mul_right _ b.2
      _ = 2 * (m * D) * n + n * D := by rw [Nat.add_mul, hm]
      _ ≤ (2 * (V * A) + A) * n + n * D := Nat.add_le_add_right (Nat.mul_le_mul_right n a.2) _
      _ = _ := by rw [Nat.add_mul, Nat.add_assoc]

/-- **the value of the token**: `V·10^-6` with `|V/10^6 − k/n| ≤ 1/(2·10^6) + 2^-53`, as
    `2^53·|V·n − k·10^6| ≤ n·(2^52 + 10^6)` (both directions, in `Nat`) -/
theorem gcToken_err {k n : Nat} (hn : 0 < n) (hkn : k ≤ n) :
    2 ^ 53 * (microOf k n * n) ≤ 2 ^ 53 * (k * 1000000) + n * (2 ^ 52 + 1000000) ∧
    2 ^ 53 * (k * 1000000) ≤ 2 ^ 53 * (microOf k n * n) + n * (2 ^ 52 + 1000000) := by
  by_cases hk : k = 0
  · subst hk
    have : microOf 0 n = 0 := by unfold microOf; rw [divRne_zero]; decide
    rw [this]; omega
  · -- `round_twice` with `A = 2^s = 2^52·T`, `T ≥ 1`; the goal times `T`, where `2^53·T = 2·A` and `n·10^6 ≤ T·n·10^6`
    generalize hT : 2 ^ ((divRne k n).2 - 52) = T
    have hT1 : 1 ≤ T := hT ▸ Nat.two_pow_pos _
    have hA : 2 ^ (divRne k n).2 = 2 ^ 52 * T := by
      rw [← hT, ← Nat.pow_add, Nat.add_sub_of_le (divRne_exp k n hk)]
    obtain ⟨up, down⟩ := round_twice (roundHalfEven_err _ _ (Nat.two_pow_pos _)) (divRne_err k n hn)
    rw [show roundHalfEven ((divRne k n).1 * 1000000) (2 ^ (divRne k n).2) = microOf k n from rfl, hA] at up down
    have h3 : n * 1000000 ≤ T * (n * 1000000) := Nat.le_mul_of_pos_left _ hT1
    have eT : ∀ x y, T * (2 ^ 53 * (x * y)) = 2 * (x * (2 ^ 52 * T)) * y := by
      intro x y
      rw [show (2 : Nat) ^ 53 = 2 * 2 ^ 52 from rfl]
      ac_rfl
    have eN : T * (n * (2 ^ 52 + 1000000)) = 2 ^ 52 * T * n + T * (n * 1000000) := by
      rw [Nat.mul_add, Nat.mul_add]
      congr 1
      ac_rfl
    constructor <;> apply Nat.le_of_mul_le_mul_left (c := T) _ hT1 <;> rw [Nat.mul_add T, eT, eT, eN]
    · exact Nat.le_trans up (Nat.add_le_add_left (Nat.add_le_add_left h3 _) _)
    · exact Nat.le_trans down (Nat.add_le_add_left (Nat.add_le_add_left h3 _) _)

end Pepper.GcFloat
