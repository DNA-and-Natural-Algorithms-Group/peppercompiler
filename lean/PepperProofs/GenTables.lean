import PepperModel.ConstraintGen
/-!
# The facts about the generated tables that the `ConstraintGen*` proofs (and what rests on them) use, each evaluated once

`dnaTable` is the table of `DNA_classes.py` (compiler and finisher), `pilTable` that of `design/PIL_DNA_classes.py`
(designer front-end), `nupackTable` that of `design/DNA_nupack_classes.py` (the PIL reader's alphabet); `templateChars`
is the set of characters `load_input_files` accepts.
-/
namespace Pepper.ConstraintGen
open Pepper

theorem pil_codes : ∀ p ∈ Generated.pilTable.group, Ssm.isCode p.1 = true := by decide +kernel
theorem pil_compl : ∀ p ∈ Generated.pilTable.compl, Ssm.WC p.1 = p.2 := by decide +kernel
theorem pil_lawful : Generated.pilTable.lawful = true := by decide +kernel
theorem nupack_sub_pil : ∀ p ∈ Generated.nupackTable.group, Generated.pilTable.isCode p.1 = true := by decide +kernel
theorem pil_N : Generated.pilTable.isCode 'N' = true ∧ Generated.pilTable.maskC 'N' = 15 := by decide +kernel

theorem dna_compl : Generated.dnaTable.compl = Generated.pilTable.compl := by decide
theorem code_alpha : ∀ c ∈ Generated.pilTable.codes, Generated.alphaMfeSeq.contains c = true := by decide

theorem templateChars_ok : ' ' ∈ templateChars ∧ ∀ p ∈ Generated.dnaTable.group, p.1 ∈ templateChars := by
  -- the literal as a list of characters first: decoding it is what is slow to check
  unfold templateChars
  rw [String.toList_ofList]
  decide +kernel

theorem choices_blank : Ssm.choices ' ' = [' '] := by decide

theorem choices_ne_nil : ∀ p ∈ Generated.dnaTable.group, Ssm.choices p.1 ≠ [] := by decide +kernel

end Pepper.ConstraintGen
