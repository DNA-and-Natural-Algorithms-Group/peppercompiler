import PepperProofs.CompStep
import PepperProofs.FixSpecIff
/-!
# What a successful `Comp.load` establishes beyond `Comp.WF` (C12, C03)

`FixSpec.wfB` (C12: `load_wfB`) needs in addition that every item reference carries the *kind* (`isSup`) of the entry it
names (`WFX.seqKinds`, `strandKinds`); `Des.CompOk` (C03, in LoadInvDes) that the `base_seqs` of a structure is the
concatenation of its strands' (`WFX.structBases`).  A `Step` preserves `WFX` (`Step.wfx`).

Hypotheses on the source (both needed: a user sequence named `_Anon0` makes `registerAnon` skip the
compiler's own `_Anon0`, after which lengths no longer add up; a quoted letter outside the table ends up in a
constraint string): `StmtNamesOk src` (the statement part of `UserNamesOk`) and, for `wfB` only, `CodesOk`.  Of
`StmtNamesOk` the proofs of `load_wfB` and of LoadInvFinish read only `defNotAnon`; `load_inv_all` gives the whole `WF`.
-/
namespace Pepper.LoadInv
open Pepper Pepper.Comp Pepper.Constraint
open Pepper.SysProofs (portOf)

theorem lookup_of_mem_nodup {β} {l : List (String × β)} (hn : (l.map (·.1)).Nodup) {k : String} {v : β}
    (h : (k, v) ∈ l) : l.lookup k = some v :=
  Pepper.lookup_of_mem_nodup hn h

/-- the statement part of `UserNamesOk` -/
def StmtNamesOk (src : Src) : Bool := src.stmts.all stmtNamesOk

theorem stmtNamesOk_of_user {src : Src} (h : UserNamesOk src = true) : StmtNamesOk src = true :=
  List.all_eq_true.mpr (userNamesOk_stmts h)

theorem notAnon_of_stmtNamesOk {src : Src} (h : StmtNamesOk src = true) : ∀ stmt ∈ src.stmts, defNotAnon stmt :=
  fun stmt hm => defNotAnon_of_namesOk (List.all_eq_true.mp h stmt hm)

def KindOk (l : List SeqE) (i : ItemRef) : Prop := ∃ ie, findE l i.name = some ie ∧ i.isSup = ie.isSup

def strandBases (ts : List StrandE) (n : String) : List BaseRef :=
  match findT ts n with
  | some t => t.bases
  | none => []

structure WFX (s : St) : Prop where
  seqKinds : ∀ e ∈ s.seqs, ∀ i ∈ e.items, KindOk s.seqs i
  strandKinds : ∀ t ∈ s.strands, ∀ i ∈ t.items, KindOk s.seqs i
  structBases : ∀ e ∈ s.structs, e.bases = e.strands.flatMap (strandBases s.strands)

theorem KindOk.mono {l l' : List SeqE} (h : Ext l l') {i : ItemRef} (hi : KindOk l i) : KindOk l' i := by
  obtain ⟨ie, h1, h2⟩ := hi
  exact ⟨ie, h _ _ h1, h2⟩

theorem KindOk_map {f : SeqE → SeqE} (hf : FlagOnly f) {l : List SeqE} {i : ItemRef} (hi : KindOk l i) :
    KindOk (l.map f) i := by
  obtain ⟨ie, h1, h2⟩ := hi
  refine ⟨f ie, ?_, by rw [h2, hf.isSup]⟩
  rw [findE_map f hf.name, h1]; rfl

theorem cleanConst_kind {s : St} (hk : ∀ e ∈ s.seqs, ∀ i ∈ e.items, KindOk s.seqs i) {items : List SrcItem}
    {cs : List CItem} (h : cleanConst s items = .ok cs) : ∀ i bs, CItem.obj i bs ∈ cs → KindOk s.seqs i :=
  fun i bs hm =>
    let ⟨ie, h1, h2, _⟩ := (cleanConst_mem h).1 (fun ie i => i.isSup = ie.isSup) (fun _ _ => rfl)
      (fun _ _ _ _ _ hs hq => hs.trans hq) (fun e he _ => hk e he) i bs hm
    ⟨ie, h1, h2⟩

theorem built_kinds {s : St} {a : Nat} {items : List SrcItem} {len : Option Nat} {cs : List CItem} {b : Built}
    {sg : Segs} {x : List SeqE} (R : RegionNF s a items len cs b sg) (F : RegionFinal s a b sg x)
    (hk : ∀ e ∈ s.seqs, ∀ i ∈ e.items, KindOk s.seqs i) :
    ∀ i ∈ b.items, KindOk (s.seqs ++ x ++ sgAnons sg) i := by
  rw [R.nf.items, sgRefs_eq]
  refine List.forall_mem_map.mpr fun ⟨c, j⟩ hy => ?_
  cases c with
  | obj i bs =>
    refine (cleanConst_kind hk R.clean i bs (R.sub i bs (sgItems_of_mem hy))).mono ?_
    rw [List.append_assoc]; exact Ext.append _ _
  | nuc p => exact ⟨_, F.ok _ hy, rfl⟩

theorem strandBases_append {ts : List StrandE} {n : String} (h : (findT ts n).isSome = true) (x : List StrandE) :
    strandBases (ts ++ x) n = strandBases ts n := by
  obtain ⟨o, ho⟩ := Option.isSome_iff_exists.mp h
  rw [strandBases, strandBases, findT_append, ho]; rfl

theorem strandBases_map (g : StrandE → StrandE) (hg : ∀ o, (g o).name = o.name ∧ (g o).bases = o.bases)
    (ts : List StrandE) (n : String) : strandBases (ts.map g) n = strandBases ts n := by
  rw [strandBases, strandBases, findT_map g (fun o => (hg o).1)]
  cases findT ts n with
  | none => rfl
  | some o => exact (hg o).2

theorem filterMap_bases {ts : List StrandE} {strands : List String}
    (h : ∀ n ∈ strands, (findT ts n).isSome = true) :
    (strands.filterMap (findT ts)).flatMap (·.bases) = strands.flatMap (strandBases ts) := by
  induction strands with
  | nil => rfl
  | cons n r ih =>
    obtain ⟨o, ho⟩ := Option.isSome_iff_exists.mp (h n List.mem_cons_self)
    rw [List.filterMap_cons, ho, List.flatMap_cons, List.flatMap_cons, ih (fun m hm => h m (List.mem_cons_of_mem _ hm)),
      strandBases, ho]

theorem WFX.extend {s : St} (hx : WFX s) {x : List SeqE}
    (hnew : ∀ e ∈ x, ∀ i ∈ e.items, KindOk (s.seqs ++ x) i) : WFX { s with seqs := s.seqs ++ x } :=
  ⟨fun e he i hi => (List.mem_append.mp he).elim
      (fun he => (hx.seqKinds e he i hi).mono (Ext.append _ _)) (fun he => hnew e he i hi),
    fun t ht i hi => (hx.strandKinds t ht i hi).mono (Ext.append _ _), hx.structBases⟩

theorem WFX.mapSeqs {s : St} (hx : WFX s) {f : SeqE → SeqE} (hf : FlagOnly f) :
    WFX { s with seqs := s.seqs.map f } := by
  refine ⟨fun e he i hi => ?_, fun t ht i hi => KindOk_map hf (hx.strandKinds t ht i hi), hx.structBases⟩
  obtain ⟨e0, he0, rfl⟩ := List.mem_map.mp he
  rw [hf.items] at hi
  exact KindOk_map hf (hx.seqKinds e0 he0 i hi)

theorem WFX.addStrand {s : St} (hx : WFX s)
    (hfound : ∀ e ∈ s.structs, ∀ n ∈ e.strands, (findT s.strands n).isSome = true) {t : StrandE}
    (ht : ∀ i ∈ t.items, KindOk s.seqs i) : WFX { s with strands := s.strands ++ [t] } := by
  refine ⟨hx.seqKinds, fun t' ht' i hi => ?_, fun e he => ?_⟩
  · rcases List.mem_append.mp ht' with ht' | ht'
    · exact hx.strandKinds t' ht' i hi
    · exact ht i (List.mem_singleton.mp ht' ▸ hi)
  · rw [hx.structBases e he]
    exact flatMap_congr_mem (fun n hn => (strandBases_append (hfound e he n hn) _).symm)

theorem _root_.Pepper.Comp.Step.wfx {s : St} {a : Nat} {stmt : Stmt} {s' : St} {a' : Nat} (hw : WF0 s a) (hx : WFX s)
    (hst : Step s a stmt s' a') : WFX s' := by
  cases hst with
  | seqBase hf hr =>
    refine hx.extend (fun e he i hi => ?_)
    rw [List.mem_singleton.mp he] at hi; cases hi
  | seqSup hne hf R F =>
    rw [List.append_assoc]
    refine hx.extend (fun e he i hi => ?_)
    rw [← List.append_assoc]
    rcases List.mem_cons.mp he with rfl | he
    · exact built_kinds R F hx.seqKinds i hi
    · rw [(F.anons e he).2.2.1] at hi; cases hi
  | @strand _ _ _ _ _ b sg hf R F hz =>
    have hbk := built_kinds R F hx.seqKinds
    have hanons := F.anons
    rw [List.append_nil] at hbk hanons
    have hx1 := (hx.extend (x := sgAnons sg) (fun e he i hi => by rw [(hanons e he).2.2.1] at hi; cases hi)).mapSeqs
      (markFn_flagOnly b.bases)
    exact hx1.addStrand (fun e he => (hw.structs e he).found)
      (fun i hi => KindOk_map (markFn_flagOnly _) (hbk i hi))
  | @struct _ _ strands _ _ _ _ _ objs hf hfound hobjeq hdp hfull hsz hopt =>
    have hbases := fun (l : List String) => flatMap_congr_mem (l := l) (fun n _ =>
      (strandBases_map (structFlag strands) (fun o => by rw [structFlag_eq]; exact ⟨rfl, rfl⟩) s.strands n).symm)
    refine ⟨hx.seqKinds, ?_, ?_⟩
    · intro t ht i hi
      obtain ⟨t0, ht0, rfl⟩ := List.mem_map.mp ht
      have hi0 : i ∈ (structFlag strands t0).items := hi
      rw [structFlag_eq] at hi0
      exact hx.strandKinds t0 ht0 i hi0
    · intro e he
      rcases List.mem_append.mp he with he | he
      · rw [hx.structBases e he]; exact hbases _
      · rw [List.mem_singleton.mp he]
        show objs.flatMap (·.bases) = _
        rw [hobjeq, filterMap_bases hfound]; exact hbases _
  | kinetic => exact ⟨hx.seqKinds, hx.strandKinds, hx.structBases⟩

def PortItemOk (l : List SeqE) (i : ItemRef) : Prop :=
  ∃ e, findE l i.name = some e ∧ i.len = e.len ∧ i.isSup = e.isSup

theorem mapM_portOf_itemOk {s : St} {ps : List Comp.Port} {v : List (ItemRef × Option String)}
    (h : ps.mapM (portOf s) = .ok v) : ∀ i ∈ v.map (·.1), PortItemOk s.seqs i := by
  intro i hi
  obtain ⟨r, hr, rfl⟩ := List.mem_map.mp hi
  obtain ⟨p, _, hp⟩ := mapM_mem h r hr
  obtain ⟨hn, _, e, he, hl, hs⟩ := SysProofs.portOf_spec hp
  exact ⟨e, hn ▸ he, hl, hs⟩

theorem load_ports {src : Src} {n : Nat} {pfx : String} {a : Nat} {st : St} {a' : Nat}
    (h : load src n pfx a = .ok (st, a')) : ∀ i ∈ st.inputSeqs ++ st.outputSeqs, PortItemOk st.seqs i := by
  obtain ⟨s, vi, vo, _, hi, ho, rfl⟩ := load_ok h
  intro i hm
  rcases List.mem_append.mp hm with hm | hm
  · exact mapM_portOf_itemOk hi i hm
  · exact mapM_portOf_itemOk ho i hm

structure CompInv (st : St) (a : Nat) : Prop where
  wf : WF st a
  wfx : WFX st

theorem load_inv_all {src : Src} {n : Nat} {pfx : String} {a : Nat} {st : St} {a' : Nat}
    (h : load src n pfx a = .ok (st, a')) (hn : StmtNamesOk src = true) :
    CompInv st a' ∧ st.pfx = pfx := by
  obtain ⟨hw, hx⟩ := load_steps (P := fun s _ => WFX s) h (List.all_eq_true.mp hn)
    ⟨fun _ h => (nomatch h), fun _ h => (nomatch h), fun _ h => (nomatch h)⟩
    (fun _ _ _ _ _ _ hw hI hst => hst.wfx hw hI) (fun hI => { hI with })
  exact ⟨⟨hw, hx⟩, load_pfx h⟩

theorem idxOf_mem {s : St} (hn : (s.seqs.map (·.name)).Nodup) {e : SeqE} (he : e ∈ s.seqs) :
    ∃ h : FixSpec.idxOf s e.name < s.seqs.length, s.seqs[FixSpec.idxOf s e.name] = e := by
  have hex : ∃ x ∈ s.seqs, (x.name == e.name) = true := ⟨e, he, by simp⟩
  have hlt : FixSpec.idxOf s e.name < s.seqs.length := List.findIdx_lt_length_of_exists hex
  refine ⟨hlt, ?_⟩
  have hp := List.findIdx_getElem (w := hlt)
  have hp' : (s.seqs[FixSpec.idxOf s e.name]).name = e.name := by
    simp only [beq_iff_eq] at hp; exact hp
  exact nodup_map_inj hn (List.getElem_mem _) he hp'

theorem idx_lt_of_item {s : St} {a : Nat} (hw : WFSeqs0 a s.seqs) {e : SeqE} (he : e ∈ s.seqs) {i : ItemRef}
    (hi : i ∈ e.items) {ie : SeqE} (hf : findE s.seqs i.name = some ie) (hs : ie.isSup = true) :
    FixSpec.idxOf s i.name < FixSpec.idxOf s e.name := by
  obtain ⟨hiel, hien⟩ := findE_some hf
  rw [← hien]
  obtain ⟨h1, g1⟩ := idxOf_mem hw.nodup hiel
  obtain ⟨h2, g2⟩ := idxOf_mem hw.nodup he
  rcases Nat.lt_trichotomy (FixSpec.idxOf s ie.name) (FixSpec.idxOf s e.name) with hlt | heq | hgt
  · exact hlt
  · exfalso
    have : ie = e := by
      rw [← g1, ← g2]
      simp only [heq]
    subst this
    exact hw.irrefl ie he i hi hien.symm
  · exfalso
    have := List.pairwise_iff_getElem.mp hw.order (FixSpec.idxOf s e.name) (FixSpec.idxOf s ie.name) h2 h1 hgt
    rw [g1, g2] at this
    exact this hs i hi hien.symm

theorem basesOfItem_eq (s : St) : FixSpec.basesOfItem s = viewBases s.seqs := rfl

theorem itemOK_of {s : St} {i : ItemRef} {bound : Nat} (h1 : ItemOk s.seqs i) (h2 : KindOk s.seqs i)
    (hb : ∀ ie, findE s.seqs i.name = some ie → ie.isSup = true → FixSpec.idxOf s i.name < bound) :
    FixSpec.itemOK s bound i = true := by
  obtain ⟨ie, hf, hl⟩ := h1
  obtain ⟨ie', hf', hk⟩ := h2
  rw [hf] at hf'
  cases hf'
  exact FixSpec.itemOK_iff.2 ⟨ie, hf, hl.symm, hk.symm, hb ie hf⟩

theorem seqOK_of_inv {s : St} {a : Nat} (hw : WF0 s a) (hx : WFX s) {e : SeqE} (he : e ∈ s.seqs) :
    FixSpec.seqOK s e = true := by
  have hent := hw.seqs.entries e he
  cases hs : e.isSup with
  | false => exact (FixSpec.seqOK_iff_base hs).2 ⟨hent.lenB.symm, (hent.base hs).1⟩
  | true =>
    obtain ⟨s1, s2, s3, _⟩ := hent.sup hs
    exact (FixSpec.seqOK_iff_sup hs).2 ⟨hent.lenB.symm, fun i hi => itemOK_of (s1 i hi) (hx.seqKinds e he i hi)
      (fun ie hf hsup => idx_lt_of_item hw.seqs he hi hf hsup), basesOfItem_eq s ▸ s2, s3⟩

theorem strandOK_of_inv {s : St} {a : Nat} (hw : WF0 s a) (hx : WFX s) {t : StrandE} (ht : t ∈ s.strands) :
    FixSpec.strandOK s t = true := by
  have hst := hw.strands t ht
  refine FixSpec.strandOK_iff.2 ⟨fun i hi => ?_, basesOfItem_eq s ▸ hst.bases, hst.len, strand_lenB hw.seqs.entries hst⟩
  refine itemOK_of (hst.items i hi) (hx.strandKinds t ht i hi) (fun ie hf _ => ?_)
  obtain ⟨hiel, hien⟩ := findE_some hf
  rw [← hien]
  exact (idxOf_mem hw.seqs.nodup hiel).1

theorem structOK_of_inv {s : St} {a : Nat} (hw : WF0 s a) {x : StructE} (hx : x ∈ s.structs) :
    FixSpec.structOK s x = true :=
  FixSpec.structOK_iff.2 (hw.structs x hx).found

theorem constOK_of_inv {t : CodeTable} {s : St} {a : Nat} (hw : WF0 s a) (hc : CodesInv t s) {e : SeqE}
    (he : e ∈ s.seqs) : FixSpec.constOK t e = true :=
  FixSpec.constOK_iff.2 ⟨List.all_eq_true.mp (hc e he), fun hs => ((hw.seqs.entries e he).base hs).2.1⟩

/-- the executable well-formedness check of C12 -/
theorem wfB_of_inv {t : CodeTable} {s : St} {a : Nat} (hw : WF0 s a) (hx : WFX s) (hc : CodesInv t s) :
    FixSpec.wfB t s = true :=
  FixSpec.wfB_iff.2 ⟨FixSpec.shapeB_iff.2 ⟨hw.seqs.nodup, fun _ => seqOK_of_inv hw hx, fun _ => strandOK_of_inv hw hx,
    fun _ => structOK_of_inv hw⟩, fun _ => constOK_of_inv hw hc⟩

/-- a loaded component passes the well-formedness check of C12 -/
theorem load_wfB {t : CodeTable} {src : Src} {n : Nat} {pfx : String} {a : Nat} {st : St} {a' : Nat}
    (h : load src n pfx a = .ok (st, a')) (hn : StmtNamesOk src = true) (hc : CodesOk t src = true) :
    FixSpec.wfB t st = true := by
  obtain ⟨hw, hx, hci⟩ := load_steps0 (P := fun s _ => WFX s ∧ CodesInv t s) h (notAnon_of_stmtNamesOk hn)
    ⟨⟨fun _ h => (nomatch h), fun _ h => (nomatch h), fun _ h => (nomatch h)⟩, fun _ h => (nomatch h)⟩
    (fun stmt hm _ _ _ _ hw hI hst => ⟨hst.wfx hw hI.1, hst.codes hI.2 (List.all_eq_true.mp hc stmt hm)⟩)
    (fun hI => ⟨{ hI.1 with }, hI.2⟩)
  exact wfB_of_inv hw hx hci

def NZ (s : St) : Prop := (∀ t ∈ s.strands, t.len ≠ 0) ∧ (∀ e ∈ s.structs, e.struct ≠ [])

theorem sizesOk_nonempty {full : List Char} {lens : List Nat} (h : Notation.sizesOk full lens = true)
    (hl : ∀ n ∈ lens, n ≠ 0) : full ≠ [] := by
  rintro rfl
  -- `[].splitOn '+' = [[]]`, so the only length is `0`
  exact hl 0 ((Notation.sizesOk_iff [] lens).1 h ▸ List.mem_singleton.2 rfl) rfl

theorem addStmt_NZ {s : St} {a : Nat} {stmt : Stmt} {s' : St} {a' : Nat} (hz : NZ s)
    (h : addStmt s a stmt = .ok (s', a')) : NZ s' := by
  cases addStmt_adds h with
  | seqBase => exact hz
  | @seqSup name _ _ b =>
    obtain ⟨h1, h2, _⟩ := registerAnon_fields { s with seqs := s.seqs ++ [supEntry name b] } b
    exact ⟨by rw [h1]; exact hz.1, by rw [h2]; exact hz.2⟩
  | @strand dummy name _ _ b _ _ hne =>
    obtain ⟨h1, h2, _⟩ := registerAnon_fields { s with strands := s.strands ++ [strandEntry name dummy b] } b
    rw [markInStrand_eq]
    refine ⟨?_, ?_⟩
    · show ∀ t ∈ (registerAnon _ b).strands, t.len ≠ 0
      rw [h1]
      intro t ht
      rcases List.mem_append.mp ht with ht | ht
      · exact hz.1 t ht
      · simp only [List.mem_singleton] at ht; subst ht; exact hne
    · show ∀ e ∈ (registerAnon _ b).structs, e.struct ≠ []
      rw [h2]; exact hz.2
  | struct _ hobjs hchk =>
    obtain ⟨_, hobj⟩ := strands_mapM hobjs
    obtain ⟨_, _, _, hsz, _⟩ := structCheck_ok hchk
    refine ⟨?_, ?_⟩
    · intro t ht
      simp only [List.mem_map] at ht
      obtain ⟨o, ho, rfl⟩ := ht
      rw [(structFlag_props _ o).2]
      exact hz.1 o ho
    · intro e he
      rcases List.mem_append.mp he with he | he
      · exact hz.2 e he
      · simp only [List.mem_singleton] at he
        subst he
        apply sizesOk_nonempty hsz
        intro n hn
        simp only [List.mem_map] at hn
        obtain ⟨o, ho, rfl⟩ := hn
        rw [hobj] at ho
        obtain ⟨nm, _, hf⟩ := List.mem_filterMap.mp ho
        exact hz.1 o (findT_some hf).1
  | kinetic => exact hz

theorem load_NZ {src : Src} {n : Nat} {pfx : String} {a : Nat} {st : St} {a' : Nat}
    (h : Comp.load src n pfx a = .ok (st, a')) : NZ st :=
  load_induct (P := fun s _ => NZ s) h ⟨(fun _ hm => nomatch hm), (fun _ hm => nomatch hm)⟩ (fun _ _ => addStmt_NZ) id

end Pepper.LoadInv
