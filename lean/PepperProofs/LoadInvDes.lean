import PepperProofs.LoadInvSys
import PepperProofs.Des
/-!
# `Des.BlocksOk` for whatever `load` / `loadFile` returns (the first hypothesis of C03's `des_equiv_of_load`)

Component level: `compOk_of_inv` (`Des.CompOk` from the table invariant), `comp_blocksOk`.
Tree level: `Loaded.blocksOk` under the name hypotheses `SysNamesOk` on every system source and `PortsDistinct` on
every component source.  Each is needed for the name clauses of `BlocksOk`; the counterexamples are listed at
`SysNamesOk`.
-/
namespace Pepper.LoadInv
open Pepper Pepper.Comp Pepper.Sys Pepper.Des
open Pepper.SysProofs (HasPfx exists_of_hasPfx append_dash_inj dash_ne)

def BaseOk (l : List SeqE) (b : BaseRef) : Prop := ∃ be ∈ l, be.isSup = false ∧ be.name = b.name ∧ be.len = b.len

theorem baseOk_of_view {l : List SeqE} {e : SeqE} (h : ∀ b ∈ e.bases, BaseOk l b) (r : Bool) :
    ∀ b ∈ basesOfView e r, BaseOk l b := by
  intro b hb
  cases r with
  | false => exact h b (by simpa [basesOfView] using hb)
  | true =>
    simp only [basesOfView, if_true, List.mem_map, List.mem_reverse] at hb
    obtain ⟨b', hb', rfl⟩ := hb
    exact h b' hb'

theorem atomic_bases_ok {l : List SeqE} {a : Nat} (hw : WFSeqs a l) {e : SeqE} (he : e ∈ l) (hs : e.isSup = false) :
    ∀ b ∈ e.bases, BaseOk l b := by
  intro b hb
  rw [((hw.entries e he).base hs).1, List.mem_singleton] at hb
  exact hb ▸ ⟨e, he, hs, rfl, rfl⟩

theorem entry_bases_ok {s : St} {a : Nat} (hw : WFSeqs a s.seqs) :
    ∀ n, ∀ e ∈ s.seqs, FixSpec.idxOf s e.name < n → ∀ b ∈ e.bases, BaseOk s.seqs b := by
  intro n
  induction n with
  | zero => intro e _ h; omega
  | succ n ih =>
    intro e he hidx b hb
    cases hs : e.isSup with
    | false => exact atomic_bases_ok hw he hs b hb
    | true =>
      -- a super-sequence lists views of entries that come before it in the table
      obtain ⟨s1, s2, _, _⟩ := (hw.entries e he).sup hs
      rw [s2] at hb
      obtain ⟨i, hi, hbi⟩ := List.mem_flatMap.mp hb
      obtain ⟨ie, hf, _⟩ := s1 i hi
      simp only [viewBases, hf] at hbi
      obtain ⟨hiel, hien⟩ := findE_some hf
      refine baseOk_of_view (fun b' hb' => ?_) _ b hbi
      cases hsi : ie.isSup with
      | false => exact atomic_bases_ok hw hiel hsi b' hb'
      | true =>
        have hlt := idx_lt_of_item (WFSeqs_iff.1 hw).1 he hi hf hsi
        rw [← hien] at hlt
        exact ih ie hiel (by omega) b' hb'

theorem seq_bases_ok {s : St} {a : Nat} (hw : WFSeqs a s.seqs) {e : SeqE} (he : e ∈ s.seqs) :
    ∀ b ∈ e.bases, BaseOk s.seqs b :=
  entry_bases_ok hw _ e he (Nat.lt_succ_self _)

theorem view_bases_ok {s : St} {a : Nat} (hw : WFSeqs a s.seqs) {i : ItemRef} (hi : ItemOk s.seqs i) :
    ∀ b ∈ viewBases s.seqs i, BaseOk s.seqs b := by
  intro b hb
  obtain ⟨ie, hf, _⟩ := hi
  simp only [viewBases, hf] at hb
  exact baseOk_of_view (seq_bases_ok hw (findE_some hf).1) _ b hb

theorem strand_bases_ok {s : St} {a : Nat} (hw : WF s a) {t : StrandE} (ht : t ∈ s.strands) :
    ∀ b ∈ t.bases, BaseOk s.seqs b := by
  intro b hb
  have hst := hw.strands t ht
  rw [hst.bases] at hb
  obtain ⟨i, hi, hbi⟩ := List.mem_flatMap.mp hb
  exact view_bases_ok hw.seqs (hst.items i hi) b hbi

theorem struct_bases_ok {s : St} {a : Nat} (hw : WF s a) (hx : WFX s) {e : StructE} (he : e ∈ s.structs) :
    ∀ b ∈ e.bases, BaseOk s.seqs b := by
  intro b hb
  rw [hx.structBases e he] at hb
  obtain ⟨n, _, hbn⟩ := List.mem_flatMap.mp hb
  unfold strandBases at hbn
  cases hf : findT s.strands n with
  | none => simp [hf] at hbn
  | some t =>
    simp only [hf] at hbn
    exact strand_bases_ok hw (findT_some hf).1 b hbn

theorem base_line {s : St} {a : Nat} (hw : WF s a) {be : SeqE} (h1 : be ∈ s.seqs) (h2 : be.isSup = false)
    (h3 : be.len ≠ 0) :
    (s.pfx ++ be.name, be.const) ∈ seqLines (compDoc s) ∧ be.const.length = be.len := by
  refine ⟨?_, ((hw.seqs.entries be h1).base h2).2.1⟩
  rw [seqLines_compDoc]
  refine List.mem_map.mpr ⟨be, ?_, rfl⟩
  simp only [St.baseSeqs, List.mem_filter, Bool.not_eq_true', bne_iff_ne, ne_eq]
  exact ⟨⟨h1, h2⟩, h3⟩

theorem resolves_of_baseOk {s : St} {a : Nat} (hw : WF s a) {b : BaseRef} (hb : BaseOk s.seqs b) (h0 : b.len ≠ 0) :
    Resolves (seqLines (compDoc s)) (s.pfx ++ b.name) b.len := by
  obtain ⟨be, h1, h2, h3, h4⟩ := hb
  obtain ⟨g1, g2⟩ := base_line hw h1 h2 (by rw [h4]; exact h0)
  exact ⟨_, g1, by rw [h3], by rw [g2, h4]⟩

theorem compOk_of_inv {s : St} {a : Nat} (hw : WF s a) (hx : WFX s) : CompOk s := by
  refine ⟨fun e he => ⟨fun n hn => ?_, ?_⟩, fun e he b hb h0 => ?_⟩
  · rw [findStrand_eq]; exact (hw.structs e he).found n hn
  · rw [hx.structBases e he]
    apply flatMap_congr_mem
    intro n _
    unfold strandBases
    rw [findStrand_eq]
    cases findT s.strands n <;> rfl
  · exact resolves_of_baseOk hw (struct_bases_ok hw hx he b hb) h0

def NoDash (n : String) : Prop := '-' ∉ n.toList

instance (n : String) : Decidable (NoDash n) := by unfold NoDash; infer_instance

theorem dash_toList : "-".toList = ['-'] := rfl

theorem dash_led_split {a b t t' : String} (ha : NoDash a) (hb : NoDash b) (ht : t = "" ∨ ∃ r, t = "-" ++ r)
    (ht' : t' = "" ∨ ∃ r, t' = "-" ++ r) (h : a ++ t = b ++ t') : a = b := by
  rcases ht with rfl | ⟨r, rfl⟩ <;> rcases ht' with rfl | ⟨r', rfl⟩
  · rwa [String.append_empty, String.append_empty] at h
  · rw [String.append_empty, ← String.append_assoc] at h
    exact absurd h.symm (dash_ne ha)
  · rw [String.append_empty, ← String.append_assoc] at h
    exact absurd h (dash_ne hb)
  · rw [← String.append_assoc, ← String.append_assoc] at h
    exact (append_dash_inj ha hb h).1

theorem blocksComps_eq (comps : List (String × Inst)) :
    blocksComps comps = comps.flatMap (fun c => blocksInst c.2) := by
  induction comps with
  | nil => rfl
  | cons c r ih =>
    obtain ⟨n, i⟩ := c
    simp only [blocksComps, List.flatMap_cons, ih]

def sigBlock (pfx : String) (lens : List (String × Nat)) (x : String × List SigEntry) : Block :=
  Block.signal pfx x.1 ((lens.lookup x.1).getD 0) x.2

theorem blocksInst_sys (p n pfx : String) (t : List (String × String)) (sg : List (String × List SigEntry))
    (l : List (String × Nat)) (c : List (String × Inst)) (i o : List SigRef) :
    blocksInst (.sys (.mk p n pfx t sg l c i o)) =
      c.flatMap (fun x => blocksInst x.2) ++ sg.map (sigBlock pfx l) := by
  simp only [blocksInst, blocksSys, blocksComps_eq]
  rfl

theorem blocksInst_comp (st : Comp.St) : blocksInst (.comp st) = [Block.comp st] := by
  simp only [blocksInst]

/-- name hypotheses on a system source, needed for the name clauses of `BlocksOk`:
* instance names contain no `-` — otherwise instance `a` with sequence `b-c` and instance `a-b` with sequence
  `c` both emit `a-b-c`;
* signal names contain no `-` — otherwise signal `b-x` of system `a` and sequence `x` of its instance `b`
  both emit `a-b-x`;
* no signal has the name of an instance of the same system — otherwise, with a signal `S` bound to port `x` of
  instance `C` and a sub-system instance `S` that has an instance `C` with a structure `x`, the connector
  structure `S-C-x` and the structure `x` of `S-C-` coincide (also: signal `S`'s auxiliary `S-_WC` and a
  sequence `_WC` of a component instance `S`);
* the signals of the declaration are pairwise distinct — otherwise a signal of the enclosing system bound to
  two ports of that name in different orientations emits the connector structure `S-C-x` twice (`dedupEntries`
  writes a repeated binding in the same orientation once; the hypothesis is stronger than needed there).
  Not `SysProofs.sysNamesOk` (small `s`), the PIL side's weaker hypothesis; `DesSys.desBundleOk` asks both. -/
def SysNamesOk (s : SSrc) : Bool :=
  (instNames s.stmts).all (fun n => decide (NoDash n)) &&
  (sigNames s.stmts).all (fun n => decide (NoDash n) && !(instNames s.stmts).contains n) &&
  decide (((s.inputs ++ s.outputs).map (·.name)).Nodup)

/-- the sequences of a component's declaration are pairwise distinct (otherwise a signal bound to two ports of
    the same sequence, once plainly and once starred, emits the connector structure `S-C-x` twice; `dedupEntries`
    writes a repeated binding in the same orientation once — `examples/David_CRN/Oscillator.sys` — so the
    hypothesis is stronger than needed for that case; `BlocksOk` itself holds there: the driver evaluates it on every run) -/
def PortsDistinct (c : Comp.Src) : Bool := decide (((c.inputs ++ c.outputs).map (·.seq)).Nodup)

abbrev PD (c : Comp.Src) : Prop := StmtNamesOk c = true ∧ PortsDistinct c = true
abbrev QD (s : SSrc) : Prop := SysNamesOk s = true

theorem SysNamesOk.inst {s : SSrc} (h : SysNamesOk s = true) : ∀ n ∈ instNames s.stmts, NoDash n := by
  simp only [SysNamesOk, Bool.and_eq_true, List.all_eq_true, decide_eq_true_eq] at h
  exact h.1.1

theorem SysNamesOk.sig {s : SSrc} (h : SysNamesOk s = true) :
    ∀ n ∈ sigNames s.stmts, NoDash n ∧ n ∉ instNames s.stmts := by
  simp only [SysNamesOk, Bool.and_eq_true, List.all_eq_true, decide_eq_true_eq, Bool.not_eq_true',
    List.contains_eq_mem, decide_eq_false_iff_not] at h
  exact h.1.2

theorem SysNamesOk.io {s : SSrc} (h : SysNamesOk s = true) : ((s.inputs ++ s.outputs).map (·.name)).Nodup := by
  simp only [SysNamesOk, Bool.and_eq_true, decide_eq_true_eq] at h
  exact h.2

theorem signal_names_apart {s : SSrc} {pfx : String} {sg : List (String × List SigEntry)} {lens : List (String × Nat)}
    {comps : List (String × Inst)} (hQ : QD s) (hinv : SysInv (instNames s.stmts) (sigNames s.stmts) sg lens comps)
    (T : String × List SigEntry → List String)
    (hT : ∀ x ∈ sg, (T x).Nodup ∧ ∀ t ∈ T x, t = "" ∨ ∃ r, t = "-" ++ r) :
    (sg.flatMap (fun x => (T x).map (fun t => pfx ++ (x.1 ++ t)))).Nodup ∧
    ∀ y ∈ sg.flatMap (fun x => (T x).map (fun t => pfx ++ (x.1 ++ t))),
      HasPfx pfx y ∧ ∀ c ∈ comps, ¬ HasPfx (pfx ++ c.1 ++ "-") y := by
  have hsd : ∀ x ∈ sg, NoDash x.1 ∧ x.1 ∉ instNames s.stmts := fun x hx => SysNamesOk.sig hQ _ (hinv.sigIn x hx)
  refine ⟨?_, fun y hy => ?_⟩
  · refine nodup_flatMap_of_keys (·.1) hinv.sigNodup (fun x hx => nodup_map_inj_on (fun t1 _ t2 _ e =>
      (String.append_right_inj _).1 ((String.append_right_inj _).1 e)) (hT x hx).1) ?_
    intro a ha b hb y hy hy'
    obtain ⟨t, ht, rfl⟩ := List.mem_map.mp hy
    obtain ⟨t', ht', hyy⟩ := List.mem_map.mp hy'
    exact dash_led_split (hsd a ha).1 (hsd b hb).1 ((hT a ha).2 t ht) ((hT b hb).2 t' ht')
      ((String.append_right_inj _).1 hyy.symm)
  · obtain ⟨x, hx, hyx⟩ := List.mem_flatMap.mp hy
    obtain ⟨t, ht, rfl⟩ := List.mem_map.mp hyx
    refine ⟨HasPfx.append _ _, fun c hc hp => ?_⟩
    obtain ⟨r, hr⟩ := exists_of_hasPfx hp
    rw [String.append_assoc, String.append_assoc, String.append_right_inj] at hr
    have := dash_led_split (hsd x hx).1 (SysNamesOk.inst hQ _ (hinv.compNames c hc)) ((hT x hx).2 t ht)
      (Or.inr ⟨r, rfl⟩) hr
    exact (hsd x hx).2 (this ▸ hinv.compNames c hc)

def seqN (b : Block) : List String := (seqLines (blockDoc b)).map (·.1)
def asgN (b : Block) : List String := (assignLines (blockDoc b)).map (·.1)
def strN (b : Block) : List String := (blockDesign b).strands.map (·.1)

theorem seqN_comp (st : Comp.St) :
    seqN (.comp st) = ((st.baseSeqs.filter (·.len != 0)).map (·.name)).map (st.pfx ++ ·) := by
  simp only [seqN, blockDoc, seqLines_compDoc, List.map_map]; rfl

theorem seqN_sig (pfx : String) (lens : List (String × Nat)) (x : String × List SigEntry) :
    seqN (sigBlock pfx lens x) = ["", "-_WC"].map (fun t => pfx ++ (x.1 ++ t)) := by
  simp only [seqN, sigBlock, blockDoc, seqLines_signalDoc, List.map_cons, List.map_nil, wcName, String.append_empty,
    String.append_assoc]

theorem asgN_comp (st : Comp.St) : asgN (.comp st) = (st.structs.map (·.name)).map (st.pfx ++ ·) := by
  simp only [asgN, blockDoc, assignLines_compDoc, List.map_map]; rfl

/-- the part of a connector structure's name after the signal -/
def entryTail (e : SigEntry) : String := e.comp ++ "-" ++ portName e.port

theorem asgN_signal (pfx sg : String) (len : Nat) (es : List SigEntry) :
    asgN (.signal pfx sg len es) =
      ("_Self" :: (dedupEntries es).map (Des.connTail es)).map (fun t => pfx ++ (sg ++ "-" ++ t)) := by
  have self_eq : pfx ++ sg ++ "-_Self" = pfx ++ (sg ++ "-" ++ "_Self") := by simp only [String.append_assoc]; rfl
  simp only [asgN, blockDoc, assignLines_signalDoc, List.map_cons, List.map_map, self_eq]
  congr 1
  apply List.map_congr_left
  intro e _
  simp only [Function.comp, portItems_fst_connName, Des.connTail, String.append_assoc]

theorem strN_comp (st : Comp.St) : strN (.comp st) = (st.strands.map (·.name)).map (st.pfx ++ ·) := by
  simp only [strN, blockDesign, compDesign, List.map_map]; rfl

theorem strN_sig (pfx : String) (lens : List (String × Nat)) (x : String × List SigEntry) :
    strN (sigBlock pfx lens x) = [] := rfl

theorem comp_names_nodup {src : Comp.Src} {n : Nat} {pfx : String} {a : Nat} {st : Comp.St} {a' : Nat}
    (h : Comp.load src n pfx a = .ok (st, a')) (hn : StmtNamesOk src = true) :
    (seqN (.comp st)).Nodup ∧ (asgN (.comp st)).Nodup ∧ (strN (.comp st)).Nodup := by
  obtain ⟨ci, _⟩ := load_inv_all h hn
  rw [seqN_comp, asgN_comp, strN_comp]
  exact ⟨nodup_pfx_map (nodup_names_filter (nodup_names_filter ci.wf.seqs.nodup _) _) _,
    nodup_pfx_map ci.wf.structNames _, nodup_pfx_map ci.wf.strandNames _⟩

theorem hasPfx_map (p : String) (l : List String) : ∀ x ∈ l.map (p ++ ·), HasPfx p x := by
  intro x hx
  obtain ⟨r, _, rfl⟩ := List.mem_map.mp hx
  exact HasPfx.append p r

/-- the names `N` a tree's blocks declare (of one kind) are distinct and lie under the tree's prefix, given `N` in normal
    form: `names st` under the prefix for a component block (distinct for a loaded component, `hnames`), `pfx ++ sg ++ t`
    for the tails `t ∈ T x` of a signal block, each empty or dash-led (`hT`) -/
theorem names_ok (N : Block → List String) (names : Comp.St → List String) (T : String × List SigEntry → List String)
    (hNc : ∀ st, N (.comp st) = (names st).map (st.pfx ++ ·))
    (hNs : ∀ pfx lens x, N (sigBlock pfx lens x) = (T x).map (fun t => pfx ++ (x.1 ++ t)))
    (hnames : ∀ {c : Comp.Src} {n : Nat} {pfx : String} {a : Nat} {st : Comp.St} {a' : Nat}, PD c →
      Comp.load c n pfx a = .ok (st, a') → (N (.comp st)).Nodup)
    (hT : ∀ {s : SSrc} {pfx : String} {sg : List (String × List SigEntry)} {lens : List (String × Nat)}
      {comps : List (String × Inst)}, QD s → SysInv (instNames s.stmts) (sigNames s.stmts) sg lens comps →
      (∀ c ∈ comps, Loaded PD QD (pfx ++ c.1 ++ "-") c.2) →
      ∀ x ∈ sg, (T x).Nodup ∧ ∀ t ∈ T x, t = "" ∨ ∃ r, t = "-" ++ r)
    {pfx : String} {inst : Inst} (hL : Loaded PD QD pfx inst) :
    ((blocksInst inst).flatMap N).Nodup ∧ ∀ x ∈ (blocksInst inst).flatMap N, HasPfx pfx x := by
  induction hL with
  | comp hP hload =>
    rw [blocksInst_comp, List.flatMap_singleton]
    refine ⟨hnames hP hload, ?_⟩
    rw [hNc, (load_inv_all hload hP.1).2]
    exact hasPfx_map _ _
  | @sys s path name pfx tm sg lens comps hQ hsub hinv hio ih =>
    obtain ⟨g1, g2⟩ := signal_names_apart (pfx := pfx) hQ hinv T (hT hQ hinv hsub)
    have hdash : ∀ c ∈ comps, NoDash c.1 := fun c hc => SysNamesOk.inst hQ _ (hinv.compNames c hc)
    rw [blocksInst_sys, List.flatMap_append, List.flatMap_assoc, List.flatMap_map]
    simp only [hNs]
    have hpart : ∀ x ∈ comps.flatMap (fun c => (blocksInst c.2).flatMap N), ∃ c ∈ comps, HasPfx (pfx ++ c.1 ++ "-") x := by
      intro x hx
      obtain ⟨c, hc, hxc⟩ := List.mem_flatMap.mp hx
      exact ⟨c, hc, (ih c hc).2 x hxc⟩
    refine ⟨?_, ?_⟩
    · rw [List.nodup_append]
      refine ⟨?_, g1, ?_⟩
      · exact nodup_flatMap_of_keys (·.1) hinv.compNodup (fun c hc => (ih c hc).1) fun a ha b hb x hx hy =>
          Decidable.byContradiction fun hne => SysProofs.sibling_prefixes_disjoint pfx a.1 b.1 (hdash a ha) (hdash b hb)
            hne x ⟨(ih a ha).2 x hx, (ih b hb).2 x hy⟩
      · intro x hx y hy hxy
        subst hxy
        obtain ⟨c, hc, hpx⟩ := hpart x hx
        exact (g2 x hy).2 c hc hpx
    · intro x hx
      rcases List.mem_append.mp hx with hx | hx
      · obtain ⟨c, _, hpx⟩ := hpart x hx
        exact hpx.of_append.of_append
      · exact (g2 x hx).1

theorem seq_names_ok {pfx : String} {inst : Inst} (hL : Loaded PD QD pfx inst) :
    ((blocksInst inst).flatMap seqN).Nodup ∧ ∀ x ∈ (blocksInst inst).flatMap seqN, HasPfx pfx x := by
  refine names_ok seqN _ (fun _ => ["", "-_WC"]) seqN_comp seqN_sig (fun hP hload => (comp_names_nodup hload hP.1).1)
    (fun _ _ _ _ _ => ⟨by decide, fun t ht => ?_⟩) hL
  rcases List.mem_cons.1 ht with rfl | ht
  · exact Or.inl rfl
  · exact Or.inr ⟨"_WC", List.mem_singleton.1 ht⟩

theorem str_names_ok {pfx : String} {inst : Inst} (hL : Loaded PD QD pfx inst) :
    ((blocksInst inst).flatMap strN).Nodup ∧ ∀ x ∈ (blocksInst inst).flatMap strN, HasPfx pfx x :=
  names_ok strN _ (fun _ => []) strN_comp strN_sig (fun hP hload => (comp_names_nodup hload hP.1).2.2)
    (fun _ _ _ _ _ => ⟨List.nodup_nil, fun _ ht => nomatch ht⟩) hL

theorem load_port_names {src : Comp.Src} {n : Nat} {pfx : String} {a : Nat} {st : Comp.St} {a' : Nat}
    (h : Comp.load src n pfx a = .ok (st, a')) :
    (st.inputSeqs ++ st.outputSeqs).map (·.name) = (src.inputs ++ src.outputs).map (·.seq) := by
  have := congrArg (List.map Prod.fst) (SysProofs.load_stars h).2
  rwa [List.map_map, List.map_map] at this

theorem instPortNames_nodup {pfx : String} {inst : Inst} (hL : Loaded PD QD pfx inst) : (instPortNames inst).Nodup := by
  cases hL with
  | comp hP hload =>
    simp only [instPortNames]
    rw [load_port_names hload]
    have := hP.2
    simp only [PortsDistinct, decide_eq_true_eq] at this
    exact this
  | sys hQ hsub hinv hio =>
    simp only [instPortNames, SysSt.inputSeqs, SysSt.outputSeqs]
    exact SysNamesOk.io hQ

theorem keys_nodup {pfx : String} {comps : List (String × Inst)} (hn : (comps.map (·.1)).Nodup)
    (hsub : ∀ c ∈ comps, Loaded PD QD (pfx ++ c.1 ++ "-") c.2) : (comps.flatMap instKeys).Nodup := by
  refine nodup_flatMap_of_keys (·.1) hn (fun c hc =>
    nodup_map_inj_on (fun a _ b _ e => by simpa using e) (instPortNames_nodup (hsub c hc))) ?_
  intro a _ b _ x hx hy
  obtain ⟨_, _, rfl⟩ := List.mem_map.1 hx
  obtain ⟨_, _, h2⟩ := List.mem_map.1 hy
  exact (Prod.mk.inj h2).1.symm

theorem entryTail_eq (e : SigEntry) : entryTail e = (entryKey e).1 ++ "-" ++ (entryKey e).2 := rfl

theorem connName_eq_entryTail (e : SigEntry) : e.connName = entryTail e := by
  unfold SigEntry.connName entryTail portName
  cases e.port <;> rfl

/-- on a loaded tree (sources with `SysNamesOk` / `PortsDistinct`) the connector names of one signal's entries are
    pairwise distinct: every (instance, port) pair is bound at most once.  So `System.output_nupack` drops no entry
    and renames no connector there (`Des.mem_dedup_of_same`, `Des.rcSuffix_of_consistent`) -/
theorem connNames_nodup {s : SSrc} {pfx : String} {sg : List (String × List SigEntry)} {lens : List (String × Nat)}
    {comps : List (String × Inst)} (hQ : QD s) (hinv : SysInv (instNames s.stmts) (sigNames s.stmts) sg lens comps)
    (hsub : ∀ c ∈ comps, Loaded PD QD (pfx ++ c.1 ++ "-") c.2) : ∀ x ∈ sg, (x.2.map SigEntry.connName).Nodup := by
  intro x hx
  have hcompd : ∀ e ∈ x.2, NoDash e.comp := by
    intro e he
    obtain ⟨inst, len, hm, _, _⟩ := hinv.entries x hx e he
    exact SysNamesOk.inst hQ _ (hinv.compNames _ hm)
  have hkn : (x.2.map entryKey).Nodup := (hinv.entryKeys x hx).nodup (keys_nodup hinv.compNodup hsub)
  have : x.2.map SigEntry.connName = (x.2.map entryKey).map (fun k => k.1 ++ "-" ++ k.2) := by
    rw [List.map_map]; exact List.map_congr_left fun e _ => connName_eq_entryTail e
  rw [this]
  refine nodup_map_inj_on ?_ hkn
  intro k1 hk1 k2 hk2 heq
  obtain ⟨e1, he1, rfl⟩ := List.mem_map.mp hk1
  obtain ⟨e2, he2, rfl⟩ := List.mem_map.mp hk2
  obtain ⟨h1, h2⟩ := append_dash_inj (hcompd e1 he1) (hcompd e2 he2) heq
  exact Prod.ext h1 h2

theorem self_notin_tails (es : List SigEntry) : "_Self" ∉ (dedupEntries es).map (Des.connTail es) := by
  intro hm
  obtain ⟨e, _, he⟩ := List.mem_map.mp hm
  rw [Des.connTail, connName_eq_entryTail, entryTail, String.append_assoc] at he
  exact dash_ne (by decide : NoDash "_Self") he

theorem asg_names_ok {pfx : String} {inst : Inst} (hL : Loaded PD QD pfx inst) :
    ((blocksInst inst).flatMap asgN).Nodup ∧ ∀ x ∈ (blocksInst inst).flatMap asgN, HasPfx pfx x := by
  refine names_ok asgN _ (fun x => ("_Self" :: (dedupEntries x.2).map (Des.connTail x.2)).map ("-" ++ ·)) asgN_comp
    (fun pfx lens x => ?_) (fun hP hload => (comp_names_nodup hload hP.1).2.1)
    (fun hQ hinv hsub x hx => ⟨nodup_pfx_map (List.nodup_cons.2 ⟨self_notin_tails x.2, ?_⟩) _, fun t ht => ?_⟩) hL
  · rw [sigBlock, asgN_signal, List.map_map]
    exact List.map_congr_left fun t _ => by rw [Function.comp, String.append_assoc]
  · exact Des.connTails_nodup_of_consistent fun e he e' he' hc => by
      rw [nodup_map_inj (connNames_nodup hQ hinv hsub x hx) he he' hc]
  · obtain ⟨r, _, rfl⟩ := List.mem_map.mp ht
    exact Or.inr ⟨r, rfl⟩

theorem resolves_mono {d1 d2 : List (String × List Char)} (h : ∀ q ∈ d1, q ∈ d2) {x : String} {l : Nat}
    (hr : Resolves d1 x l) : Resolves d2 x l := by
  obtain ⟨q, hq, h1, h2⟩ := hr
  exact ⟨q, h q hq, h1, h2⟩

theorem domains_mono {bs bs' : List Block} (h : ∀ b ∈ bs, b ∈ bs') :
    ∀ q ∈ (designOfBlocks bs).domains, q ∈ (designOfBlocks bs').domains := by
  intro q hq
  obtain ⟨b, hb, hqb⟩ := List.mem_flatMap.mp hq
  exact List.mem_flatMap.mpr ⟨b, h b hb, hqb⟩

theorem entryOk_of_child {pfx : String} {e : SigEntry} {inst : Inst} {len : Nat}
    (hL : Loaded PD QD (pfx ++ e.comp ++ "-") inst) (hport : PortInv inst e.port len) (hpos : len ≠ 0)
    {doms : List (String × List Char)} (hdom : ∀ q ∈ (designOfBlocks (blocksInst inst)).domains, q ∈ doms) :
    EntryOk doms pfx len e := by
  unfold EntryOk
  cases hL with
  | @comp c n _ a st a' hP hload =>
    obtain ⟨ci, hp⟩ := load_inv_all hload hP.1
    have hdom' : ∀ q ∈ seqLines (compDoc st), q ∈ doms := fun q hq =>
      hdom q (List.mem_flatMap.mpr ⟨Block.comp st, List.mem_singleton.2 rfl, (compDesign_domains st).symm ▸ hq⟩)
    cases hpe : e.port with
    | sig m => rw [hpe] at hport; exact hport.elim
    | seq i bases =>
      rw [hpe] at hport
      obtain ⟨_, hil, se, hf, hsl, hsk, rfl⟩ := hport
      obtain ⟨hsel, hsen⟩ := findE_some hf
      have hpe' : entryPfx pfx e = st.pfx := hp.symm
      simp only [hpe']
      split
      · refine ⟨?_, fun b hb h0 => ?_⟩
        · rw [← (ci.wf.seqs.entries se hsel).lenB, ← hsl, hil]
        · exact resolves_mono hdom' (resolves_of_baseOk ci.wf (seq_bases_ok ci.wf.seqs hsel b hb) h0)
      · rename_i hns
        have hsf : se.isSup = false := by rw [← hsk]; simpa using hns
        obtain ⟨g1, g2⟩ := base_line ci.wf hsel hsf (by rw [← hsl, hil]; exact hpos)
        exact ⟨hil, _, hdom' _ g1, by rw [hsen], by rw [g2, ← hsl, hil]⟩
  | @sys s path name _ tm sg lens comps hQ hsub hinv hio =>
    cases hpe : e.port with
    | seq i bases => rw [hpe] at hport; exact hport.elim
    | sig m =>
      rw [hpe] at hport
      have hmk : m ∈ sg.map (·.1) := by
        rw [← hinv.keys, ← lookup_isSome_iff_mem_keys, show lens.lookup m = some len from hport]; rfl
      obtain ⟨x, hx, hxm⟩ := List.mem_map.mp hmk
      refine ⟨(entryPfx pfx e ++ m, List.replicate len 'N'), hdom _ ?_, rfl, List.length_replicate⟩
      refine List.mem_flatMap.mpr ⟨sigBlock (pfx ++ e.comp ++ "-") lens x, ?_, ?_⟩
      · rw [blocksInst_sys]
        exact List.mem_append_right _ (List.mem_map.mpr ⟨x, hx, rfl⟩)
      · simp only [sigBlock, blockDesign, signalDesign, Design.empty, hxm,
          show lens.lookup m = some len from hport, Option.getD_some, List.mem_singleton, entryPfx]

/-- the block clauses hold with respect to any list `doms` that contains the domains of the tree (the induction
    passes the domains of the enclosing tree down) -/
theorem blocks_ok {pfx : String} {inst : Inst} (hL : Loaded PD QD pfx inst) :
    ∀ doms, (∀ q ∈ (designOfBlocks (blocksInst inst)).domains, q ∈ doms) → ∀ b ∈ blocksInst inst, BlockOk doms b := by
  induction hL with
  | comp hP hload =>
    intro doms _ b hb
    rw [blocksInst_comp, List.mem_singleton] at hb
    subst hb
    obtain ⟨ci, _⟩ := load_inv_all hload hP.1
    exact compOk_of_inv ci.wf ci.wfx
  | @sys s path name pfx tm sg lens comps hQ hsub hinv hio ih =>
    intro doms hdoms b hb
    have hchild : ∀ c ∈ comps, ∀ q ∈ (designOfBlocks (blocksInst c.2)).domains, q ∈ doms := fun c hc q hq =>
      hdoms q (domains_mono (fun b' hb' => by
        rw [blocksInst_sys]; exact List.mem_append_left _ (List.mem_flatMap.mpr ⟨c, hc, hb'⟩)) q hq)
    rw [blocksInst_sys] at hb
    rcases List.mem_append.mp hb with hb | hb
    · obtain ⟨c, hc, hbc⟩ := List.mem_flatMap.mp hb
      exact ih c hc doms (hchild c hc) b hbc
    · obtain ⟨x, hx, rfl⟩ := List.mem_map.mp hb
      refine ⟨fun e he => ?_, fun e he e' he' hc _ =>
        nodup_map_inj (connNames_nodup hQ hinv hsub x hx) he he' hc⟩
      obtain ⟨inst', len', hm, hl, hport⟩ := hinv.entries x hx e he
      have hlen : (lens.lookup x.1).getD 0 = len' := by rw [hl]; rfl
      rw [hlen]
      exact entryOk_of_child (hsub _ hm) hport (hinv.lensPos _ (lookup_mem hl)) (hchild _ hm)

theorem Loaded.blocksOk {pfx : String} {inst : Inst} (hL : Loaded PD QD pfx inst) : BlocksOk (blocksInst inst) := by
  refine ⟨?_, ?_, ?_, blocks_ok hL _ fun _ h => h⟩
  · rw [seqNames_docOf]; exact (seq_names_ok hL).1
  · rw [assignNames_docOf]; exact (asg_names_ok hL).1
  · have : (designOfBlocks (blocksInst inst)).strands.map (·.1) = (blocksInst inst).flatMap strN := by
      simp only [designOfBlocks, List.map_flatMap]; rfl
    rw [this]; exact (str_names_ok hL).1

def DesNamesOk (b : Bundle) : Prop := CompSrcsOk PD b ∧ SysSrcsOk QD b

theorem loadFile_blocksOk {b : Bundle} (hb : DesNamesOk b) {fuel : Nat} {base : String} {args : Nat}
    {argKey pfx path : String} {includes : List String} {anon : Nat} {inst : Inst} {a' : Nat}
    (h : loadFile b fuel base args argKey pfx path includes anon = .ok (inst, a')) :
    BlocksOk (blocksInst inst) :=
  (loadFile_loaded hb.1 hb.2 _ _ _ _ _ _ _ _ _ _ h).blocksOk

theorem comp_blocksOk {src : Comp.Src} {n : Nat} {pfx : String} {a : Nat} {st : Comp.St} {a' : Nat}
    (h : Comp.load src n pfx a = .ok (st, a')) (hn : StmtNamesOk src = true) : BlocksOk [Block.comp st] := by
  obtain ⟨ci, _⟩ := load_inv_all h hn
  obtain ⟨hseq, hasg, hstr⟩ := comp_names_nodup h hn
  refine ⟨?_, ?_, ?_, fun b hb => ?_⟩
  · rw [seqNames_docOf, List.flatMap_singleton]
    exact hseq
  · rw [assignNames_docOf, List.flatMap_singleton]
    exact hasg
  · simp only [designOfBlocks, List.flatMap_singleton]
    exact hstr
  · rw [List.mem_singleton.1 hb]
    exact compOk_of_inv ci.wf ci.wfx

end Pepper.LoadInv
