import PepperProofs.LoadInvDes
import PepperProofs.SysPil
/-!
# The design of the object tables has the solutions of the source's design, for whole instance trees (C03)

`Des.designOf inst` is read off the object tables `Sys.loadFile` returns; `Denote.denoteFile` assigns a design `d`
to the *source*.  `tree_agrees_satEq`: the two agree on every field `LinkSpec.Sat` reads (`SatEq`: domains, `equals`,
strands, and the strand lists and dot-parens of the structures — not structure names, `opt`, `seqs`, `kinetics`),
for trees of any depth.  Hence `tree_sat_iff`: they have the same solutions.

`SatEq` is carried along the two walks by `SysProofs.tree_agrees` (`satEq_walk`).  A component leaf is
`Comp.Agree.design` (no PIL, no code table); the signal part agrees because a port that is not a super-sequence has
`base_seqs = [itself]` (this is where the tree invariant `LoadInv.Loaded` is needed).
-/
namespace Pepper.DesSys
open Pepper Pepper.Comp Pepper.Sys Pepper.SysProofs

theorem SatEq.append {a b c d : Design} (h1 : SatEq a c) (h2 : SatEq b d) :
    SatEq (Denote.Design.append a b) (Denote.Design.append c d) := by
  obtain ⟨a1, a2, a3, a4⟩ := h1
  obtain ⟨b1, b2, b3, b4⟩ := h2
  simp only [SatEq, Denote.Design.append, List.map_append, a1, a2, a3, a4, b1, b2, b3, b4, and_self]

theorem designOfBlocks_append (a b : List Des.Block) :
    Des.designOfBlocks (a ++ b) = Denote.Design.append (Des.designOfBlocks a) (Des.designOfBlocks b) := by
  simp [Des.designOfBlocks, Denote.Design.append, List.flatMap_append]

theorem designOfBlocks_single (bl : Des.Block) : Des.designOfBlocks [bl] = Des.blockDesign bl := by
  simp [Des.designOfBlocks]

theorem comp_satEq {src : Comp.Src} {n : Nat} {pfx : String} {a : Nat} {st : Comp.St} {a' : Nat}
    (hload : Comp.load src n pfx a = .ok (st, a')) (hnames : UserNamesOk src = true) :
    ∃ o ports, Denote.denoteComp src pfx a = .ok (o, ports, a') ∧ PortsAgree pfx (compPorts st) ports ∧
      SatEq (Des.compDesign st) (o.design []) := by
  obtain ⟨o, ports, hden, hp, ⟨e1, _, e3, e4, e5⟩, _⟩ := comp_inst hload hnames
  refine ⟨o, ports, hden, hp, e1, e5, e3, ?_⟩
  rw [← e4]
  simp [Des.compDesign, Comp.designOf, List.map_map, Function.comp_def]

abbrev PN (c : Comp.Src) : Prop := LoadInv.StmtNamesOk c = true

/-- every signal entry's region in `Des.signalDesign` is the region `SysProofs.entryRegion`: a port of a component
    that is not a super-sequence has `base_seqs = [itself]` -/
theorem entry_regions {Q : SSrc → Prop} {IN SN : List String} {pfx : String} {sg : List (String × List SigEntry)}
    {lens : List (String × Nat)} {comps : List (String × Inst)} (hinv : LoadInv.SysInv IN SN sg lens comps)
    (hsub : ∀ c ∈ comps, LoadInv.Loaded PN Q (pfx ++ c.1 ++ "-") c.2) :
    ∀ x ∈ sg, ∀ e ∈ x.2, Des.portRegion pfx ((lens.lookup x.1).getD 0) e =
      entryRegion pfx ((lens.lookup x.1).getD 0) e := by
  intro x hx e he
  obtain ⟨inst', len', hm, hl, hport⟩ := hinv.entries x hx e he
  have hLi := hsub (e.comp, inst') hm
  simp only at hLi
  have hnucs : Des.portNucs pfx ((lens.lookup x.1).getD 0) e = entryNucs pfx ((lens.lookup x.1).getD 0) e := by
    unfold Des.portNucs entryNucs
    cases hpe : e.port with
    | sig m => rfl
    | seq i bases =>
      simp only
      by_cases hs : i.isSup = true
      · simp only [hs, if_true]; rfl
      · simp only [hs]
        rw [hpe] at hport
        cases hLi with
        | sys hQ' hsub' hinv' hio' => simp [LoadInv.PortInv] at hport
        | comp hP hload =>
          simp only [LoadInv.PortInv] at hport
          obtain ⟨_, hil, se, hf, hsl, hsk, rfl⟩ := hport
          obtain ⟨ci, _⟩ := LoadInv.load_inv_all hload hP
          obtain ⟨hsel, hsen⟩ := findE_some hf
          have hsf : se.isSup = false := by rw [← hsk]; simpa using hs
          have hb := ((ci.wf.seqs.entries se hsel).base hsf).1
          rw [hb]
          simp [basesNucs, baseNucs, Des.entryPfx, hsen, hsl]
  simp only [Des.portRegion, entryRegion, hnucs]

theorem sigBlocks_satEq (pfx : String) (lens : List (String × Nat)) (sg : List (String × List SigEntry))
    (h : ∀ x ∈ sg, ∀ e ∈ x.2, Des.portRegion pfx ((lens.lookup x.1).getD 0) e =
      entryRegion pfx ((lens.lookup x.1).getD 0) e) :
    SatEq (Des.designOfBlocks (sg.map (LoadInv.sigBlock pfx lens))) (sigDesignOf pfx lens sg) := by
  -- every field of a signal block's design has at most one element
  refine ⟨(List.flatMap_map ..).trans (List.map_eq_flatMap ..).symm, ?_, ?_, ?_⟩
  · refine (List.flatMap_map ..).trans (Eq.trans (flatMap_congr_mem fun x hx => ?_) (List.map_eq_flatMap ..).symm)
    exact congrArg (fun r => [fwd (pfx ++ x.1) ((lens.lookup x.1).getD 0) :: r]) (List.map_congr_left (h x hx))
  · exact (List.flatMap_map ..).trans (List.flatMap_eq_nil_iff.2 fun _ _ => rfl)
  · exact congrArg _ ((List.flatMap_map ..).trans (List.flatMap_eq_nil_iff.2 fun _ _ => rfl))

theorem satEq_walk : Walk PN (fun _ => True)
    (fun _ inst d => SatEq (Des.designOf inst) d)
    (fun _ _ _ comps d => SatEq (Des.designOfBlocks (comps.flatMap (fun x => Des.blocksInst x.2))) d) where
  init := fun _ => ⟨rfl, rfl, rfl, rfl⟩
  bound := by
    intro pfx sigs lens comps d sa cname templ args ins outs inst d1 ports sg l _ _ _ _ hJ hI _
    rw [List.flatMap_append, designOfBlocks_append]
    exact SatEq.append hJ (by simpa [Des.designOf] using hI)
  closed := by
    intro stmts p n pfx t sg l c d ins outs _ hinv hsub hJ _
    simp only [Des.designOf, LoadInv.blocksInst_sys]
    rw [designOfBlocks_append]
    exact SatEq.append hJ (sigBlocks_satEq pfx _ _ (entry_regions hinv hsub))

theorem tree_agrees_satEq {b : Bundle} (hb : BundleComps (fun c => UserNamesOk c = true) b) {fuel : Nat} {base : String}
    {args : Nat} {argKey pfx path : String} {includes : List String} {anon : Nat} {inst : Inst} {a' : Nat}
    (h : loadFile b fuel base args argKey pfx path includes anon = .ok (inst, a')) :
    ∃ d ports, Denote.denoteFile b fuel base args argKey pfx path includes anon = .ok (d, ports, a') ∧
      SatEq (Des.designOf inst) d := by
  obtain ⟨d, ports, hd, _, hI⟩ := tree_agrees satEq_walk (fun k c hl => LoadInv.stmtNamesOk_of_user (hb k c hl))
    (fun k c args pfx anon st a hl hload => by
      obtain ⟨o, ports, hden, hp, hse⟩ := comp_satEq hload (hb k c hl)
      refine ⟨o, ports, hden, hp, ?_⟩
      simpa [Des.designOf, Des.blocksInst, designOfBlocks_single, Des.blockDesign] using hse)
    (fun _ _ _ _ _ => trivial) |>.1 fuel _ _ _ _ _ _ _ _ _ h
  exact ⟨d, ports, hd, hI⟩

theorem tree_satEq (tbl : CodeTable) (b : Bundle) (hb : bundleOk tbl b = true) :
    ∀ (fuel : Nat) base args argKey pfx path includes anon inst a' d ports a'',
    loadFile b fuel base args argKey pfx path includes anon = .ok (inst, a') →
    Denote.denoteFile b fuel base args argKey pfx path includes anon = .ok (d, ports, a'') →
    SatEq (Des.designOf inst) d := by
  intro fuel base args argKey pfx path includes anon inst a' d ports a'' h hd
  obtain ⟨d', ports', hd', hse⟩ := tree_agrees_satEq (fun _ _ hl => (bundleOk_comp hb hl).1) h
  rw [hd] at hd'
  cases hd'
  exact hse

theorem tree_sat_iff {b : Bundle} (hb : bundleNamesOk b = true) {fuel : Nat} {base : String} {args : Nat}
    {argKey pfx path : String} {includes : List String} {anon : Nat} {inst : Inst} {a' : Nat}
    (h : loadFile b fuel base args argKey pfx path includes anon = .ok (inst, a')) :
    ∃ d ports, Denote.denoteFile b fuel base args argKey pfx path includes anon = .ok (d, ports, a') ∧
      ∀ (tbl : CodeTable) (asg : Var → LinkSpec.Base),
        Des.Sat tbl (Des.designOf inst) asg ↔ Des.Sat tbl d asg := by
  obtain ⟨d, ports, hd, hse⟩ := tree_agrees_satEq (fun _ _ hl => bundleNamesOk_comp hb hl) h
  exact ⟨d, ports, hd, hse.sat⟩

/-- every component source of the bundle has `UserNamesOk` and `PortsDistinct`; every system source has
    `sysNamesOk` (C02) and `SysNamesOk` (for `LoadInv.loadFile_blocksOk`) -/
def desBundleOk (b : Bundle) : Bool :=
  b.files.all (fun kf => match kf.2 with
    | .comp c => UserNamesOk c && LoadInv.PortsDistinct c
    | .sys s => sysNamesOk s && LoadInv.SysNamesOk s)

theorem desBundleOk_names {b : Bundle} (h : desBundleOk b = true) : LoadInv.DesNamesOk b := by
  simp only [desBundleOk, List.all_eq_true] at h
  refine ⟨fun k c hl => ?_, fun k s hl => ?_⟩
  · have := h _ (lookup_mem hl)
    simp only [Bool.and_eq_true] at this
    exact ⟨LoadInv.stmtNamesOk_of_user this.1, this.2⟩
  · have := h _ (lookup_mem hl)
    simp only [Bool.and_eq_true] at this
    exact this.2

theorem desBundleOk_bundle {b : Bundle} (h : desBundleOk b = true) : bundleNamesOk b = true := by
  simp only [desBundleOk, List.all_eq_true] at h
  simp only [bundleNamesOk, List.all_eq_true]
  intro kf hkf
  have := h kf hkf
  cases hk : kf.2 with
  | comp c => rw [hk] at this; simp only [Bool.and_eq_true] at this; exact this.1
  | sys s => rw [hk] at this; simp only [Bool.and_eq_true] at this; exact this.1

end Pepper.DesSys

namespace Pepper.LoadInv
open Pepper Pepper.Comp Pepper.Sys Pepper.Des

theorem comp_sat_iff (tbl : CodeTable) {src : Comp.Src} {n : Nat} {pfx : String} {a : Nat} {st : Comp.St} {a' : Nat}
    (hload : Comp.load src n pfx a = .ok (st, a')) (hnames : UserNamesOk src = true) (hcodes : CodesOk tbl src = true) :
    ∃ o ports, Denote.denoteComp src pfx a = .ok (o, ports, a') ∧
      ∀ asg, Des.Sat tbl (compDesign st) asg ↔ Des.Sat tbl (o.design []) asg := by
  obtain ⟨o, ports, hden, _, hse⟩ := DesSys.comp_satEq hload hnames
  exact ⟨o, ports, hden, hse.sat tbl⟩

end Pepper.LoadInv
