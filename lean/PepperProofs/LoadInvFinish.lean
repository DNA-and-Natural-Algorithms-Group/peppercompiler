import PepperProofs.LoadInvSys
import PepperProofs.Finish
import PepperProofs.FinishDecls
/-!
# What a successful load hands to the finisher (C16, C17, C06)

`Finish.constLenB` and `Finish.wfB` of every loaded component (from `WF0`) and of every loaded instance tree (from
`Loaded`).
-/
namespace Pepper.LoadInv
open Pepper Pepper.Comp Pepper.Sys

theorem constLen_of_WF0 {s : St} {a : Nat} (hw : WF0 s a) : Finish.constLenB s = true := by
  simp only [Finish.constLenB, List.all_eq_true, beq_iff_eq]
  intro e he
  simp only [St.baseSeqs, List.mem_filter, Bool.not_eq_true'] at he
  exact ((hw.seqs.entries e he.1).base he.2).2.1

theorem wfComp_of_WF0 {s : St} {a : Nat} (hw : WF0 s a) : Finish.wfCompB s = true := by
  simp only [Finish.wfCompB, Bool.and_eq_true, decide_eq_true_eq, List.all_eq_true]
  refine ⟨⟨nodup_names_filter hw.seqs.nodup _, ?_⟩, hw.strandNames⟩
  intro e he
  simp only [St.baseSeqs, List.mem_filter, Bool.not_eq_true'] at he
  exact ((hw.seqs.entries e he.1).base he.2).1

/-- every atomic sequence's constraint string has the recorded length -/
theorem load_constLen {src : Src} {n : Nat} {pfx : String} {a : Nat} {st : St} {a' : Nat}
    (h : load src n pfx a = .ok (st, a')) (hn : StmtNamesOk src = true) : Finish.constLenB st = true :=
  constLen_of_WF0 (load_WF0 h (notAnon_of_stmtNamesOk hn))

/-- a loaded component passes the well-formedness check of `finish` -/
theorem load_finish_wf {src : Src} {n : Nat} {pfx : String} {a : Nat} {st : St} {a' : Nat}
    (h : load src n pfx a = .ok (st, a')) (hn : StmtNamesOk src = true) : Finish.wfB (.comp st) = true := by
  simp only [Finish.wfB, Finish.compsOf, List.all_cons, List.all_nil, Bool.and_true]
  exact wfComp_of_WF0 (load_WF0 h (notAnon_of_stmtNamesOk hn))

theorem Loaded.comps {P : Comp.Src → Prop} {Q : SSrc → Prop} {pfx : String} {inst : Inst} (hL : Loaded P Q pfx inst) :
    ∀ n, ∀ s ∈ Finish.compsOf n inst, ∃ c k p a a', P c ∧ Comp.load c k p a = .ok (s, a') := fun n s hs =>
  Finish.compsOf_induct (P := fun s inst => ∀ pfx, Loaded P Q pfx inst → ∃ c k p a a', P c ∧ Comp.load c k p a = .ok (s, a'))
    (fun _ _ hL => by cases hL with | comp hP hload => exact ⟨_, _, _, _, _, hP, hload⟩)
    (fun hc ih _ hL => by cases hL with | sys _ hsub _ _ => exact ih _ (hsub _ hc)) n inst s hs pfx hL

theorem Loaded.finish_wf {Q : SSrc → Prop} {pfx : String} {inst : Inst}
    (hL : Loaded (fun c => StmtNamesOk c = true) Q pfx inst) :
    ∀ n, ∀ s ∈ Finish.compsOf n inst, Finish.wfCompB s = true := fun n s hs =>
  let ⟨_, _, _, _, _, hP, hload⟩ := hL.comps n s hs
  wfComp_of_WF0 (load_WF0 hload (notAnon_of_stmtNamesOk hP))

theorem allConstLenList_of (comps : List (String × Inst)) (h : ∀ c ∈ comps, Finish.allConstLen c.2 = true) :
    Finish.allConstLenList comps = true := by
  induction comps with
  | nil => rfl
  | cons c r ih =>
    obtain ⟨n, i⟩ := c
    simp only [Finish.allConstLenList, Bool.and_eq_true]
    exact ⟨h (n, i) (by simp), ih (fun c hc => h c (by simp [hc]))⟩

theorem Loaded.constLen {Q : SSrc → Prop} {pfx : String} {inst : Inst}
    (hL : Loaded (fun c => StmtNamesOk c = true) Q pfx inst) : Finish.allConstLen inst = true := by
  induction hL with
  | comp hP hload =>
    simp only [Finish.allConstLen]
    exact load_constLen hload hP
  | sys hQ hsub hinv hio ih =>
    simp only [Finish.allConstLen, Finish.allConstLenSys]
    exact allConstLenList_of _ ih

/-- a loaded tree passes the well-formedness check of `finish` -/
theorem loadFile_finish_wf {b : Bundle} (hb : CompNamesOk b) {fuel : Nat} {base : String} {args : Nat}
    {argKey pfx path : String} {includes : List String} {anon : Nat} {inst : Inst} {a' : Nat}
    (h : loadFile b fuel base args argKey pfx path includes anon = .ok (inst, a')) : Finish.wfB inst = true := by
  simp only [Finish.wfB, List.all_eq_true]
  exact (loadFile_loaded (Q := fun _ => True) hb (fun _ _ _ => trivial) _ _ _ _ _ _ _ _ _ _ h).finish_wf 64

/-- in every component of a loaded tree the constraint strings have the recorded lengths -/
theorem loadFile_constLen {b : Bundle} (hb : CompNamesOk b) {fuel : Nat} {base : String} {args : Nat}
    {argKey pfx path : String} {includes : List String} {anon : Nat} {inst : Inst} {a' : Nat}
    (h : loadFile b fuel base args argKey pfx path includes anon = .ok (inst, a')) :
    Finish.allConstLen inst = true :=
  (loadFile_loaded (Q := fun _ => True) hb (fun _ _ _ => trivial) _ _ _ _ _ _ _ _ _ _ h).constLen

end Pepper.LoadInv
