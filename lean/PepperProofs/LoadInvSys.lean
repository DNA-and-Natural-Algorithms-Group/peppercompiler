import PepperProofs.LoadInv
import PepperProofs.Sys
/-!
# What a successful `Sys.loadFile` establishes: the invariant of the instance tree

`Loaded P Q pfx inst`: `inst` is an instance tree under prefix `pfx` whose component leaves are results of
`Comp.load` on sources satisfying `P`, whose system nodes come from sources satisfying `Q`, and whose signal
tables satisfy `SysInv`.

From `Loaded` (`loadFile_loaded`): `loadFile_wfInst` (C12); `LoadInvFinish.lean` derives `loadFile_finish_wf` (C06/C17)
and `loadFile_constLen` (C16), `LoadInvDes.lean` `Des.BlocksOk` (C03); `SysAgree.tree_agrees` hands `SysInv` and `Loaded`
of a finished system to its `Walk`.
-/
namespace Pepper.LoadInv
open Pepper Pepper.Comp Pepper.Sys
open Pepper.SysProofs (PortT bindStep bindSigs instPorts bindStep_cases)

def instNames (stmts : List SStmt) : List String :=
  stmts.flatMap (fun
    | .component n _ _ _ _ => [n]
    | _ => [])

def sigNames (stmts : List SStmt) : List String :=
  stmts.flatMap (fun
    | .component _ _ _ ins outs => (ins ++ outs).map (·.name)
    | _ => [])

theorem names_of_stmts {P Q : String → Prop} {stmts : List SStmt}
    (h : ∀ c t a ins outs, SStmt.component c t a ins outs ∈ stmts → P c ∧ ∀ g ∈ ins ++ outs, Q g.name) :
    (∀ n ∈ instNames stmts, P n) ∧ ∀ n ∈ sigNames stmts, Q n := by
  constructor <;> intro n hn <;> obtain ⟨st, hst, hn⟩ := List.mem_flatMap.1 hn <;> cases st
  · cases hn
  · cases List.mem_singleton.1 hn
    exact (h _ _ _ _ _ hst).1
  · cases hn
  · obtain ⟨g, hg, rfl⟩ := List.mem_map.1 hn
    exact (h _ _ _ _ _ hst).2 g hg

def portName : Sys.Port → String
  | .seq i _ => i.name
  | .sig n => n

def entryKey (e : SigEntry) : String × String := (e.comp, portName e.port)

def instPortNames : Inst → List String
  | .comp cst => (cst.inputSeqs ++ cst.outputSeqs).map (·.name)
  | .sys sst => (sst.inputSeqs ++ sst.outputSeqs).map (·.name)

def instKeys (c : String × Inst) : List (String × String) := (instPortNames c.2).map (fun p => (c.1, p))

/-- the port a signal entry stores is a port object of the instance, of length `len` -/
def PortInv (inst : Inst) (port : Sys.Port) (len : Nat) : Prop :=
  match inst, port with
  | .comp cst, .seq i bases =>
    i.rev = false ∧ i.len = len ∧
      ∃ se, findE cst.seqs i.name = some se ∧ i.len = se.len ∧ i.isSup = se.isSup ∧ bases = se.bases
  | .sys sst, .sig m => sst.lengths.lookup m = some len
  | _, _ => False

def EntryInv (comps : List (String × Inst)) (lens : List (String × Nat)) (n : String) (e : SigEntry) : Prop :=
  ∃ inst len, (e.comp, inst) ∈ comps ∧ lens.lookup n = some len ∧ PortInv inst e.port len

/-- the invariant of the statement loop on its tables (`IN`, `SN`: the instance and signal names the source writes):
    instance names distinct and among `IN`; signal names distinct and among `SN`; `lengths` has the keys of `signals`,
    no length 0; every entry points to an instance of the system and to one of its ports, with the signal's length
    (`entries`); per signal the (instance, port) pairs appear in instance order, each port at most once per binding
    position (`entryKeys`) -/
structure SysInv (IN SN : List String) (sg : List (String × List SigEntry)) (lens : List (String × Nat))
    (comps : List (String × Inst)) : Prop where
  compNames : ∀ c ∈ comps, c.1 ∈ IN
  compNodup : (comps.map (·.1)).Nodup
  sigIn : ∀ x ∈ sg, x.1 ∈ SN
  sigNodup : (sg.map (·.1)).Nodup
  keys : lens.map (·.1) = sg.map (·.1)
  lensPos : ∀ x ∈ lens, x.2 ≠ 0
  entries : ∀ x ∈ sg, ∀ e ∈ x.2, EntryInv comps lens x.1 e
  entryKeys : ∀ x ∈ sg, (x.2.map entryKey).Sublist (comps.flatMap instKeys)

inductive Loaded (P : Comp.Src → Prop) (Q : SSrc → Prop) : String → Inst → Prop
  | comp {c : Comp.Src} {n : Nat} {pfx : String} {a : Nat} {st : Comp.St} {a' : Nat} :
      P c → Comp.load c n pfx a = .ok (st, a') → Loaded P Q pfx (.comp st)
  | sys {s : SSrc} {path name pfx : String} {tm : List (String × String)} {sg : List (String × List SigEntry)}
      {lens : List (String × Nat)} {comps : List (String × Inst)} :
      Q s → (∀ c ∈ comps, Loaded P Q (pfx ++ c.1 ++ "-") c.2) →
      SysInv (instNames s.stmts) (sigNames s.stmts) sg lens comps →
      (∀ r ∈ s.inputs ++ s.outputs, (sg.lookup r.name).isSome = true) →
      Loaded P Q pfx (.sys (.mk path name pfx tm sg lens comps s.inputs s.outputs))

theorem Loaded.mono {P P' : Comp.Src → Prop} {Q Q' : SSrc → Prop} (hP : ∀ c, P c → P' c) (hQ : ∀ s, Q s → Q' s)
    {pfx : String} {inst : Inst} (hL : Loaded P Q pfx inst) : Loaded P' Q' pfx inst := by
  induction hL with
  | comp hp hload => exact .comp (hP _ hp) hload
  | sys hq _ hinv hio ih => exact .sys (hQ _ hq) ih hinv hio

theorem EntryInv.mono {comps comps' : List (String × Inst)} {lens lens' : List (String × Nat)} {n : String}
    {e : SigEntry} (h : EntryInv comps lens n e) (hc : ∀ c ∈ comps, c ∈ comps')
    (hl : ∀ k l, lens.lookup k = some l → lens'.lookup k = some l) : EntryInv comps' lens' n e := by
  obtain ⟨inst, len, h1, h2, h3⟩ := h
  exact ⟨inst, len, hc _ h1, hl _ _ h2, h3⟩

theorem SysInv.nil (IN SN : List String) : SysInv IN SN [] [] [] :=
  ⟨fun _ h => (nomatch h), List.nodup_nil, fun _ h => (nomatch h), List.nodup_nil, rfl, fun _ h => (nomatch h),
    fun _ h => (nomatch h), fun _ h => (nomatch h)⟩

/-- `SysInv` inside the binding loop of one instance: the clauses on the signal tables, with `comps` already holding
    the instance being bound and `K` the (instance, port) keys the loop has gone through so far -/
structure BindInv (SN : List String) (comps : List (String × Inst)) (K : List (String × String))
    (acc : List (String × List SigEntry) × List (String × Nat)) : Prop where
  sigIn : ∀ x ∈ acc.1, x.1 ∈ SN
  sigNodup : (acc.1.map (·.1)).Nodup
  keys : acc.2.map (·.1) = acc.1.map (·.1)
  lensPos : ∀ x ∈ acc.2, x.2 ≠ 0
  entries : ∀ x ∈ acc.1, ∀ e ∈ x.2, EntryInv comps acc.2 x.1 e
  entryKeys : ∀ x ∈ acc.1, (x.2.map entryKey).Sublist K

def PairOk (SN : List String) (inst : Inst) (z : SigRef × PortT) : Prop :=
  z.1.name ∈ SN ∧ PortInv inst z.2.1 z.2.2.2.1 ∧ (z.2.2.2.2 = false → z.2.2.2.1 ≠ 0)

theorem bindStep_inv {SN : List String} {comps : List (String × Inst)} {K : List (String × String)} {cname : String}
    {inst : Inst} (hmem : (cname, inst) ∈ comps)
    {acc acc' : List (String × List SigEntry) × List (String × Nat)} {z : SigRef × PortT}
    (hI : BindInv SN comps K acc) (hz : PairOk SN inst z) (h : bindStep cname acc z = .ok acc') :
    BindInv SN comps (K ++ [(cname, portName z.2.1)]) acc' := by
  obtain ⟨sigs, lens⟩ := acc
  obtain ⟨sigs', lens'⟩ := acc'
  obtain ⟨g, ip⟩ := z
  obtain ⟨hgn, hport, hdummy⟩ := hz
  have hentry : ∀ {l : List (String × Nat)} (wc : Bool), l.lookup g.name = some ip.2.2.1 →
      EntryInv comps l g.name ⟨ip.1, cname, wc⟩ := fun _ hl => ⟨inst, _, hmem, hl, hport⟩
  rcases bindStep_cases hI.keys.symm h with ⟨hl, hd, rfl, rfl⟩ | ⟨hl, rfl, rfl⟩
  · -- a new signal, with this one entry
    have hnew : g.name ∉ sigs.map (·.1) := hI.keys ▸ lookup_eq_none_iff_not_mem_keys.mp hl
    exact ⟨forall_mem_snoc hI.sigIn hgn, by rw [List.map_append]; exact nodup_append_singleton hI.sigNodup hnew,
      by rw [List.map_append, List.map_append, hI.keys]; rfl, forall_mem_snoc hI.lensPos (hdummy hd),
      forall_mem_snoc (fun x hx e he => (hI.entries x hx e he).mono (fun _ hc => hc)
          fun k l hk => by rw [List.lookup_append, hk]; rfl)
        (List.forall_mem_singleton.2 (hentry _ (SysProofs.lookup_append_self _ _ _ hl))),
      forall_mem_snoc (fun x hx => (hI.entryKeys x hx).trans (List.sublist_append_left _ _))
        (List.sublist_append_right _ _)⟩
  · -- one more entry for a signal that is there
    refine ⟨?_, by rw [SysProofs.keys_snocAt]; exact hI.sigNodup, by rw [SysProofs.keys_snocAt]; exact hI.keys,
      hI.lensPos, ?_, ?_⟩ <;> refine List.forall_mem_map.2 fun ⟨k, v⟩ hkv => ?_ <;> dsimp only <;> split
    · exact hI.sigIn (k, v) hkv
    · exact hI.sigIn (k, v) hkv
    · rename_i hk
      intro e he
      rcases List.mem_append.mp he with he | he
      · exact hI.entries (k, v) hkv e he
      · rw [List.mem_singleton.mp he, eq_of_beq hk]; exact hentry _ hl
    · exact hI.entries (k, v) hkv
    · rw [List.map_append]
      exact (hI.entryKeys (k, v) hkv).append (List.Sublist.refl _)
    · exact (hI.entryKeys (k, v) hkv).trans (List.sublist_append_left _ _)

theorem bindFold_inv {SN : List String} {comps : List (String × Inst)} {cname : String} {inst : Inst}
    (hmem : (cname, inst) ∈ comps) (zs : List (SigRef × PortT)) {K : List (String × String)}
    {acc acc' : List (String × List SigEntry) × List (String × Nat)}
    (hI : BindInv SN comps K acc) (hz : ∀ z ∈ zs, PairOk SN inst z) (h : zs.foldlM (bindStep cname) acc = .ok acc') :
    BindInv SN comps (K ++ zs.map (fun z => (cname, portName z.2.1))) acc' := by
  induction zs generalizing K acc with
  | nil =>
    cases h
    rw [List.map_nil, List.append_nil]; exact hI
  | cons z r ih =>
    rw [List.foldlM_cons] at h
    cases h1 : bindStep cname acc z with
    | error e => rw [h1] at h; cases h
    | ok acc1 =>
      rw [h1] at h
      rw [List.map_cons, List.append_cons]
      exact ih (bindStep_inv hmem hI (hz z List.mem_cons_self) h1) (fun y hy => hz y (List.mem_cons_of_mem _ hy)) h

theorem instPorts_names (inst : Inst) : (instPorts inst).map (fun p => portName p.1) = instPortNames inst := by
  cases inst with
  | comp cst => exact List.map_map
  | sys sst => exact List.map_map

theorem instPorts_ok {P : Comp.Src → Prop} {Q : SSrc → Prop} {pfx : String} {inst : Inst} (hL : Loaded P Q pfx inst) :
    ∀ p ∈ instPorts inst, PortInv inst p.1 p.2.2.1 ∧ (p.2.2.2 = false → p.2.2.1 ≠ 0) := by
  cases hL with
  | comp hP hload =>
    intro p hp
    obtain ⟨i, hi, rfl⟩ := List.mem_map.mp hp
    obtain ⟨se, h1, h2, h3⟩ := load_ports hload i hi
    exact ⟨⟨rfl, rfl, se, h1, h2, h3, by simp only [findSeq_eq, h1]⟩, by simp⟩
  | @sys s path name pfx tm sg lens comps hQ hsub hinv hio =>
    intro p hp
    obtain ⟨r, hr, rfl⟩ := List.mem_map.mp hp
    have hsome : (lens.lookup r.name).isSome = true := by
      rw [lookup_isSome_iff_mem_keys, hinv.keys, ← lookup_isSome_iff_mem_keys]
      exact hio r hr
    obtain ⟨len, hl⟩ := Option.isSome_iff_exists.mp hsome
    simp only [PortInv, SysSt.lengths, hl, Option.getD_some, true_and]
    exact fun _ => hinv.lensPos _ (lookup_mem hl)

theorem SysInv.bind {P : Comp.Src → Prop} {Q : SSrc → Prop} {IN SN : List String}
    {sg sg' : List (String × List SigEntry)} {lens lens' : List (String × Nat)} {comps : List (String × Inst)}
    {cname pfx : String} {inst : Inst} {globs : List SigRef} (hI : SysInv IN SN sg lens comps)
    (hfresh : comps.lookup cname = none) (hname : cname ∈ IN) (hglobs : ∀ g ∈ globs, g.name ∈ SN)
    (hL : Loaded P Q pfx inst) (hlen : (instPorts inst).length ≤ globs.length)
    (h : bindSigs cname sg lens globs (instPorts inst) = .ok (sg', lens')) :
    SysInv IN SN sg' lens' (comps ++ [(cname, inst)]) := by
  have hinit : BindInv SN (comps ++ [(cname, inst)]) (comps.flatMap instKeys) (sg, lens) :=
    ⟨hI.sigIn, hI.sigNodup, hI.keys, hI.lensPos,
      fun x hx e he => (hI.entries x hx e he).mono (fun _ => List.mem_append_left _) (fun _ _ hk => hk), hI.entryKeys⟩
  have hpairs : ∀ z ∈ List.zip globs (instPorts inst), PairOk SN inst z := fun z hz =>
    ⟨hglobs _ (List.of_mem_zip hz).1, instPorts_ok hL _ (List.of_mem_zip hz).2⟩
  have hfin := bindFold_inv (List.mem_append_right _ List.mem_cons_self) _ hinit hpairs h
  -- the keys the loop went through are those of the instance, since no port is left unbound
  have hK : (List.zip globs (instPorts inst)).map (fun z => (cname, portName z.2.1)) = instKeys (cname, inst) := by
    rw [instKeys, ← instPorts_names, List.map_map]
    conv => rhs; rw [← List.map_snd_zip hlen]
    rw [List.map_map]
    rfl
  rw [hK] at hfin
  refine ⟨?_, ?_, hfin.sigIn, hfin.sigNodup, hfin.keys, hfin.lensPos, hfin.entries, ?_⟩
  · intro c hc
    rcases List.mem_append.mp hc with hc | hc
    · exact hI.compNames c hc
    · rw [List.mem_singleton.mp hc]; exact hname
  · rw [List.map_append]
    exact nodup_append_singleton hI.compNodup (lookup_eq_none_iff_not_mem_keys.mp hfresh)
  · intro x hx
    rw [List.flatMap_append, List.flatMap_singleton]
    exact hfin.entryKeys x hx

def CompSrcsOk (P : Comp.Src → Prop) (b : Bundle) : Prop := ∀ k c, b.files.lookup k = some (.comp c) → P c
def SysSrcsOk (Q : SSrc → Prop) (b : Bundle) : Prop := ∀ k s, b.files.lookup k = some (.sys s) → Q s

theorem loadFile_loadStmts_loaded {P : Comp.Src → Prop} {Q : SSrc → Prop} {b : Bundle} (hP : CompSrcsOk P b) (hQ : SysSrcsOk Q b) :
    (∀ (fuel : Nat) base args argKey pfx path includes anon inst a',
      loadFile b fuel base args argKey pfx path includes anon = .ok (inst, a') → Loaded P Q pfx inst) ∧
    (∀ fuel includes stmts st a st' a', loadStmts b fuel includes stmts st a = .ok (st', a') →
      ∀ IN SN, (∀ n ∈ instNames stmts, n ∈ IN) → (∀ n ∈ sigNames stmts, n ∈ SN) →
      SysInv IN SN st.signals st.lengths st.components →
      (∀ c ∈ st.components, Loaded P Q (st.pfx ++ c.1 ++ "-") c.2) →
      SysInv IN SN st'.signals st'.lengths st'.components ∧
        ∀ c ∈ st'.components, Loaded P Q (st.pfx ++ c.1 ++ "-") c.2) := by
  refine SysProofs.loadFile_induct ?_ ?_ ?_ ?_ ?_
  · intro fuel base args argKey pfx path includes anon fname newPath c st a' _ hl _ hload
    exact Loaded.comp (hP _ _ hl) hload
  · intro fuel base args argKey pfx path includes anon fname newPath s st a' _ hl _ hs hJ hio
    obtain ⟨hinv, hsub⟩ := hJ _ _ (fun _ hn => hn) (fun _ hn => hn) (SysInv.nil _ _) (fun _ hc => nomatch hc)
    rw [show st.pfx = pfx from SysProofs.loadStmts_pfx hs]
    exact Loaded.sys (hQ _ _ hl) hsub hinv (List.all_eq_true.mp hio)
  · intro fuel includes st a IN SN _ _ hI hL
    exact ⟨hI, hL⟩
  · intro fuel includes items r p n pf t0 t sg l c i o a st' a' _ ih IN SN hIN hSN hI hL
    exact ih IN SN (fun n hn => hIN n (List.mem_append_right _ hn)) (fun n hn => hSN n (List.mem_append_right _ hn)) hI hL
  · intro fuel includes cname templ args ins outs r st a tpath inst a1 sg l st' a' _ hdup _ hLi hci hco hb ih IN SN hIN hSN hI hL
    obtain ⟨p, n, pf, t0, sg0, l0, c, i, o⟩ := st
    have hlen : (instPorts inst).length ≤ (ins ++ outs).length := by
      rw [SysProofs.instPorts_length, List.length_append, hci, hco]; exact Nat.le_refl _
    refine ih IN SN (fun n hn => hIN n (List.mem_append_right _ hn)) (fun n hn => hSN n (List.mem_append_right _ hn))
      (hI.bind (Option.not_isSome_iff_eq_none.mp (Bool.eq_false_iff.mp hdup)) (hIN _ (List.mem_append_left _ List.mem_cons_self))
        (fun g hg => hSN _ (List.mem_append_left _ (List.mem_map_of_mem hg))) hLi hlen hb) ?_
    intro c' hc
    rcases List.mem_append.mp hc with hc | hc
    · exact hL c' hc
    · rw [List.mem_singleton.mp hc]; exact hLi

theorem loadFile_loaded {P : Comp.Src → Prop} {Q : SSrc → Prop} {b : Bundle} (hP : CompSrcsOk P b)
    (hQ : SysSrcsOk Q b) : ∀ (fuel : Nat) base args argKey pfx path includes anon inst a',
    loadFile b fuel base args argKey pfx path includes anon = .ok (inst, a') → Loaded P Q pfx inst :=
  (loadFile_loadStmts_loaded hP hQ).1

/-- the statement loop run from the empty state: what `SysProofs.tree_agrees` hands `Walk.closed` of a finished system -/
theorem loadStmts_loaded {P : Comp.Src → Prop} {Q : SSrc → Prop} {b : Bundle} (hP : CompSrcsOk P b) (hQ : SysSrcsOk Q b)
    {fuel : Nat} {includes : List String} {stmts : List SStmt} {path name pfx : String} {a a' : Nat} {st : SysSt}
    (h : loadStmts b fuel includes stmts (.mk path name pfx [] [] [] [] [] []) a = .ok (st, a')) :
    SysInv (instNames stmts) (sigNames stmts) st.signals st.lengths st.components ∧
      ∀ c ∈ st.components, Loaded P Q (pfx ++ c.1 ++ "-") c.2 :=
  (loadFile_loadStmts_loaded hP hQ).2 _ _ _ _ _ _ _ h _ _ (fun _ h => h) (fun _ h => h) (SysInv.nil _ _) nofun

def CompNamesOk (b : Bundle) : Prop := CompSrcsOk (fun c => StmtNamesOk c = true) b
def CompNamesCodesOk (t : CodeTable) (b : Bundle) : Prop :=
  CompSrcsOk (fun c => StmtNamesOk c = true ∧ CodesOk t c = true) b

theorem Loaded.wfInst {t : CodeTable} {Q : SSrc → Prop} {pfx : String} {inst : Inst}
    (hL : Loaded (fun c => StmtNamesOk c = true ∧ CodesOk t c = true) Q pfx inst) :
    ∀ n, FixSpec.wfInst t n inst = true := by
  induction hL with
  | comp hP hload =>
    intro n
    rw [FixSpec.wfInst_comp]
    exact load_wfB hload hP.1 hP.2
  | sys hQ hsub hinv hio ih =>
    intro n
    cases n with
    | zero => rfl
    | succ k => exact (FixSpec.wfInst_sys_succ t k _).2 fun c hc => ih c hc k

/-- every component of a loaded tree passes the well-formedness check of C12, to any depth -/
theorem loadFile_wfInst {t : CodeTable} {b : Bundle} (hb : CompNamesCodesOk t b) {fuel : Nat} {base : String} {args : Nat}
    {argKey pfx path : String} {includes : List String} {anon : Nat} {inst : Inst} {a' : Nat}
    (h : loadFile b fuel base args argKey pfx path includes anon = .ok (inst, a')) (n : Nat) :
    FixSpec.wfInst t n inst = true :=
  (loadFile_loaded (Q := fun _ => True) hb (fun _ _ _ => trivial) _ _ _ _ _ _ _ _ _ _ h).wfInst n

end Pepper.LoadInv
