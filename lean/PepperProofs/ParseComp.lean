import PepperProofs.ParseCompRenderStruct
import PepperProofs.ParseCompRenderKin
import PepperProofs.ParseCompRenderDecl
import PepperProofs.ParseCompSound
import PepperProofs.CompStep
/-!
# `.comp` parser at document level: the statement loop is line-local, accepted text and C09, statements on `String`
-/
namespace Pepper.ParseComp
open Pepper.Comp

/-! ### The statement loop of `load_component` is line-local -/

theorem stripCommentAux_noNl (l : Str) (h : ∀ c ∈ l, c ≠ '\n') :
    stripCommentAux l none = l ∧ ∀ p, stripCommentAux l (some p) = p.reverse ++ l := by
  induction l with
  | nil => exact ⟨rfl, fun p => by simp [stripCommentAux]⟩
  | cons c r ih =>
    obtain ⟨ih1, ih2⟩ := ih (fun x hx => h x (by simp [hx]))
    refine ⟨?_, ?_⟩
    · simp only [stripCommentAux]
      split
      · rename_i hc
        rw [ih2, hc]
        rfl
      · rw [ih1]
    · intro p
      simp only [stripCommentAux]
      rw [if_neg (h c (by simp)), ih2]
      simp

theorem stripComment_noNl {l : Str} (h : ∀ c ∈ l, c ≠ '\n') : stripComment l = l :=
  (stripCommentAux_noNl l h).1

/-- on the lines of a document the loop's comment regex is the identity: the lines looked at are the stripped,
    non-empty pieces between newlines -/
theorem docLinesL_eq (text : Str) :
    docLinesL text = ((splitOn '\n' text).map strip).filter (fun l => !l.isEmpty) := by
  unfold docLinesL
  congr 1
  apply List.map_congr_left
  intro l hl
  unfold cleanLine
  rw [stripComment_noNl fun x hx => (splitOn_mem hl x hx).2]

/-- the loop as a `mapM` over the lines it looks at, `docLinesL` (the form the document theorems state;
    `lineLoop_eq_mapM` (Basic) gives the other normal form, `mapM` over all lines followed by `filterMap`) -/
theorem parseLines_eq_mapM (ls : List Str) :
    parseLines ls = ((ls.map cleanLine).filter (fun l => !l.isEmpty)).mapM parseLineL := by
  induction ls with
  | nil => rfl
  | cons l r ih =>
    simp only [parseLines, List.map_cons]
    by_cases hc : (cleanLine l).isEmpty = true
    · rw [if_pos hc, List.filter_cons_of_neg (by simp [hc])]
      exact ih
    · rw [if_neg hc, List.filter_cons_of_pos (by simpa using hc), List.mapM_cons, ← ih]
      cases parseLineL (cleanLine l) with
      | error e => rfl
      | ok st => cases parseLines r <;> rfl

theorem parseLines_ok_iff (ls : List Str) (sts : List Stmt) :
    parseLines ls = .ok sts ↔
      ((ls.map cleanLine).filter (fun l => !l.isEmpty)).map parseLineL = sts.map .ok := by
  rw [parseLines_eq_mapM]
  exact mapM_eq_ok_iff

theorem parseDocL_ok_iff (text decl : Str) (src : Src) :
    parseDocL text decl = .ok src ↔
      ∃ d, parseDeclareL decl = .ok d ∧ src = ⟨d.name, d.params, d.inputs, d.outputs, src.stmts⟩ ∧
        (docLinesL text).map parseLineL = src.stmts.map .ok := by
  unfold parseDocL docLinesL
  rw [← parseLines_ok_iff]
  cases parseDeclareL decl with
  | error e => simp
  | ok d =>
    cases parseLines (splitOn '\n' text) with
    | error e => simp
    | ok sts =>
      simp only [Except.ok.injEq, exists_eq_left']
      constructor
      · rintro rfl
        exact ⟨rfl, rfl⟩
      · rintro ⟨h2, rfl⟩
        rw [h2]

theorem parseDocL_accepts_iff (text decl : Str) :
    (∃ src, parseDocL text decl = .ok src) ↔
      (∃ d, parseDeclareL decl = .ok d) ∧ ∀ l ∈ docLinesL text, ∃ st, parseLineL l = .ok st := by
  constructor
  · rintro ⟨src, h⟩
    obtain ⟨d, hd, -, hl⟩ := (parseDocL_ok_iff text decl src).mp h
    exact ⟨⟨d, hd⟩, fun l hm => (mapM_ok_mem (mapM_eq_ok_iff.mpr hl) l hm).imp fun _ h => h.2⟩
  · rintro ⟨⟨d, hd⟩, hall⟩
    obtain ⟨sts, hsts⟩ := mapM_ok_total hall
    exact ⟨⟨d.name, d.params, d.inputs, d.outputs, sts⟩, (parseDocL_ok_iff text decl _).mpr ⟨d, hd, rfl, mapM_eq_ok_iff.mp hsts⟩⟩

/-! ### From document text to C09: what the parser accepts satisfies `UserNamesOk` up to the reserved names

C09's theorems carry the hypothesis `Comp.UserNamesOk src`: no sequence name the source defines or mentions is empty,
contains `*`, or has the compiler's reserved form `_Anon<digits>`.  For a source that comes out of `parseDoc` the first
two clauses are facts (`parse_names_wellformed`: every such name is non-empty over `[A-Za-z0-9_-]`); only the third one
remains a hypothesis on the text (`noAnonNames`), and it is necessary (F16: `sequence _Anon0 = "5N"` is accepted by the
parser).
-/

def itemNoAnon : SrcItem → Bool
  | .nuc _ => true
  | .ref n _ => !isAnonForm n
  | .domains n _ => !isAnonForm n

def stmtNoAnon : Stmt → Bool
  | .seq n items _ => !isAnonForm n && items.all itemNoAnon
  | .strand _ _ items _ => items.all itemNoAnon
  | _ => true

/-- no sequence name the source defines, mentions in an item list or lists as a port has the reserved form `_Anon<digits>` -/
def noAnonNames (src : Src) : Bool :=
  src.stmts.all stmtNoAnon && (src.inputs ++ src.outputs).all (fun p => !isAnonForm p.seq)

theorem okName_of_nameOk {n : String} (h : nameOk n = true) (ha : isAnonForm n = false) : okName n = true := by
  obtain ⟨hne, hall⟩ := nameOkL_iff.mp h
  unfold okName
  simp only [ha, Bool.not_false, Bool.true_and, Bool.and_eq_true, Bool.not_eq_true', bne_iff_ne, ne_eq]
  refine ⟨?_, hne⟩
  cases hc : n.toList.contains '*' with
  | false => rfl
  | true =>
    have hm : '*' ∈ n.toList := by simpa using hc
    exact absurd (hall '*' hm) (by decide)

theorem itemNamesOk_of_wfItem {items : List SrcItem} (hw : ∀ x ∈ items, wfItem x = true) (ha : ∀ x ∈ items, itemNoAnon x = true) :
    itemNamesOk items = true := by
  unfold itemNamesOk
  rw [List.all_eq_true]
  intro x hx
  have h1 := hw x hx
  have h2 := ha x hx
  cases x with
  | nuc t => rfl
  | ref n st =>
    simp only [itemNoAnon, Bool.not_eq_true'] at h2
    exact okName_of_nameOk h1 h2
  | domains n st =>
    simp only [itemNoAnon, Bool.not_eq_true'] at h2
    exact okName_of_nameOk h1 h2

theorem stmtNamesOk_of_accStmt {st : Stmt} (hacc : accStmt st = true) (ha : stmtNoAnon st = true) : stmtNamesOk st = true := by
  cases st with
  | seq n items len =>
    have hacc := accStmt_seq.mp hacc
    simp only [stmtNoAnon, Bool.and_eq_true, Bool.not_eq_true', List.all_eq_true] at ha
    simp only [stmtNamesOk, Bool.and_eq_true]
    exact ⟨okName_of_nameOk hacc.1 ha.1, itemNamesOk_of_wfItem hacc.2 ha.2⟩
  | strand d n items len =>
    have hacc := accStmt_strand.mp hacc
    simp only [stmtNoAnon, List.all_eq_true] at ha
    simp only [stmtNamesOk]
    exact itemNamesOk_of_wfItem hacc.2 ha
  | struct opt n strands d text => rfl
  | kinetic lo hi ins outs => rfl

theorem userNamesOk_of_parseDocL {text decl : Str} {src : Src} (h : parseDocL text decl = .ok src)
    (ha : noAnonNames src = true) : UserNamesOk src = true := by
  obtain ⟨d, hd, hsrc, hl⟩ := (parseDocL_ok_iff text decl src).mp h
  obtain ⟨-, -, hin, hout⟩ := accDecl_iff.mp (parseDeclareL_acc hd)
  simp only [noAnonNames, Bool.and_eq_true, List.all_eq_true, Bool.not_eq_true'] at ha
  unfold UserNamesOk
  simp only [Bool.and_eq_true, List.all_eq_true]
  refine ⟨?_, ?_⟩
  · intro st hst
    obtain ⟨l, _, hp⟩ := mapM_mem (mapM_eq_ok_iff.mpr hl) st hst
    exact stmtNamesOk_of_accStmt (parseLineL_acc hp) (ha.1 st hst)
  · intro p hp
    have hports : ∀ q ∈ d.inputs ++ d.outputs, wfPort q = true :=
      fun q hq => (List.mem_append.mp hq).elim (hin q) (hout q)
    have hp' : p ∈ d.inputs ++ d.outputs := by
      rw [hsrc] at hp
      exact hp
    have hw := hports p hp'
    simp only [wfPort, Bool.and_eq_true] at hw
    exact okName_of_nameOk hw.1 (ha.2 p hp)

/-! ### Assembly of the parts, statements on `String` -/

theorem parseLineL_render {sp : Nat → Str} (hsp : SpOkL sp) (s : Stmt) (h : wfStmt s = true) :
    parseLineL (renderStmtL sp s) = .ok s := by
  cases s with
  | seq n items len => exact parseLineL_seq hsp n items len h
  | strand d n items len => exact parseLineL_strand hsp d n items len h
  | struct opt n strands domain text => exact parseLineL_struct hsp opt n strands domain text h
  | kinetic lo hi ins outs => exact parseLineL_kinetic hsp lo hi ins outs h

theorem spOk_single : SpOk (fun _ => " ") := by
  intro i
  show " ".toList ≠ [] ∧ ∀ c ∈ " ".toList, isBlank c = true
  decide

theorem parseLine_ofList : parseLine ∘ String.ofList = parseLineL := by
  funext l
  simp only [Function.comp_apply, parseLine, String.toList_ofList]

/-- **the document parser is line-local**: it accepts with `src` iff the declare line parses and the statements of
    `src` are the results on the lines, in order -/
theorem parseDoc_ok_iff (text decl : String) (src : Src) :
    parseDoc text decl = .ok src ↔
      ∃ d, parseDeclare decl = .ok d ∧ src = ⟨d.name, d.params, d.inputs, d.outputs, src.stmts⟩ ∧
        (docLines text).map parseLine = src.stmts.map .ok := by
  unfold parseDoc parseDeclare docLines
  rw [parseDocL_ok_iff, List.map_map, parseLine_ofList]

theorem parseDoc_accepts_iff (text decl : String) :
    (∃ src, parseDoc text decl = .ok src) ↔
      (∃ d, parseDeclare decl = .ok d) ∧ ∀ l ∈ docLines text, ∃ st, parseLine l = .ok st := by
  unfold parseDoc parseDeclare docLines
  rw [parseDocL_accepts_iff, List.forall_mem_map]
  simp only [parseLine, String.toList_ofList]

end Pepper.ParseComp
