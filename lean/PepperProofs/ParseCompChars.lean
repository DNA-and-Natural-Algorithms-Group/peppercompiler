import PepperProofs.ParseCompDefs
import PepperProofs.Basic
/-!
# What the render proofs know of the text: character classes, `takeWhile`/`dropWhile`/`strip`/`splitOn` on it,
the gaps `SpOkL`, and the joined lists (`joinSp`, `joinPlus`, `joinComma`) with `split` + `strip` undoing them
-/
namespace Pepper.ParseComp
open Pepper.Comp

/-! ### character classes -/

theorem isSp_cases {c : Char} (h : isSp c = true) :
    c = ' ' ∨ c = '\t' ∨ c = '\n' ∨ c = '\r' ∨ c = '\x0b' ∨ c = '\x0c' ∨ c = '\x1c' ∨ c = '\x1d' ∨ c = '\x1e' ∨ c = '\x1f' := by
  simpa [isSp, or_assoc] using h

theorem isBlank_cases {c : Char} (h : isBlank c = true) : c = ' ' ∨ c = '\t' := by
  simpa [isBlank] using h

theorem blank_isSp {c : Char} (h : isBlank c = true) : isSp c = true := by
  rcases isBlank_cases h with rfl | rfl <;> decide

theorem blank_notName {c : Char} (h : isBlank c = true) : isName c = false := by
  rcases isBlank_cases h with rfl | rfl <;> decide

theorem blank_notColon {c : Char} (h : isBlank c = true) : notColon c = true := by
  rcases isBlank_cases h with rfl | rfl <;> decide

theorem blank_notNl {c : Char} (h : isBlank c = true) : notNl c = true := by
  rcases isBlank_cases h with rfl | rfl <;> decide

theorem blank_notBrGt {c : Char} (h : isBlank c = true) : notBrGt c = true := by
  rcases isBlank_cases h with rfl | rfl <;> decide

theorem blank_notBr {c : Char} (h : isBlank c = true) : notBr c = true := by
  rcases isBlank_cases h with rfl | rfl <;> decide

theorem name_notSp {c : Char} (h : isName c = true) : isSp c = false := by
  cases hs : isSp c with
  | false => rfl
  | true =>
    exfalso
    rcases isSp_cases hs with rfl | rfl | rfl | rfl | rfl | rfl | rfl | rfl | rfl | rfl <;> exact absurd h (by decide)

theorem name_headNot_char {p : Char} (hp : isName p = false) {n : Str} (hne : n ≠ []) (hall : ∀ c ∈ n, isName c = true)
    (rest : Str) : HeadNot (· == p) (n ++ rest) :=
  headNot_append hne (headNot_of_all hall fun c hc => by simpa using ne_of_pred hc hp)

theorem name_notColon {c : Char} (h : isName c = true) : notColon c = true := by
  simp only [notColon, bne_iff_ne, ne_eq]
  exact ne_of_pred h (by decide)

theorem name_notNl {c : Char} (h : isName c = true) : notNl c = true := by
  simp only [notNl, bne_iff_ne, ne_eq]
  exact ne_of_pred h (by decide)

theorem name_notBrGt {c : Char} (h : isName c = true) : notBrGt c = true := by
  simp only [notBrGt, Bool.and_eq_true, bne_iff_ne, ne_eq]
  exact ⟨⟨ne_of_pred h (by decide), ne_of_pred h (by decide)⟩, ne_of_pred h (by decide)⟩

theorem name_notBr {c : Char} (h : isName c = true) : notBr c = true := by
  simp only [notBr, Bool.and_eq_true, bne_iff_ne, ne_eq]
  exact ⟨ne_of_pred h (by decide), ne_of_pred h (by decide)⟩

theorem word_isName {c : Char} (h : isWord c = true) : isName c = true := by simp [isName, h]

theorem dig_isWord {c : Char} (h : isDig c = true) : isWord c = true := by
  simp only [isDig] at h
  simp [isWord, Char.isAlphanum, h]

theorem dig_isName {c : Char} (h : isDig c = true) : isName c = true := word_isName (dig_isWord h)

theorem dig_notSp {c : Char} (h : isDig c = true) : isSp c = false := name_notSp (dig_isName h)

theorem knum_notSp {c : Char} (h : isKNum c = true) : isSp c = false := by
  simp only [isKNum, Bool.or_eq_true, beq_iff_eq] at h
  rcases h with ((h | rfl) | rfl) | rfl
  · exact dig_notSp h
  · decide
  · decide
  · decide

theorem knum_notBr {c : Char} (h : isKNum c = true) : notBr c = true := by
  simp only [isKNum, Bool.or_eq_true, beq_iff_eq] at h
  rcases h with ((h | rfl) | rfl) | rfl
  · exact name_notBr (dig_isName h)
  · decide
  · decide
  · decide

theorem blank_notKNum {c : Char} (h : isBlank c = true) : isKNum c = false := by
  rcases isBlank_cases h with rfl | rfl <;> decide

theorem notSp_notNl {c : Char} (h : isSp c = false) : notNl c = true := by
  simp only [notNl, bne_iff_ne, ne_eq]
  rintro rfl
  exact absurd h (by decide)

theorem body_notQuote {c : Char} (h : isBodyCh c = true) : c ≠ '"' := by
  rintro rfl
  exact absurd h (by decide)

theorem body2_notQuote {c : Char} (h : isBody2Ch c = true) : c ≠ '"' := by
  rintro rfl
  exact absurd h (by decide)

theorem body_isBody2 {c : Char} (h : isBodyCh c = true) : isBody2Ch c = true := by
  simp only [isBodyCh, Bool.or_eq_true] at h
  simp only [isBody2Ch, Bool.or_eq_true]
  rcases h with (h | h) | h
  · exact Or.inl (Or.inl (Or.inr h))
  · exact Or.inl (Or.inr h)
  · exact Or.inr h

theorem body_notColon {c : Char} (h : isBodyCh c = true) : notColon c = true := by
  simp only [notColon, bne_iff_ne, ne_eq]
  rintro rfl
  exact absurd h (by decide)

theorem hu_isStruct {c : Char} (h : isHUCh c = true) : isStructCh c = true := by
  simp only [isHUCh, Bool.or_eq_true] at h
  simp only [isStructCh, Bool.or_eq_true]
  rcases h with (((((h | h) | h) | h) | h) | h) | h <;> simp [h]

theorem dp_isStruct {c : Char} (h : isDPCh c = true) : isStructCh c = true := by
  simp only [isDPCh, Bool.or_eq_true] at h
  simp only [isStructCh, Bool.or_eq_true]
  rcases h with ((((h | h) | h) | h) | h) | h <;> simp [h]

theorem struct_ne_d {c : Char} (h : isStructCh c = true) : c ≠ 'd' := by
  rintro rfl
  exact absurd h (by decide)

/-! ### well-formedness predicates, numerals -/

theorem okL_iff {p : Char → Bool} {s : Str} : (!s.isEmpty && s.all p) = true ↔ s ≠ [] ∧ ∀ c ∈ s, p c = true := by
  cases s <;> simp

theorem nameOkL_iff {n : Str} : nameOkL n = true ↔ n ≠ [] ∧ ∀ c ∈ n, isName c = true := okL_iff

theorem wfItem_nuc {t : Str} : wfItem (.nuc t) = true ↔ t ≠ [] ∧ ∀ c ∈ t, isBodyCh c = true := by
  simp [wfItem]

theorem numOk_parts {cls : Char → Bool} {t : String} (h : numOk cls t = true) :
    t.toList ≠ [] ∧ (∀ c ∈ t.toList, cls c = true) ∧ pyFloatOk t.toList = true := by
  simp only [numOk, Bool.and_eq_true, List.all_eq_true] at h
  refine ⟨?_, h.1, h.2⟩
  intro e
  rw [e] at h
  exact absurd h.2 (by decide)

theorem digitsToNat_eq (s : Str) : digitsToNat s = Nat.ofDigitChars 10 s 0 := foldl_digits_eq s 0

theorem digitsToNat_repr (n : Nat) : digitsToNat (Nat.repr n).toList = n := by
  rw [digitsToNat_eq, Nat.toList_repr, Nat.ofDigitChars_ten_toDigits]

/-! ### `takeWhile` / `dropWhile`, `firstWord`, `strip`, `splitOn` -/

theorem headNot_dropWhile (p : Char → Bool) (s : Str) : HeadNot p (s.dropWhile p) := by
  intro c r e
  simpa [e] using List.head_dropWhile_not p (l := s) (by simp [e])

theorem takeWhile_append_all {p : Char → Bool} {a b : Str} (ha : ∀ c ∈ a, p c = true) (hb : HeadNot p b) :
    (a ++ b).takeWhile p = a := by
  cases b with
  | nil => rw [List.takeWhile_append_of_pos ha, List.takeWhile_nil, List.append_nil]
  | cons d r => exact takeWhile_append_stop ha (hb d r rfl) r

theorem dropWhile_append_all {p : Char → Bool} {a b : Str} (ha : ∀ c ∈ a, p c = true) (hb : HeadNot p b) :
    (a ++ b).dropWhile p = b := by
  cases b with
  | nil => rw [List.dropWhile_append_of_pos ha, List.dropWhile_nil]
  | cons d r => exact dropWhile_append_stop ha (hb d r rfl) r

theorem dropWhile_headNot {p : Char → Bool} {b : Str} (hb : HeadNot p b) : b.dropWhile p = b :=
  dropWhile_append_all (a := []) (fun _ h => nomatch h) hb

theorem firstWord_kw {kw rest : Str} (hne : kw ≠ []) (hkw : ∀ c ∈ kw, isSp c = false) (hrest : HeadNot (fun c => !isSp c) rest) :
    firstWord (kw ++ rest) = some kw := by
  unfold firstWord
  have hd : (kw ++ rest).dropWhile isSp = kw ++ rest := by
    apply dropWhile_headNot
    apply headNot_append hne
    intro c r e
    subst e
    exact hkw c (by simp)
  rw [hd]
  have ht : (kw ++ rest).takeWhile (fun c => !isSp c) = kw :=
    takeWhile_append_all (fun c hc => by simp [hkw c hc]) hrest
  cases hkr : kw ++ rest with
  | nil =>
    cases kw with
    | nil => exact absurd rfl hne
    | cons c r => cases hkr
  | cons c r =>
    simp only
    rw [← hkr, ht]

theorem strip_allSp {s : Str} (h : ∀ c ∈ s, isSp c = true) : strip s = [] := by
  unfold strip rstrip
  have : s.dropWhile isSp = [] := by
    simpa using dropWhile_append_all (a := s) (b := []) h headNot_nil
  rw [this]
  rfl

theorem strip_pad {a x b : Str} (ha : ∀ c ∈ a, isSp c = true) (hb : ∀ c ∈ b, isSp c = true) (hne : x ≠ [])
    (hx1 : HeadNot isSp x) (hx2 : HeadNot isSp x.reverse) : strip (a ++ (x ++ b)) = x := by
  unfold strip rstrip
  rw [dropWhile_append_all ha (headNot_append hne hx1), List.reverse_append,
    dropWhile_append_all (fun c hc => hb c (by simpa using hc)) hx2, List.reverse_reverse]

theorem strip_sub {s : Str} {x : Char} (h : x ∈ strip s) : x ∈ s :=
  (List.dropWhile_sublist _).subset (mem_of_mem_dropWhile_reverse h)

theorem rstrip_headNot {d : Str} (h : HeadNot isSp d) : HeadNot isSp (rstrip d) := by
  intro c r e
  -- `rstrip d` is a prefix of `d`
  have ht : d = rstrip d ++ (d.reverse.takeWhile isSp).reverse := by
    unfold rstrip
    rw [← List.reverse_append, List.takeWhile_append_dropWhile, List.reverse_reverse]
  rw [e] at ht
  exact h c _ ht

theorem rstrip_rstrip (d : Str) : rstrip (rstrip d) = rstrip d := by
  unfold rstrip
  rw [List.reverse_reverse, dropWhile_headNot (headNot_dropWhile _ _)]

theorem strip_strip (s : Str) : strip (strip s) = strip s := by
  unfold strip
  rw [dropWhile_headNot (rstrip_headNot (headNot_dropWhile _ _)), rstrip_rstrip]

theorem splitOn_eq (c : Char) : ∀ s, splitOn c s = s.splitOn c :=
  eq_splitOn rfl fun d r a b e => by rw [splitOn, e]; by_cases h : d = c <;> simp [h]

theorem splitOn_noSep {c : Char} {a : Str} (h : c ∉ a) : splitOn c a = [a] := by
  rw [splitOn_eq, List.splitOn_eq_singleton h]

theorem splitOn_sep {c : Char} {a : Str} (b : Str) (h : c ∉ a) : splitOn c (a ++ c :: b) = a :: splitOn c b := by
  rw [splitOn_eq, splitOn_eq, List.splitOn_append_cons_self_of_not_mem h]

theorem splitOn_mem {c : Char} {s p : Str} (h : p ∈ splitOn c s) : ∀ x ∈ p, x ∈ s ∧ x ≠ c :=
  fun _ hx => mem_of_mem_splitOn (splitOn_eq c s ▸ h) hx

/-! ### gaps -/

section Gaps

theorem SpOkL.ne {sp : Nat → Str} (h : SpOkL sp) (i : Nat) : sp i ≠ [] := (h i).1
theorem SpOkL.blank {sp : Nat → Str} (h : SpOkL sp) (i : Nat) : ∀ c ∈ sp i, isBlank c = true := (h i).2
theorem SpOkL.sp {sp : Nat → Str} (h : SpOkL sp) (i : Nat) : ∀ c ∈ sp i, isSp c = true :=
  fun c hc => blank_isSp (h.blank i c hc)

variable {sp : Nat → Str}

theorem SpOkL.headNot (h : SpOkL sp) (i : Nat) {cls : Char → Bool} (hc : ∀ c, isBlank c = true → cls c = false)
    (rest : Str) : HeadNot cls (sp i ++ rest) :=
  headNot_append (h.ne i) (headNot_of_all (h.blank i) hc)

theorem SpOkL.eq_dropLast_concat (h : SpOkL sp) (i : Nat) :
    ∃ c, sp i = (sp i).dropLast ++ [c] ∧ isBlank c = true ∧ ∀ x ∈ (sp i).dropLast, isBlank x = true := by
  refine ⟨(sp i).getLast (h.ne i), (List.dropLast_concat_getLast (h.ne i)).symm, h.blank i _ (List.getLast_mem _), ?_⟩
  intro x hx
  exact h.blank i x ((List.dropLast_sublist _).subset hx)

theorem SpOkL.headNot_nsp (h : SpOkL sp) (i : Nat) (rest : Str) :
    HeadNot (fun c => !isSp c) (sp i ++ rest) :=
  h.headNot i (fun c hc => by simp [blank_isSp hc]) rest

theorem SpOkL.sp1 (h : SpOkL sp) (i : Nat) {α : Type} {k : K α} {rest : Str} {v : α}
    (hrest : HeadNot isSp rest) (hk : k rest = some v) : Pepper.ParseComp.sp1 k (sp i ++ rest) = some v :=
  sp1_greedy (h.ne i) (h.sp i) hrest hk

theorem sp1_blank {α : Type} {k : K α} {c : Char} {rest : Str} {v : α} (hc : isBlank c = true) (hrest : HeadNot isSp rest)
    (hk : k rest = some v) : sp1 k (c :: rest) = some v :=
  sp1_greedy (run := [c]) (by simp) (by simpa using blank_isSp hc) hrest hk

end Gaps

/-! ### joined lists -/

section Joins
variable {sp : Nat → Str}

theorem joinSp_cons (sp : Nat → Str) (i : Nat) (x : Str) (xs : List Str) : ∃ t, joinSp sp i (x :: xs) = x ++ t := by
  cases xs with
  | nil => exact ⟨[], by simp [joinSp]⟩
  | cons y ys => exact ⟨_, rfl⟩

theorem joinSp_all {P : Char → Prop} (hsp : SpOkL sp) (hb : ∀ c, isBlank c = true → P c)
    {xs : List Str} (hx : ∀ x ∈ xs, ∀ c ∈ x, P c) (i : Nat) : ∀ c ∈ joinSp sp i xs, P c := by
  induction xs generalizing i with
  | nil => simp [joinSp]
  | cons a r ih =>
    cases r with
    | nil => simpa [joinSp] using hx a (by simp)
    | cons b more =>
      intro c hc
      simp only [joinSp, List.mem_append] at hc
      rcases hc with hc | hc | hc
      · exact hx a (by simp) c hc
      · exact hb c (hsp.blank i c hc)
      · exact ih (fun x h => hx x (by simp [h])) (i + 1) c hc

theorem joinPlus_all {P : Char → Prop} (hsp : SpOkL sp) (hb : ∀ c, isBlank c = true → P c) (hplus : P '+')
    {xs : List Str} (hx : ∀ x ∈ xs, ∀ c ∈ x, P c) (i : Nat) : ∀ c ∈ joinPlus sp i xs, P c := by
  induction xs generalizing i with
  | nil => simp [joinPlus]
  | cons a r ih =>
    cases r with
    | nil => simpa [joinPlus] using hx a (by simp)
    | cons b more =>
      intro c hc
      simp only [joinPlus, List.mem_append, List.mem_cons] at hc
      rcases hc with hc | hc | rfl | hc | hc
      · exact hx a (by simp) c hc
      · exact hb c (hsp.blank i c hc)
      · exact hplus
      · exact hb c (hsp.blank (i + 1) c hc)
      · exact ih (fun x h => hx x (by simp [h])) (i + 2) c hc

theorem joinComma_all {P : Char → Prop} (hsp : SpOkL sp) (hb : ∀ c, isBlank c = true → P c) (hcomma : P ',')
    {xs : List Str} (hx : ∀ x ∈ xs, ∀ c ∈ x, P c) (i : Nat) : ∀ c ∈ joinComma sp i xs, P c := by
  induction xs generalizing i with
  | nil => simp [joinComma]
  | cons a r ih =>
    cases r with
    | nil => simpa [joinComma] using hx a (by simp)
    | cons b more =>
      intro c hc
      simp only [joinComma, List.mem_append, List.mem_cons] at hc
      rcases hc with hc | rfl | hc | hc
      · exact hx a (by simp) c hc
      · exact hcomma
      · exact hb c (hsp.blank i c hc)
      · exact ih (fun x h => hx x (by simp [h])) (i + 1) c hc

theorem joinPlus_cons (sp : Nat → Str) (i : Nat) (x : Str) (xs : List Str) : ∃ t, joinPlus sp i (x :: xs) = x ++ t := by
  cases xs with
  | nil => exact ⟨[], by simp [joinPlus]⟩
  | cons y ys => exact ⟨_, rfl⟩

/-- a piece between separators: non-empty, without the separator, without white space at either end -/
structure PieceOk (c : Char) (x : Str) : Prop where
  ne : x ≠ []
  noSep : c ∉ x
  headNot : HeadNot isSp x
  lastNot : HeadNot isSp x.reverse

theorem PieceOk.of_all {c : Char} {x : Str} {cls : Char → Bool} (hne : x ≠ []) (hsep : c ∉ x)
    (h : ∀ y ∈ x, cls y = true) (hd : ∀ y, cls y = true → isSp y = false) : PieceOk c x :=
  ⟨hne, hsep, headNot_of_all h hd, headNot_of_all (fun y hy => h y (by simpa using hy)) hd⟩

theorem name_piece {c : Char} (hc : isName c = false) {n : Str} (h : nameOkL n = true) : PieceOk c n := by
  obtain ⟨hne, hall⟩ := nameOkL_iff.mp h
  exact .of_all hne (fun hm => ne_of_pred (hall c hm) hc rfl) hall (fun _ h => name_notSp h)

theorem not_mem_pad {c : Char} (hc : isSp c = false) {pre x post : Str} (hpre : ∀ y ∈ pre, isSp y = true)
    (hpost : ∀ y ∈ post, isSp y = true) (hx : PieceOk c x) : c ∉ pre ++ (x ++ post) := by
  intro hm
  rcases List.mem_append.mp hm with hm | hm
  · rw [hpre c hm] at hc; cases hc
  · rcases List.mem_append.mp hm with hm | hm
    · exact hx.noSep hm
    · rw [hpost c hm] at hc; cases hc

theorem splitStrip_joinPlus (hsp : SpOkL sp) (xs : List Str) :
    ∀ (x : Str) (i : Nat) (pre post : Str), (∀ y ∈ pre, isSp y = true) → (∀ y ∈ post, isSp y = true) →
      (∀ y ∈ x :: xs, PieceOk '+' y) → (splitOn '+' (pre ++ (joinPlus sp i (x :: xs) ++ post))).map strip = x :: xs := by
  induction xs with
  | nil =>
    intro x i pre post hpre hpost hx
    have hp := hx x (by simp)
    simp only [joinPlus]
    rw [splitOn_noSep (not_mem_pad (by decide) hpre hpost hp)]
    simp only [List.map_cons, List.map_nil]
    rw [strip_pad hpre hpost hp.ne hp.headNot hp.lastNot]
  | cons x2 more ih =>
    intro x i pre post hpre hpost hx
    have hp := hx x (by simp)
    have e : pre ++ (joinPlus sp i (x :: x2 :: more) ++ post) =
        (pre ++ (x ++ sp i)) ++ '+' :: (sp (i + 1) ++ (joinPlus sp (i + 2) (x2 :: more) ++ post)) := by
      simp [joinPlus]
    rw [e, splitOn_sep _ (not_mem_pad (by decide) hpre (hsp.sp i) hp), List.map_cons,
      strip_pad hpre (hsp.sp i) hp.ne hp.headNot hp.lastNot,
      ih x2 (i + 2) (sp (i + 1)) post (hsp.sp (i + 1)) hpost (fun y hy => hx y (by simp [hy]))]

theorem filter_pieces {c : Char} {xs : List Str} (hx : ∀ y ∈ xs, PieceOk c y) : xs.filter (fun x => !x.isEmpty) = xs :=
  List.filter_eq_self.mpr fun y hy => by simpa using (hx y hy).ne

theorem splitStripNonEmpty_joinPlus (hsp : SpOkL sp) (xs : List Str) (hx : ∀ x ∈ xs, PieceOk '+' x) (i : Nat) (pre post : Str)
    (hpre : ∀ y ∈ pre, isSp y = true) (hpost : ∀ y ∈ post, isSp y = true) :
    splitStripNonEmpty '+' (pre ++ (joinPlus sp i xs ++ post)) = xs := by
  unfold splitStripNonEmpty
  cases xs with
  | nil =>
    have hall : ∀ y ∈ pre ++ post, isSp y = true := fun y hy => (List.mem_append.mp hy).elim (hpre y) (hpost y)
    rw [joinPlus, List.nil_append, splitOn_noSep (fun hm => by have := hall _ hm; revert this; decide)]
    simp [strip_allSp hall]
  | cons x r => rw [splitStrip_joinPlus hsp r x i pre post hpre hpost hx, filter_pieces hx]

theorem splitStrip_joinComma (hsp : SpOkL sp) (xs : List Str) :
    ∀ (x : Str) (i : Nat) (pre post : Str), (∀ y ∈ pre, isSp y = true) → (∀ y ∈ post, isSp y = true) →
      (∀ y ∈ x :: xs, PieceOk ',' y) → (splitOn ',' (pre ++ (joinComma sp i (x :: xs) ++ post))).map strip = x :: xs := by
  induction xs with
  | nil =>
    intro x i pre post hpre hpost hx
    have hp := hx x (by simp)
    simp only [joinComma]
    rw [splitOn_noSep (not_mem_pad (by decide) hpre hpost hp)]
    simp only [List.map_cons, List.map_nil]
    rw [strip_pad hpre hpost hp.ne hp.headNot hp.lastNot]
  | cons x2 more ih =>
    intro x i pre post hpre hpost hx
    have hp := hx x (by simp)
    have e : pre ++ (joinComma sp i (x :: x2 :: more) ++ post) =
        (pre ++ (x ++ [])) ++ ',' :: (sp i ++ (joinComma sp (i + 1) (x2 :: more) ++ post)) := by
      simp [joinComma]
    rw [e, splitOn_sep _ (not_mem_pad (by decide) hpre (by simp) hp), List.map_cons,
      strip_pad hpre (by simp) hp.ne hp.headNot hp.lastNot,
      ih x2 (i + 1) (sp i) post (hsp.sp i) hpost (fun y hy => hx y (by simp [hy]))]

end Joins

end Pepper.ParseComp
