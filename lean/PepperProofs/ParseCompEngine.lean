import PepperModel.ParseComp
/-!
# The backtracking engine of `PepperModel/ParseComp.lean`: inversion and evaluation lemmas

*Inversion* (`…_some`, `Yields`): what a successful match tells about the input and the result.
*Evaluation* (`…_greedy`, `…_first`, `…_none`): the first complete match on an input of known shape: a greedy repetition followed by a continuation that succeeds at the longest split returns that
result; if the continuation fails on every longer split the first shorter split on which it succeeds is returned.
-/
namespace Pepper.ParseComp

variable {α : Type} {cls : Char → Bool}

def HeadNot (cls : Char → Bool) (s : Str) : Prop := ∀ c r, s = c :: r → cls c = false

theorem headNot_nil : HeadNot cls [] := fun _ _ h => nomatch h

theorem headNot_cons {c : Char} {r : Str} (h : cls c = false) : HeadNot cls (c :: r) := by
  intro c' r' e
  cases e
  exact h

theorem headNot_append {a b : Str} (hne : a ≠ []) (h : HeadNot cls a) : HeadNot cls (a ++ b) := by
  cases a with
  | nil => exact absurd rfl hne
  | cons c r =>
    intro c' r' e
    simp only [List.cons_append, List.cons.injEq] at e
    exact e.1 ▸ h c r rfl

theorem headNot_append' {a b : Str} (ha : HeadNot cls a) (hb : HeadNot cls b) : HeadNot cls (a ++ b) := by
  cases a with
  | nil => simpa using hb
  | cons c r => exact headNot_append (by simp) ha

theorem headNot_of_all {cls cls' : Char → Bool} {a : Str} (h : ∀ c ∈ a, cls' c = true)
    (hd : ∀ c, cls' c = true → cls c = false) : HeadNot cls a := by
  intro c r e
  subst e
  exact hd c (h c (by simp))

section Lit
variable {k : K α}

@[simp] theorem lit_nil (k : K α) (s : Str) : lit [] k s = k s := by
  cases s <;> rfl

@[simp] theorem lit_cons_cons {α : Type} (p : Char) (ps : Str) (k : K α) (c : Char) (r : Str) :
    lit (p :: ps) k (c :: r) = if c = p then lit ps k r else none := rfl

@[simp] theorem lit_cons_nil {α : Type} (p : Char) (ps : Str) (k : K α) : lit (p :: ps) k [] = none := rfl

theorem lit_append (p : Str) (k : K α) (s : Str) : lit p k (p ++ s) = k s := by
  induction p with
  | nil => simp
  | cons c ps ih => simp [ih]

theorem lit_some {p : Str} {s : Str} {v : α} (h : lit p k s = some v) :
    ∃ r, s = p ++ r ∧ k r = some v := by
  induction p generalizing s with
  | nil => exact ⟨s, rfl, by simpa using h⟩
  | cons c ps ih =>
    cases s with
    | nil => simp at h
    | cons x r =>
      simp only [lit_cons_cons] at h
      split at h
      · rename_i hx
        obtain ⟨r', hr, hk⟩ := ih h
        exact ⟨r', by simp [hx, hr], hk⟩
      · cases h

theorem lit_none_head {p : Char} {ps : Str} {s : Str} (h : HeadNot (· == p) s) :
    lit (p :: ps) k s = none := by
  cases s with
  | nil => rfl
  | cons c r =>
    have := h c r rfl
    simp only [lit_cons_cons]
    rw [if_neg]
    intro e
    simp [e] at this

theorem lit_none_class {p : Str} {a b : Str}
    (ha : ∀ c ∈ a, cls c = true) (hx : ∃ x ∈ p, cls x = false) (hb : ∀ c r, b = c :: r → c ∉ p) :
    lit p k (a ++ b) = none := by
  cases h : lit p k (a ++ b) with
  | none => rfl
  | some v =>
    exfalso
    obtain ⟨r, e, -⟩ := lit_some h
    obtain ⟨x, hxp, hx⟩ := hx
    -- either the literal ends inside `a`, or it goes on with the first character of `b`
    rcases List.append_eq_append_iff.mp e with ⟨p2, rfl, e2⟩ | ⟨a2, rfl, -⟩
    · rcases List.mem_append.mp hxp with hxa | hx2
      · rw [ha x hxa] at hx; cases hx
      · cases p2 with
        | nil => cases hx2
        | cons c p2' => exact hb c _ e2 (by simp)
    · rw [ha x (by simp [hxp])] at hx; cases hx

end Lit

section Star
variable {k : Str → K α}

theorem star_nil {α : Type} (cls : Char → Bool) (k : Str → K α) (pre : Str) : star cls k pre [] = k pre [] := rfl

theorem star_cons (cls : Char → Bool) (k : Str → K α) (pre : Str) (c : Char) (r : Str) :
    star cls k pre (c :: r) =
      if cls c then (star cls k (pre ++ [c]) r).orElse (fun _ => k pre (c :: r)) else k pre (c :: r) := rfl

theorem star_some {pre s : Str} {v : α}
    (h : star cls k pre s = some v) :
    ∃ a r, s = a ++ r ∧ (∀ c ∈ a, cls c = true) ∧ k (pre ++ a) r = some v := by
  induction s generalizing pre with
  | nil => exact ⟨[], [], rfl, by simp, by simpa [star_nil] using h⟩
  | cons c r ih =>
    rw [star_cons] at h
    split at h
    · rename_i hc
      cases h1 : star cls k (pre ++ [c]) r with
      | some w =>
        rw [h1] at h
        simp only [Option.orElse_some, Option.some.injEq] at h
        subst h
        obtain ⟨a, r', hs, ha, hk⟩ := ih h1
        refine ⟨c :: a, r', by simp [hs], ?_, ?_⟩
        · intro x hx
          rcases List.mem_cons.mp hx with rfl | hx
          · exact hc
          · exact ha x hx
        · simpa using hk
      | none =>
        rw [h1] at h
        simp only [Option.orElse_none] at h
        exact ⟨[], c :: r, rfl, by simp, by simpa using h⟩
    · exact ⟨[], c :: r, rfl, by simp, by simpa using h⟩

theorem plus_some {s : Str} {v : α}
    (h : plus cls k s = some v) :
    ∃ a r, s = a ++ r ∧ a ≠ [] ∧ (∀ c ∈ a, cls c = true) ∧ k a r = some v := by
  cases s with
  | nil => cases h
  | cons c r =>
    simp only [plus] at h
    split at h
    · rename_i hc
      obtain ⟨a, r', hs, ha, hk⟩ := star_some h
      refine ⟨c :: a, r', by simp [hs], by simp, ?_, by simpa using hk⟩
      intro x hx
      rcases List.mem_cons.mp hx with rfl | hx
      · exact hc
      · exact ha x hx
    · cases h

/-- the run of the repetition is `run`, the rest of the input is `rest`: splits are tried from the longest -/
def starRun {α : Type} (k : Str → K α) (pre : Str) : Str → Str → Option α
  | [], rest => k pre rest
  | c :: r, rest => (starRun k (pre ++ [c]) r rest).orElse (fun _ => k pre (c :: r ++ rest))

theorem star_eq_starRun (k : Str → K α) (pre run rest : Str)
    (hrun : ∀ c ∈ run, cls c = true) (hrest : HeadNot cls rest) :
    star cls k pre (run ++ rest) = starRun k pre run rest := by
  induction run generalizing pre with
  | nil =>
    cases rest with
    | nil => rfl
    | cons c r =>
      simp only [List.nil_append, star_cons, starRun]
      rw [if_neg]
      simp [hrest c r rfl]
  | cons c r ih =>
    simp only [List.cons_append, star_cons, starRun]
    rw [if_pos (hrun c (by simp)), ih _ (fun x hx => hrun x (by simp [hx]))]

/-- a match on a split inside the tail `b` of the run is the match: all longer splits lie inside `b` too -/
theorem starRun_append_some {pre a b rest : Str} {v : α}
    (h : starRun k (pre ++ a) b rest = some v) : starRun k pre (a ++ b) rest = some v := by
  induction a generalizing pre with
  | nil => simpa using h
  | cons c r ih =>
    simp only [List.cons_append, starRun]
    rw [ih (by simpa using h)]
    rfl

theorem starRun_last {pre b rest : Str}
    (hfail : ∀ b1 b2, b = b1 ++ b2 → b1 ≠ [] → k (pre ++ b1) (b2 ++ rest) = none) :
    starRun k pre b rest = k pre (b ++ rest) := by
  induction b generalizing pre with
  | nil => rfl
  | cons c r ih =>
    simp only [starRun]
    rw [ih (pre := pre ++ [c]) (by
      intro b1 b2 e hne
      simpa using hfail (c :: b1) b2 (by simp [e]) (by simp)), hfail [c] r rfl (by simp)]
    rfl

theorem star_greedy {pre run rest : Str} {v : α}
    (hrun : ∀ c ∈ run, cls c = true) (hrest : HeadNot cls rest) (h : k (pre ++ run) rest = some v) :
    star cls k pre (run ++ rest) = some v := by
  rw [star_eq_starRun k pre run rest hrun hrest]
  simpa using starRun_append_some (b := []) h

theorem star_first {pre a b rest : Str} {v : α}
    (ha : ∀ c ∈ a, cls c = true) (hb : ∀ c ∈ b, cls c = true) (hrest : HeadNot cls rest)
    (hfail : ∀ b1 b2, b = b1 ++ b2 → b1 ≠ [] → k (pre ++ a ++ b1) (b2 ++ rest) = none)
    (h : k (pre ++ a) (b ++ rest) = some v) : star cls k pre (a ++ (b ++ rest)) = some v := by
  rw [← List.append_assoc, star_eq_starRun k pre (a ++ b) rest (by
    intro c hc
    rcases List.mem_append.mp hc with hc | hc
    · exact ha c hc
    · exact hb c hc) hrest]
  exact starRun_append_some ((starRun_last hfail).trans h)

theorem star_none {pre run rest : Str}
    (hrun : ∀ c ∈ run, cls c = true) (hrest : HeadNot cls rest)
    (hfail : ∀ b1 b2, run = b1 ++ b2 → k (pre ++ b1) (b2 ++ rest) = none) :
    star cls k pre (run ++ rest) = none := by
  rw [star_eq_starRun k pre run rest hrun hrest, starRun_last (fun b1 b2 e _ => hfail b1 b2 e)]
  simpa using hfail [] run rfl

theorem plus_none_head {s : Str} (h : HeadNot cls s) :
    plus cls k s = none := by
  cases s with
  | nil => rfl
  | cons c r => simp [plus, h c r rfl]

theorem plus_greedy {run rest : Str} {v : α}
    (hne : run ≠ []) (hrun : ∀ c ∈ run, cls c = true) (hrest : HeadNot cls rest) (h : k run rest = some v) :
    plus cls k (run ++ rest) = some v := by
  cases run with
  | nil => exact absurd rfl hne
  | cons c r =>
    simp only [List.cons_append, plus]
    rw [if_pos (hrun c (by simp))]
    exact star_greedy (fun x hx => hrun x (by simp [hx])) hrest (by simpa using h)

theorem star_all {pre run : Str} {v : α}
    (hrun : ∀ c ∈ run, cls c = true) (h : k (pre ++ run) [] = some v) : star cls k pre run = some v := by
  simpa using star_greedy (rest := []) hrun headNot_nil h

theorem plus_all {run : Str} {v : α}
    (hne : run ≠ []) (hrun : ∀ c ∈ run, cls c = true) (h : k run [] = some v) : plus cls k run = some v := by
  simpa using plus_greedy (rest := []) hne hrun headNot_nil h

theorem plus_first {a b rest : Str} {v : α}
    (hne : a ≠ []) (ha : ∀ c ∈ a, cls c = true) (hb : ∀ c ∈ b, cls c = true) (hrest : HeadNot cls rest)
    (hfail : ∀ b1 b2, b = b1 ++ b2 → b1 ≠ [] → k (a ++ b1) (b2 ++ rest) = none)
    (h : k a (b ++ rest) = some v) : plus cls k (a ++ (b ++ rest)) = some v := by
  cases a with
  | nil => exact absurd rfl hne
  | cons c r =>
    simp only [List.cons_append, plus]
    rw [if_pos (ha c (by simp))]
    exact star_first (fun x hx => ha x (by simp [hx])) hb hrest (by simpa using hfail) (by simpa using h)

theorem plus_none {run rest : Str}
    (hrun : ∀ c ∈ run, cls c = true) (hrest : HeadNot cls rest)
    (hfail : ∀ b1 b2, run = b1 ++ b2 → b1 ≠ [] → k b1 (b2 ++ rest) = none) :
    plus cls k (run ++ rest) = none := by
  cases run with
  | nil => simpa using plus_none_head hrest
  | cons c r =>
    simp only [List.cons_append, plus]
    rw [if_pos (hrun c (by simp))]
    apply star_none (fun x hx => hrun x (by simp [hx])) hrest
    intro b1 b2 e
    have := hfail (c :: b1) b2 (by simp [e]) (by simp)
    simpa using this

/-! the premise `hfail` of `star_first` / `plus_first` when one resp. two characters are given back: the splits of `[x]`
and `[x, y]` with a non-empty first part -/

theorem split_singleton {x : Char} {b1 b2 : Str} (e : [x] = b1 ++ b2) (hb1 : b1 ≠ []) : b2 = [] := by
  rcases b1 with _ | ⟨a, b1'⟩
  · exact absurd rfl hb1
  · simp only [List.cons_append, List.cons.injEq, List.nil_eq, List.append_eq_nil_iff] at e
    exact e.2.2

theorem headNot_split_pair {x y : Char} {b1 b2 rest : Str} (e : [x, y] = b1 ++ b2) (hb1 : b1 ≠ [])
    (hy : cls y = false) (hrest : HeadNot cls rest) : HeadNot cls (b2 ++ rest) := by
  rcases b1 with _ | ⟨a, _ | ⟨b, b1'⟩⟩
  · exact absurd rfl hb1
  · simp only [List.cons_append, List.nil_append, List.cons.injEq] at e
    rw [← e.2]
    exact headNot_cons hy
  · simp only [List.cons_append, List.cons.injEq, List.nil_eq, List.append_eq_nil_iff] at e
    rw [e.2.2.2]
    exact hrest

end Star

section Alt
variable {k : K α}

theorem alt_left {a b : K α} {s : Str} {v : α} (h : a s = some v) : alt a b s = some v := by
  simp [alt, h]

theorem alt_right {a b : K α} {s : Str} (h : a s = none) : alt a b s = b s := by
  simp [alt, h]

theorem alt_some {a b : K α} {s : Str} {v : α} (h : alt a b s = some v) : a s = some v ∨ b s = some v := by
  unfold alt at h
  cases ha : a s with
  | some w => rw [ha] at h; exact Or.inl (by simpa using h)
  | none => rw [ha] at h; exact Or.inr (by simpa using h)

theorem alt_none {a b : K α} {s : Str} (ha : a s = none) (hb : b s = none) : alt a b s = none := by
  simp [alt, ha, hb]

theorem alt_same {α : Type} {a b : K α} {s : Str} {v : α} (hb : b s = some v) (ha : ∀ w, a s = some w → w = v) :
    alt a b s = some v := by
  unfold alt
  cases h : a s with
  | none => exact hb
  | some w => rw [ha w h]; rfl

end Alt

section End
variable {k : K α}

@[simp] theorem atEnd_nil {α : Type} (k : K α) : atEnd k [] = k [] := rfl
@[simp] theorem atEnd_cons {α : Type} (k : K α) (c : Char) (r : Str) : atEnd k (c :: r) = none := rfl

theorem atEnd_none_of_ne {s : Str} (h : s ≠ []) : atEnd k s = none := by
  obtain ⟨c, r, rfl⟩ := List.exists_cons_of_ne_nil h
  exact atEnd_cons k c r

theorem atEnd_some {s : Str} {v : α} (h : atEnd k s = some v) : s = [] ∧ k [] = some v := by
  cases s with
  | nil => exact ⟨rfl, h⟩
  | cons c r => cases h

theorem endZ_some {v w : α} {s : Str} (h : endZ v s = some w) : w = v ∧ ∀ c ∈ s, isSp c = true := by
  unfold endZ at h
  obtain ⟨a, r, hs, ha, hk⟩ := star_some h
  obtain ⟨hr, hv⟩ := atEnd_some hk
  subst hr
  simp only [List.append_nil] at hs
  subst hs
  exact ⟨by simpa using hv.symm, ha⟩

theorem endZ_ok (v : α) {s : Str} (h : ∀ c ∈ s, isSp c = true) : endZ v s = some v :=
  star_all h rfl

@[simp] theorem endZ_nil {α : Type} (v : α) : endZ v [] = some v := rfl

theorem endZ_none (v : α) {s : Str} (h : ∃ c ∈ s, isSp c = false) : endZ v s = none := by
  cases hh : endZ v s with
  | none => rfl
  | some w =>
    obtain ⟨c, hc, hf⟩ := h
    have := (endZ_some hh).2 c hc
    rw [hf] at this
    cases this

theorem endZ_none_head (v : α) {c : Char} {r : Str} (h : isSp c = false) : endZ v (c :: r) = none :=
  endZ_none v ⟨c, by simp, h⟩

end End

section Sp1
variable {k : K α}

theorem sp1_greedy {run rest : Str} {v : α}
    (hne : run ≠ []) (hrun : ∀ c ∈ run, isSp c = true) (hrest : HeadNot isSp rest) (h : k rest = some v) :
    sp1 k (run ++ rest) = some v :=
  plus_greedy hne hrun hrest h

theorem sp1_none_head {s : Str} (h : HeadNot isSp s) : sp1 k s = none := plus_none_head h

theorem sp1_some {s : Str} {v : α} (h : sp1 k s = some v) :
    ∃ a r, s = a ++ r ∧ a ≠ [] ∧ (∀ c ∈ a, isSp c = true) ∧ k r = some v := plus_some h

theorem sp1_none {run rest : Str}
    (hrun : ∀ c ∈ run, isSp c = true) (hrest : HeadNot isSp rest)
    (hk : k rest = none) (hks : ∀ c r, isSp c = true → k (c :: r) = none) : sp1 k (run ++ rest) = none := by
  apply plus_none hrun hrest
  intro b1 b2 e _
  cases b2 with
  | nil => simpa using hk
  | cons c r =>
    simp only [List.cons_append]
    apply hks
    apply hrun
    rw [e]
    simp

theorem sp1_lit_none {p : Char} {ps : Str} {run rest : Str} (hp : isSp p = false)
    (hrun : ∀ c ∈ run, isSp c = true) (hrest : HeadNot isSp rest) (hk : HeadNot (· == p) rest) :
    sp1 (lit (p :: ps) k) (run ++ rest) = none := by
  apply sp1_none hrun hrest (lit_none_head hk)
  intro c r hc
  simp only [lit_cons_cons]
  rw [if_neg]
  rintro rfl
  rw [hc] at hp
  cases hp

end Sp1

section Yields
variable {P : α → Prop}

/-- every result of a match of `k`, on whatever input, satisfies `P`; proved along the pattern, combinator by
    combinator, the captured texts coming with their class -/
def Yields {α : Type} (k : K α) (P : α → Prop) : Prop := ∀ s v, k s = some v → P v

theorem Yields.ret {f : Str → α} (h : ∀ r, P (f r)) : Yields (fun r => some (f r)) P :=
  fun r _ e => Option.some.inj e ▸ h r

theorem Yields.lit {k : K α} {p : Str} (h : Yields k P) : Yields (lit p k) P :=
  fun _ v e => let ⟨r, _, hk⟩ := lit_some e; h r v hk

theorem Yields.sp1 {k : K α} (h : Yields k P) : Yields (sp1 k) P :=
  fun _ v e => let ⟨_, r, _, _, _, hk⟩ := sp1_some e; h r v hk

theorem Yields.plus {k : Str → K α}
    (h : ∀ a, a ≠ [] → (∀ c ∈ a, cls c = true) → Yields (k a) P) : Yields (plus cls k) P :=
  fun _ v e => let ⟨a, r, _, hne, ha, hk⟩ := plus_some e; h a hne ha r v hk

theorem Yields.star {k : Str → K α}
    (h : ∀ a, (∀ c ∈ a, cls c = true) → Yields (k a) P) : Yields (star cls k []) P :=
  fun _ v e => let ⟨a, r, _, ha, hk⟩ := star_some e; h a ha r v hk

theorem Yields.alt {a b : K α} (ha : Yields a P) (hb : Yields b P) : Yields (alt a b) P :=
  fun s v e => (alt_some e).elim (ha s v) (hb s v)

theorem Yields.endZ {v : α} (h : P v) : Yields (endZ v) P :=
  fun _ _ e => (endZ_some e).1 ▸ h

end Yields

end Pepper.ParseComp
