import PepperProofs.ParseCompChars
/-!
# `parse_constraints` on a rendered item list
-/
namespace Pepper.ParseComp
open Pepper.Comp

variable {sp : Nat → Str}

theorem domainsLit : sDomainsP = ['d', 'o', 'm', 'a', 'i', 'n', 's', '('] := rfl

def AfterItem (rest : Str) : Prop := ∀ c r, rest = c :: r → isBlank c = true

theorem afterItem_nil : AfterItem [] := fun _ _ h => nomatch h

theorem afterItem_blanks {g rest : Str} (hne : g ≠ []) (hg : ∀ c ∈ g, isBlank c = true) : AfterItem (g ++ rest) := by
  cases g with
  | nil => exact absurd rfl hne
  | cons c r =>
    intro c' r' e
    simp only [List.cons_append, List.cons.injEq] at e
    exact e.1 ▸ hg c (by simp)

theorem afterItem_allBlank {g : Str} (hg : ∀ c ∈ g, isBlank c = true) : AfterItem g := by
  intro c r e
  subst e
  exact hg c (by simp)

theorem AfterItem.headNot {rest : Str} (h : AfterItem rest) {cls : Char → Bool} (hc : ∀ c, isBlank c = true → cls c = false) :
    HeadNot cls rest := fun c r e => hc c (h c r e)

/-- `[-\w]+\*?` on a name with its optional star: the star decides the alternative -/
theorem nameStar_render {α : Type} {kT kF : Str → K α} {n : Str} (hne : n ≠ []) (hall : ∀ c ∈ n, isName c = true) (st : Bool)
    {rest : Str} (hrest : HeadNot isName rest) (hstar : HeadNot (· == '*') rest) {v : α}
    (hk : (if st then kT n else kF n) rest = some v) :
    plus isName (fun n => alt (lit ['*'] <| kT n) (kF n)) (n ++ (starL st ++ rest)) = some v := by
  cases st with
  | true =>
    apply plus_greedy hne hall (headNot_cons (by decide))
    apply alt_left
    simpa [starL] using hk
  | false =>
    apply plus_greedy hne hall (by simpa [starL] using hrest)
    rw [alt_right (lit_none_head (by simpa [starL] using hstar))]
    simpa [starL] using hk

theorem reItem_render {α : Type} {k : Str → K α} {it : SrcItem} (hw : wfItem it = true) {rest : Str} (hrest : AfterItem rest)
    {v : α} (hk : k (renderItemL it) rest = some v) : reItem k (renderItemL it ++ rest) = some v := by
  cases it with
  | nuc t =>
    obtain ⟨hne, hall⟩ := wfItem_nuc.mp hw
    unfold reItem
    apply alt_left
    simp only [renderItemL, List.cons_append, lit_cons_cons, if_true, lit_nil]
    rw [List.append_assoc]
    apply plus_greedy hne hall (headNot_cons (by decide))
    simp only [lit_cons_cons, if_true, lit_nil]
    exact hk
  | ref n st =>
    obtain ⟨hne, hall⟩ := nameOkL_iff.mp hw
    unfold reItem
    simp only [renderItemL, List.append_assoc] at hk ⊢
    rw [alt_right (lit_none_head (name_headNot_char (by decide) hne hall _))]
    rw [alt_right (by
      rw [domainsLit]
      apply lit_none_class (cls := isName) hall ⟨'(', by simp, by decide⟩
      intro c r e
      cases st with
      | true =>
        simp only [starL, if_true, List.cons_append, List.nil_append, List.cons.injEq] at e
        rw [← e.1]; decide
      | false =>
        simp only [starL, Bool.false_eq_true, if_false, List.nil_append] at e
        rcases isBlank_cases (hrest c r e) with rfl | rfl <;> decide)]
    apply nameStar_render hne hall st (hrest.headNot fun _ hc => blank_notName hc)
      (hrest.headNot fun c hc => by simpa using ne_of_pred hc (by decide))
    cases st <;> simpa [starL] using hk
  | domains n st =>
    obtain ⟨hne, hall⟩ := nameOkL_iff.mp hw
    unfold reItem
    simp only [renderItemL, List.append_assoc] at hk ⊢
    rw [alt_right (by rw [domainsLit]; rfl)]
    apply alt_left
    rw [lit_append]
    apply nameStar_render hne hall st (headNot_cons (by decide)) (headNot_cons (by decide))
    cases st <;> simpa [starL] using hk

theorem reItem_nil {α : Type} (k : Str → K α) : reItem k [] = none := by
  unfold reItem
  rw [domainsLit]
  rfl

theorem reItem_blank {α : Type} (k : Str → K α) {c : Char} (r : Str) (hc : isBlank c = true) : reItem k (c :: r) = none := by
  unfold reItem
  rw [domainsLit]
  apply alt_none
  · simp only [lit_cons_cons]
    rw [if_neg]
    exact ne_of_pred hc (by decide)
  · apply alt_none
    · simp only [lit_cons_cons]
      rw [if_neg]
      exact ne_of_pred hc (by decide)
    · exact plus_none_head (headNot_cons (blank_notName hc))

theorem render_head {it : SrcItem} (hw : wfItem it = true) : ∃ c r, renderItemL it = c :: r ∧ isSp c = false := by
  cases it with
  | nuc t => exact ⟨'"', _, rfl, by decide⟩
  | ref n st =>
    obtain ⟨hne, hall⟩ := nameOkL_iff.mp hw
    cases hn : n.toList with
    | nil => exact absurd hn hne
    | cons x xs => exact ⟨x, xs ++ starL st, by simp [renderItemL, hn], name_notSp (hall x (by rw [hn]; simp))⟩
  | domains n st =>
    refine ⟨'d', ['o', 'm', 'a', 'i', 'n', 's', '('] ++ (n.toList ++ (starL st ++ [')'])), ?_, by decide⟩
    rw [renderItemL, domainsLit]
    rfl

theorem render_headNot_sp {it : SrcItem} (hw : wfItem it = true) (rest : Str) : HeadNot isSp (renderItemL it ++ rest) := by
  obtain ⟨c, r, e, h⟩ := render_head hw
  rw [e]
  exact headNot_cons h

theorem consLoop_succ (f : Nat) :
    consLoop (f + 1) = alt (reItem fun _ => alt (atEnd (consLoop f)) (sp1 (consLoop f))) (atEnd (endZ ())) := rfl

theorem consLoop_nil (f : Nat) : consLoop (f + 1) [] = some () := by
  rw [consLoop_succ]
  rw [alt_right (reItem_nil _)]
  rfl

/-- what follows the first item of `joinSp`, then the trailing blanks -/
def itemsTail (sp : Nat → Str) : Nat → List Str → Str → Str
  | _, [], trail => trail
  | i, b :: r, trail => sp i ++ (b ++ itemsTail sp (i + 1) r trail)

theorem joinSp_append_trail (sp : Nat → Str) (i : Nat) (a : Str) (r : List Str) (trail : Str) :
    joinSp sp i (a :: r) ++ trail = a ++ itemsTail sp i r trail := by
  induction r generalizing a i with
  | nil => simp [joinSp, itemsTail]
  | cons b r ih => simp only [joinSp, itemsTail, List.append_assoc, ih]

theorem afterItem_tail (hsp : SpOkL sp) (i : Nat) (xs : List Str) {trail : Str}
    (htr : ∀ c ∈ trail, isBlank c = true) : AfterItem (itemsTail sp i xs trail) := by
  cases xs with
  | nil => exact afterItem_allBlank htr
  | cons b r => exact afterItem_blanks (hsp.ne i) (hsp.blank i)

theorem findItems_nil (f : Nat) : findItems f [] = [] := by cases f <;> rfl

theorem findItems_blanks {g : Str} (hg : ∀ c ∈ g, isBlank c = true) (rest : Str) :
    ∀ f, g.length ≤ f → findItems f (g ++ rest) = findItems (f - g.length) rest := by
  induction g with
  | nil => exact fun _ _ => rfl
  | cons c r ih =>
    intro f hf
    obtain ⟨f, rfl⟩ : ∃ f', f = f' + 1 := ⟨f - 1, by simp at hf; omega⟩
    simp only [List.cons_append, findItems]
    rw [reItem_blank _ _ (hg c (by simp)), ih (fun x hx => hg x (by simp [hx])) f (by simpa using hf)]
    simp

theorem findItems_item {it : SrcItem} (hw : wfItem it = true) {rest : Str} (hrest : AfterItem rest) (f : Nat) :
    findItems (f + 1) (renderItemL it ++ rest) = renderItemL it :: findItems f rest := by
  have h := reItem_render (k := fun m r => some (m, r)) hw hrest (v := (renderItemL it, rest)) rfl
  obtain ⟨c, r, e, _⟩ := render_head hw
  rw [e] at h ⊢
  simp only [List.cons_append] at h ⊢
  simp only [findItems]
  rw [h]

/-- both passes of `parse_constraints` over what follows the first item: the format check goes through, and
    `re.findall` returns the items -/
theorem itemsTail_parse (hsp : SpOkL sp) (xs : List SrcItem) (hw : ∀ x ∈ xs, wfItem x = true) {trail : Str}
    (htr : ∀ c ∈ trail, isBlank c = true) : ∀ (i f : Nat), (itemsTail sp i (xs.map renderItemL) trail).length < f →
      alt (atEnd (consLoop f)) (sp1 (consLoop f)) (itemsTail sp i (xs.map renderItemL) trail) = some () ∧
      findItems f (itemsTail sp i (xs.map renderItemL) trail) = xs.map renderItemL := by
  induction xs with
  | nil =>
    intro i f hf
    refine ⟨?_, ?_⟩
    · obtain ⟨f, rfl⟩ : ∃ f', f = f' + 1 := ⟨f - 1, by omega⟩
      cases trail with
      | nil => exact alt_left (consLoop_nil f)
      | cons c r =>
        rw [alt_right (by rfl)]
        exact plus_all (run := c :: r) (by simp) (fun x hx => blank_isSp (htr x hx)) (consLoop_nil f)
    · have := findItems_blanks htr [] f (Nat.le_of_lt hf)
      rw [List.append_nil] at this
      exact this.trans (findItems_nil _)
  | cons b r ih =>
    intro i f hf
    have hb := hw b (by simp)
    have hr : ∀ x ∈ r, wfItem x = true := fun x hx => hw x (by simp [hx])
    have haft := afterItem_tail hsp (i + 1) (r.map renderItemL) htr
    obtain ⟨c, r', hc, _⟩ := render_head hb
    simp only [List.map_cons, itemsTail, List.length_append] at hf ⊢
    have hpos : 1 ≤ (renderItemL b).length := by simp [hc]
    refine ⟨?_, ?_⟩
    · obtain ⟨f, rfl⟩ : ∃ f', f = f' + 1 := ⟨f - 1, by omega⟩
      rw [alt_right (atEnd_none_of_ne (by simp [hsp.ne i]))]
      apply sp1_greedy (hsp.ne i) (hsp.sp i) (render_headNot_sp hb _)
      rw [consLoop_succ]
      exact alt_left (reItem_render hb haft (ih hr (i + 1) f (by omega)).1)
    · obtain ⟨f', hf'⟩ : ∃ f', f - (sp i).length = f' + 1 := ⟨f - (sp i).length - 1, by omega⟩
      rw [findItems_blanks (hsp.blank i) _ f (by omega), hf', findItems_item hb haft, (ih hr (i + 1) f' (by omega)).2]

theorem parseConstraint_render {it : SrcItem} (hw : wfItem it = true) : parseConstraint (renderItemL it) = some it := by
  cases it with
  | nuc t =>
    obtain ⟨hne, hall⟩ := wfItem_nuc.mp hw
    have h1 : reC1 (renderItemL (.nuc t)) = some t := by
      unfold reC1
      simp only [renderItemL, lit_cons_cons, if_true, lit_nil]
      apply plus_greedy hne (fun c hc => body_isBody2 (hall c hc)) (headNot_cons (by decide))
      simp
    simp only [parseConstraint, h1]
  | ref n st =>
    obtain ⟨hne, hall⟩ := nameOkL_iff.mp hw
    have h1 : reC1 (renderItemL (.ref n st)) = none := by
      unfold reC1
      exact lit_none_head (name_headNot_char (by decide) hne hall _)
    have h2 : reC2 (renderItemL (.ref n st)) = some (n.toList, st) := by
      have := nameStar_render (kT := fun n => endZ (n, true)) (kF := fun n => endZ (n, false)) hne hall st headNot_nil
        headNot_nil (v := (n.toList, st)) (by cases st <;> rfl)
      rwa [List.append_nil] at this
    simp only [parseConstraint, h1, h2, String.ofList_toList]
  | domains n st =>
    obtain ⟨hne, hall⟩ := nameOkL_iff.mp hw
    have h1 : reC1 (renderItemL (.domains n st)) = none := by
      unfold reC1
      simp only [renderItemL, domainsLit]
      rfl
    have h2 : reC2 (renderItemL (.domains n st)) = none := by
      -- a match of `[-\w]+\*?\s*` has no `(`
      cases h : reC2 (renderItemL (.domains n st)) with
      | none => rfl
      | some v =>
        exfalso
        obtain ⟨a, r, e, -, ha, hk⟩ := plus_some h
        have hr : ∀ c ∈ r, c = '*' ∨ isSp c = true := by
          rcases alt_some hk with hk | hk
          · obtain ⟨r', rfl, hk⟩ := lit_some hk
            intro c hc
            rcases List.mem_cons.mp hc with rfl | hc
            · exact Or.inl rfl
            · exact Or.inr ((endZ_some hk).2 c hc)
          · exact fun c hc => Or.inr ((endZ_some hk).2 c hc)
        have hp : '(' ∈ a ++ r := by rw [← e]; simp [renderItemL, domainsLit]
        rcases List.mem_append.mp hp with hp | hp
        · exact absurd (ha _ hp) (by decide)
        · rcases hr _ hp with h | h <;> exact absurd h (by decide)
    have h3 : reC3 (renderItemL (.domains n st)) = some (n.toList, st) := by
      unfold reC3
      simp only [renderItemL]
      rw [lit_append]
      apply nameStar_render hne hall st (headNot_cons (by decide)) (headNot_cons (by decide))
      cases st <;> rfl
    simp only [parseConstraint, h1, h2, h3, String.ofList_toList]

theorem mapM_parseConstraint_render (items : List SrcItem) (hw : ∀ x ∈ items, wfItem x = true) :
    (items.map renderItemL).mapM parseConstraint = some items := by
  rw [mapM_option_eq_some_iff, List.map_map]
  exact List.map_congr_left fun x hx => parseConstraint_render (hw x hx)

theorem parseConstraints_render (hsp : SpOkL sp) (items : List SrcItem) (hne : items ≠ [])
    (hw : ∀ x ∈ items, wfItem x = true) (i : Nat) (trail : Str) (htr : ∀ c ∈ trail, isBlank c = true) :
    parseConstraints (joinSp sp i (items.map renderItemL) ++ trail) = .ok items := by
  obtain ⟨it, r, rfl⟩ := List.exists_cons_of_ne_nil hne
  have hit := hw it (by simp)
  have hr : ∀ x ∈ r, wfItem x = true := fun x hx => hw x (by simp [hx])
  obtain ⟨c, r', hc, _⟩ := render_head hit
  have hlen : (itemsTail sp i (r.map renderItemL) trail).length <
      (renderItemL it ++ itemsTail sp i (r.map renderItemL) trail).length := by
    simp only [hc, List.cons_append, List.length_cons, List.length_append]
    omega
  unfold parseConstraints consOk
  rw [List.map_cons, joinSp_append_trail, consLoop_succ,
    alt_left (reItem_render hit (afterItem_tail hsp i _ htr) (itemsTail_parse hsp r hr htr i _ hlen).1),
    findItems_item hit (afterItem_tail hsp i _ htr), (itemsTail_parse hsp r hr htr i _ hlen).2, ← List.map_cons,
    mapM_parseConstraint_render _ hw]
  rfl

end Pepper.ParseComp
