import PepperProofs.ParseCompRenderSeq
/-!
# `parse_render` for the declare line: `parse_signal` and `parse_declare_statement` on the canonical spelling
-/
namespace Pepper.ParseComp
open Pepper.Comp

variable {sp : Nat → Str}

def isPortCh (c : Char) : Bool := isName c || c == '*' || c == '(' || c == ')'

/-- characters of the text after the `:` of a declare line (the `-` of the arrow is a name character) -/
def isIOCh (c : Char) : Bool := isBlank c || isPortCh c || c == '+'

theorem portCh_cases {c : Char} (h : isPortCh c = true) : isName c = true ∨ c = '*' ∨ c = '(' ∨ c = ')' := by
  simpa [isPortCh, or_assoc] using h

theorem portCh_notSp {c : Char} (h : isPortCh c = true) : isSp c = false := by
  rcases portCh_cases h with h | rfl | rfl | rfl
  · exact name_notSp h
  · decide
  · decide
  · decide

theorem ioCh_cases {c : Char} (h : isIOCh c = true) : isBlank c = true ∨ isPortCh c = true ∨ c = '+' := by
  simpa [isIOCh, or_assoc] using h

theorem ioCh_notNl {c : Char} (h : isIOCh c = true) : notNl c = true := by
  simp only [notNl, bne_iff_ne, ne_eq]
  exact ne_of_pred h (by decide)

theorem blank_io {c : Char} (h : isBlank c = true) : isIOCh c = true := by simp [isIOCh, h]
theorem portCh_io {c : Char} (h : isPortCh c = true) : isIOCh c = true := by simp [isIOCh, h]
theorem name_portCh {c : Char} (h : isName c = true) : isPortCh c = true := by simp [isPortCh, h]

theorem wfPort_iff {p : Port} : wfPort p = true ↔
    (p.seq.toList ≠ [] ∧ ∀ c ∈ p.seq.toList, isName c = true) ∧
      ∀ s, p.struct = some s → s.toList ≠ [] ∧ ∀ c ∈ s.toList, isName c = true := by
  obtain ⟨n, st, s⟩ := p
  cases s with
  | none => simp [wfPort, nameOk, nameOkL_iff]
  | some s => simp [wfPort, nameOk, nameOkL_iff]

theorem renderPort_chars {p : Port} (h : wfPort p = true) : ∀ c ∈ renderPortL p, isPortCh c = true := by
  obtain ⟨⟨_, hn⟩, hs⟩ := wfPort_iff.mp h
  obtain ⟨n, st, s⟩ := p
  intro c hc
  simp only [renderPortL, List.mem_append] at hc
  rcases hc with hc | hc | hc
  · exact name_portCh (hn c hc)
  · cases st <;> simp [starL] at hc
    subst hc; decide
  · cases s with
    | none => simp at hc
    | some s =>
      simp only [List.mem_cons, List.mem_append, List.not_mem_nil, or_false] at hc
      rcases hc with rfl | hc | rfl
      · decide
      · exact name_portCh ((hs s rfl).2 c hc)
      · decide

theorem renderPort_ne {p : Port} (h : wfPort p = true) : renderPortL p ≠ [] := by
  obtain ⟨⟨hne, _⟩, _⟩ := wfPort_iff.mp h
  intro e
  simp only [renderPortL, List.append_eq_nil_iff] at e
  exact hne e.1

def portStructL : Option String → Str
  | some s => '(' :: (s.toList ++ [')'])
  | none => []

theorem renderPortL_eq (p : Port) : renderPortL p = p.seq.toList ++ (starL p.star ++ portStructL p.struct) := by
  obtain ⟨n, st, s⟩ := p
  cases s <;> rfl

theorem parseSignal_render (p : Port) (h : wfPort p = true) : parseSignal (renderPortL p) = .ok p := by
  obtain ⟨⟨hne, hn⟩, hs⟩ := wfPort_iff.mp h
  obtain ⟨n, st, s⟩ := p
  simp only at hne hn hs
  have key : reSig (renderPortL ⟨n, st, s⟩) = some (n.toList, st, s.map String.toList) := by
    unfold reSig
    rw [renderPortL_eq]
    simp only
    have htail : ∀ (b : Bool),
        (alt (lit ['('] <| plus isName fun t => lit [')'] <| endZ (n.toList, b, some t)) (endZ (n.toList, b, none)))
          (portStructL s) = some (n.toList, b, s.map String.toList) := by
      intro b
      cases s with
      | none =>
        simp only [Option.map_none]
        rw [alt_right (by rfl)]
        rfl
      | some s =>
        obtain ⟨hsne, hsn⟩ := hs s rfl
        simp only [Option.map_some, portStructL]
        apply alt_left
        simp only [lit_cons_cons, if_true, lit_nil]
        apply plus_greedy hsne hsn (headNot_cons (by decide))
        simp
    have hhead : ∀ cls : Char → Bool, cls '(' = false → HeadNot cls (portStructL s) := by
      intro cls hcls
      cases s with
      | none => exact headNot_nil
      | some s => exact headNot_cons hcls
    exact nameStar_render hne hn st (hhead _ (by decide)) (hhead _ (by decide)) (by cases st; exact htail false; exact htail true)
  unfold parseSignal
  rw [key]
  cases s with
  | none => simp only [String.ofList_toList, Option.map_none]
  | some s => simp only [String.ofList_toList, Option.map_some]

theorem mapM_parseSignal_render (ports : List Port) (hw : ∀ p ∈ ports, wfPort p = true) :
    (ports.map renderPortL).mapM parseSignal = .ok ports := by
  rw [mapM_eq_ok_iff, List.map_map]
  exact List.map_congr_left fun p hp => parseSignal_render p (hw p hp)

theorem renderPort_piece {p : Port} (h : wfPort p = true) : PieceOk '+' (renderPortL p) := by
  refine .of_all (renderPort_ne h) ?_ (renderPort_chars h) (fun _ hc => portCh_notSp hc)
  intro hm
  exact ne_of_pred (renderPort_chars h _ hm) (by decide) rfl

theorem paramOk_iff {p : String} : paramOk p = true ↔ p.toList ≠ [] ∧ ∀ c ∈ p.toList, isSp c = false ∧ c ≠ ',' := by
  simp [paramOk]

theorem param_piece {p : String} (h : paramOk p = true) : PieceOk ',' p.toList := by
  obtain ⟨hne, hall⟩ := paramOk_iff.mp h
  exact .of_all (cls := fun c => !isSp c) hne (fun hm => (hall _ hm).2 rfl) (fun c hc => by simp [(hall c hc).1])
    (fun c hc => by simpa using hc)

theorem joinComma_notNl (hsp : SpOkL sp) (ps : List String) (hw : ∀ p ∈ ps, paramOk p = true) (i : Nat) :
    ∀ c ∈ joinComma sp i (ps.map String.toList), notNl c = true := by
  refine joinComma_all hsp (fun _ => blank_notNl) (by decide) (fun x hx c hc => ?_) i
  obtain ⟨p, hp, rfl⟩ := List.mem_map.mp hx
  exact notSp_notNl ((paramOk_iff.mp (hw p hp)).2 c hc).1

theorem joinPlus_io (hsp : SpOkL sp) (ports : List Port) (hw : ∀ p ∈ ports, wfPort p = true) (i : Nat) :
    ∀ c ∈ joinPlus sp i (ports.map renderPortL), isIOCh c = true := by
  refine joinPlus_all hsp (fun _ => blank_io) (by decide) (fun x hx c hc => ?_) i
  obtain ⟨p, hp, rfl⟩ := List.mem_map.mp hx
  exact portCh_io (renderPort_chars (hw p hp) c hc)

theorem suffix_of_split {c : Char} {t b1 b2 : Str} (e : c :: t = b1 ++ b2) (hb1 : b1 ≠ []) : b2 <:+ t := by
  cases b1 with
  | nil => exact absurd rfl hb1
  | cons x u => exact ⟨u, (List.cons.inj e).2.symm⟩

theorem decl_arrow_fail {α : Type} {k : K α} {c : Char} {Y : Str} (hY : '>' ∉ Y) {b1 b2 : Str}
    (e : c :: '-' :: '>' :: Y = b1 ++ b2) (hb1 : b1 ≠ []) : sp1 (lit ['-', '>'] k) b2 = none := by
  cases hres : sp1 (lit ['-', '>'] k) b2 with
  | none => rfl
  | some w =>
    exfalso
    obtain ⟨s, r, hs, hsne, hssp, hk⟩ := sp1_some hres
    obtain ⟨r', rfl, _⟩ := lit_some hk
    obtain ⟨y, s', rfl⟩ := List.exists_cons_of_ne_nil hsne
    have hy : isSp y = true := hssp y (by simp)
    -- a match starts with white space, so not at `-` or `>`: it lies behind them, and contains a `>`
    rcases List.suffix_cons_iff.mp (suffix_of_split e hb1) with h | h
    · rw [hs, List.cons_append] at h
      rw [(List.cons.inj h).1] at hy
      exact absurd hy (by decide)
    · rcases List.suffix_cons_iff.mp h with h | h
      · rw [hs, List.cons_append] at h
        rw [(List.cons.inj h).1] at hy
        exact absurd hy (by decide)
      · exact hY (h.subset (by rw [hs]; simp))

theorem decl_paren_fail {α : Type} {k : K α} {X : Str} (hX : ':' ∉ X) {b1 b2 : Str}
    (e : ')' :: ':' :: X = b1 ++ b2) (hb1 : b1 ≠ []) : lit [')'] (lit [':'] k) b2 = none := by
  cases hres : lit [')'] (lit [':'] k) b2 with
  | none => rfl
  | some w =>
    exfalso
    obtain ⟨r, hr, hk⟩ := lit_some hres
    obtain ⟨r', rfl, _⟩ := lit_some hk
    rcases List.suffix_cons_iff.mp (suffix_of_split e hb1) with h | h
    · rw [hr] at h
      exact absurd (List.cons.inj h).1 (by decide)
    · exact hX (h.subset (by rw [hr]; simp))

/-- `:(.*)\s+->(.*)\s*\Z` on the input/output part: the inputs group keeps the gaps around it except the last blank
    in front of the arrow, the outputs group keeps the gap in front of it -/
theorem declTail_render (hsp : SpOkL sp) (name : Str) (p : Option Str) (d : Decl)
    (hi : ∀ x ∈ d.inputs, wfPort x = true) (ho : ∀ x ∈ d.outputs, wfPort x = true) :
    declTail name p (declIOL sp d) =
      some (name, p, sp 2 ++ (joinPlus sp 10 (d.inputs.map renderPortL) ++ (sp 3).dropLast),
        sp 4 ++ joinPlus sp 50 (d.outputs.map renderPortL)) := by
  have hJi := joinPlus_io hsp d.inputs hi 10
  have hJo := joinPlus_io hsp d.outputs ho 50
  have hY : ∀ x ∈ sp 4 ++ joinPlus sp 50 (d.outputs.map renderPortL), isIOCh x = true := by
    intro x hx
    rcases List.mem_append.mp hx with hx | hx
    · exact blank_io (hsp.blank 4 x hx)
    · exact hJo x hx
  obtain ⟨c, hsplit, hc, hdl⟩ := hsp.eq_dropLast_concat 3
  unfold declTail
  simp only [declIOL, lit_cons_cons, if_true, lit_nil]
  generalize (sp 3).dropLast = A at hsplit hdl ⊢
  rw [hsplit]
  have hassoc : sp 2 ++ (joinPlus sp 10 (d.inputs.map renderPortL) ++ ((A ++ [c]) ++
        ('-' :: '>' :: (sp 4 ++ joinPlus sp 50 (d.outputs.map renderPortL))))) =
      (sp 2 ++ (joinPlus sp 10 (d.inputs.map renderPortL) ++ A)) ++
        ((c :: '-' :: '>' :: (sp 4 ++ joinPlus sp 50 (d.outputs.map renderPortL))) ++ []) := by simp
  rw [hassoc]
  apply star_first (pre := [])
  · intro x hx
    simp only [List.mem_append] at hx
    rcases hx with hx | hx | hx
    · exact blank_notNl (hsp.blank 2 x hx)
    · exact ioCh_notNl (hJi x hx)
    · exact blank_notNl (hdl x hx)
  · intro x hx
    simp only [List.mem_cons] at hx
    rcases hx with rfl | rfl | rfl | hx
    · exact blank_notNl hc
    · decide
    · decide
    · exact ioCh_notNl (hY x hx)
  · exact headNot_nil
  · intro b1 b2 e hb1
    simp only [List.append_nil]
    exact decl_arrow_fail (fun hm => ne_of_pred (hY _ hm) (by decide) rfl) e hb1
  · simp only [List.nil_append, List.append_nil]
    apply sp1_blank hc (headNot_cons (by decide))
    simp only [lit_cons_cons, if_true, lit_nil]
    exact star_all (fun x hx => ioCh_notNl (hY x hx)) (endZ_nil _)

/-- the captured parameter text -/
def declParOpt (sp : Nat → Str) (ps : List String) : Option Str :=
  if ps.isEmpty then none else some (joinComma sp 5 (ps.map String.toList))

theorem declIOL_chars (hsp : SpOkL sp) (d : Decl)
    (hi : ∀ x ∈ d.inputs, wfPort x = true) (ho : ∀ x ∈ d.outputs, wfPort x = true) :
    ∃ X, declIOL sp d = ':' :: X ∧ ∀ c ∈ X, isIOCh c = true ∨ c = '>' := by
  refine ⟨_, rfl, ?_⟩
  intro c hc
  simp only [List.mem_cons, List.mem_append] at hc
  rcases hc with hc | hc | hc | rfl | rfl | hc | hc
  · exact Or.inl (blank_io (hsp.blank 2 c hc))
  · exact Or.inl (joinPlus_io hsp d.inputs hi 10 c hc)
  · exact Or.inl (blank_io (hsp.blank 3 c hc))
  · exact Or.inl (by decide)
  · exact Or.inr rfl
  · exact Or.inl (blank_io (hsp.blank 4 c hc))
  · exact Or.inl (joinPlus_io hsp d.outputs ho 50 c hc)

theorem wfDecl_iff {d : Decl} : wfDecl d = true ↔
    nameOk d.name = true ∧ (∀ p ∈ d.params, paramOk p = true) ∧ (∀ x ∈ d.inputs, wfPort x = true) ∧
      ∀ x ∈ d.outputs, wfPort x = true := by
  simp [wfDecl, and_assoc]

theorem reDecl_render (hsp : SpOkL sp) (d : Decl) (h : wfDecl d = true) :
    reDecl (renderDeclL sp d) =
      some (d.name.toList, declParOpt sp d.params,
        sp 2 ++ (joinPlus sp 10 (d.inputs.map renderPortL) ++ (sp 3).dropLast),
        sp 4 ++ joinPlus sp 50 (d.outputs.map renderPortL)) := by
  obtain ⟨hn, hp, hi, ho⟩ := wfDecl_iff.mp h
  obtain ⟨hnne, hnall⟩ := nameOkL_iff.mp hn
  unfold reDecl
  simp only [renderDeclL]
  rw [lit_append]
  apply hsp.sp1 0 (by exact headNot_cons (by decide))
  rw [lit_append]
  apply hsp.sp1 1 (name_headNot_sp hnne hnall _)
  cases hps : d.params with
  | nil =>
    have e1 : declParL sp [] = [] := rfl
    have e2 : declParOpt sp [] = none := rfl
    rw [e1, e2, List.nil_append]
    apply plus_greedy hnne hnall (by exact headNot_cons (by decide))
    rw [alt_right (lit_none_head (by exact headNot_cons (by decide)))]
    exact declTail_render hsp _ _ d hi ho
  | cons q qs =>
    have e1 : declParL sp (q :: qs) = '(' :: (joinComma sp 5 ((q :: qs).map String.toList) ++ [')']) := rfl
    have e2 : declParOpt sp (q :: qs) = some (joinComma sp 5 ((q :: qs).map String.toList)) := rfl
    rw [e1, e2]
    apply plus_greedy hnne hnall (by exact headNot_cons (by decide))
    apply alt_left
    simp only [List.cons_append, lit_cons_cons, if_true, lit_nil]
    have hassoc : joinComma sp 5 ((q :: qs).map String.toList) ++ [')'] ++ declIOL sp d =
        joinComma sp 5 ((q :: qs).map String.toList) ++ ((')' :: declIOL sp d) ++ []) := by simp
    rw [hassoc]
    obtain ⟨X, hX, hXc⟩ := declIOL_chars hsp d hi ho
    apply star_first (pre := [])
    · exact joinComma_notNl hsp (q :: qs) (by rw [← hps]; exact hp) 5
    · intro x hx
      rw [hX] at hx
      simp only [List.mem_cons] at hx
      rcases hx with rfl | rfl | hx
      · decide
      · decide
      · rcases hXc x hx with h | rfl
        · exact ioCh_notNl h
        · decide
    · exact headNot_nil
    · intro b1 b2 e hb1
      simp only [List.append_nil]
      rw [hX] at e
      unfold declTail
      refine decl_paren_fail (fun hm => ?_) e hb1
      rcases hXc _ hm with h | h
      · exact ne_of_pred h (by decide) rfl
      · exact absurd h (by decide)
    · simp only [List.nil_append, List.append_nil, lit_cons_cons, if_true, lit_nil]
      exact declTail_render hsp _ _ d hi ho

theorem parseDeclareL_render (hsp : SpOkL sp) (d : Decl) (h : wfDecl d = true) :
    parseDeclareL (renderDeclL sp d) = .ok d := by
  obtain ⟨hn, hp, hi, ho⟩ := wfDecl_iff.mp h
  obtain ⟨name, params, inputs, outputs⟩ := d
  simp only at hn hp hi ho
  have hdl : ∀ y ∈ (sp 3).dropLast, isSp y = true := by
    obtain ⟨_, _, _, hd⟩ := hsp.eq_dropLast_concat 3
    exact fun y hy => blank_isSp (hd y hy)
  have hins : splitStripNonEmpty '+' (sp 2 ++ (joinPlus sp 10 (inputs.map renderPortL) ++ (sp 3).dropLast)) =
      inputs.map renderPortL :=
    splitStripNonEmpty_joinPlus hsp _ (by
      intro x hx
      obtain ⟨p, hp, rfl⟩ := List.mem_map.mp hx
      exact renderPort_piece (hi p hp)) 10 _ _ (hsp.sp 2) hdl
  have houts : splitStripNonEmpty '+' (sp 4 ++ joinPlus sp 50 (outputs.map renderPortL)) =
      outputs.map renderPortL := by
    have := splitStripNonEmpty_joinPlus hsp (outputs.map renderPortL) (by
      intro x hx
      obtain ⟨p, hp, rfl⟩ := List.mem_map.mp hx
      exact renderPort_piece (ho p hp)) 50 (sp 4) [] (hsp.sp 4) (by simp)
    simpa using this
  unfold parseDeclareL
  rw [reDecl_render hsp _ h]
  simp only
  rw [hins, houts, mapM_parseSignal_render _ hi, mapM_parseSignal_render _ ho]
  simp only [String.ofList_toList]
  cases params with
  | nil => rfl
  | cons q qs =>
    have e2 : declParOpt sp (q :: qs) = some (joinComma sp 5 ((q :: qs).map String.toList)) := rfl
    rw [e2]
    simp only
    have hpieces : ∀ x ∈ (q :: qs).map String.toList, PieceOk ',' x := by
      intro x hx
      obtain ⟨p, hpm, rfl⟩ := List.mem_map.mp hx
      exact param_piece (hp p hpm)
    have := splitStrip_joinComma hsp (qs.map String.toList) q.toList 5 [] [] (by simp) (by simp) hpieces
    simp only [List.nil_append, List.append_nil] at this
    unfold splitStripNonEmpty
    rw [List.map_cons, this, ← List.map_cons, filter_pieces hpieces, map_ofList_toList]

end Pepper.ParseComp
