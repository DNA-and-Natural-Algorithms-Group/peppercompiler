import PepperProofs.ParseCompChars
/-!
# `parse_render` for `kinetic` statements
-/
namespace Pepper.ParseComp
open Pepper.Comp

variable {sp : Nat → Str}

theorem joinPlus_names_headNot {cls : Char → Bool} (hcls : ∀ c, isName c = true → cls c = false)
    {names : List Str} (hne : names ≠ []) (hn : ∀ n ∈ names, nameOkL n = true) (i : Nat) (rest : Str) :
    HeadNot cls (joinPlus sp i names ++ rest) := by
  obtain ⟨a, r, rfl⟩ := List.exists_cons_of_ne_nil hne
  obtain ⟨t, ht⟩ := joinPlus_cons sp i a r
  obtain ⟨hane, ha⟩ := nameOkL_iff.mp (hn a (by simp))
  rw [ht, List.append_assoc]
  exact headNot_append hane (headNot_of_all ha hcls)

theorem joinPlus_names_all {P : Char → Prop} (hsp : SpOkL sp) (hb : ∀ c, isBlank c = true → P c) (hplus : P '+')
    (hname : ∀ c, isName c = true → P c) {names : List Str} (hn : ∀ n ∈ names, nameOkL n = true) (i : Nat) :
    ∀ c ∈ joinPlus sp i names, P c :=
  joinPlus_all hsp hb hplus (fun y hy c hc => hname c ((nameOkL_iff.mp (hn y hy)).2 c hc)) i

theorem kin_split_ins (hsp : SpOkL sp) (names : List Str) (hn : ∀ n ∈ names, nameOkL n = true) (i : Nat)
    (trail : Str) (htr : ∀ c ∈ trail, isBlank c = true) : splitStripNonEmpty '+' (joinPlus sp i names ++ trail) = names :=
  splitStripNonEmpty_joinPlus hsp names (fun x hx => name_piece (by decide) (hn x hx)) i [] trail (fun _ h => nomatch h)
    (fun c hc => blank_isSp (htr c hc))

theorem kin_split_outs (hsp : SpOkL sp) (names : List Str) (hn : ∀ n ∈ names, nameOkL n = true) (i : Nat) :
    splitStripNonEmpty '+' (joinPlus sp i names) = names := by
  simpa using kin_split_ins hsp names hn i [] (fun _ h => nomatch h)

def kBodyL (sp : Nat → Str) (op : Char) (num : Str) : Str :=
  'k' :: (sp 4 ++ (op :: (sp 5 ++ (num ++ (sp 6 ++ sPerMs)))))

theorem kCmpL_eq (sp : Nat → Str) (op : Char) (num : Str) : kCmpL sp op num = kBodyL sp op num ++ [']'] := by
  simp [kCmpL, kBodyL, sPerMsB, sPerMs]

/-- the text between the brackets -/
def kinTextL (sp : Nat → Str) : Option String → Option String → Str
  | none, none => []
  | some l, none => kBodyL sp '>' l.toList
  | none, some h => kBodyL sp '<' h.toList
  | some l, some h => l.toList ++ (sp 7 ++ (sPerMs ++ (sp 8 ++ ('<' :: (sp 9 ++ kBodyL sp '<' h.toList)))))

theorem kinParL_eq (sp : Nat → Str) (lo hi : Option String) (hne : ¬ (lo = none ∧ hi = none)) (T : Str) :
    kinParL sp lo hi ++ T = sp 0 ++ ('[' :: (kinTextL sp lo hi ++ (']' :: T))) := by
  cases lo <;> cases hi <;> simp [kinParL, kinTextL, kCmpL_eq] at hne ⊢

theorem kBodyL_notBr (hsp : SpOkL sp) {op : Char} (hop : notBr op = true) {num : Str}
    (hnum : ∀ c ∈ num, isKNum c = true) : ∀ c ∈ kBodyL sp op num, notBr c = true := by
  intro c hc
  simp only [kBodyL, List.mem_cons, List.mem_append] at hc
  rcases hc with rfl | hc | rfl | hc | hc | hc | hc
  · decide
  · exact blank_notBr (hsp.blank 4 c hc)
  · exact hop
  · exact blank_notBr (hsp.blank 5 c hc)
  · exact knum_notBr (hnum c hc)
  · exact blank_notBr (hsp.blank 6 c hc)
  · exact (by decide : ∀ c ∈ sPerMs, notBr c = true) c hc

theorem kinTextL_notBr (hsp : SpOkL sp) (lo hi : Option String) (hlo : optNumOk isKNum lo = true)
    (hhi : optNumOk isKNum hi = true) : ∀ c ∈ kinTextL sp lo hi, notBr c = true := by
  cases lo with
  | none =>
    cases hi with
    | none => simp [kinTextL]
    | some h => exact kBodyL_notBr hsp (by decide) (numOk_parts hhi).2.1
  | some l =>
    cases hi with
    | none => exact kBodyL_notBr hsp (by decide) (numOk_parts hlo).2.1
    | some h =>
      intro c hc
      simp only [kinTextL, List.mem_cons, List.mem_append] at hc
      rcases hc with hc | hc | hc | hc | rfl | hc | hc
      · exact knum_notBr ((numOk_parts hlo).2.1 c hc)
      · exact blank_notBr (hsp.blank 7 c hc)
      · exact (by decide : ∀ c ∈ sPerMs, notBr c = true) c hc
      · exact blank_notBr (hsp.blank 8 c hc)
      · decide
      · exact blank_notBr (hsp.blank 9 c hc)
      · exact kBodyL_notBr hsp (by decide) (numOk_parts hhi).2.1 c hc

theorem kinTextL_ne_nil (sp : Nat → Str) (lo hi : Option String) (hne : ¬ (lo = none ∧ hi = none)) :
    kinTextL sp lo hi ≠ [] := by
  cases lo <;> cases hi <;> simp [kinTextL, kBodyL, sPerMs] at hne ⊢

/-- `\s+([\deE.]+)\s+/M/s\s*\Z` -/
theorem kin_numTail {α : Type} (hsp : SpOkL sp) {num : Str} (hne : num ≠ [])
    (hnum : ∀ c ∈ num, isKNum c = true) (f : Str → α) :
    (sp1 <| plus isKNum fun x => sp1 <| lit sPerMs <| endZ (f x)) (sp 5 ++ (num ++ (sp 6 ++ sPerMs))) = some (f num) := by
  apply hsp.sp1 5 (headNot_append hne (headNot_of_all hnum (fun _ h => knum_notSp h)))
  apply plus_greedy hne hnum (hsp.headNot 6 (fun c hc => blank_notKNum hc) _)
  apply hsp.sp1 6 (by exact headNot_cons (by decide))
  have := lit_append sPerMs (endZ (f num)) []
  rw [List.append_nil] at this
  rw [this]
  rfl

theorem kp1Tail_render (hsp : SpOkL sp) (low : Option Str) {num : Str} (hne : num ≠ [])
    (hnum : ∀ c ∈ num, isKNum c = true) : kp1Tail low (kBodyL sp '<' num) = some (low, num) := by
  unfold kp1Tail kBodyL
  simp only [lit_cons_cons, if_true, lit_nil]
  apply hsp.sp1 4 (headNot_cons (by decide))
  simp only [lit_cons_cons, if_true, lit_nil]
  exact kin_numTail hsp hne hnum (fun high => (low, high))

theorem kp1Tail_gt (hsp : SpOkL sp) (low : Option Str) (num : Str) :
    kp1Tail low (kBodyL sp '>' num) = none := by
  unfold kp1Tail kBodyL
  simp only [lit_cons_cons, if_true, lit_nil]
  exact sp1_lit_none (by decide) (hsp.sp 4) (headNot_cons (by decide)) (headNot_cons (by decide))

theorem reKp1_body_lt (hsp : SpOkL sp) {num : Str} (hne : num ≠ [])
    (hnum : ∀ c ∈ num, isKNum c = true) : reKp1 (kBodyL sp '<' num) = some (none, num) := by
  unfold reKp1
  rw [alt_right (plus_none_head (by unfold kBodyL; exact headNot_cons (by decide)))]
  exact kp1Tail_render hsp none hne hnum

theorem reKp1_body_gt (hsp : SpOkL sp) (num : Str) : reKp1 (kBodyL sp '>' num) = none := by
  unfold reKp1
  rw [alt_right (plus_none_head (by unfold kBodyL; exact headNot_cons (by decide)))]
  exact kp1Tail_gt hsp none num

theorem reKp2_body_gt (hsp : SpOkL sp) {num : Str} (hne : num ≠ [])
    (hnum : ∀ c ∈ num, isKNum c = true) : reKp2 (kBodyL sp '>' num) = some num := by
  unfold reKp2 kBodyL
  simp only [lit_cons_cons, if_true, lit_nil]
  apply hsp.sp1 4 (headNot_cons (by decide))
  simp only [lit_cons_cons, if_true, lit_nil]
  exact kin_numTail hsp hne hnum (fun low => low)

theorem reKp1_both (hsp : SpOkL sp) {l h : Str} (hlne : l ≠ []) (hl : ∀ c ∈ l, isKNum c = true)
    (hhne : h ≠ []) (hh : ∀ c ∈ h, isKNum c = true) :
    reKp1 (l ++ (sp 7 ++ (sPerMs ++ (sp 8 ++ ('<' :: (sp 9 ++ kBodyL sp '<' h)))))) = some (some l, h) := by
  unfold reKp1
  apply alt_left
  apply plus_greedy hlne hl (hsp.headNot 7 (fun c hc => blank_notKNum hc) _)
  apply hsp.sp1 7 (by exact headNot_cons (by decide))
  rw [lit_append]
  apply hsp.sp1 8 (headNot_cons (by decide))
  simp only [lit_cons_cons, if_true, lit_nil]
  apply hsp.sp1 9 (by unfold kBodyL; exact headNot_cons (by decide))
  exact kp1Tail_render hsp (some l) hhne hh

theorem parseKinParams_render (hsp : SpOkL sp) (lo hi : Option String) (hlo : optNumOk isKNum lo = true)
    (hhi : optNumOk isKNum hi = true) (hne : ¬ (lo = none ∧ hi = none)) :
    parseKinParams (kinTextL sp lo hi) = .ok (lo, hi) := by
  cases lo with
  | none =>
    cases hi with
    | none => exact absurd ⟨rfl, rfl⟩ hne
    | some h =>
      obtain ⟨h1, h2, h3⟩ := numOk_parts hhi
      unfold parseKinParams
      simp only [kinTextL]
      rw [reKp1_body_lt hsp h1 h2]
      simp only [h3, Bool.and_self, if_true, Option.map_none, String.ofList_toList]
  | some l =>
    obtain ⟨l1, l2, l3⟩ := numOk_parts hlo
    cases hi with
    | none =>
      unfold parseKinParams
      simp only [kinTextL]
      rw [reKp1_body_gt hsp, reKp2_body_gt hsp l1 l2]
      simp only [l3, if_true, String.ofList_toList]
    | some h =>
      obtain ⟨h1, h2, h3⟩ := numOk_parts hhi
      unfold parseKinParams
      simp only [kinTextL]
      rw [reKp1_both hsp l1 l2 h1 h2]
      simp only [l3, h3, Bool.and_self, if_true, Option.map_some, String.ofList_toList]

def kinIOL (sp : Nat → Str) (ins outs : List Str) : Str :=
  sp 1 ++ (joinPlus sp 10 ins ++ (sp 2 ++ ('-' :: '>' :: (sp 3 ++ joinPlus sp 40 outs))))

theorem kinTail_render (hsp : SpOkL sp) (p : Option Str) (ins outs : List Str)
    (hine : ins ≠ []) (hin : ∀ n ∈ ins, nameOkL n = true) (hone : outs ≠ []) (hon : ∀ n ∈ outs, nameOkL n = true) :
    kinTail p (kinIOL sp ins outs) = some (p, joinPlus sp 10 ins ++ (sp 2).dropLast, joinPlus sp 40 outs) := by
  obtain ⟨c, hsplit, hc, hdl⟩ := hsp.eq_dropLast_concat 2
  generalize (sp 2).dropLast = D at hsplit hdl ⊢
  unfold kinTail kinIOL
  apply hsp.sp1 1 (joinPlus_names_headNot (fun _ h => name_notSp h) hine hin 10 _)
  have hassoc : joinPlus sp 10 ins ++ (sp 2 ++ ('-' :: '>' :: (sp 3 ++ joinPlus sp 40 outs))) =
      (joinPlus sp 10 ins ++ D) ++ ([c, '-'] ++ ('>' :: (sp 3 ++ joinPlus sp 40 outs))) := by
    rw [hsplit]
    simp
  rw [hassoc]
  apply star_first
  · intro x hx
    rcases List.mem_append.mp hx with hx | hx
    · exact joinPlus_names_all hsp (fun _ => blank_notBrGt) (by decide) (fun _ => name_notBrGt) hin 10 x hx
    · exact blank_notBrGt (hdl x hx)
  · intro x hx
    simp only [List.mem_cons, List.not_mem_nil, or_false] at hx
    rcases hx with rfl | rfl
    · exact blank_notBrGt hc
    · decide
  · exact headNot_cons (by decide)
  · intro b1 b2 e hb1
    have hb2 : HeadNot isSp (b2 ++ '>' :: (sp 3 ++ joinPlus sp 40 outs)) :=
      headNot_split_pair e hb1 (by decide) (headNot_cons (by decide))
    exact sp1_none_head hb2
  · apply sp1_blank hc (headNot_cons (by decide))
    simp only [lit_cons_cons, if_true]
    apply hsp.sp1 3 (by
      simpa using joinPlus_names_headNot (fun _ h => name_notSp h) hone hon 40 [])
    exact star_all (joinPlus_names_all hsp (fun _ => blank_notNl) (by decide) (fun _ => name_notNl) hon 40) (endZ_nil _)

theorem reKin_render_plain (hsp : SpOkL sp) (ins outs : List Str)
    (hine : ins ≠ []) (hin : ∀ n ∈ ins, nameOkL n = true) (hone : outs ≠ []) (hon : ∀ n ∈ outs, nameOkL n = true) :
    reKin (sKinetic ++ kinIOL sp ins outs) = some (none, joinPlus sp 10 ins ++ (sp 2).dropLast, joinPlus sp 40 outs) := by
  unfold reKin
  rw [lit_append, alt_right]
  · exact kinTail_render hsp none ins outs hine hin hone hon
  · unfold kinIOL
    exact sp1_lit_none (by decide) (hsp.sp 1) (joinPlus_names_headNot (fun _ h => name_notSp h) hine hin 10 _)
      (joinPlus_names_headNot (fun c h => by simpa using ne_of_pred h (by decide)) hine hin 10 _)

theorem reKin_render_bracket (hsp : SpOkL sp) (P : Str) (hP : ∀ c ∈ P, notBr c = true) (ins outs : List Str)
    (hine : ins ≠ []) (hin : ∀ n ∈ ins, nameOkL n = true) (hone : outs ≠ []) (hon : ∀ n ∈ outs, nameOkL n = true) :
    reKin (sKinetic ++ (sp 0 ++ ('[' :: (P ++ (']' :: kinIOL sp ins outs))))) =
      some (some P, joinPlus sp 10 ins ++ (sp 2).dropLast, joinPlus sp 40 outs) := by
  unfold reKin
  rw [lit_append]
  apply alt_left
  apply hsp.sp1 0 (headNot_cons (by decide))
  simp only [lit_cons_cons, if_true, lit_nil]
  apply star_greedy hP (headNot_cons (by decide))
  simp only [List.nil_append, lit_cons_cons, if_true, lit_nil]
  exact kinTail_render hsp (some P) ins outs hine hin hone hon

theorem renderStmtL_kinetic (sp : Nat → Str) (lo hi : Option String) (ins outs : List String) :
    renderStmtL sp (.kinetic lo hi ins outs) =
      sKinetic ++ (kinParL sp lo hi ++ kinIOL sp (ins.map String.toList) (outs.map String.toList)) := rfl

theorem wfStmt_kinetic {lo hi : Option String} {ins outs : List String} (h : wfStmt (.kinetic lo hi ins outs) = true) :
    optNumOk isKNum lo = true ∧ optNumOk isKNum hi = true ∧
      ins.map String.toList ≠ [] ∧ (∀ n ∈ ins.map String.toList, nameOkL n = true) ∧
      outs.map String.toList ≠ [] ∧ (∀ n ∈ outs.map String.toList, nameOkL n = true) := by
  have h : (optNumOk isKNum lo && optNumOk isKNum hi && !ins.isEmpty && ins.all nameOk && !outs.isEmpty && outs.all nameOk) = true := h
  simp only [Bool.and_eq_true, Bool.not_eq_true', List.isEmpty_eq_false_iff, List.all_eq_true] at h
  obtain ⟨⟨⟨⟨⟨hlo, hhi⟩, hine⟩, hin⟩, hone⟩, hon⟩ := h
  exact ⟨hlo, hhi, by simpa using hine, List.forall_mem_map.mpr hin, by simpa using hone, List.forall_mem_map.mpr hon⟩

theorem parseKin_render (hsp : SpOkL sp) (lo hi : Option String) (ins outs : List String)
    (h : wfStmt (.kinetic lo hi ins outs) = true) :
    parseKin (renderStmtL sp (.kinetic lo hi ins outs)) = .ok (.kinetic lo hi ins outs) := by
  obtain ⟨hlo, hhi, hine, hin, hone, hon⟩ := wfStmt_kinetic h
  obtain ⟨_, _, _, hdl⟩ := hsp.eq_dropLast_concat 2
  rw [renderStmtL_kinetic]
  unfold parseKin
  by_cases hnn : lo = none ∧ hi = none
  · obtain ⟨rfl, rfl⟩ := hnn
    simp only [kinParL, List.nil_append]
    rw [reKin_render_plain hsp _ _ hine hin hone hon]
    simp only
    rw [kin_split_ins hsp _ hin 10 _ hdl, kin_split_outs hsp _ hon 40, map_ofList_toList, map_ofList_toList]
  · rw [kinParL_eq sp lo hi hnn, reKin_render_bracket hsp _ (kinTextL_notBr hsp lo hi hlo hhi) _ _ hine hin hone hon]
    simp only
    rw [kin_split_ins hsp _ hin 10 _ hdl, kin_split_outs hsp _ hon 40, map_ofList_toList, map_ofList_toList]
    have hP := kinTextL_ne_nil sp lo hi hnn
    rw [if_neg (by simpa using hP), parseKinParams_render hsp lo hi hlo hhi hnn]

theorem parseLineL_kinetic (hsp : SpOkL sp) (lo hi : Option String) (ins outs : List String)
    (h : wfStmt (.kinetic lo hi ins outs) = true) :
    parseLineL (renderStmtL sp (.kinetic lo hi ins outs)) = .ok (.kinetic lo hi ins outs) := by
  have hfw : firstWord (renderStmtL sp (.kinetic lo hi ins outs)) = some sKinetic := by
    rw [renderStmtL_kinetic]
    apply firstWord_kw (by decide) (by decide)
    by_cases hnn : lo = none ∧ hi = none
    · obtain ⟨rfl, rfl⟩ := hnn
      simp only [kinParL, List.nil_append, kinIOL]
      exact hsp.headNot_nsp 1 _
    · rw [kinParL_eq sp lo hi hnn]
      exact hsp.headNot_nsp 0 _
  have hpk := parseKin_render hsp lo hi ins outs h
  unfold parseLineL
  rw [hfw]
  simp only
  rw [if_neg (by decide), if_neg (by decide), if_neg (by decide), if_neg (by decide), if_neg (by decide), if_pos trivial]
  exact hpk

end Pepper.ParseComp
