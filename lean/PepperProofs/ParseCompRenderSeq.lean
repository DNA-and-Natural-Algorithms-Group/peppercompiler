import PepperProofs.ParseCompRenderCons
/-!
# `parse_render` for `sequence` and `strand` statements
-/
namespace Pepper.ParseComp
open Pepper.Comp

variable {sp : Nat → Str}

/-- a class run swallows a gap and gives its last blank back to a continuation that needs one -/
theorem SpOkL.plus_giveback (hsp : SpOkL sp) (i : Nat) {α : Type} {cls : Char → Bool} {k : Str → K α}
    {X rest : Str} {v : α} (hne : X ≠ []) (hX : ∀ c ∈ X, cls c = true) (hb : ∀ c, isBlank c = true → cls c = true)
    (hrest : HeadNot cls rest) (hfail : k (X ++ sp i) rest = none)
    (h : ∀ c, isBlank c = true → k (X ++ (sp i).dropLast) (c :: rest) = some v) :
    plus cls k (X ++ (sp i ++ rest)) = some v := by
  obtain ⟨c, hsplit, hc, hdl⟩ := hsp.eq_dropLast_concat i
  have e : X ++ (sp i ++ rest) = (X ++ (sp i).dropLast) ++ ([c] ++ rest) := by
    conv => lhs; rw [hsplit]
    simp
  rw [e]
  apply plus_first (by simp [hne]) _ _ hrest _ (h c hc)
  · intro x hx
    rcases List.mem_append.mp hx with hx | hx
    · exact hX x hx
    · exact hb x (hdl x hx)
  · intro x hx
    rw [List.mem_singleton.mp hx]
    exact hb c hc
  · intro b1 b2 e' hb1
    have hb2 := split_singleton e' hb1
    subst hb2
    rw [List.append_nil] at e'
    rw [← e', List.append_assoc, ← hsplit]
    exact hfail

theorem name_headNot_sp {n : Str} (hne : n ≠ []) (hall : ∀ c ∈ n, isName c = true) (rest : Str) : HeadNot isSp (n ++ rest) :=
  headNot_append hne (headNot_of_all hall (fun _ h => name_notSp h))

theorem renderItem_notColon {it : SrcItem} (hw : wfItem it = true) : ∀ c ∈ renderItemL it, notColon c = true := by
  cases it with
  | nuc t =>
    intro c hc
    simp only [renderItemL, List.mem_cons, List.mem_append, List.not_mem_nil, or_false] at hc
    rcases hc with rfl | hc | rfl
    · decide
    · exact body_notColon ((wfItem_nuc.mp hw).2 c hc)
    · decide
  | ref n st =>
    obtain ⟨_, hall⟩ := nameOkL_iff.mp hw
    intro c hc
    simp only [renderItemL, List.mem_append] at hc
    rcases hc with hc | hc
    · exact name_notColon (hall c hc)
    · cases st <;> simp [starL] at hc
      subst hc; decide
  | domains n st =>
    obtain ⟨_, hall⟩ := nameOkL_iff.mp hw
    intro c hc
    simp only [renderItemL, domainsLit, List.mem_append, List.mem_cons, List.not_mem_nil, or_false] at hc
    rcases hc with hc | hc | hc | rfl
    · rcases hc with rfl | rfl | rfl | rfl | rfl | rfl | rfl | rfl <;> decide
    · exact name_notColon (hall c hc)
    · cases st <;> simp [starL] at hc
      subst hc; decide
    · decide

/-- what `[^:]+` captures beyond the items: the gap in front of `:` without its last character -/
def trailOf (sp : Nat → Str) : Option Nat → Str
  | none => []
  | some _ => (sp 3).dropLast

theorem trailOf_blank (hsp : SpOkL sp) (len : Option Nat) : ∀ c ∈ trailOf sp len, isBlank c = true := by
  cases len with
  | none => simp [trailOf]
  | some n =>
    obtain ⟨_, _, _, h⟩ := hsp.eq_dropLast_concat 3
    exact h

theorem lenTail_render {α : Type} (hsp : SpOkL sp) (g : Str → Option Str → α) {X : Str} (hne : X ≠ [])
    (hX : ∀ c ∈ X, notColon c = true) (len : Option Nat) :
    plus notColon (fun cons => lenTail (g cons)) (X ++ lenPartL sp len) =
      some (g (X ++ trailOf sp len) (len.map (fun n => (Nat.repr n).toList))) := by
  cases len with
  | none =>
    simp only [lenPartL, trailOf, List.append_nil, Option.map_none]
    apply plus_all hne hX
    unfold lenTail
    rw [alt_right (sp1_none_head headNot_nil)]
    rfl
  | some n =>
    simp only [lenPartL, trailOf, Option.map_some]
    apply hsp.plus_giveback 3 hne hX (fun _ => blank_notColon) (headNot_cons (by decide))
    · unfold lenTail
      exact alt_none (sp1_none_head (headNot_cons (by decide))) (endZ_none_head _ (by decide))
    · intro c hc
      unfold lenTail
      apply alt_left
      apply sp1_blank hc (headNot_cons (by decide))
      simp only [lit_cons_cons, if_true, lit_nil]
      apply hsp.sp1 4 (headNot_of_all (toString_nat_spec n).2 (fun c hc => dig_notSp hc))
      exact plus_all (toString_nat_spec n).1 (toString_nat_spec n).2 (endZ_nil _)

/-- `([\w-]+)\s+=\s+([^:]+)(\s+:\s+(\d+))?\s*\Z` -/
theorem nameEq_render {α : Type} (hsp : SpOkL sp) (g : Str → Str → Option Str → α) (j : Nat) {n : Str}
    (hn : nameOkL n = true) {items : List SrcItem} (hne : items ≠ []) (hw : ∀ x ∈ items, wfItem x = true) (len : Option Nat) :
    (plus isName fun name => sp1 <| lit ['='] <| sp1 <| plus notColon fun cons => lenTail fun len => g name cons len)
      (n ++ (sp 1 ++ ('=' :: (sp 2 ++ (joinSp sp j (items.map renderItemL) ++ lenPartL sp len))))) =
    some (g n (joinSp sp j (items.map renderItemL) ++ trailOf sp len) (len.map (fun n => (Nat.repr n).toList))) := by
  obtain ⟨hnne, hnall⟩ := nameOkL_iff.mp hn
  obtain ⟨it, r, rfl⟩ := List.exists_cons_of_ne_nil hne
  obtain ⟨t, ht⟩ := joinSp_cons sp j (renderItemL it) (r.map renderItemL)
  obtain ⟨c, r', hc, _⟩ := render_head (hw it (by simp))
  apply plus_greedy hnne hnall (hsp.headNot 1 (fun c hc => blank_notName hc) _)
  apply hsp.sp1 1 (headNot_cons (by decide))
  simp only [lit_cons_cons, if_true, lit_nil]
  apply hsp.sp1 2
  · rw [List.map_cons, ht, List.append_assoc]
    exact render_headNot_sp (hw it (by simp)) _
  · refine lenTail_render hsp (g n) (by rw [List.map_cons, ht, hc]; simp) ?_ len
    refine joinSp_all hsp (fun _ => blank_notColon) (fun x hx => ?_) j
    obtain ⟨y, hy, rfl⟩ := List.mem_map.mp hx
    exact renderItem_notColon (hw y hy)

theorem reSeq_render (hsp : SpOkL sp) (n : String) (items : List SrcItem) (len : Option Nat)
    (hn : nameOk n = true) (hne : items ≠ []) (hw : ∀ x ∈ items, wfItem x = true) :
    reSeq (renderStmtL sp (.seq n items len)) =
      some (n.toList, joinSp sp 5 (items.map renderItemL) ++ trailOf sp len, len.map (fun n => (Nat.repr n).toList)) := by
  obtain ⟨hnne, hnall⟩ := nameOkL_iff.mp hn
  unfold reSeq
  simp only [renderStmtL]
  rw [lit_append]
  apply hsp.sp1 0 (name_headNot_sp hnne hnall _)
  exact nameEq_render hsp (fun name cons len => (name, cons, len)) 5 hn hne hw len

theorem reStrand_render (hsp : SpOkL sp) (d : Bool) (n : String) (items : List SrcItem) (len : Option Nat)
    (hn : nameOk n = true) (hne : items ≠ []) (hw : ∀ x ∈ items, wfItem x = true) :
    reStrand (renderStmtL sp (.strand d n items len)) =
      some (d, n.toList, joinSp sp 7 (items.map renderItemL) ++ trailOf sp len, len.map (fun n => (Nat.repr n).toList)) := by
  obtain ⟨hnne, hnall⟩ := nameOkL_iff.mp hn
  unfold reStrand
  simp only [renderStmtL]
  rw [lit_append]
  cases d with
  | true =>
    simp only [if_true, List.append_assoc]
    apply hsp.sp1 0 (by exact headNot_cons (by decide))
    apply alt_left
    rw [lit_append]
    apply hsp.sp1 6 (name_headNot_sp hnne hnall _)
    exact nameEq_render hsp (fun name cons len => (true, name, cons, len)) 7 hn hne hw len
  | false =>
    simp only [Bool.false_eq_true, if_false, List.nil_append]
    apply hsp.sp1 0 (name_headNot_sp hnne hnall _)
    rw [alt_right]
    · exact nameEq_render hsp (fun name cons len => (false, name, cons, len)) 7 hn hne hw len
    · exact lit_none_head (name_headNot_char (by decide) hnne hnall _)

theorem wf_nameItems {n : String} {items : List SrcItem} (h : (nameOk n && !items.isEmpty && items.all wfItem) = true) :
    nameOk n = true ∧ items ≠ [] ∧ ∀ x ∈ items, wfItem x = true := by
  simp only [Bool.and_eq_true, Bool.not_eq_true', List.isEmpty_eq_false_iff, List.all_eq_true] at h
  exact ⟨h.1.1, h.1.2, h.2⟩

theorem map_digits_repr (len : Option Nat) : (len.map (fun n => (Nat.repr n).toList)).map digitsToNat = len := by
  cases len with
  | none => rfl
  | some n => simp only [Option.map_some, digitsToNat_repr]

theorem parseLineL_seq (hsp : SpOkL sp) (n : String) (items : List SrcItem) (len : Option Nat)
    (h : wfStmt (.seq n items len) = true) : parseLineL (renderStmtL sp (.seq n items len)) = .ok (.seq n items len) := by
  obtain ⟨hn, hne, hw⟩ := wf_nameItems h
  have hfw : firstWord (renderStmtL sp (.seq n items len)) = some sSequence :=
    firstWord_kw (by decide) (by decide) (hsp.headNot_nsp 0 _)
  unfold parseLineL
  rw [hfw]
  simp only
  rw [if_neg (by decide), if_pos trivial]
  unfold parseSeq
  rw [reSeq_render hsp n items len hn hne hw]
  simp only
  rw [parseConstraints_render hsp items hne hw 5 _ (trailOf_blank hsp len)]
  simp only [String.ofList_toList, map_digits_repr]

theorem parseLineL_strand (hsp : SpOkL sp) (d : Bool) (n : String) (items : List SrcItem) (len : Option Nat)
    (h : wfStmt (.strand d n items len) = true) :
    parseLineL (renderStmtL sp (.strand d n items len)) = .ok (.strand d n items len) := by
  obtain ⟨hn, hne, hw⟩ := wf_nameItems h
  have hfw : firstWord (renderStmtL sp (.strand d n items len)) = some sStrand :=
    firstWord_kw (by decide) (by decide) (hsp.headNot_nsp 0 _)
  unfold parseLineL
  rw [hfw]
  simp only
  rw [if_neg (by decide), if_neg (by decide), if_neg (by decide), if_pos trivial]
  unfold parseStrand
  rw [reStrand_render hsp d n items len hn hne hw]
  simp only
  rw [parseConstraints_render hsp items hne hw 7 _ (trailOf_blank hsp len)]
  simp only [String.ofList_toList, map_digits_repr]

end Pepper.ParseComp
