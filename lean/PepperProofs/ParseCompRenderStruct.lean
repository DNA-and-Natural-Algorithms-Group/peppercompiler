import PepperProofs.ParseCompRenderSeq
/-!
# `parse_render` for `structure` statements
-/
namespace Pepper.ParseComp
open Pepper.Comp

variable {sp : Nat → Str}

theorem notationOk_struct {text : Str} (h : notationOk text = true) : ∀ c ∈ text, isStructCh c = true := by
  unfold notationOk at h
  split at h
  · exact fun c hc => hu_isStruct (List.all_eq_true.mp h c hc)
  · exact fun c hc => dp_isStruct (List.all_eq_true.mp h c hc)

theorem headNot_of_headNotSp {text : Str} (h : headNotSp text = true) : HeadNot isSp text := by
  intro c r e
  subst e
  simpa [headNotSp] using h

theorem structTail_render (hsp : SpOkL sp) (opt : OptM) (n : String) (strands : List String) (domain : Bool) (text : Str)
    (hn : nameOk n = true) (hsne : strands ≠ []) (hs : ∀ x ∈ strands, nameOk x = true)
    (htne : text ≠ []) (hth : headNotSp text = true) (htn : notationOk text = true) :
    structTail opt (sp 1 ++ (n.toList ++ (sp 2 ++ ('=' :: (sp 3 ++ (joinPlus sp 8 (strands.map String.toList) ++ (sp 4 ++ (':' ::
      ((if domain then sp 5 ++ sDomain else []) ++ (sp 6 ++ text)))))))))) =
    some (opt, n.toList, joinPlus sp 8 (strands.map String.toList) ++ (sp 4).dropLast, domain, text) := by
  obtain ⟨hnne, hnall⟩ := nameOkL_iff.mp hn
  have hsL : ∀ x ∈ strands.map String.toList, x ≠ [] ∧ ∀ c ∈ x, isName c = true := by
    intro x hx
    obtain ⟨s, hs1, rfl⟩ := List.mem_map.mp hx
    exact nameOkL_iff.mp (hs s hs1)
  have htall := notationOk_struct htn
  obtain ⟨s0, srest, hstr⟩ := List.exists_cons_of_ne_nil hsne
  obtain ⟨jt, hJ⟩ := joinPlus_cons sp 8 s0.toList (srest.map String.toList)
  obtain ⟨hs0ne, hs0⟩ := hsL s0.toList (by simp [hstr])
  unfold structTail
  apply hsp.sp1 1 (name_headNot_sp hnne hnall _)
  apply plus_greedy hnne hnall (hsp.headNot 2 (fun c hc => blank_notName hc) _)
  apply hsp.sp1 2 (headNot_cons (by decide))
  simp only [lit_cons_cons, if_true, lit_nil]
  apply hsp.sp1 3
  · rw [hstr, List.map_cons, hJ, List.append_assoc]; exact name_headNot_sp hs0ne hs0 _
  · -- `[^:]+` takes the names and the gap in front of `:` and gives the last blank back
    apply hsp.plus_giveback 4 (by rw [hstr, List.map_cons, hJ]; simp [hs0ne])
      (joinPlus_all hsp (fun _ => blank_notColon) (by decide) (fun y hy c hc => name_notColon ((hsL y hy).2 c hc)) 8)
      (fun _ => blank_notColon) (headNot_cons (by decide)) (sp1_none_head (headNot_cons (by decide)))
    · intro c hc
      apply sp1_blank hc (headNot_cons (by decide))
      simp only [lit_cons_cons, if_true, lit_nil]
      have htext : (plus isStructCh fun t => endZ (opt, n.toList, joinPlus sp 8 (strands.map String.toList) ++ (sp 4).dropLast, domain, t)) text =
          some (opt, n.toList, joinPlus sp 8 (strands.map String.toList) ++ (sp 4).dropLast, domain, text) :=
        plus_all htne htall (endZ_nil _)
      cases domain with
      | true =>
        rw [if_pos rfl, List.append_assoc]
        apply alt_left
        apply hsp.sp1 5 (by exact headNot_cons (by decide))
        rw [lit_append]
        apply hsp.sp1 6 (headNot_of_headNotSp hth)
        exact htext
      | false =>
        simp only [Bool.false_eq_true, if_false, List.nil_append]
        rw [alt_right]
        · apply hsp.sp1 6 (headNot_of_headNotSp hth)
          exact htext
        · exact sp1_lit_none (p := 'd') (by decide) (hsp.sp 6) (headNot_of_headNotSp hth)
            (headNot_of_all htall fun c hc => by simpa using struct_ne_d hc)

theorem wfStmt_struct {opt : OptSrc} {n : String} {strands : List String} {domain : Bool} {text : Str}
    (h : wfStmt (.struct opt n strands domain text) = true) :
    nameOk n = true ∧ (∀ t, opt = .value t → numOk isOptCh t = true) ∧ strands ≠ [] ∧ (∀ x ∈ strands, nameOk x = true) ∧
      text ≠ [] ∧ headNotSp text = true ∧ notationOk text = true := by
  have h : (nameOk n && (match (generalizing := false) opt with | .value t => numOk isOptCh t | _ => true) && !strands.isEmpty &&
      strands.all nameOk && !text.isEmpty && headNotSp text && notationOk text) = true := h
  simp only [Bool.and_eq_true, Bool.not_eq_true', List.isEmpty_eq_false_iff, List.all_eq_true] at h
  obtain ⟨⟨⟨⟨⟨⟨hn, hopt⟩, hsne⟩, hs⟩, htne⟩, hth⟩, htn⟩ := h
  exact ⟨hn, fun t e' => by subst e'; exact hopt, hsne, hs, htne, hth, htn⟩

theorem reStruct_render (hsp : SpOkL sp) (opt : OptSrc) (n : String) (strands : List String) (domain : Bool) (text : Str)
    (h : wfStmt (.struct opt n strands domain text) = true) :
    reStruct (renderStmtL sp (.struct opt n strands domain text)) =
      some ((match opt with | .default => OptM.absent | .noOpt => OptM.noOpt | .value t => OptM.val t.toList),
        n.toList, joinPlus sp 8 (strands.map String.toList) ++ (sp 4).dropLast, domain, text) := by
  obtain ⟨hn, hopt, hsne, hs, htne, hth, htn⟩ := wfStmt_struct h
  obtain ⟨hnne, hnall⟩ := nameOkL_iff.mp hn
  have htail := fun o => structTail_render hsp o n strands domain text hn hsne hs htne hth htn
  unfold reStruct
  simp only [renderStmtL]
  rw [lit_append]
  cases opt with
  | default =>
    simp only [optPartL, List.nil_append]
    rw [alt_right]
    · exact htail .absent
    · exact sp1_lit_none (by decide) (hsp.sp 1) (name_headNot_sp hnne hnall _) (name_headNot_char (by decide) hnne hnall _)
  | noOpt =>
    simp only [optPartL, sNoOptB, List.append_assoc, List.cons_append, List.nil_append]
    apply alt_left
    apply hsp.sp1 0 (headNot_cons (by decide))
    simp only [lit_cons_cons, if_true, lit_nil]
    rw [alt_right]
    · simp only [sNoOpt, lit_cons_cons, if_true, lit_nil]
      exact htail .noOpt
    · -- `[\wd\.]+nt` on `no-opt]…`: the run is `no`, never followed by `nt`
      generalize sp 1 ++ _ = T
      exact plus_none (run := ['n', 'o']) (rest := '-' :: 'o' :: 'p' :: 't' :: ']' :: T) (by decide) (headNot_cons (by decide))
        fun b1 b2 e hb1 => lit_none_head (headNot_split_pair e hb1 (by decide) (headNot_cons (by decide)))
  | value t =>
    obtain ⟨htne', htall, -⟩ := numOk_parts (hopt t rfl)
    simp only [optPartL, sNtB, List.append_assoc, List.cons_append, List.nil_append]
    apply alt_left
    apply hsp.sp1 0 (headNot_cons (by decide))
    simp only [lit_cons_cons, if_true, lit_nil]
    apply alt_left
    have hassoc : ∀ R : Str, t.toList ++ 'n' :: 't' :: ']' :: R = t.toList ++ (['n', 't'] ++ (']' :: R)) := by intro R; simp
    rw [hassoc]
    apply plus_first htne' htall (by decide) (headNot_cons (by decide))
    · intro b1 b2 e hb1
      exact lit_none_head (headNot_split_pair e hb1 (by decide) (headNot_cons (by decide)))
    · simp only [List.cons_append, List.nil_append, lit_cons_cons, if_true, lit_nil]
      exact htail (.val t.toList)

theorem optPartL_headNot (hsp : SpOkL sp) (opt : OptSrc) (rest : Str) :
    HeadNot (fun c => !isSp c) (optPartL sp opt ++ (sp 1 ++ rest)) := by
  cases opt with
  | default => simpa [optPartL] using hsp.headNot_nsp 1 rest
  | noOpt => simpa [optPartL, List.append_assoc] using hsp.headNot_nsp 0 _
  | value t => simpa [optPartL, List.append_assoc] using hsp.headNot_nsp 0 _

theorem parseLineL_struct (hsp : SpOkL sp) (opt : OptSrc) (n : String) (strands : List String) (domain : Bool) (text : Str)
    (h : wfStmt (.struct opt n strands domain text) = true) :
    parseLineL (renderStmtL sp (.struct opt n strands domain text)) = .ok (.struct opt n strands domain text) := by
  have hre := reStruct_render hsp opt n strands domain text h
  obtain ⟨hn, hopt, hsne, hs, htne, hth, htn⟩ := wfStmt_struct h
  have hfw : firstWord (renderStmtL sp (.struct opt n strands domain text)) = some sStructure := by
    simp only [renderStmtL]
    exact firstWord_kw (by decide) (by decide) (optPartL_headNot hsp opt _)
  unfold parseLineL
  rw [hfw]
  simp only
  rw [if_neg (by decide), if_neg (by decide), if_neg (by decide), if_neg (by decide), if_pos trivial]
  unfold parseStruct
  rw [hre]
  simp only
  have hnames : ((splitOn '+' (joinPlus sp 8 (strands.map String.toList) ++ (sp 4).dropLast)).map strip).map String.ofList = strands := by
    obtain ⟨c, hsplit, hc, hdl⟩ := hsp.eq_dropLast_concat 4
    obtain ⟨s0, more, rfl⟩ := List.exists_cons_of_ne_nil hsne
    have := splitStrip_joinPlus hsp (more.map String.toList) s0.toList 8 [] (sp 4).dropLast (by simp)
      (fun y hy => blank_isSp (hdl y hy)) (fun x hx => by
        obtain ⟨s, hs1, rfl⟩ := List.mem_map.mp (show x ∈ (s0 :: more).map String.toList from hx)
        exact name_piece (by decide) (hs s hs1))
    rw [List.nil_append] at this
    rw [List.map_cons, this, ← List.map_cons, map_ofList_toList]
  rw [hnames]
  have hok : (if text.contains 'U' || text.contains 'H' then text.all isHUCh else text.all isDPCh) = true := htn
  cases opt with
  | default => simp only [hok, if_true, String.ofList_toList]
  | noOpt => simp only [hok, if_true, String.ofList_toList]
  | value t =>
    simp only [(numOk_parts (hopt t rfl)).2.2, hok, if_true, String.ofList_toList]

end Pepper.ParseComp
