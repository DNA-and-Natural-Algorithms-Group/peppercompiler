import PepperProofs.ParseCompChars
/-!
# Shape of everything the `.comp` statement parser accepts (`parse_names_wellformed`)

`parseLineL_acc`, `parseDeclareL_acc`: an accepted statement / declare line satisfies `accStmt` / `accDecl`;
`parseLineL_not_forbidden`: the command word of an accepted line is one of the four statement keywords.
Method: `Yields` (`ParseCompEngine.lean`) proved along each regex.
-/
namespace Pepper.ParseComp
open Pepper.Comp

/-! ### `accStmt` / `accDecl` by statement kind -/

theorem accStmt_seq {n : String} {items : List SrcItem} {len : Option Nat} :
    accStmt (.seq n items len) = true ↔ nameOk n = true ∧ ∀ x ∈ items, wfItem x = true := by
  simp only [accStmt, Bool.and_eq_true, List.all_eq_true]

theorem accStmt_strand {d : Bool} {n : String} {items : List SrcItem} {len : Option Nat} :
    accStmt (.strand d n items len) = true ↔ nameOk n = true ∧ ∀ x ∈ items, wfItem x = true := by
  simp only [accStmt, Bool.and_eq_true, List.all_eq_true]

theorem accStmt_struct {opt : OptSrc} {n : String} {strands : List String} {dom : Bool} {text : Str} :
    accStmt (.struct opt n strands dom text) = true ↔
      nameOk n = true ∧ (∀ t, opt = .value t → numOk isOptCh t = true) ∧ (∀ x ∈ strands, looseStrand x = true) ∧
        text ≠ [] ∧ (∀ c ∈ text, isStructCh c = true) ∧ notationOk text = true := by
  cases opt <;>
    simp [accStmt, and_assoc]

theorem accStmt_kinetic {lo hi : Option String} {ins outs : List String} :
    accStmt (.kinetic lo hi ins outs) = true ↔
      optNumOk isKNum lo = true ∧ optNumOk isKNum hi = true ∧ (∀ x ∈ ins, looseIn x = true) ∧ ∀ x ∈ outs, looseOut x = true := by
  simp only [accStmt, Bool.and_eq_true, List.all_eq_true, and_assoc]

theorem accDecl_iff {d : Decl} :
    accDecl d = true ↔ nameOk d.name = true ∧ (∀ p ∈ d.params, looseParam p = true) ∧ (∀ x ∈ d.inputs, wfPort x = true) ∧
      ∀ x ∈ d.outputs, wfPort x = true := by
  simp only [accDecl, Bool.and_eq_true, List.all_eq_true, and_assoc]

/-- what `accStmt` says of a `sequence` or `strand` statement, spelled out -/
theorem nameItems_spelled {n : String} {items : List SrcItem} (hacc : nameOk n = true ∧ ∀ x ∈ items, wfItem x = true) :
    (n.toList ≠ [] ∧ ∀ c ∈ n.toList, isName c = true) ∧
    ∀ it ∈ items, match it with
      | .nuc t => t ≠ [] ∧ ∀ c ∈ t, isBodyCh c = true
      | .ref m _ => m.toList ≠ [] ∧ ∀ c ∈ m.toList, isName c = true
      | .domains m _ => m.toList ≠ [] ∧ ∀ c ∈ m.toList, isName c = true := by
  refine ⟨nameOkL_iff.mp hacc.1, fun it hit => ?_⟩
  have hw := hacc.2 it hit
  cases it with
  | nuc t => exact wfItem_nuc.mp hw
  | ref m st => exact nameOkL_iff.mp hw
  | domains m st => exact nameOkL_iff.mp hw

/-! ### what each regex and the code behind it guarantee -/

theorem nameOk_ofList {n : Str} (h : nameOkL n = true) : nameOk (String.ofList n) = true := by
  simp only [nameOk, String.toList_ofList]
  exact h

theorem splitStrip_mem {c : Char} {s p : Str} (h : p ∈ (splitOn c s).map strip) :
    strippedL p = true ∧ ∀ x ∈ p, x ∈ s ∧ x ≠ c := by
  obtain ⟨q, hq, rfl⟩ := List.mem_map.1 h
  exact ⟨by simp only [strippedL, strip_strip, beq_self_eq_true], fun x hx => splitOn_mem hq x (strip_sub hx)⟩

theorem splitStripNonEmpty_mem {c : Char} {s p : Str} (h : p ∈ splitStripNonEmpty c s) :
    p ≠ [] ∧ strippedL p = true ∧ ∀ x ∈ p, x ∈ s ∧ x ≠ c := by
  unfold splitStripNonEmpty at h
  obtain ⟨h1, h2⟩ := List.mem_filter.1 h
  refine ⟨?_, splitStrip_mem h1⟩
  simpa using h2

theorem all_loose {c : Char} {cls : Char → Bool} {loose : String → Bool} {s : Str}
    (hl : ∀ p, p ≠ [] → strippedL p = true → (∀ x ∈ p, cls x = true ∧ x ≠ c) → loose (String.ofList p) = true)
    (hs : ∀ x ∈ s, cls x = true) : ((splitStripNonEmpty c s).map String.ofList).all loose = true := by
  rw [List.all_eq_true]
  intro x hx
  obtain ⟨p, hp, rfl⟩ := List.mem_map.1 hx
  obtain ⟨h0, h1, h2⟩ := splitStripNonEmpty_mem hp
  exact hl p h0 h1 fun x hx => ⟨hs x (h2 x hx).1, (h2 x hx).2⟩

/-- what `re.findall(ITEM, …)` returns: a quoted body over `[?\w\s]`, or a word that does not start with `"` -/
def ItemWord (w : Str) : Prop := (∀ c ∈ w, c = '"' ∨ isBodyCh c = true) ∨ (∃ c r, w = c :: r ∧ c ≠ '"')

theorem reItem_word : Yields (reItem fun m rest => some (m, rest)) fun v => ItemWord v.1 := by
  unfold reItem
  apply Yields.alt
  · refine Yields.lit (Yields.plus fun b _ hb => Yields.lit (Yields.ret fun _ => Or.inl ?_))
    intro c hc
    simp only [List.cons_append, List.mem_cons, List.mem_append, List.not_mem_nil, or_false] at hc
    rcases hc with rfl | hc | rfl
    · exact Or.inl rfl
    · exact Or.inr (hb c hc)
    · exact Or.inl rfl
  · apply Yields.alt
    · exact Yields.lit <| Yields.plus fun n _ _ => Yields.alt
        (Yields.lit <| Yields.lit <| Yields.ret fun _ => Or.inr ⟨'d', _, rfl, by decide⟩)
        (Yields.lit <| Yields.ret fun _ => Or.inr ⟨'d', _, rfl, by decide⟩)
    · refine Yields.plus fun n hne hn => ?_
      cases n with
      | nil => exact absurd rfl hne
      | cons c n' =>
        have hc : c ≠ '"' := ne_of_pred (hn c List.mem_cons_self) (by decide)
        exact Yields.alt (Yields.lit <| Yields.ret fun _ => Or.inr ⟨c, _, rfl, hc⟩) (Yields.ret fun _ => Or.inr ⟨c, _, rfl, hc⟩)

theorem findItems_mem {f : Nat} {s w : Str} (h : w ∈ findItems f s) : ItemWord w := by
  induction f generalizing s with
  | zero => simp [findItems] at h
  | succ f ih =>
    cases s with
    | nil => simp [findItems] at h
    | cons c r =>
      simp only [findItems] at h
      split at h
      · rename_i m rest e
        rcases List.mem_cons.1 h with rfl | h
        · exact reItem_word _ _ e
        · exact ih h
      · exact ih h

theorem reC2_yields : Yields reC2 fun v => nameOkL v.1 = true :=
  Yields.plus fun _ hne hn => Yields.alt (Yields.lit <| Yields.endZ (nameOkL_iff.mpr ⟨hne, hn⟩)) (Yields.endZ (nameOkL_iff.mpr ⟨hne, hn⟩))

theorem reC3_yields : Yields reC3 fun v => nameOkL v.1 = true :=
  Yields.lit <| Yields.plus fun _ hne hn => Yields.alt (Yields.lit <| Yields.lit <| Yields.endZ (nameOkL_iff.mpr ⟨hne, hn⟩))
    (Yields.lit <| Yields.endZ (nameOkL_iff.mpr ⟨hne, hn⟩))

theorem parseConstraint_wf {w : Str} {it : SrcItem} (hw : ItemWord w) (h : parseConstraint w = some it) : wfItem it = true := by
  unfold parseConstraint at h
  split at h
  · rename_i b e
    cases h
    -- the body lies inside `w`, which `re.findall` returned: a quoted text over `[?\w\s]`
    unfold reC1 at e
    obtain ⟨r1, hw1, e⟩ := lit_some e
    obtain ⟨b', r2, hr1, hne, hb', e⟩ := plus_some e
    obtain ⟨r3, hr2, e⟩ := lit_some e
    obtain ⟨rfl, -⟩ := endZ_some e
    refine wfItem_nuc.mpr ⟨hne, fun c hc => ?_⟩
    rcases hw with hw | ⟨c', r', hw, hq⟩
    · rcases hw c (by rw [hw1, hr1]; simp [hc]) with rfl | hc'
      · exact absurd rfl (body2_notQuote (hb' _ hc))
      · exact hc'
    · rw [hw1] at hw
      simp only [List.cons_append, List.nil_append, List.cons.injEq] at hw
      exact absurd hw.1.symm hq
  · split at h
    · rename_i n st e
      cases h
      exact nameOk_ofList (reC2_yields _ _ e)
    · split at h
      · rename_i n st e
        cases h
        exact nameOk_ofList (reC3_yields _ _ e)
      · cases h

theorem parseConstraints_wf {s : Str} {items : List SrcItem} (h : parseConstraints s = .ok items) :
    items.all wfItem = true := by
  unfold parseConstraints at h
  split at h
  · cases h
  · split at h
    · rename_i l e
      cases h
      rw [List.all_eq_true]
      intro it hit
      obtain ⟨w, hw, hp⟩ := mapM_option_mem e it hit
      exact parseConstraint_wf (findItems_mem hw) hp
    · cases h

theorem lenTail_yields {α : Type} {f : Option Str → α} {P : α → Prop} (h : ∀ l, P (f l)) : Yields (lenTail f) P :=
  Yields.alt (Yields.sp1 <| Yields.lit <| Yields.sp1 <| Yields.plus fun len _ _ => Yields.endZ (h (some len))) (Yields.endZ (h none))

theorem nameEq_yields {α : Type} {g : Str → Str → Option Str → α} {P : α → Prop}
    (h : ∀ name cons len, nameOkL name = true → P (g name cons len)) :
    Yields (plus isName fun name => sp1 <| lit ['='] <| sp1 <| plus notColon fun cons => lenTail fun len => g name cons len) P :=
  Yields.plus fun name hne hn => Yields.sp1 <| Yields.lit <| Yields.sp1 <| Yields.plus fun cons _ _ =>
    lenTail_yields fun len => h name cons len (nameOkL_iff.mpr ⟨hne, hn⟩)

theorem reSeq_yields : Yields reSeq fun v => nameOkL v.1 = true :=
  Yields.lit <| Yields.sp1 <| nameEq_yields fun _ _ _ h => h

theorem reStrand_yields : Yields reStrand fun v => nameOkL v.2.1 = true :=
  Yields.lit <| Yields.sp1 <| Yields.alt (Yields.lit <| Yields.sp1 <| nameEq_yields fun _ _ _ h => h) (nameEq_yields fun _ _ _ h => h)

theorem nameItems_acc {name cons : Str} {items : List SrcItem} (hn : nameOkL name = true)
    (hc : parseConstraints cons = .ok items) : nameOk (String.ofList name) = true ∧ ∀ x ∈ items, wfItem x = true :=
  ⟨nameOk_ofList hn, List.all_eq_true.mp (parseConstraints_wf hc)⟩

theorem parseSeq_acc {s : Str} {st : Stmt} (h : parseSeq s = .ok st) : accStmt st = true := by
  unfold parseSeq at h
  split at h
  · cases h
  · rename_i name cons len e
    split at h
    · cases h
    · rename_i items hc
      cases h
      exact accStmt_seq.mpr (nameItems_acc (reSeq_yields _ _ e) hc)

theorem parseStrand_acc {s : Str} {st : Stmt} (h : parseStrand s = .ok st) : accStmt st = true := by
  unfold parseStrand at h
  split at h
  · cases h
  · rename_i d name cons len e
    split at h
    · cases h
    · rename_i items hc
      cases h
      exact accStmt_strand.mpr (nameItems_acc (reStrand_yields _ _ e) hc)

/-- what the structure regex guarantees about its groups: option text, name, strands text, structure text -/
structure StructGroups (v : OptM × Str × Str × Bool × Str) : Prop where
  opt : ∀ t, v.1 = .val t → ∀ c ∈ t, isOptCh c = true
  name : nameOkL v.2.1 = true
  strands : ∀ c ∈ v.2.2.1, notColon c = true
  text_ne : v.2.2.2.2 ≠ []
  text : ∀ c ∈ v.2.2.2.2, isStructCh c = true

theorem structTail_yields {o : OptM} (ho : ∀ t, o = .val t → ∀ c ∈ t, isOptCh c = true) : Yields (structTail o) StructGroups :=
  Yields.sp1 <| Yields.plus fun _ hne hn => Yields.sp1 <| Yields.lit <| Yields.sp1 <| Yields.plus fun _ _ hs =>
    Yields.sp1 <| Yields.lit <| Yields.alt
      (Yields.sp1 <| Yields.lit <| Yields.sp1 <| Yields.plus fun _ hte ht => Yields.endZ ⟨ho, nameOkL_iff.mpr ⟨hne, hn⟩, hs, hte, ht⟩)
      (Yields.sp1 <| Yields.plus fun _ hte ht => Yields.endZ ⟨ho, nameOkL_iff.mpr ⟨hne, hn⟩, hs, hte, ht⟩)

theorem reStruct_yields : Yields reStruct StructGroups :=
  Yields.lit <| Yields.alt
    (Yields.sp1 <| Yields.lit <| Yields.alt
      (Yields.plus fun _ _ ht => Yields.lit <| Yields.lit <| structTail_yields fun _ e => by cases e; exact ht)
      (Yields.lit <| Yields.lit <| structTail_yields fun _ e => nomatch e))
    (structTail_yields fun _ e => nomatch e)

theorem numOk_ofList {cls : Char → Bool} {t : Str} (h1 : ∀ c ∈ t, cls c = true) (h2 : pyFloatOk t = true) :
    numOk cls (String.ofList t) = true := by
  simp only [numOk, String.toList_ofList, Bool.and_eq_true, List.all_eq_true]
  exact ⟨h1, h2⟩

theorem parseStruct_acc {s : Str} {st : Stmt} (h : parseStruct s = .ok st) : accStmt st = true := by
  unfold parseStruct at h
  split at h
  · cases h
  · rename_i opt name strands dom text e
    obtain ⟨ho, hn, hs, hte, ht⟩ := reStruct_yields _ _ e
    have hstr : ∀ x ∈ ((splitOn '+' strands).map strip).map String.ofList, looseStrand x = true := by
      intro x hx
      obtain ⟨p, hp, rfl⟩ := List.mem_map.1 hx
      obtain ⟨h1, h2⟩ := splitStrip_mem hp
      simp only [looseStrand, String.toList_ofList, Bool.and_eq_true, List.all_eq_true, bne_iff_ne, ne_eq]
      exact ⟨h1, fun x hx => ⟨by simpa [notColon] using hs x (h2 x hx).1, (h2 x hx).2⟩⟩
    have hacc : ∀ o : OptSrc, (∀ t, o = .value t → numOk isOptCh t = true) →
        (if notationOk text then Except.ok (Stmt.struct o (String.ofList name)
          (((splitOn '+' strands).map strip).map String.ofList) dom text) else .error Err.notation) = .ok st →
        accStmt st = true := by
      intro o hnum h
      split at h
      · rename_i hok
        cases h
        exact accStmt_struct.mpr ⟨nameOk_ofList hn, hnum, hstr, hte, ht, hok⟩
      · cases h
    cases opt with
    | absent => exact hacc .default (fun _ e => nomatch e) h
    | noOpt => exact hacc .noOpt (fun _ e => nomatch e) h
    | val t =>
      simp only [] at h
      by_cases hf : pyFloatOk t = true
      · rw [if_pos hf] at h
        exact hacc (.value (String.ofList t)) (fun _ e => by cases e; exact numOk_ofList (ho t rfl) hf) h
      · rw [if_neg hf] at h
        cases h

theorem kinTail_yields {p : Option Str} :
    Yields (kinTail p) fun v => (∀ c ∈ v.2.1, notBrGt c = true) ∧ ∀ c ∈ v.2.2, notNl c = true :=
  Yields.sp1 <| Yields.star fun _ hi => Yields.sp1 <| Yields.lit <| Yields.sp1 <| Yields.star fun _ ho => Yields.endZ ⟨hi, ho⟩

theorem reKin_yields : Yields reKin fun v => (∀ c ∈ v.2.1, notBrGt c = true) ∧ ∀ c ∈ v.2.2, notNl c = true :=
  Yields.lit <| Yields.alt (Yields.sp1 <| Yields.lit <| Yields.star fun _ _ => Yields.lit kinTail_yields) kinTail_yields

theorem kp1Tail_yields {low : Option Str} (hl : ∀ l, low = some l → ∀ c ∈ l, isKNum c = true) :
    Yields (kp1Tail low) fun v => (∀ l, v.1 = some l → ∀ c ∈ l, isKNum c = true) ∧ ∀ c ∈ v.2, isKNum c = true :=
  Yields.lit <| Yields.sp1 <| Yields.lit <| Yields.sp1 <| Yields.plus fun _ _ hh => Yields.sp1 <| Yields.lit <| Yields.endZ ⟨hl, hh⟩

theorem reKp1_yields :
    Yields reKp1 fun v => (∀ l, v.1 = some l → ∀ c ∈ l, isKNum c = true) ∧ ∀ c ∈ v.2, isKNum c = true :=
  Yields.alt
    (Yields.plus fun _ _ hl => Yields.sp1 <| Yields.lit <| Yields.sp1 <| Yields.lit <| Yields.sp1 <|
      kp1Tail_yields fun _ e => by cases e; exact hl)
    (kp1Tail_yields fun _ e => nomatch e)

theorem reKp2_yields : Yields reKp2 fun low => ∀ c ∈ low, isKNum c = true :=
  Yields.lit <| Yields.sp1 <| Yields.lit <| Yields.sp1 <| Yields.plus fun _ _ hl => Yields.sp1 <| Yields.lit <| Yields.endZ hl

theorem parseKinParams_ok {p : Str} {low high : Option String} (h : parseKinParams p = .ok (low, high)) :
    optNumOk isKNum low = true ∧ optNumOk isKNum high = true := by
  unfold parseKinParams at h
  split at h
  · rename_i lo hi e
    obtain ⟨hl, hh⟩ := reKp1_yields _ _ e
    cases lo with
    | none =>
      simp only [Bool.true_and] at h
      by_cases hc : pyFloatOk hi = true
      · rw [if_pos hc] at h
        simp only [Except.ok.injEq, Prod.mk.injEq] at h
        obtain ⟨rfl, rfl⟩ := h
        exact ⟨rfl, numOk_ofList hh hc⟩
      · rw [if_neg hc] at h
        cases h
    | some l =>
      simp only [] at h
      by_cases hc : (pyFloatOk l && pyFloatOk hi) = true
      · rw [if_pos hc] at h
        simp only [Bool.and_eq_true] at hc
        simp only [Except.ok.injEq, Prod.mk.injEq] at h
        obtain ⟨rfl, rfl⟩ := h
        exact ⟨numOk_ofList (hl l rfl) hc.1, numOk_ofList hh hc.2⟩
      · rw [if_neg hc] at h
        cases h
  · split at h
    · rename_i lo e
      split at h
      · rename_i hc
        simp only [Except.ok.injEq, Prod.mk.injEq] at h
        obtain ⟨rfl, rfl⟩ := h
        exact ⟨numOk_ofList (reKp2_yields _ _ e) hc, rfl⟩
      · cases h
    · cases h

theorem parseKin_acc {s : Str} {st : Stmt} (h : parseKin s = .ok st) : accStmt st = true := by
  unfold parseKin at h
  split at h
  · cases h
  · rename_i params ins outs e
    obtain ⟨hi, ho⟩ := reKin_yields _ _ e
    have hI : ((splitStripNonEmpty '+' ins).map String.ofList).all looseIn = true :=
      all_loose (fun p h0 h1 h2 => by simpa [looseIn] using ⟨⟨h0, h1⟩, h2⟩) hi
    have hO : ((splitStripNonEmpty '+' outs).map String.ofList).all looseOut = true :=
      all_loose (fun p h0 h1 h2 => by simpa [looseOut] using ⟨⟨h0, h1⟩, h2⟩) ho
    have hacc : ∀ lo hi, optNumOk isKNum lo = true → optNumOk isKNum hi = true →
        accStmt (.kinetic lo hi ((splitStripNonEmpty '+' ins).map String.ofList)
          ((splitStripNonEmpty '+' outs).map String.ofList)) = true := by
      intro lo hi h1 h2
      exact accStmt_kinetic.mpr ⟨h1, h2, List.all_eq_true.mp hI, List.all_eq_true.mp hO⟩
    simp only [] at h
    split at h
    · cases h
      exact hacc _ _ rfl rfl
    · split at h
      · cases h
        exact hacc _ _ rfl rfl
      · split at h
        · cases h
        · rename_i low high hk
          cases h
          exact hacc _ _ (parseKinParams_ok hk).1 (parseKinParams_ok hk).2

theorem reSig_yields : Yields reSig fun v => nameOkL v.1 = true ∧ ∀ t, v.2.2 = some t → nameOkL t = true := by
  refine Yields.plus fun n hne hn => ?_
  have tail : ∀ b : Bool, Yields (alt (lit ['('] <| plus isName fun st => lit [')'] <| endZ (n, b, some st)) (endZ (n, b, none)))
      fun v => nameOkL v.1 = true ∧ ∀ t, v.2.2 = some t → nameOkL t = true := fun b =>
    Yields.alt
      (Yields.lit <| Yields.plus fun _ hte ht => Yields.lit <| Yields.endZ
        ⟨nameOkL_iff.mpr ⟨hne, hn⟩, fun _ e => by cases e; exact nameOkL_iff.mpr ⟨hte, ht⟩⟩)
      (Yields.endZ ⟨nameOkL_iff.mpr ⟨hne, hn⟩, fun _ e => nomatch e⟩)
  exact Yields.alt (Yields.lit (tail true)) (tail false)

theorem parseSignal_wf {s : Str} {p : Port} (h : parseSignal s = .ok p) : wfPort p = true := by
  unfold parseSignal at h
  split at h
  · rename_i n star st e
    cases h
    obtain ⟨h1, h2⟩ := reSig_yields _ _ e
    simp only [wfPort, Bool.and_eq_true]
    refine ⟨nameOk_ofList h1, ?_⟩
    cases st with
    | none => rfl
    | some t => exact nameOk_ofList (h2 t rfl)
  · cases h

theorem declTail_yields {name : Str} {p : Option Str} {P : Str × Option Str × Str × Str → Prop}
    (h : ∀ ins outs, P (name, p, ins, outs)) : Yields (declTail name p) P :=
  Yields.lit <| Yields.star fun _ _ => Yields.sp1 <| Yields.lit <| Yields.star fun _ _ => Yields.endZ (h _ _)

theorem reDecl_yields :
    Yields reDecl fun v => nameOkL v.1 = true ∧ ∀ p, v.2.1 = some p → ∀ c ∈ p, notNl c = true :=
  Yields.lit <| Yields.sp1 <| Yields.lit <| Yields.sp1 <| Yields.plus fun _ hne hn => Yields.alt
    (Yields.lit <| Yields.star fun _ hp => Yields.lit <| declTail_yields fun _ _ =>
      ⟨nameOkL_iff.mpr ⟨hne, hn⟩, fun _ e => by cases e; exact hp⟩)
    (declTail_yields fun _ _ => ⟨nameOkL_iff.mpr ⟨hne, hn⟩, fun _ e => nomatch e⟩)

theorem mapM_parseSignal_wf {l : List Str} {ps : List Port} (h : l.mapM parseSignal = .ok ps) : ps.all wfPort = true := by
  rw [List.all_eq_true]
  intro p hp
  obtain ⟨x, -, e⟩ := mapM_mem h p hp
  exact parseSignal_wf e

theorem parseDeclareL_acc {s : Str} {d : Decl} (h : parseDeclareL s = .ok d) : accDecl d = true := by
  unfold parseDeclareL at h
  split at h
  · cases h
  · rename_i name params ins outs e
    obtain ⟨hn, hp⟩ := reDecl_yields _ _ e
    simp only [] at h
    split at h
    · cases h
    · rename_i i hi
      split at h
      · cases h
      · rename_i o ho
        cases h
        simp only [accDecl, Bool.and_eq_true]
        refine ⟨⟨⟨nameOk_ofList hn, ?_⟩, mapM_parseSignal_wf hi⟩, mapM_parseSignal_wf ho⟩
        cases params with
        | none => rfl
        | some p => exact all_loose (fun p h0 h1 h2 => by simpa [looseParam] using ⟨⟨h0, h1⟩, h2⟩) (hp p rfl)

theorem parseLineL_cases {s : Str} {st : Stmt} (h : parseLineL s = .ok st) :
    ∃ w, firstWord s = some w ∧
      ((w = sSequence ∧ parseSeq s = .ok st) ∨ (w = sStrand ∧ parseStrand s = .ok st) ∨
       (w = sStructure ∧ parseStruct s = .ok st) ∨ (w = sKinetic ∧ parseKin s = .ok st)) := by
  unfold parseLineL at h
  cases hw : firstWord s with
  | none => rw [hw] at h; cases h
  | some w =>
    rw [hw] at h
    refine ⟨w, rfl, ?_⟩
    -- a keyword's test evaluates to its parser; every other branch is an error
    by_cases h1 : w = sSequence
    · subst h1; exact Or.inl ⟨rfl, h⟩
    by_cases h2 : w = sStrand
    · subst h2; exact Or.inr (Or.inl ⟨rfl, h⟩)
    by_cases h3 : w = sStructure
    · subst h3; exact Or.inr (Or.inr (Or.inl ⟨rfl, h⟩))
    by_cases h4 : w = sKinetic
    · subst h4; exact Or.inr (Or.inr (Or.inr ⟨rfl, h⟩))
    simp only [h1, h2, h3, h4, if_false, ite_self] at h
    cases h

theorem parseLineL_acc {s : Str} {st : Comp.Stmt} (h : parseLineL s = .ok st) : accStmt st = true := by
  obtain ⟨w, -, h | h | h | h⟩ := parseLineL_cases h
  · exact parseSeq_acc h.2
  · exact parseStrand_acc h.2
  · exact parseStruct_acc h.2
  · exact parseKin_acc h.2

theorem parseLineL_not_forbidden {s : Str} {st : Comp.Stmt} (h : parseLineL s = .ok st) :
    ∃ w, firstWord s = some w ∧ w ∉ forbiddenWords ∧ (w = sSequence ∨ w = sStrand ∨ w = sStructure ∨ w = sKinetic) := by
  obtain ⟨w, hw, ⟨rfl, -⟩ | ⟨rfl, -⟩ | ⟨rfl, -⟩ | ⟨rfl, -⟩⟩ := parseLineL_cases h
  all_goals exact ⟨_, hw, by decide, by simp⟩

end Pepper.ParseComp
