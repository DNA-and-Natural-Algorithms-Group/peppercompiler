import PepperModel.ParseFixed
import PepperProofs.ParseCompChars
/-!
# The `--fixed` file reader (`PepperModel/ParseFixed.lean`): definitions used in the statements and their proofs

`reFixed_render` (parse ∘ render), `reFixed_shape` (every accepted line is a rendered one), `kindOfL_spec` (the dispatch
in code order).
-/
namespace Pepper.ParseFixed
open Pepper.ParseComp

/-! ### general facts about `Bool` and lists -/

theorem not_of_imp_not {p q : Bool} (h : p = true → q = false) (hq : q = true) : p = false := by
  cases hp : p with
  | false => rfl
  | true => rw [h hp] at hq; cases hq

theorem forall_split_cons {α : Type} {P : List α → α → Prop} {x : α} {ls : List α} :
    (∀ pre l post, x :: ls = pre ++ l :: post → P post l) ↔
      P ls x ∧ ∀ pre l post, ls = pre ++ l :: post → P post l := by
  constructor
  · exact fun h => ⟨h [] x ls rfl, fun pre l post e => h (x :: pre) l post (e ▸ rfl)⟩
  · rintro ⟨h1, h2⟩ pre l post e
    cases pre with
    | nil => cases e; exact h1
    | cons p pre => exact h2 pre l post (List.cons.inj e).2

theorem mem_strings_iff (w : String) (l : List String) : w ∈ l ↔ w.toList ∈ l.map String.toList := by
  rw [List.mem_map]
  exact ⟨fun h => ⟨w, h, rfl⟩, fun ⟨x, hx, e⟩ => String.toList_inj.mp e ▸ hx⟩

theorem mem_iff_of_all {A B : List Str} (h : (A.all (fun a => B.contains a) && B.all (fun b => A.contains b)) = true)
    (x : Str) : x ∈ A ↔ x ∈ B := by
  simp only [Bool.and_eq_true, List.all_eq_true, List.contains_iff_mem] at h
  exact ⟨fun hx => h.1 x hx, fun hx => h.2 x hx⟩

/-! ### the character classes of a line -/

theorem sp_notWord {c : Char} : isSp c = true → isWord c = false :=
  not_of_imp_not fun h => name_notSp (word_isName h)

theorem sp_notName {c : Char} : isSp c = true → isName c = false := not_of_imp_not name_notSp

theorem isPad_eq_true_iff {c : Char} : isPad c = true ↔ isSp c = true ∨ c = '+' := by
  simp only [isPad, Bool.or_eq_true, beq_iff_eq]
  constructor
  · rintro ((h | h) | rfl)
    · exact Or.inl h
    · exact Or.inr h
    · exact Or.inl (by decide)
  · exact fun h => Or.inl h

theorem sp_isPad {c : Char} (h : isSp c = true) : isPad c = true := isPad_eq_true_iff.mpr (Or.inl h)

theorem pad_notName {c : Char} (h : isPad c = true) : isName c = false := by
  rcases isPad_eq_true_iff.mp h with h | rfl
  · exact sp_notName h
  · decide

theorem name_notPad {c : Char} (h : isName c = true) : isPad c = false := not_of_imp_not pad_notName h

theorem isFixCh_eq_true_iff {c : Char} :
    isFixCh c = true ↔ (c = 'A' ∨ c = 'T' ∨ c = 'C' ∨ c = 'G' ∨ c = 'N' ∨ c = 'S' ∨ c = '+') := by
  simp [isFixCh, or_assoc]

theorem fix_letter_or_plus {c : Char} (h : isFixCh c = true) : c ∈ ['A', 'T', 'C', 'G', 'N', 'S'] ∨ c = '+' := by
  simpa only [List.mem_cons, List.mem_nil_iff, or_false, or_assoc] using isFixCh_eq_true_iff.mp h

theorem fix_notSp {c : Char} (h : isFixCh c = true) : isSp c = false := by
  rcases isFixCh_eq_true_iff.mp h with rfl | rfl | rfl | rfl | rfl | rfl | rfl <;> decide

theorem sp_notFix {c : Char} (h : isSp c = true) : isFixCh c = false := not_of_imp_not fix_notSp h

theorem fix_notPad {c : Char} (h : isFixCh c = true) (hp : c ≠ '+') : isPad c = false := by
  cases hc : isPad c with
  | false => rfl
  | true =>
    rcases isPad_eq_true_iff.mp hc with hs | rfl
    · rw [fix_notSp h] at hs; cases hs
    · exact absurd rfl hp

theorem sp_ne_hash {c : Char} (h : isSp c = true) : c ≠ '#' := by
  rintro rfl; exact absurd h (by decide)

/-! ### the fields and gaps of a line -/

def wordOkL (s : Str) : Bool := !s.isEmpty && s.all isWord
def nameOkL (s : Str) : Bool := !s.isEmpty && s.all isName
def seqOkL (s : Str) : Bool := !s.isEmpty && s.all isFixCh
def sepOkL (s : Str) : Bool := !s.isEmpty && s.all isSp
def padOkL (s : Str) : Bool := s.all isPad
/-- white space only, or: white space (at least one character), `#`, and a text in which only white space follows
    the first line break -/
def tailOkL (t : Str) : Bool :=
  match t.dropWhile isSp with
  | [] => true
  | c :: body => c == '#' && !(t.takeWhile isSp).isEmpty && (body.dropWhile notNl).all isSp

/-- a kind word: non-empty over `\w` -/
def wordOk (s : String) : Bool := wordOkL s.toList
/-- a name: non-empty over `[\w-]` -/
def nameOk (s : String) : Bool := nameOkL s.toList
/-- a sequence text: non-empty over `ATCGNS+` -/
def seqOk (s : String) : Bool := seqOkL s.toList
/-- the gap between kind word and name: one or more `\s` -/
def sepOk (s : String) : Bool := sepOkL s.toList
/-- a gap beside `=`: any number of `[\s+\t]` (white space and `+`) -/
def padOk (s : String) : Bool := padOkL s.toList
/-- the end of the line: white space (incl. the newline), optionally with a ` #comment` in front -/
def tailOk (s : String) : Bool := tailOkL s.toList

theorem wordOkL_iff {s : Str} : wordOkL s = true ↔ s ≠ [] ∧ ∀ c ∈ s, isWord c = true := okL_iff
theorem nameOkL_iff {s : Str} : nameOkL s = true ↔ s ≠ [] ∧ ∀ c ∈ s, isName c = true := okL_iff
theorem seqOkL_iff {s : Str} : seqOkL s = true ↔ s ≠ [] ∧ ∀ c ∈ s, isFixCh c = true := okL_iff
theorem sepOkL_iff {s : Str} : sepOkL s = true ↔ s ≠ [] ∧ ∀ c ∈ s, isSp c = true := okL_iff
theorem padOkL_iff {s : Str} : padOkL s = true ↔ ∀ c ∈ s, isPad c = true := List.all_eq_true

/-! ### the end of a line and the skip test -/

/-- what may follow the white space at the end of a line: nothing, or a comment after whose first line break only
    white space follows -/
def EndOrComment (r : Str) : Prop := r = [] ∨ ∃ body, r = '#' :: body ∧ ∀ c ∈ body.dropWhile notNl, isSp c = true

theorem EndOrComment.headNot {r : Str} (h : EndOrComment r) {p : Char → Bool} (hp : p '#' = false) : HeadNot p r := by
  rcases h with rfl | ⟨body, rfl, _⟩
  · exact headNot_nil
  · exact headNot_cons hp

/-- the shape behind `tailOkL`: a comment needs white space in front of it -/
def TailShape (t : Str) : Prop :=
  ∃ ws r, t = ws ++ r ∧ (∀ c ∈ ws, isSp c = true) ∧ EndOrComment r ∧ (r = [] ∨ ws ≠ [])

theorem tailOkL_iff {t : Str} : tailOkL t = true ↔ TailShape t := by
  unfold tailOkL
  constructor
  · intro h
    refine ⟨t.takeWhile isSp, t.dropWhile isSp, List.takeWhile_append_dropWhile.symm, List.all_eq_true.mp List.all_takeWhile, ?_⟩
    cases hd : t.dropWhile isSp with
    | nil => exact ⟨Or.inl rfl, Or.inl rfl⟩
    | cons c body =>
      simp only [hd, Bool.and_eq_true, beq_iff_eq, Bool.not_eq_true', List.isEmpty_eq_false_iff, List.all_eq_true] at h
      obtain ⟨⟨rfl, hne⟩, hb⟩ := h
      exact ⟨Or.inr ⟨body, rfl, hb⟩, Or.inr hne⟩
  · rintro ⟨ws, r, rfl, hws, hr, hne⟩
    rw [dropWhile_append_all hws (hr.headNot (by decide)), takeWhile_append_all hws (hr.headNot (by decide))]
    rcases hr with rfl | ⟨body, rfl, hb⟩
    · rfl
    · simp only [Bool.and_eq_true, beq_iff_eq, Bool.not_eq_true', List.isEmpty_eq_false_iff, List.all_eq_true]
      exact ⟨⟨trivial, hne.resolve_left (List.cons_ne_nil _ _)⟩, hb⟩

theorem tailShape_headNot_fix {t : Str} (h : TailShape t) : HeadNot isFixCh t := by
  obtain ⟨ws, r, rfl, hws, hr, _⟩ := h
  exact headNot_append' (headNot_of_all hws fun _ => sp_notFix) (hr.headNot (by decide))

theorem comment_ok {α : Type} (v : α) {body : Str} (hb : ∀ c ∈ body.dropWhile notNl, isSp c = true) :
    (lit ['#'] <| star notNl (fun _ => endZ v) []) ('#' :: body) = some v := by
  simp only [lit_cons_cons, if_true, lit_nil]
  rw [← List.takeWhile_append_dropWhile (p := notNl) (l := body)]
  exact star_greedy (List.all_eq_true.mp List.all_takeWhile) (headNot_dropWhile _ _) (endZ_ok v hb)

theorem comment_some {α : Type} {v w : α} {s : Str} (h : (lit ['#'] <| star notNl (fun _ => endZ v) []) s = some w) :
    w = v ∧ ∃ body, s = '#' :: body ∧ ∀ c ∈ body.dropWhile notNl, isSp c = true := by
  obtain ⟨body, rfl, h⟩ := lit_some h
  obtain ⟨a, r, rfl, ha, h⟩ := star_some h
  refine ⟨(endZ_some h).1, a ++ r, rfl, fun c hc => (endZ_some h).2 c ?_⟩
  rw [List.dropWhile_append_of_pos ha] at hc
  exact List.dropWhile_subset _ hc

theorem tail_some {α : Type} {v w : α} {t : Str} (h : tail v t = some w) : w = v ∧ TailShape t := by
  unfold tail at h
  rcases alt_some h with h | h
  · obtain ⟨ws, r, rfl, hne, hws, h⟩ := sp1_some h
    obtain ⟨hv, hr⟩ := comment_some h
    exact ⟨hv, ws, r, rfl, hws, Or.inr hr, Or.inr hne⟩
  · exact ⟨(endZ_some h).1, t, [], by simp, (endZ_some h).2, Or.inl rfl, Or.inl rfl⟩

theorem tail_ok {α : Type} (v : α) {t : Str} (h : TailShape t) : tail v t = some v := by
  obtain ⟨ws, r, rfl, hws, hr, hne⟩ := h
  rcases hr with rfl | ⟨body, rfl, hb⟩
  · exact alt_same (endZ_ok v (by simpa using hws)) fun w hw => (tail_some (v := v) (alt_left hw)).1
  · exact alt_left (sp1_greedy (hne.resolve_left (List.cons_ne_nil _ _)) hws (headNot_cons (by decide)) (comment_ok v hb))

theorem skipL_iff (s : Str) : skipL s = true ↔ ∃ ws r, s = ws ++ r ∧ (∀ c ∈ ws, isSp c = true) ∧ EndOrComment r := by
  unfold skipL reSkip
  constructor
  · intro h
    obtain ⟨u, hu⟩ := Option.isSome_iff_exists.mp h
    obtain ⟨a, r, rfl, ha, hk⟩ := star_some hu
    rcases alt_some hk with hk | hk
    · exact ⟨a, r, rfl, ha, Or.inr (comment_some hk).2⟩
    · refine ⟨a ++ r, [], by simp, fun c hc => ?_, Or.inl rfl⟩
      exact (List.mem_append.mp hc).elim (ha c) ((endZ_some hk).2 c)
  · rintro ⟨ws, r, rfl, hws, hr⟩
    rw [star_greedy (v := ()) hws (hr.headNot (by decide))]
    · rfl
    · rcases hr with rfl | ⟨body, rfl, hb⟩
      · rfl
      · exact alt_left (comment_ok () hb)

theorem parseFixedL_error_of_skipL {s : Str} (h : skipL s = true) : parseFixedL s = .error .syntax := by
  obtain ⟨ws, r, rfl, hws, hr⟩ := (skipL_iff s).mp h
  unfold parseFixedL reFixed
  rw [plus_none_head (headNot_append' (headNot_of_all hws fun _ => sp_notWord) (hr.headNot (by decide)))]

/-! ### the line regex -/

/-- what the greedy class `[\s+\t]*` in front of the sequence group leaves of a sequence text: leading `+` signs are
    eaten as long as one character remains for the group -/
def eatPlus (s : Str) : Str :=
  match s.dropWhile (· == '+') with
  | [] => ['+']
  | r => r

theorem eatPlus_of_head {s : Str} (h : HeadNot (· == '+') s) (hne : s ≠ []) : eatPlus s = s := by
  unfold eatPlus
  rw [dropWhile_headNot h]
  cases s with
  | nil => exact absurd rfl hne
  | cons c r => rfl

theorem eatPlus_spec {s : Str} (hne : s ≠ []) :
    ∃ pre, s = pre ++ eatPlus s ∧ (∀ c ∈ pre, c = '+') ∧
      (eatPlus s = ['+'] ∨ ∃ b body, eatPlus s = b :: body ∧ b ≠ '+') := by
  have hs : s = s.takeWhile (· == '+') ++ s.dropWhile (· == '+') := List.takeWhile_append_dropWhile.symm
  have hpre : ∀ c ∈ s.takeWhile (· == '+'), c = '+' := fun c hc => by
    simpa using List.all_eq_true.mp List.all_takeWhile c hc
  have hhead := headNot_dropWhile (· == '+') s
  unfold eatPlus
  cases hd : s.dropWhile (· == '+') with
  | cons b body =>
    rw [hd] at hs
    exact ⟨_, hs, hpre, Or.inr ⟨b, body, rfl, by simpa using hhead b body hd⟩⟩
  | nil =>
    rw [hd, List.append_nil] at hs
    have hlast : s.getLast hne = '+' := hpre _ (hs ▸ List.getLast_mem hne)
    refine ⟨s.dropLast, ?_, fun c hc => hpre c (hs ▸ List.dropLast_subset s hc), Or.inl rfl⟩
    rw [← hlast, List.dropLast_concat_getLast]

theorem afterEq_render {α : Type} (f : Str → α) {pad2 seq tl : Str} (hp2 : ∀ c ∈ pad2, isPad c = true)
    (hne : seq ≠ []) (hs : ∀ c ∈ seq, isFixCh c = true) (ht : TailShape tl) :
    star isPad (fun _ => plus isFixCh fun q => tail (f q)) [] (pad2 ++ (seq ++ tl)) = some (f (eatPlus seq)) := by
  obtain ⟨pre, hseq, hpre, hq⟩ := eatPlus_spec hne
  generalize eatPlus seq = q at hseq hq ⊢
  subst hseq
  have hrun : ∀ c ∈ pad2 ++ pre, isPad c = true := fun c hc =>
    (List.mem_append.mp hc).elim (hp2 c) fun hc => hpre c hc ▸ by decide
  have hgroup : q ≠ [] → plus isFixCh (fun q => tail (f q)) (q ++ tl) = some (f q) := fun hq =>
    plus_greedy hq (fun c hc => hs c (List.mem_append_right pre hc)) (tailShape_headNot_fix ht) (tail_ok _ ht)
  rcases hq with rfl | ⟨b, body, rfl, hb⟩
  · -- the text consists of `+` signs: the class takes them all and the white space that follows, then gives back
    -- up to the last `+`; on every longer split the group would have to start with white space, `#`, or at the end
    obtain ⟨ws, r, rfl, hws, hr, _⟩ := id ht
    rw [show pad2 ++ ((pre ++ ['+']) ++ (ws ++ r)) = (pad2 ++ pre) ++ (('+' :: ws) ++ r) by simp]
    refine star_first hrun (fun c hc => ?_) (hr.headNot (by decide)) (fun b1 b2 e hb1 => ?_) ?_
    · exact (List.mem_cons.mp hc).elim (fun h => h ▸ by decide) fun hc => sp_isPad (hws c hc)
    · cases b1 with
      | nil => exact absurd rfl hb1
      | cons x b1 =>
        have hb2 : ∀ c ∈ b2, isSp c = true := fun c hc => hws c ((List.cons.inj e).2 ▸ List.mem_append_right b1 hc)
        exact plus_none_head (headNot_append' (headNot_of_all hb2 fun _ => sp_notFix) (hr.headNot (by decide)))
    · exact hgroup (by simp)
  · -- the class stops in front of the first letter
    rw [show pad2 ++ ((pre ++ b :: body) ++ tl) = (pad2 ++ pre) ++ ((b :: body) ++ tl) by simp]
    exact star_greedy hrun (headNot_cons (fix_notPad (hs b (by simp)) hb)) (hgroup (by simp))

theorem reFixed_render {kind sep name pad1 pad2 seq tl : Str} (hk : wordOkL kind = true) (hsep : sepOkL sep = true)
    (hn : nameOkL name = true) (hp1 : padOkL pad1 = true) (hp2 : padOkL pad2 = true) (hs : seqOkL seq = true)
    (ht : tailOkL tl = true) :
    reFixed (kind ++ (sep ++ (name ++ (pad1 ++ ('=' :: (pad2 ++ (seq ++ tl))))))) = some (kind, name, eatPlus seq) := by
  obtain ⟨hk1, hk2⟩ := wordOkL_iff.mp hk
  obtain ⟨hsep1, hsep2⟩ := sepOkL_iff.mp hsep
  obtain ⟨hn1, hn2⟩ := nameOkL_iff.mp hn
  obtain ⟨hs1, hs2⟩ := seqOkL_iff.mp hs
  have hp1 := padOkL_iff.mp hp1
  unfold reFixed
  apply plus_greedy hk1 hk2 (headNot_append hsep1 (headNot_of_all hsep2 fun _ => sp_notWord))
  apply sp1_greedy hsep1 hsep2 (headNot_append hn1 (headNot_of_all hn2 fun _ => name_notSp))
  apply plus_greedy hn1 hn2 (headNot_append' (headNot_of_all hp1 fun _ => pad_notName) (headNot_cons (by decide)))
  apply star_greedy hp1 (headNot_cons (by decide))
  simp only [lit_cons_cons, if_true, lit_nil]
  exact afterEq_render (fun q => (kind, name, q)) (padOkL_iff.mp hp2) hs1 hs2 (tailOkL_iff.mp ht)

theorem reFixed_shape {s t n q : Str} (h : reFixed s = some (t, n, q)) :
    wordOkL t = true ∧ nameOkL n = true ∧ seqOkL q = true ∧
    ∃ sep pad1 pad2 tl, s = t ++ (sep ++ (n ++ (pad1 ++ ('=' :: (pad2 ++ (q ++ tl)))))) ∧
      sepOkL sep = true ∧ padOkL pad1 = true ∧ padOkL pad2 = true ∧ tailOkL tl = true := by
  unfold reFixed at h
  obtain ⟨t', r1, rfl, ht1, ht2, h⟩ := plus_some h
  obtain ⟨sep, r2, rfl, hs1, hs2, h⟩ := sp1_some h
  obtain ⟨n', r3, rfl, hn1, hn2, h⟩ := plus_some h
  obtain ⟨p1, r4, rfl, hp1, h⟩ := star_some h
  obtain ⟨r5, rfl, h⟩ := lit_some h
  obtain ⟨p2, r6, rfl, hp2, h⟩ := star_some h
  obtain ⟨q', r7, rfl, hq1, hq2, h⟩ := plus_some h
  obtain ⟨hv, htl⟩ := tail_some h
  simp only [Prod.mk.injEq] at hv
  obtain ⟨rfl, rfl, rfl⟩ := hv
  exact ⟨wordOkL_iff.mpr ⟨ht1, ht2⟩, nameOkL_iff.mpr ⟨hn1, hn2⟩, seqOkL_iff.mpr ⟨hq1, hq2⟩, sep, p1, p2, r7, by simp,
    sepOkL_iff.mpr ⟨hs1, hs2⟩, padOkL_iff.mpr hp1, padOkL_iff.mpr hp2, tailOkL_iff.mpr htl⟩

/-! ### the loop over the lines of a file -/

/-- `load_fixed` and `parse_fixed` have one error -/
theorem error_iff_not_ok {α : Type} {x : Except Err α} : x = .error .syntax ↔ ¬ ∃ a, x = .ok a := by
  cases x with
  | error e => cases e; simp
  | ok a => simp

def convT (x : Str × Str × Str) : String × String × String := (String.ofList x.1, String.ofList x.2.1, String.ofList x.2.2)

theorem parseFixedLine_eq (line : String) : parseFixedLine line = (parseFixedL line.toList).map convT := by
  unfold parseFixedLine
  cases parseFixedL line.toList <;> rfl

theorem loadFixed_eq (text : String) : loadFixed text = (loadLines (fileLines text.toList)).map (List.map convT) := by
  unfold loadFixed loadFixedL
  cases loadLines (fileLines text.toList) <;> rfl

theorem parseFixedL_ok_iff {s : Str} {x : Str × Str × Str} : parseFixedL s = .ok x ↔ reFixed s = some x := by
  unfold parseFixedL
  cases reFixed s <;> simp

theorem parseFixedLine_ok {line : String} {x : String × String × String} (h : parseFixedLine line = .ok x) :
    ∃ y, reFixed line.toList = some y ∧ x = convT y := by
  rw [parseFixedLine_eq] at h
  cases hp : parseFixedL line.toList with
  | error e => rw [hp] at h; cases h
  | ok y => rw [hp] at h; exact ⟨y, parseFixedL_ok_iff.mp hp, (Except.ok.inj h).symm⟩

/-- the lines `for line in f` yields, as `String`s -/
def fileLinesS (text : String) : List String := (fileLines text.toList).map String.ofList

/-- the loop as a `mapM` over the lines it does not skip (the form `loadFixed_line_local` states; `lineLoop_eq_mapM` (Basic)
    gives the other normal form, `mapM` over all lines followed by `filterMap`) -/
theorem loadLines_eq_mapM (ls : List Str) : loadLines ls = (ls.filter fun l => !skipL l).mapM parseFixedL := by
  induction ls with
  | nil => rfl
  | cons l r ih =>
    simp only [loadLines]
    by_cases hs : skipL l = true
    · rw [if_pos hs, List.filter_cons_of_neg (by simp [hs])]
      exact ih
    · rw [if_neg hs, List.filter_cons_of_pos (by simpa using hs), List.mapM_cons, ← ih]
      cases parseFixedL l with
      | error e => rfl
      | ok x => cases loadLines r <;> rfl

theorem loadFixed_eq_mapM (text : String) :
    loadFixed text = ((fileLinesS text).filter fun l => !skipLine l).mapM parseFixedLine := by
  rw [loadFixed_eq, loadLines_eq_mapM, ← mapM_except_congr _ (fun _ _ => rfl), fileLinesS, List.filter_map, List.mapM_map]
  simp only [Function.comp_def, skipLine, parseFixedLine_eq, String.toList_ofList]

theorem linesKeep_flatten (s : Str) : (linesKeep s).flatten = s := by
  fun_induction linesKeep s with
  | case1 => rfl
  | case2 r ih => simp [ih]
  | case3 c r _ hk ih => rw [hk] at ih; rw [← ih]; rfl
  | case4 c r _ h t hk ih => rw [hk] at ih; rw [← ih]; rfl

/-- every line is non-empty, has no `\n` except as its last character, and only the last line may lack it -/
def LineOk (last : Bool) (l : Str) : Prop :=
  ∃ body, (l = body ++ ['\n'] ∨ (last = true ∧ l = body ∧ body ≠ [])) ∧ ∀ c ∈ body, c ≠ '\n'

theorem lineOk_cons {b : Bool} {c : Char} {l : Str} (hc : c ≠ '\n') (h : LineOk b l) : LineOk b (c :: l) := by
  obtain ⟨body, hb, hn⟩ := h
  refine ⟨c :: body, ?_, List.forall_mem_cons.mpr ⟨hc, hn⟩⟩
  rcases hb with rfl | ⟨h1, rfl, _⟩
  · exact Or.inl rfl
  · exact Or.inr ⟨h1, rfl, List.cons_ne_nil _ _⟩

theorem linesKeep_shape (s : Str) :
    ∀ pre l post, linesKeep s = pre ++ l :: post → LineOk post.isEmpty l := by
  fun_induction linesKeep s with
  | case1 => intro pre l post h; cases pre <;> cases h
  | case2 r ih => exact forall_split_cons.mpr ⟨⟨[], Or.inl rfl, nofun⟩, ih⟩
  | case3 c r hc hk ih =>
    refine forall_split_cons.mpr ⟨⟨[c], Or.inr ⟨rfl, rfl, List.cons_ne_nil _ _⟩, ?_⟩, ?_⟩
    · exact List.forall_mem_cons.mpr ⟨hc, nofun⟩
    · intro pre l post h; cases pre <;> cases h
  | case4 c r hc h t hk ih =>
    rw [hk] at ih
    exact forall_split_cons.mpr ((forall_split_cons.mp ih).imp_left (lineOk_cons hc))

theorem univNl_no_cr (b : Bool) (s : Str) : ∀ c ∈ univNl b s, c ≠ '\r' := by
  fun_induction univNl b s with
  | case1 => nofun
  | case2 _ _ ih => exact List.forall_mem_cons.mpr ⟨by decide, ih⟩
  | case3 _ _ ih => exact ih
  | case4 _ _ _ _ ih => exact List.forall_mem_cons.mpr ⟨by decide, ih⟩
  | case5 _ _ _ hc _ ih => exact List.forall_mem_cons.mpr ⟨hc, ih⟩

theorem univNl_id (s : Str) (h : ∀ c ∈ s, c ≠ '\r') : univNl false s = s := by
  induction s with
  | nil => rfl
  | cons x r ih =>
    have hx := h x (by simp)
    have hr := ih (fun c hc => h c (by simp [hc]))
    simp only [univNl, hx, if_false, Bool.false_eq_true, hr]
    split
    · rename_i h1; subst h1; rfl
    · rfl

/-! ### the dispatch of `compiler()` -/

theorem isSub_iff (a b : Str) : isSub a b = true ↔ a <:+: b := by
  induction b with
  | nil => simp [isSub, List.infix_nil]
  | cons c r ih =>
    simp only [isSub, Bool.or_eq_true, List.infix_cons_iff, List.isPrefixOf_iff_prefix, ih]

def prefixes : Str → List Str
  | [] => [[]]
  | c :: r => [] :: (prefixes r).map (c :: ·)

def infixes : Str → List Str
  | [] => [[]]
  | c :: r => prefixes (c :: r) ++ infixes r

theorem mem_prefixes (a b : Str) : a ∈ prefixes b ↔ a <+: b := by
  induction b generalizing a with
  | nil => simp [prefixes, List.prefix_nil]
  | cons c r ih =>
    simp only [prefixes, List.mem_cons, List.mem_map, List.prefix_cons_iff, ih, eq_comm (a := a), and_comm]

theorem mem_infixes (a b : Str) : a ∈ infixes b ↔ a <:+: b := by
  induction b with
  | nil => simp [infixes, List.infix_nil]
  | cons c r ih =>
    simp only [infixes, List.mem_append, mem_prefixes, ih, List.infix_cons_iff]

/-- the substrings of `b` of at most three letters with the property `p`, against an explicit table of words -/
theorem short_infixes_iff (b : Str) (p : Str → Bool) {L : List String}
    (h : ∀ x, x ∈ (infixes b).filter (fun x => p x && decide (x.length ≤ 3)) ↔ x ∈ L.map String.toList) (w : String) :
    ((p w.toList = true ∧ w.toList <:+: b) ∧ w.length ≤ 3) ↔ w ∈ L := by
  rw [mem_strings_iff, ← h, ← String.length_toList, ← mem_infixes, List.mem_filter, Bool.and_eq_true, decide_eq_true_eq,
    and_assoc, and_left_comm]

/-- a chain of four tests, in code order; over propositions, so that no test is rewritten with another -/
theorem dispatch_spec {p q r s : Prop} [Decidable p] [Decidable q] [Decidable r] [Decidable s] (d : Option FixKind)
    (hd : d = if p then some .sequence else if q then some .signal else if r then some .strand
      else if s then some .structure else none) :
    (d = some .sequence ↔ p) ∧ (d = some .signal ↔ ¬ p ∧ q) ∧ (d = some .strand ↔ ¬ p ∧ ¬ q ∧ r) ∧
    (d = some .structure ↔ ¬ p ∧ ¬ q ∧ ¬ r ∧ s) ∧ (d = none ↔ ¬ p ∧ ¬ q ∧ ¬ r ∧ ¬ s) := by
  subst hd
  by_cases hp : p
  · rw [if_pos hp]; simp [hp]
  · rw [if_neg hp]
    by_cases hq : q
    · rw [if_pos hq]; simp [hp, hq]
    · rw [if_neg hq]
      by_cases hr : r
      · rw [if_pos hr]; simp [hp, hq, hr]
      · rw [if_neg hr]
        by_cases hs : s
        · rw [if_pos hs]; simp [hp, hq, hr, hs]
        · rw [if_neg hs]; simp [hp, hq, hr, hs]

theorem kindOfL_spec (w : Str) :
    (kindOfL w = some .sequence ↔ w <:+: sSequence) ∧
    (kindOfL w = some .signal ↔ ¬ w <:+: sSequence ∧ w <:+: sSignal) ∧
    (kindOfL w = some .strand ↔ ¬ w <:+: sSequence ∧ ¬ w <:+: sSignal ∧ w = sStrand) ∧
    (kindOfL w = some .structure ↔ ¬ w <:+: sSequence ∧ ¬ w <:+: sSignal ∧ w ≠ sStrand ∧ w = sStructure) ∧
    (kindOfL w = none ↔ ¬ w <:+: sSequence ∧ ¬ w <:+: sSignal ∧ w ≠ sStrand ∧ w ≠ sStructure) := by
  simp only [← isSub_iff]
  exact dispatch_spec (kindOfL w) rfl

def noLeadingPlus (s : String) : Bool := s.toList.head? != some '+'

theorem toList_line (kind sep name pad1 pad2 seq tl : String) :
    (kind ++ sep ++ name ++ pad1 ++ "=" ++ pad2 ++ seq ++ tl).toList =
      kind.toList ++ (sep.toList ++ (name.toList ++ (pad1.toList ++ ('=' :: (pad2.toList ++ (seq.toList ++ tl.toList)))))) := by
  simp only [String.toList_append, List.append_assoc]
  rfl

/-- Python's `a in b` for two `str`s -/
def IsSubstr (a b : String) : Prop := a.toList <:+: b.toList

theorem isSubstr_ofList (w : String) (l : Str) : IsSubstr w (String.ofList l) ↔ w.toList <:+: l := by
  rw [IsSubstr, String.toList_ofList]

theorem toList_eq_iff {w : String} {l : Str} : w.toList = l ↔ w = String.ofList l := by
  rw [← String.toList_inj, String.toList_ofList]

/-- a code table in which the six letters a fixed file may use are codes (every table of the compile path) -/
def FixCodes (t : Pepper.CodeTable) : Prop := ∀ c ∈ ['A', 'T', 'C', 'G', 'N', 'S'], t.isCode c = true

end Pepper.ParseFixed
