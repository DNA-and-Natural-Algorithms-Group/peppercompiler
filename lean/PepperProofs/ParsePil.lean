import PepperModel.ParsePil
import PepperProofs.EmitEq
import PepperProofs.Basic
/-!
# Lemmas about the PIL text reader model (`PepperModel/ParsePil.lean`)

Scanner lemmas, the keyword dispatch, one lemma per emitted line shape, documents (`Reads`, `Emitted`), and the round
trip for `Comp.emitPil` / `Sys.emitPilInst` in two pieces: the lines read as the statements (`reads_comp`, `reads_inst`),
and a document made of such lines is read line by line (`parsePil_intercalate`, `parsePil_unlines`, `parsePil_file`); the
property file joins them.

A string literal is, to the kernel, `String.ofList` of its characters, while evaluating `String.toList` on one decodes
UTF-8 and is slow.  So wherever the characters of a literal matter, `rw [String.toList_ofList]` (which unifies the
literal with `String.ofList _`) replaces `"lit".toList` by the list of characters first.
-/
namespace Pepper.ParsePil
open Pepper

/-! ### white space, `words`, `strip` -/

theorem isWs_iff (c : Char) : isWs c = true ↔
    c = ' ' ∨ c = '\t' ∨ c = '\n' ∨ c = '\x0b' ∨ c = '\x0c' ∨ c = '\r' ∨ c = '\x1c' ∨ c = '\x1d' ∨ c = '\x1e' ∨ c = '\x1f' := by
  simp only [isWs, Bool.or_eq_true, beq_iff_eq, or_assoc]

theorem ws_not_name_param {c : Char} (h : isWs c = true) : isNameChar c = false ∧ isParamChar c = false := by
  rw [isWs_iff] at h
  rcases h with rfl | rfl | rfl | rfl | rfl | rfl | rfl | rfl | rfl | rfl <;> decide

theorem nameChar_not_ws {c : Char} (h : isNameChar c = true) : isWs c = false := by
  cases hw : isWs c with
  | false => rfl
  | true => rw [(ws_not_name_param hw).1] at h; cases h

theorem paramChar_not_ws {c : Char} (h : isParamChar c = true) : isWs c = false := by
  cases hw : isWs c with
  | false => rfl
  | true => rw [(ws_not_name_param hw).2] at h; cases h

/-- `l` is (part of) one word of `str.split()` -/
def NoWs (l : List Char) : Prop := ∀ c ∈ l, isWs c = false

instance (l : List Char) : Decidable (NoWs l) := inferInstanceAs (Decidable (∀ c ∈ l, isWs c = false))

theorem words_cons (c : Char) (r : List Char) :
    words (c :: r) = if isWs c then words r else consWord c r (words r) := rfl

theorem words_ws_cons {c : Char} (h : isWs c = true) (r : List Char) : words (c :: r) = words r := by
  rw [words_cons, if_pos h]

theorem consWord_ws {c d : Char} (hd : isWs d = true) (r : List Char) (ws : List (List Char)) :
    consWord c (d :: r) ws = [c] :: ws := by
  cases ws with
  | nil => rfl
  | cons w ws' => simp [consWord, hd]

theorem consWord_nws {c d : Char} (hd : isWs d = false) (r : List Char) (w : List Char) (ws : List (List Char)) :
    consWord c (d :: r) (w :: ws) = (c :: w) :: ws := by
  simp [consWord, hd]

theorem words_eq : ∀ l, words l = (l.splitOnP isWs).filter (fun w => !w.isEmpty)
  | [] => rfl
  | c :: r => by
    obtain ⟨x, y, h⟩ := List.exists_cons_of_ne_nil (List.splitOnP_ne_nil isWs r)
    rw [words_cons, words_eq r, List.splitOnP_cons_eq_if_modifyHead, h]
    by_cases hc : isWs c = true
    · simp [hc]
    · rw [if_neg hc]
      cases r with
      | nil => cases h; simp [consWord, hc]
      | cons d r' =>
        -- the first field of `d :: r'` is empty iff `d` is white space: the two arms of `consWord`
        obtain ⟨x', y', h'⟩ := List.exists_cons_of_ne_nil (List.splitOnP_ne_nil isWs r')
        rw [List.splitOnP_cons_eq_if_modifyHead, h'] at h
        by_cases hd : isWs d = true
        · rw [if_pos hd] at h; cases h; simp [hc, consWord_ws hd]
        · rw [if_neg hd] at h; cases h; simp [hc, consWord_nws (Bool.eq_false_iff.2 hd)]

theorem words_append {d : Char} (hd : isWs d = true) (a b : List Char) : words (a ++ d :: b) = words a ++ words b := by
  simp only [words_eq, List.splitOnP_append_cons a b hd, List.filter_append]

theorem words_single {w : List Char} (hne : w ≠ []) (hw : NoWs w) : words w = [w] := by
  rw [words_eq, List.splitOnP_eq_singleton hw]
  simp [hne]

theorem words_tok_blank {w : List Char} (hne : w ≠ []) (hw : NoWs w) (r : List Char) :
    words (w ++ ' ' :: r) = w :: words r := by
  rw [words_append (by decide), words_single hne hw, List.singleton_append]

theorem words_nil_of_ws : ∀ (l : List Char), (∀ c ∈ l, isWs c = true) → words l = []
  | [], _ => rfl
  | c :: r, h => by
    rw [words_ws_cons (h c (by simp))]
    exact words_nil_of_ws r (fun x hx => h x (List.mem_cons_of_mem _ hx))

theorem words_append_ws (l : List Char) {c : Char} (hc : isWs c = true) : words (l ++ [c]) = words l := by
  rw [words_append hc, show words [] = [] from rfl, List.append_nil]

theorem rstrip_eq_self {l : List Char} (h : ∀ c, l.getLast? = some c → isWs c = false) : rstrip l = l :=
  reverse_dropWhile_reverse_id isWs l h

theorem rstrip_append_ws (l : List Char) {c : Char} (hc : isWs c = true) : rstrip (l ++ [c]) = rstrip l := by
  unfold rstrip
  simp [List.reverse_append, hc]

theorem words_rstrip (l : List Char) : words (rstrip l) = words l := by
  unfold rstrip
  rw [← List.reverse_reverse l]
  generalize l.reverse = m
  rw [List.reverse_reverse]
  induction m with
  | nil => rfl
  | cons c r ih =>
    by_cases hc : isWs c = true
    · rw [List.dropWhile_cons_of_pos hc, ih, List.reverse_cons, words_append_ws _ hc]
    · rw [List.dropWhile_cons_of_neg hc]

theorem dropWhile_ws_eq_self {l : List Char} (h : ∀ c, l.head? = some c → isWs c = false) : l.dropWhile isWs = l := by
  cases l with
  | nil => rfl
  | cons c r => exact List.dropWhile_cons_of_neg (by simp [h c rfl])

theorem cleanLine_noHash {l : List Char} (h : ∀ c ∈ l, c ≠ '#') (t : Bool) : cleanLine l t = strip l := by
  unfold cleanLine
  rw [takeWhile_eq_self (fun c hc => by simpa using h c hc), ite_self]

theorem rstrip_ne_nil {b : List Char} (h : ∃ c ∈ b, isWs c = false) : rstrip b ≠ [] := by
  obtain ⟨c, hc, hw⟩ := h
  unfold rstrip
  intro he
  have he' : b.reverse.dropWhile isWs = [] := by simpa using he
  have := dropWhile_eq_nil_iff.1 he' c (by simpa using hc)
  rw [hw] at this; cases this

theorem mem_of_mem_strip {n : List Char} {c : Char} (h : c ∈ strip n) : c ∈ n :=
  (List.dropWhile_sublist _).subset (mem_of_mem_dropWhile_reverse h)

theorem cleanLine_eq {l : List Char} (hh : ∀ c, l.head? = some c → isWs c = false) (hc : ∀ c ∈ l, c ≠ '#') (t : Bool) :
    cleanLine l t = rstrip l := by
  rw [cleanLine_noHash hc, strip, dropWhile_ws_eq_self hh]

theorem rstrip_append_left (a : List Char) {b : List Char} (hb : rstrip b ≠ []) : rstrip (a ++ b) = a ++ rstrip b := by
  unfold rstrip at *
  rw [List.reverse_append, List.dropWhile_append]
  have : (b.reverse.dropWhile isWs).isEmpty = false := by
    cases h : b.reverse.dropWhile isWs with
    | nil => rw [h] at hb; exact absurd rfl hb
    | cons x y => rfl
  rw [this]
  simp

theorem rstrip_append_tail (pre : List Char) {n : List Char} (hn : n ≠ []) (hnw : NoWs n) :
    rstrip (pre ++ n) = pre ++ n := by
  apply rstrip_eq_self
  intro c hc
  rw [List.getLast?_append] at hc
  cases hl : n.getLast? with
  | none => rw [List.getLast?_eq_none_iff] at hl; exact absurd hl hn
  | some d =>
    rw [hl] at hc
    cases hc
    exact hnw _ (List.mem_of_getLast? hl)

/-! ### the scanners on the text the emitter writes -/

theorem ws1_space (r : List Char) (h : ∀ c, r.head? = some c → isWs c = false) : ws1 (' ' :: r) = some r := by
  show (if isWs ' ' = true then some (r.dropWhile isWs) else none) = some r
  rw [if_pos (by decide), dropWhile_ws_eq_self h]

def NameL (nm : List Char) : Prop := nm ≠ [] ∧ ∀ c ∈ nm, isNameChar c = true

instance (nm : List Char) : Decidable (NameL nm) := inferInstanceAs (Decidable (_ ∧ _))

theorem NameL.noWs {nm : List Char} (h : NameL nm) : NoWs nm := fun c hc => nameChar_not_ws (h.2 c hc)

theorem NameL.head_not_ws {nm : List Char} (h : NameL nm) (r : List Char) :
    ∀ c, (nm ++ r).head? = some c → isWs c = false := by
  intro c hc
  rw [head_append_ne h.1] at hc
  exact h.noWs c (List.mem_of_mem_head? hc)

/-- `\s+([\w-]+)\s+=` on ` NAME =` -/
theorem nameEq_spec {nm : List Char} (hnm : NameL nm) (r : List Char) :
    nameEq (' ' :: (nm ++ ' ' :: '=' :: r)) = some (str nm, r) := by
  have hsp : isNameChar ' ' = false := by decide
  unfold nameEq
  rw [ws1_space _ (hnm.head_not_ws _)]
  simp only [takeWhile_append_stop hnm.2 hsp, dropWhile_append_stop hnm.2 hsp]
  rw [ws1_space _ (by intro c hc; cases hc; decide), if_neg (by simpa using hnm.1)]
  rfl

theorem colonTail_spec (n : List Char) : colonTail (' ' :: ':' :: ' ' :: n) = true := by
  unfold colonTail
  rw [ws1_space _ (by intro c hc; cases hc; decide)]
  show isWs ' ' = true
  decide

/-- the template of `sequence N = TEMPLATE : len` (also when the template is empty: two blanks) -/
theorem seqBody_spec {tm : List Char} (htm : ∀ c ∈ tm, (c != ':' && !isWs c) = true) (n : List Char) :
    seqBody (' ' :: (tm ++ ' ' :: ':' :: ' ' :: n)) = some tm := by
  have hsp : isWs ' ' = true := by decide
  cases tm with
  | nil => simp [seqBody, hsp, show isWs ':' = false by decide]
  | cons a t =>
    have ha : isWs a = false := by
      have := htm a (by simp); simp only [Bool.and_eq_true, Bool.not_eq_true'] at this; exact this.2
    have hP : (fun c => c != ':' && !isWs c) ' ' = false := by decide
    have hw : (' ' :: (a :: t ++ ' ' :: ':' :: ' ' :: n)) = [' '] ++ a :: (t ++ ' ' :: ':' :: ' ' :: n) := rfl
    unfold seqBody
    rw [hw, takeWhile_append_stop (by simpa using hsp) ha, dropWhile_append_stop (by simpa using hsp) ha,
      ← List.cons_append]
    simp only [takeWhile_append_stop htm hP, dropWhile_append_stop htm hP, colonTail_spec]
    simp

/-- `= ITEMS : rest` for super-sequences, strands (`m = false`) and structures (`m = true`) -/
theorem bodyColon_spec (m : Bool) {body : List Char} (hb : ∀ c ∈ body, c ≠ ':') (n : List Char) :
    bodyColon m (' ' :: (body ++ ' ' :: ':' :: ' ' :: n)) = some (' ' :: (body ++ [' ']), n.dropWhile isWs) := by
  have hpre : ∀ c ∈ ' ' :: (body ++ [' ']), (c != ':') = true := by
    intro c hc
    simp only [List.mem_cons, List.mem_append, List.mem_nil_iff, or_false] at hc
    rcases hc with rfl | hc | rfl
    · decide
    · simpa using hb c hc
    · decide
  have hsplit : (' ' :: (body ++ [' '])) ++ ':' :: ' ' :: n = ' ' :: (body ++ ' ' :: ':' :: ' ' :: n) := by simp
  have h1 := takeWhile_append_stop hpre (d := ':') (by decide) (' ' :: n)
  have h2 := dropWhile_append_stop hpre (d := ':') (by decide) (' ' :: n)
  rw [hsplit] at h1 h2
  obtain ⟨x, y, h3⟩ : ∃ x y, (' ' :: (body ++ [' '])).reverse = ' ' :: x :: y := by
    cases hr : body.reverse with
    | nil => exact ⟨' ', [], by simp [hr]⟩
    | cons a r => exact ⟨a, r ++ [' '], by simp [hr]⟩
  unfold bodyColon
  simp only [h1, h2, h3]
  simp [show isWs ' ' = true by decide]

/-! ### joined token lists: `words`, `strip`, `splitOnPlus` read them back -/

theorem joinWith_toList (sep : String) : ∀ (l : List String),
    (Comp.joinWith sep l).toList = sep.toList.intercalate (l.map String.toList)
  | [] => rfl
  | [a] => (List.intercalate_singleton ..).symm
  | a :: b :: r => by
    simp only [Comp.joinWith, String.toList_append, List.map_cons, List.intercalate_cons_cons]
    rw [← List.map_cons, ← joinWith_toList sep (b :: r)]

theorem mem_intercalate {sep : List Char} {c : Char} : ∀ {L : List (List Char)},
    c ∈ sep.intercalate L → c ∈ sep ∨ ∃ l ∈ L, c ∈ l
  | [], h => by simp [List.intercalate_nil] at h
  | [a], h => by rw [List.intercalate_singleton] at h; exact Or.inr ⟨a, by simp, h⟩
  | a :: b :: r, h => by
    rw [List.intercalate_cons_cons, List.mem_append, List.mem_append] at h
    rcases h with (h | h) | h
    · exact Or.inr ⟨a, by simp, h⟩
    · exact Or.inl h
    · rcases mem_intercalate h with h | ⟨l, hl, hc⟩
      · exact Or.inl h
      · exact Or.inr ⟨l, List.mem_cons_of_mem _ hl, hc⟩

theorem forall_intercalate {P : Char → Prop} {sep : List Char} (hs : ∀ c ∈ sep, P c) {l : List (List Char)}
    (hl : ∀ t ∈ l, ∀ c ∈ t, P c) : ∀ c ∈ sep.intercalate l, P c := by
  intro c hc
  rcases mem_intercalate hc with h | ⟨t, ht, hct⟩
  · exact hs c h
  · exact hl t ht c hct

theorem words_intercalate : ∀ (toks : List (List Char)), (∀ t ∈ toks, t ≠ [] ∧ NoWs t) → words ([' '].intercalate toks) = toks
  | [], _ => rfl
  | [a], h => by rw [List.intercalate_singleton]; exact words_single (h a (by simp)).1 (h a (by simp)).2
  | a :: b :: r, h => by
    have ih := words_intercalate (b :: r) (fun t ht => h t (List.mem_cons_of_mem _ ht))
    rw [List.intercalate_cons_cons, List.append_assoc, List.singleton_append, words_tok_blank (h a (by simp)).1 (h a (by simp)).2, ih]

theorem words_pad_intercalate (toks : List (List Char)) (h : ∀ t ∈ toks, t ≠ [] ∧ NoWs t) :
    words (' ' :: ([' '].intercalate toks ++ [' '])) = toks := by
  rw [words_ws_cons (by decide), words_append_ws _ (by decide), words_intercalate toks h]

theorem strip_pad {x : List Char} (hx : NoWs x) : strip (' ' :: (x ++ [' '])) = x := by
  unfold strip
  rw [List.dropWhile_cons_of_pos (by decide)]
  cases x with
  | nil => decide
  | cons a t =>
    have ha : isWs a = false := hx a (by simp)
    rw [show (a :: t ++ [' ']) = a :: (t ++ [' ']) from rfl, List.dropWhile_cons_of_neg (by simp [ha]),
      show a :: (t ++ [' ']) = (a :: t) ++ [' '] from rfl, rstrip_append_ws _ (by decide)]
    apply rstrip_eq_self
    intro c hc
    exact hx c (List.mem_of_getLast? hc)

theorem splitOnPlus_eq : ∀ l, splitOnPlus l = l.splitOn '+' :=
  eq_splitOn rfl fun d r a b e => by rw [splitOnPlus, e]

theorem pad_intercalate : ∀ (names : List (List Char)), names ≠ [] →
    ' ' :: ([' ', '+', ' '].intercalate names ++ [' ']) = ['+'].intercalate (names.map fun x => ' ' :: (x ++ [' ']))
  | [], h => absurd rfl h
  | [x], _ => by simp
  | x :: y :: r, _ => by
    have ih := pad_intercalate (y :: r) (by simp)
    simp only [List.map_cons, List.intercalate_cons_cons] at ih ⊢
    simp [← ih]

theorem splitOnPlus_pad_intercalate (names : List (List Char)) (hne : names ≠ [])
    (h : ∀ t ∈ names, NoWs t ∧ ∀ c ∈ t, c ≠ '+') :
    (splitOnPlus (' ' :: ([' ', '+', ' '].intercalate names ++ [' ']))).map strip = names := by
  rw [splitOnPlus_eq, pad_intercalate names hne, List.splitOn_intercalate _ _ (by simpa using hne), List.map_map]
  · conv => rhs; rw [← List.map_id names]
    exact List.map_congr_left fun x hx => strip_pad (h x hx).1
  · intro l hl hm
    obtain ⟨x, hx, rfl⟩ := List.mem_map.1 hl
    have : '+' ∈ x := by simpa using hm
    exact (h x hx).2 _ this rfl

/-! ### lines and documents: `SafeL`, `splitLines`, `parseLines`, `Reads` -/

/-- characters that neither end a line nor start a comment -/
def SafeL (l : List Char) : Prop := ∀ c ∈ l, c ≠ '#' ∧ c ≠ '\n' ∧ c ≠ '\r'

instance (l : List Char) : Decidable (SafeL l) := inferInstanceAs (Decidable (∀ c ∈ l, _))

theorem safeL_append {a b : List Char} : SafeL (a ++ b) ↔ SafeL a ∧ SafeL b := by
  simp only [SafeL, List.mem_append]
  exact ⟨fun h => ⟨fun c hc => h c (Or.inl hc), fun c hc => h c (Or.inr hc)⟩,
    fun h c hc => hc.elim (h.1 c) (h.2 c)⟩

theorem safeL_cons {c : Char} {b : List Char} : SafeL (c :: b) ↔ (c ≠ '#' ∧ c ≠ '\n' ∧ c ≠ '\r') ∧ SafeL b := by
  simp only [SafeL, List.mem_cons, forall_eq_or_imp]

theorem safeL_nil : SafeL [] := fun _ h => nomatch h

theorem uniNl_id : ∀ (l : List Char), (∀ c ∈ l, c ≠ '\r') → uniNl l = l
  | [], _ => rfl
  | c :: r, h => by
    have hc : c ≠ '\r' := h c (by simp)
    have ih := uniNl_id r (fun x hx => h x (List.mem_cons_of_mem _ hx))
    have : uniNl (c :: r) = c :: uniNl r := by
      rw [uniNl.eq_def]
      split <;> simp_all
    rw [this, ih]

theorem splitLines_cons (c : Char) (r : List Char) : splitLines (c :: r) =
    if c == '\n' then ([], true) :: splitLines r
    else match splitLines r with
      | [] => [([c], false)]
      | (l, t) :: rest => (c :: l, t) :: rest := rfl

theorem splitLines_append_nl : ∀ (a : List Char), (∀ c ∈ a, c ≠ '\n') → ∀ (r : List Char),
    splitLines (a ++ '\n' :: r) = (a, true) :: splitLines r
  | [], _, r => by simp [splitLines_cons]
  | c :: a, h, r => by
    have hc : (c == '\n') = false := by simpa using h c (by simp)
    rw [List.cons_append, splitLines_cons, hc, splitLines_append_nl a (fun x hx => h x (List.mem_cons_of_mem _ hx)) r]
    rfl

theorem splitLines_noNl : ∀ (a : List Char), (∀ c ∈ a, c ≠ '\n') → a ≠ [] → splitLines a = [(a, false)]
  | [], _, h => absurd rfl h
  | [c], h, _ => by
    have hc : (c == '\n') = false := by simpa using h c (by simp)
    rw [splitLines_cons, hc]; rfl
  | c :: d :: a, h, _ => by
    have hc : (c == '\n') = false := by simpa using h c (by simp)
    rw [splitLines_cons, hc, splitLines_noNl (d :: a) (fun x hx => h x (List.mem_cons_of_mem _ hx)) (by simp)]
    rfl

theorem parseLines_cons (tbl : CodeTable) (l : List Char) (t : Bool) (r : List (List Char × Bool)) :
    parseLines tbl ((l, t) :: r) =
      if (cleanLine l t).isEmpty then parseLines tbl r
      else match parseLine tbl (cleanLine l t) with
        | .error e => .error e
        | .ok none => parseLines tbl r
        | .ok (some s) => match parseLines tbl r with
          | .ok ss => .ok (s :: ss)
          | .error e => .error e := rfl

/-- what one line of the file contributes: nothing (blank, comment, `kinetic`), a statement, or the error -/
def lineStep (tbl : CodeTable) (x : List Char × Bool) : Except Err (Option Pil.Stmt) :=
  if (cleanLine x.1 x.2).isEmpty then .ok none else parseLine tbl (cleanLine x.1 x.2)

theorem parseLines_eq_mapM (tbl : CodeTable) :
    ∀ L, parseLines tbl L = (L.mapM (lineStep tbl)).map (List.filterMap id) :=
  lineLoop_eq_mapM rfl fun (l, t) r => by
    rw [parseLines_cons, lineStep]
    split
    · rfl
    · rcases parseLine tbl (cleanLine l t) with e | _ | s
      · rfl
      · rfl
      · cases parseLines tbl r <;> rfl

theorem parseLines_append_ok (tbl : CodeTable) (a : List (List Char × Bool)) {x : List Pil.Stmt}
    (h : parseLines tbl a = .ok x) (b : List (List Char × Bool)) :
    parseLines tbl (a ++ b) = (parseLines tbl b).map (x ++ ·) := by
  simp only [parseLines_eq_mapM] at h ⊢
  obtain ⟨xs, hxs, rfl⟩ := map_ok h
  rw [List.mapM_append, hxs]
  cases b.mapM (lineStep tbl) <;> simp [Except.map, bind, Except.bind, pure, Except.pure]

/-- the lines `ls` (all newline-terminated) read as the statements `ss` -/
def Reads (tbl : CodeTable) (ls : List (List Char)) (ss : List Pil.Stmt) : Prop :=
  parseLines tbl (ls.map (·, true)) = .ok ss

theorem Reads.nil (tbl : CodeTable) : Reads tbl [] [] := rfl

theorem Reads.append {tbl : CodeTable} {a b : List (List Char)} {x y : List Pil.Stmt}
    (ha : Reads tbl a x) (hb : Reads tbl b y) : Reads tbl (a ++ b) (x ++ y) := by
  unfold Reads at *
  rw [List.map_append, parseLines_append_ok tbl _ ha, hb]; rfl

theorem Reads.flatMap {tbl : CodeTable} {α : Type} (f : α → List (List Char)) (g : α → List Pil.Stmt) :
    ∀ (L : List α), (∀ e ∈ L, Reads tbl (f e) (g e)) → Reads tbl (L.flatMap f) (L.flatMap g)
  | [], _ => Reads.nil tbl
  | e :: L, h => by
    have := Reads.append (h e (by simp)) (Reads.flatMap f g L (fun x hx => h x (List.mem_cons_of_mem _ hx)))
    simpa using this

theorem Reads.line {tbl : CodeTable} {l c : List Char} {o : Option Pil.Stmt} (hc : cleanLine l true = c) (hne : c ≠ [])
    (hp : parseLine tbl c = .ok o) : Reads tbl [l] o.toList := by
  subst hc
  unfold Reads
  rw [List.map_cons, parseLines_cons, if_neg (by simpa using hne), hp]
  cases o <;> rfl

theorem parseLines_intercalate (tbl : CodeTable) : ∀ (ls : List (List Char)), (∀ l ∈ ls, SafeL l) →
    parseLines tbl (splitLines (['\n'].intercalate ls)) = parseLines tbl (ls.map (·, true))
  | [], _ => rfl
  | [a], h => by
    have ha := h a (by simp)
    rw [List.intercalate_singleton]
    by_cases he : a = []
    · subst he; rfl
    · rw [splitLines_noNl a (fun c hc => (ha c hc).2.1) he]
      simp only [List.map_cons, List.map_nil, parseLines_cons, cleanLine_noHash (fun c hc => (ha c hc).1)]
  | a :: b :: r, h => by
    have ha := h a (by simp)
    rw [List.intercalate_cons_cons, List.append_assoc, List.singleton_append,
      splitLines_append_nl a (fun c hc => (ha c hc).2.1), List.map_cons, parseLines_cons, parseLines_cons,
      parseLines_intercalate tbl (b :: r) (fun l hl => h l (List.mem_cons_of_mem _ hl))]

theorem parseLines_unlines (tbl : CodeTable) : ∀ (ls : List (List Char)), (∀ l ∈ ls, ∀ c ∈ l, c ≠ '\n') →
    parseLines tbl (splitLines (ls.flatMap (· ++ ['\n']))) = parseLines tbl (ls.map (·, true))
  | [], _ => rfl
  | a :: r, h => by
    rw [List.flatMap_cons, List.append_assoc, List.singleton_append, splitLines_append_nl a (h a (by simp)),
      List.map_cons, parseLines_cons, parseLines_cons,
      parseLines_unlines tbl r (fun l hl => h l (List.mem_cons_of_mem _ hl))]

theorem parseLines_filter (tbl : CodeTable) : ∀ (L : List (List Char × Bool)),
    parseLines tbl (L.filter (fun x => !(cleanLine x.1 x.2).isEmpty)) = parseLines tbl L
  | [] => rfl
  | (l, t) :: r => by
    by_cases he : (cleanLine l t).isEmpty = true
    · rw [List.filter_cons_of_neg (by simp [he]), parseLines_cons, if_pos he, parseLines_filter tbl r]
    · rw [List.filter_cons_of_pos (by simp [he]), parseLines_cons, parseLines_cons, parseLines_filter tbl r]

/-! ### keyword dispatch -/

/-- what `parseLine` does with the rest of a line (after the blank) whose first word is `kw` -/
def dispatch (tbl : CodeTable) (kw rest : List Char) : Except Err (Option Pil.Stmt) :=
  if kw == "sequence".toList then (parseSeq tbl (' ' :: rest)).map some
  else if kw == "super-sequence".toList || kw == "sup-sequence".toList then (parseSup (' ' :: rest)).map some
  else if kw == "strand".toList then (parseStrand (' ' :: rest)).map some
  else if kw == "structure".toList then (parseStruct (' ' :: rest)).map some
  else if kw == "equal".toList then .ok (some (.equal ((words rest).map str)))
  else if kw == "kinetic".toList then .ok none
  else .error .command

theorem parseLine_kw (tbl : CodeTable) {kw : List Char} (hk : kw ≠ []) (hkw : NoWs kw) (rest : List Char) :
    parseLine tbl (kw ++ ' ' :: rest) = dispatch tbl kw rest := by
  unfold parseLine dispatch
  rw [words_tok_blank hk hkw]
  simp only [List.drop_left, List.drop_succ_cons, List.drop_zero]

/-- `kw` is a word without `#` on which `parseLine` hands the rest of the line (from the blank on) to `p` -/
structure Keyword (tbl : CodeTable) (kw : List Char) (p : List Char → Except Err (Option Pil.Stmt)) : Prop where
  ne : kw ≠ []
  noWs : NoWs kw
  safe : SafeL kw
  parse : ∀ rest, parseLine tbl (kw ++ ' ' :: rest) = p (' ' :: rest)

/-- `dispatch` decides a keyword: `ne`, `noWs`, `safe` are given once -/
theorem Keyword.of_dispatch {tbl : CodeTable} {kw : List Char} {p : List Char → Except Err (Option Pil.Stmt)}
    (ne : kw ≠ []) (noWs : NoWs kw) (safe : SafeL kw) (h : ∀ rest, dispatch tbl kw rest = p (' ' :: rest)) : Keyword tbl kw p :=
  ⟨ne, noWs, safe, fun rest => by rw [parseLine_kw tbl ne noWs]; exact h rest⟩

theorem kwSequence (tbl : CodeTable) : Keyword tbl "sequence".toList (fun r => (parseSeq tbl r).map some) := by
  rw [String.toList_ofList]
  refine .of_dispatch (by decide) (by decide) (by decide) fun rest => ?_
  unfold dispatch
  repeat rw [String.toList_ofList]
  rfl

theorem kwSup (tbl : CodeTable) : Keyword tbl "sup-sequence".toList (fun r => (parseSup r).map some) := by
  rw [String.toList_ofList]
  refine .of_dispatch (by decide) (by decide) (by decide) fun rest => ?_
  unfold dispatch
  repeat rw [String.toList_ofList]
  rfl

theorem kwStrand (tbl : CodeTable) : Keyword tbl "strand".toList (fun r => (parseStrand r).map some) := by
  rw [String.toList_ofList]
  refine .of_dispatch (by decide) (by decide) (by decide) fun rest => ?_
  unfold dispatch
  repeat rw [String.toList_ofList]
  rfl

theorem kwStructure (tbl : CodeTable) : Keyword tbl "structure".toList (fun r => (parseStruct r).map some) := by
  rw [String.toList_ofList]
  refine .of_dispatch (by decide) (by decide) (by decide) fun rest => ?_
  unfold dispatch
  repeat rw [String.toList_ofList]
  rfl

theorem kwEqual (tbl : CodeTable) :
    Keyword tbl "equal".toList (fun r => .ok (some (.equal ((words r).map str)))) := by
  rw [String.toList_ofList]
  refine .of_dispatch (by decide) (by decide) (by decide) fun rest => ?_
  unfold dispatch
  show _ = Except.ok (some (Pil.Stmt.equal ((words (' ' :: rest)).map str)))
  rw [words_ws_cons (by decide)]
  repeat rw [String.toList_ofList]
  rfl

theorem kwKinetic (tbl : CodeTable) : Keyword tbl "kinetic".toList (fun _ => .ok none) := by
  rw [String.toList_ofList]
  refine .of_dispatch (by decide) (by decide) (by decide) fun rest => ?_
  unfold dispatch
  repeat rw [String.toList_ofList]
  rfl

/-- **an emitted line** `KEYWORD rest`: cleaning only removes trailing white space of `rest`, and the line reads as
    what the keyword's parser makes of the remainder -/
theorem Keyword.reads {tbl : CodeTable} {kw : List Char} {p : List Char → Except Err (Option Pil.Stmt)}
    (hk : Keyword tbl kw p) {X : List Char} {o : Option Pil.Stmt} (hX : SafeL X) (hne : ∃ c ∈ X, isWs c = false)
    (hp : p (' ' :: rstrip X) = .ok o) : Reads tbl [kw ++ ' ' :: X] o.toList ∧ SafeL (kw ++ ' ' :: X) := by
  have hsafe : SafeL (kw ++ ' ' :: X) := safeL_append.mpr ⟨hk.safe, safeL_cons.mpr ⟨by decide, hX⟩⟩
  have h1 : rstrip (' ' :: X) = ' ' :: rstrip X := rstrip_append_left [' '] (rstrip_ne_nil hne)
  refine ⟨Reads.line (c := kw ++ ' ' :: rstrip X) ?_ (by simp) (by rw [hk.parse, hp]), hsafe⟩
  rw [cleanLine_eq _ (fun c hc => (hsafe c hc).1), rstrip_append_left kw (by rw [h1]; simp), h1]
  intro c hc
  rw [head_append_ne hk.ne] at hc
  exact hk.noWs c (List.mem_of_mem_head? hc)

theorem Keyword.reads_tail {tbl : CodeTable} {kw : List Char} {p : List Char → Except Err (Option Pil.Stmt)}
    (hk : Keyword tbl kw p) {body tail : List Char} {o : Option Pil.Stmt} (hb : SafeL body) (ht : tail ≠ [])
    (htw : NoWs tail) (hts : SafeL tail) (hp : p (' ' :: (body ++ tail)) = .ok o) :
    Reads tbl [kw ++ ' ' :: (body ++ tail)] o.toList ∧ SafeL (kw ++ ' ' :: (body ++ tail)) := by
  obtain ⟨a, r, rfl⟩ := List.exists_cons_of_ne_nil ht
  exact hk.reads (safeL_append.mpr ⟨hb, hts⟩) ⟨a, by simp, htw a (by simp)⟩
    (by rw [rstrip_append_tail _ (by simp) htw]; exact hp)

/-! ### one lemma per line shape (character lists) -/

/-- what `toString (n : Nat)` prints -/
def DigL (n : List Char) : Prop := n ≠ [] ∧ ∀ c ∈ n, c.isDigit = true

theorem nameChar_safe {c : Char} (h : isNameChar c = true) : c ≠ '#' ∧ c ≠ '\n' ∧ c ≠ '\r' := by
  refine ⟨?_, ?_, ?_⟩ <;> (rintro rfl; revert h; decide)

theorem paramChar_safe {c : Char} (h : isParamChar c = true) : c ≠ '#' ∧ c ≠ '\n' ∧ c ≠ '\r' := by
  refine ⟨?_, ?_, ?_⟩ <;> (rintro rfl; revert h; decide)

theorem digit_nameChar {c : Char} (h : c.isDigit = true) : isNameChar c = true := by
  simp [isNameChar, Char.isAlphanum, h]

theorem NameL.safe {nm : List Char} (h : NameL nm) : SafeL nm := fun c hc => nameChar_safe (h.2 c hc)
theorem DigL.name {n : List Char} (h : DigL n) : NameL n := ⟨h.1, fun c hc => digit_nameChar (h.2 c hc)⟩

/-- `sequence NAME = TEMPLATE : LEN` -/
def seqLine (nm tm n : List Char) : List Char :=
  "sequence".toList ++ ' ' :: (nm ++ [' ', '=', ' '] ++ tm ++ [' ', ':', ' '] ++ n)

theorem reads_seqLine (tbl : CodeTable) {nm tm n : List Char} (hnm : NameL nm)
    (htm : ∀ c ∈ tm, tbl.isCode c = true ∧ c ≠ ':' ∧ isWs c = false ∧ c ≠ '#') (hn : DigL n) :
    Reads tbl [seqLine nm tm n] [.seq (str nm) tm] ∧ SafeL (seqLine nm tm n) := by
  refine (kwSequence tbl).reads_tail (o := some _) ?_ hn.1 hn.name.noWs hn.name.safe ?_
  · simp only [safeL_append]
    refine ⟨⟨⟨hnm.safe, by decide⟩, fun c hc => ?_⟩, by decide⟩
    obtain ⟨_, _, hw, hh⟩ := htm c hc
    refine ⟨hh, ?_, ?_⟩ <;> (rintro rfl; revert hw; decide)
  · simp only [List.append_assoc, List.cons_append, List.nil_append]
    have hcodes : tm.all tbl.isCode = true := List.all_eq_true.mpr fun c hc => (htm c hc).1
    simp only [parseSeq, nameEq_spec hnm, seqBody_spec (fun c hc => by obtain ⟨_, h1, h2, _⟩ := htm c hc; simp [h1, h2]),
      hcodes, if_true]
    rfl

def isTokChar (c : Char) : Bool := isNameChar c || c == '*'

def TokL (t : List Char) : Prop := t ≠ [] ∧ ∀ c ∈ t, isTokChar c = true

/-- what the scanners need of a token character -/
structure TokChar (c : Char) : Prop where
  notWs : isWs c = false
  neColon : c ≠ ':'
  nePlus : c ≠ '+'
  safe : c ≠ '#' ∧ c ≠ '\n' ∧ c ≠ '\r'

theorem tokChar_of {c : Char} (h : isTokChar c = true) : TokChar c := by
  simp only [isTokChar, Bool.or_eq_true, beq_iff_eq] at h
  rcases h with h | rfl
  · refine ⟨nameChar_not_ws h, ?_, ?_, nameChar_safe h⟩ <;> (rintro rfl; revert h; decide)
  · exact ⟨by decide, by decide, by decide, by decide⟩

theorem NameL.tok {nm : List Char} (h : NameL nm) : TokL nm := ⟨h.1, fun c hc => by simp [isTokChar, h.2 c hc]⟩

theorem TokL.word {t : List Char} (h : TokL t) : t ≠ [] ∧ NoWs t := ⟨h.1, fun c hc => (tokChar_of (h.2 c hc)).notWs⟩

theorem intercalate_tok_ne_colon {sep : List Char} (hs : ∀ c ∈ sep, c ≠ ':') {toks : List (List Char)}
    (ht : ∀ t ∈ toks, TokL t) : ∀ c ∈ sep.intercalate toks, c ≠ ':' :=
  forall_intercalate hs fun t htm c hc => (tokChar_of ((ht t htm).2 c hc)).neColon

theorem intercalate_tok_safe {sep : List Char} (hs : SafeL sep) {toks : List (List Char)} (ht : ∀ t ∈ toks, TokL t) :
    SafeL (sep.intercalate toks) :=
  forall_intercalate (P := fun c => c ≠ '#' ∧ c ≠ '\n' ∧ c ≠ '\r') hs fun t htm c hc => (tokChar_of ((ht t htm).2 c hc)).safe

/-- `NAME = ITEMS : LEN`, the part that super-sequence and strand lines share -/
def itemsBody (nm : List Char) (toks : List (List Char)) : List Char :=
  nm ++ [' ', '=', ' '] ++ [' '].intercalate toks ++ [' ', ':', ' ']

theorem itemsBody_spec {nm : List Char} {toks : List (List Char)} (hnm : NameL nm) (ht : ∀ t ∈ toks, TokL t)
    (n : List Char) :
    SafeL (itemsBody nm toks) ∧ ∃ tl, nameEq (' ' :: (itemsBody nm toks ++ n)) =
      some (str nm, ' ' :: ([' '].intercalate toks ++ ' ' :: ':' :: ' ' :: n)) ∧
      bodyColon false (' ' :: ([' '].intercalate toks ++ ' ' :: ':' :: ' ' :: n)) = some (' ' :: ([' '].intercalate toks ++ [' ']), tl) ∧
      (words (' ' :: ([' '].intercalate toks ++ [' ']))).map str = toks.map str := by
  have hcolon := intercalate_tok_ne_colon (sep := [' ']) (by decide) ht
  have hjs := intercalate_tok_safe (sep := [' ']) (by decide) ht
  refine ⟨?_, _, ?_, bodyColon_spec false hcolon n, ?_⟩
  · simp only [itemsBody, safeL_append]
    exact ⟨⟨⟨hnm.safe, by decide⟩, hjs⟩, by decide⟩
  · simp only [itemsBody, List.append_assoc, List.cons_append, List.nil_append]
    exact nameEq_spec hnm _
  · rw [words_pad_intercalate toks (fun t htm => (ht t htm).word)]

/-- `sup-sequence NAME = ITEMS : LEN` -/
def supLine (nm : List Char) (toks : List (List Char)) (n : List Char) : List Char :=
  "sup-sequence".toList ++ ' ' :: (itemsBody nm toks ++ n)

theorem reads_supLine (tbl : CodeTable) {nm : List Char} {toks : List (List Char)} {n : List Char} (hnm : NameL nm)
    (ht : ∀ t ∈ toks, TokL t) (hn : DigL n) :
    Reads tbl [supLine nm toks n] [.sup (str nm) (toks.map str)] ∧ SafeL (supLine nm toks n) := by
  obtain ⟨hsafe, tl, h1, h2, h3⟩ := itemsBody_spec hnm ht n
  refine (kwSup tbl).reads_tail (o := some _) hsafe hn.1 hn.name.noWs hn.name.safe ?_
  simp only [parseSup, h1, h2, h3]
  rfl

/-- `strand [dummy] NAME = ITEMS : LEN` -/
def strandLine (dummy : Bool) (nm : List Char) (toks : List (List Char)) (n : List Char) : List Char :=
  "strand".toList ++ ' ' :: ((if dummy then "[dummy] ".toList else []) ++ itemsBody nm toks ++ n)

theorem dropPrefix?_append : ∀ (p x : List Char), dropPrefix? p (p ++ x) = some x
  | [], x => by cases x <;> rfl
  | c :: p, x => by simp [dropPrefix?, dropPrefix?_append p x]

theorem dummyPrefix_spec (dummy : Bool) {nm : List Char} (hnm : NameL nm) (x : List Char) :
    dummyPrefix (' ' :: ((if dummy then "[dummy] ".toList else []) ++ (nm ++ x))) = (dummy, ' ' :: (nm ++ x)) := by
  unfold dummyPrefix
  repeat rw [String.toList_ofList]
  cases dummy with
  | true => rfl
  | false =>
    obtain ⟨a, r, rfl⟩ := List.exists_cons_of_ne_nil hnm.1
    have ha : isNameChar a = true := hnm.2 a (by simp)
    rw [if_neg (by decide), List.nil_append, ws1_space _ (hnm.head_not_ws x)]
    have hne : ('[' == a) = false := by
      simp only [beq_eq_false_iff_ne, ne_eq]
      rintro rfl; revert ha; decide
    simp only [List.cons_append, dropPrefix?, hne, Bool.false_eq_true, if_false]

theorem reads_strandLine (tbl : CodeTable) {dummy : Bool} {nm : List Char} {toks : List (List Char)} {n : List Char}
    (hnm : NameL nm) (ht : ∀ t ∈ toks, TokL t) (hn : DigL n) :
    Reads tbl [strandLine dummy nm toks n] [.strand (str nm) dummy (toks.map str)] ∧
      SafeL (strandLine dummy nm toks n) := by
  obtain ⟨hsafe, tl, h1, h2, h3⟩ := itemsBody_spec hnm ht n
  refine (kwStrand tbl).reads_tail (o := some _) (safeL_append.mpr ⟨?_, hsafe⟩) hn.1 hn.name.noWs hn.name.safe ?_
  · cases dummy
    · exact safeL_nil
    · rw [if_pos rfl, String.toList_ofList]; decide
  · have hd := dummyPrefix_spec dummy hnm ([' ', '=', ' '] ++ [' '].intercalate toks ++ [' ', ':', ' '] ++ n)
    simp only [itemsBody, List.append_assoc] at hd h1 ⊢
    simp only [parseStrand, hd, h1, h2, h3]
    rfl

def isStructChar (c : Char) : Bool := c == '.' || c == '(' || c == ')' || c == '+'

theorem structChar_facts {c : Char} (h : isStructChar c = true) :
    isWs c = false ∧ (c ≠ '#' ∧ c ≠ '\n' ∧ c ≠ '\r') ∧ (c != ' ' && c != '\t') = true := by
  simp only [isStructChar, Bool.or_eq_true, beq_iff_eq] at h
  rcases h with ((rfl | rfl) | rfl) | rfl <;> decide

theorem structHdr_spec {P : List Char} (hne : P ≠ []) (hP : ∀ c ∈ P, isParamChar c = true) (y : List Char) :
    structHdr (' ' :: '[' :: (P ++ ']' :: y)) = some (some (str P), y) := by
  have hb : isParamChar ']' = false := by decide
  unfold structHdr
  rw [ws1_space _ (by intro c hc; cases hc; decide)]
  simp only [takeWhile_append_stop hP hb, dropWhile_append_stop hP hb]
  rw [if_neg (by simpa using hne)]

/-- `structure [PARAMS] NAME = S1 + S2 : STRUCT` -/
def structLine (P nm : List Char) (names : List (List Char)) (st : List Char) : List Char :=
  "structure".toList ++ ' ' :: ('[' :: P ++ [']', ' '] ++ nm ++ [' ', '=', ' '] ++ [' ', '+', ' '].intercalate names ++
    [' ', ':', ' '] ++ st)

theorem reads_structLine (tbl : CodeTable) {P nm : List Char} {names : List (List Char)} {st : List Char}
    (hPne : P ≠ []) (hP : P.all isParamChar = true) (hnm : NameL nm) (hnn : names.isEmpty = false)
    (hnames : ∀ x ∈ names, NameL x) (hstne : st.isEmpty = false) (hst : st.all isStructChar = true) :
    Reads tbl [structLine P nm names st] [.struct (str nm) (some (str P)) (names.map str) st] ∧
      SafeL (structLine P nm names st) := by
  have htok : ∀ x ∈ names, TokL x := fun x hx => (hnames x hx).tok
  have hcolon := intercalate_tok_ne_colon (sep := [' ', '+', ' ']) (by decide) htok
  have hjs := intercalate_tok_safe (sep := [' ', '+', ' ']) (by decide) htok
  rw [List.all_eq_true] at hP hst
  rw [List.isEmpty_eq_false_iff] at hnn hstne
  have hstw : NoWs st := fun c hc => (structChar_facts (hst c hc)).1
  refine (kwStructure tbl).reads_tail (o := some _) ?_ hstne hstw (fun c hc => (structChar_facts (hst c hc)).2.1) ?_
  · simp only [safeL_append, safeL_cons]
    exact ⟨⟨⟨⟨⟨⟨by decide, fun c hc => paramChar_safe (hP c hc)⟩, by decide⟩, hnm.safe⟩, by decide⟩, hjs⟩, by decide⟩
  · simp only [List.append_assoc, List.cons_append, List.nil_append]
    simp only [parseStruct, structHdr_spec hPne hP, nameEq_spec hnm, bodyColon_spec true hcolon]
    have hd : st.dropWhile isWs = st := by
      obtain ⟨a, r, rfl⟩ := List.exists_cons_of_ne_nil hstne
      exact dropWhile_ws_eq_self (fun c hc => by cases hc; exact hstw _ (by simp))
    have hf : st.filter (fun c => c != ' ' && c != '\t') = st :=
      List.filter_eq_self.mpr (fun c hc => (structChar_facts (hst c hc)).2.2)
    have hall : (st.all fun c => c == '.' || c == '(' || c == ')' || c == '+') = true := List.all_eq_true.mpr hst
    rw [hd, hf, if_pos hall, show (fun n => str (strip n)) = str ∘ strip from rfl, ← List.map_map,
      splitOnPlus_pad_intercalate names hnn (fun x hx => ⟨(hnames x hx).noWs,
        fun c hc => (tokChar_of ((htok x hx).2 c hc)).nePlus⟩)]
    rfl

theorem words_flat : ∀ (toks : List (List Char)), (∀ t ∈ toks, TokL t) → words (toks.flatMap (· ++ [' '])) = toks
  | [], _ => rfl
  | a :: r, h => by
    rw [List.flatMap_cons, List.append_assoc, List.singleton_append,
      words_tok_blank (h a (by simp)).word.1 (h a (by simp)).word.2,
      words_flat r (fun t ht => h t (List.mem_cons_of_mem _ ht))]

/-- `equal SIGNAL ITEM ITEM … ` (every item followed by a blank; cleaning removes the last one) -/
def equalLine (sn : List Char) (toks : List (List Char)) : List Char :=
  "equal".toList ++ ' ' :: (sn ++ ' ' :: toks.flatMap (· ++ [' ']))

theorem reads_equalLine (tbl : CodeTable) {sn : List Char} {toks : List (List Char)} (hsn : NameL sn)
    (ht : ∀ t ∈ toks, TokL t) :
    Reads tbl [equalLine sn toks] [.equal (str sn :: toks.map str)] ∧ SafeL (equalLine sn toks) := by
  obtain ⟨a, r, rfl⟩ := List.exists_cons_of_ne_nil hsn.1
  refine (kwEqual tbl).reads (o := some _) (safeL_append.mpr ⟨hsn.safe, safeL_cons.mpr ⟨by decide, ?_⟩⟩)
    ⟨a, by simp, hsn.noWs a (by simp)⟩ ?_
  · intro c hc
    simp only [List.mem_flatMap, List.mem_append, List.mem_singleton] at hc
    obtain ⟨x, hx, hc | rfl⟩ := hc
    · exact (tokChar_of ((ht x hx).2 c hc)).safe
    · decide
  · rw [words_ws_cons (by decide), words_rstrip, words_tok_blank hsn.1 hsn.noWs, words_flat toks ht]
    rfl

/-! ### what the round trip needs of a loaded component: `compEmitOk` -/

/-- a non-empty name over the reader's name alphabet `[A-Za-z0-9_-]` -/
def nameOk (s : String) : Bool := !s.toList.isEmpty && s.toList.all isNameChar

theorem nameOk_iff {s : String} : nameOk s = true ↔ NameL s.toList := by
  simp only [nameOk, NameL, Bool.and_eq_true, Bool.not_eq_true', List.isEmpty_eq_false_iff, List.all_eq_true, ne_eq]

/-- a printed decimal bound (`%f`): digits and a point (`none` is printed `0.000000` / `inf`) -/
def decOk : Option Comp.Dec → Bool
  | none => true
  | some d => d.fmtF.all isParamChar

/-- **what the round trip needs of a loaded component** (decidable): every name the emitter writes (declared names
    with the prefix, item names, strand names in structures, structure names in kinetic lines) is non-empty over
    `[A-Za-z0-9_-]`; every template letter is a code of the reader's table and no white space, `:` or `#`; the printed
    `%g` parameter is over the reader's parameter alphabet `[A-Za-z0-9_.+-]`; a structure has at least one strand and a non-empty text over `.()+`. -/
def compEmitOk (tbl : CodeTable) (s : Comp.St) : Bool :=
  (s.baseSeqs.filter (·.len != 0)).all (fun e => nameOk (s.pfx ++ e.name) &&
    e.const.all (fun c => tbl.isCode c && c != ':' && !isWs c && c != '#')) &&
  (s.supSeqs.filter (·.len != 0)).all (fun e => nameOk (s.pfx ++ e.name) &&
    (e.items.filter (!·.dummy)).all (fun i => nameOk (s.pfx ++ i.name))) &&
  s.strands.all (fun e => nameOk (s.pfx ++ e.name) &&
    (e.items.filter (!·.dummy)).all (fun i => nameOk (s.pfx ++ i.name))) &&
  s.structs.all (fun e => nameOk (s.pfx ++ e.name) && e.opt.fmtG.all isParamChar && !e.strands.isEmpty &&
    e.strands.all (fun n => nameOk (s.pfx ++ n)) && !e.struct.isEmpty && e.struct.all isStructChar) &&
  s.kins.all (fun k => (k.ins ++ k.outs).all (fun n => nameOk (s.pfx ++ n)) && decOk k.low && decOk k.high)

theorem str_toList (s : String) : str s.toList = s := String.ofList_toList

theorem str_append (a b : List Char) : str (a ++ b) = str a ++ str b := by
  apply String.toList_inj.mp
  simp [str, String.toList_append]

theorem map_str_toList (names : List String) : (names.map String.toList).map str = names :=
  map_ofList_toList names

theorem tokL_star {nm : List Char} (h : NameL nm) (star : Bool) : TokL (nm ++ (if star then ['*'] else [])) := by
  refine ⟨fun he => h.1 (List.append_eq_nil_iff.mp he).1, fun c hc => ?_⟩
  rcases List.mem_append.mp hc with hc | hc
  · exact h.tok.2 c hc
  · cases star
    · cases hc
    · simp only [if_true, List.mem_singleton] at hc; subst hc; decide

theorem fullName_toList (p n : String) (rev : Bool) :
    (Comp.fullName p n rev).toList = (p ++ n).toList ++ (if rev then ['*'] else []) := by
  cases rev <;> simp [Comp.fullName, String.toList_append]

/-! ### `Emitted`: the emitter's lines, as strings -/

/-- the lines (as strings) `ls` read as `ss`, and none contains `#`, `\n`, `\r`: they can be joined into a document -/
def Emitted (tbl : CodeTable) (ls : List String) (ss : List Pil.Stmt) : Prop :=
  Reads tbl (ls.map String.toList) ss ∧ ∀ l ∈ ls, SafeL l.toList

theorem Emitted.line {tbl : CodeTable} {l : String} {ss : List Pil.Stmt} (h : Reads tbl [l.toList] ss ∧ SafeL l.toList) :
    Emitted tbl [l] ss :=
  ⟨h.1, fun x hx => by rw [List.mem_singleton.mp hx]; exact h.2⟩

theorem Emitted.append {tbl : CodeTable} {a b : List String} {x y : List Pil.Stmt} (ha : Emitted tbl a x)
    (hb : Emitted tbl b y) : Emitted tbl (a ++ b) (x ++ y) :=
  ⟨by rw [List.map_append]; exact Reads.append ha.1 hb.1, fun l hl => (List.mem_append.mp hl).elim (ha.2 l) (hb.2 l)⟩

theorem Emitted.flatMap {tbl : CodeTable} {α : Type} (f : α → List String) (g : α → List Pil.Stmt) (L : List α)
    (h : ∀ e ∈ L, Emitted tbl (f e) (g e)) : Emitted tbl (L.flatMap f) (L.flatMap g) := by
  refine ⟨?_, fun l hl => ?_⟩
  · rw [List.map_flatMap]
    exact Reads.flatMap _ g L (fun e he => (h e he).1)
  · obtain ⟨e, he, hle⟩ := List.mem_flatMap.mp hl
    exact (h e he).2 l hle

theorem Emitted.map {tbl : CodeTable} {α : Type} (f : α → String) (g : α → Pil.Stmt) (L : List α)
    (h : ∀ e ∈ L, Emitted tbl [f e] [g e]) : Emitted tbl (L.map f) (L.map g) := by
  rw [List.map_eq_flatMap, List.map_eq_flatMap]
  exact Emitted.flatMap _ _ L h

/-- the emitter's literals as character lists (the keywords stay as they are: `Keyword` speaks of them) -/
theorem lit_sequence : "sequence ".toList = "sequence".toList ++ [' '] := by
  rw [String.toList_ofList, String.toList_ofList]; rfl
theorem lit_sup : "sup-sequence ".toList = "sup-sequence".toList ++ [' '] := by
  rw [String.toList_ofList, String.toList_ofList]; rfl
theorem lit_strand : "strand ".toList = "strand".toList ++ [' '] := by
  rw [String.toList_ofList, String.toList_ofList]; rfl
theorem lit_structure : "structure [".toList = "structure".toList ++ [' ', '['] := by
  rw [String.toList_ofList, String.toList_ofList]; rfl
theorem lit_equal : "equal ".toList = "equal".toList ++ [' '] := by
  rw [String.toList_ofList, String.toList_ofList]; rfl
theorem lit_kinetic : "kinetic [".toList = "kinetic".toList ++ [' ', '['] := by
  rw [String.toList_ofList, String.toList_ofList]; rfl
theorem lit_eq : " = ".toList = [' ', '=', ' '] := String.toList_ofList
theorem lit_colon : " : ".toList = [' ', ':', ' '] := String.toList_ofList
theorem lit_plus : " + ".toList = [' ', '+', ' '] := String.toList_ofList
theorem lit_blank : " ".toList = [' '] := String.toList_ofList
theorem lit_nt : "nt] ".toList = ['n', 't', ']', ' '] := String.toList_ofList
theorem lit_empty : "".toList = [] := String.toList_ofList
theorem lit_star : "*".toList = ['*'] := String.toList_ofList
theorem lit_nl : "\n".toList = ['\n'] := String.toList_ofList

theorem Emitted.map_nil {tbl : CodeTable} {α : Type} (f : α → String) (L : List α)
    (h : ∀ e ∈ L, Emitted tbl [f e] []) : Emitted tbl (L.map f) [] := by
  have h0 := Emitted.flatMap (fun e => [f e]) (fun _ => []) L h
  rwa [← List.map_eq_flatMap, List.flatMap_eq_nil_iff.mpr (fun _ _ => rfl)] at h0

theorem emitted_seq (tbl : CodeTable) {p n : String} {c : List Char} (len : Nat) (hn : nameOk (p ++ n) = true)
    (hc : c.all (fun c => tbl.isCode c && c != ':' && !isWs c && c != '#') = true) :
    Emitted tbl ["sequence " ++ p ++ n ++ " = " ++ String.ofList c ++ " : " ++ toString len] [.seq (p ++ n) c] := by
  have h := reads_seqLine tbl (nameOk_iff.mp hn) (tm := c) (fun x hx => by
    have := List.all_eq_true.mp hc x hx
    simp only [Bool.and_eq_true, bne_iff_ne, ne_eq, Bool.not_eq_true'] at this
    exact ⟨this.1.1.1, this.1.1.2, this.1.2, this.2⟩) (toString_nat_spec len)
  rw [str_toList] at h
  unfold seqLine at h
  refine Emitted.line ?_
  simpa only [String.toList_append, String.toList_ofList, lit_sequence, lit_eq, lit_colon, List.append_assoc,
    List.cons_append, List.nil_append] using h

theorem itemToks {p : String} {its : List Comp.ItemRef}
    (hi : (its.filter (!·.dummy)).all (fun i => nameOk (p ++ i.name)) = true) :
    ∀ x ∈ ((its.filter (!·.dummy)).map (fun i => Comp.fullName p i.name i.rev)).map String.toList, TokL x := by
  intro x hx
  simp only [List.mem_map] at hx
  obtain ⟨_, ⟨i, hi', rfl⟩, rfl⟩ := hx
  rw [fullName_toList]
  exact tokL_star (nameOk_iff.mp (List.all_eq_true.mp hi i hi')) _

theorem emitted_sup (tbl : CodeTable) {p n : String} {its : List Comp.ItemRef} (len : Nat)
    (hn : nameOk (p ++ n) = true) (hi : (its.filter (!·.dummy)).all (fun i => nameOk (p ++ i.name)) = true) :
    Emitted tbl ["sup-sequence " ++ p ++ n ++ " = " ++ Comp.itemNames p its ++ " : " ++ toString len]
      [.sup (p ++ n) ((its.filter (!·.dummy)).map (Emit.itemRaw p))] := by
  have h := reads_supLine tbl (nameOk_iff.mp hn) (itemToks hi) (toString_nat_spec len)
  rw [str_toList, map_str_toList] at h
  unfold supLine itemsBody at h
  refine Emitted.line ?_
  simp only [Comp.itemNames, String.toList_append, joinWith_toList, lit_sup, lit_eq, lit_colon, lit_blank,
    List.append_assoc, List.cons_append, List.nil_append] at h ⊢
  exact h

theorem emitted_strand (tbl : CodeTable) {p n : String} {dummy : Bool} {its : List Comp.ItemRef} (len : Nat)
    (hn : nameOk (p ++ n) = true) (hi : (its.filter (!·.dummy)).all (fun i => nameOk (p ++ i.name)) = true) :
    Emitted tbl ["strand " ++ (if dummy then "[dummy] " else "") ++ p ++ n ++ " = " ++ Comp.itemNames p its ++ " : " ++
        toString len] [.strand (p ++ n) dummy ((its.filter (!·.dummy)).map (Emit.itemRaw p))] := by
  have h := reads_strandLine tbl (dummy := dummy) (nameOk_iff.mp hn) (itemToks hi) (toString_nat_spec len)
  rw [str_toList, map_str_toList] at h
  unfold strandLine itemsBody at h
  refine Emitted.line ?_
  cases dummy <;>
  · simp only [Comp.itemNames, String.toList_append, joinWith_toList, lit_strand, lit_eq, lit_colon, lit_blank,
      lit_empty, Bool.false_eq_true, if_false, if_true, List.append_assoc, List.cons_append, List.nil_append] at h ⊢
    exact h

theorem emitted_struct (tbl : CodeTable) {p n : String} {g : List Char} {strands : List String} {st : List Char}
    (hn : nameOk (p ++ n) = true) (hg : g.all isParamChar = true) (hne : strands.isEmpty = false)
    (hs : strands.all (fun x => nameOk (p ++ x)) = true) (hst : st.isEmpty = false) (hsc : st.all isStructChar = true) :
    Emitted tbl ["structure [" ++ String.ofList g ++ "nt] " ++ p ++ n ++ " = " ++
        Comp.joinWith " + " (strands.map (p ++ ·)) ++ " : " ++ String.ofList st]
      [.struct (p ++ n) (some (String.ofList g ++ "nt")) (strands.map (p ++ ·)) st] := by
  have h := reads_structLine tbl (P := g ++ ['n', 't']) (by simp) (by rw [List.all_append, hg]; rfl) (nameOk_iff.mp hn)
    (names := (strands.map (p ++ ·)).map String.toList) (by simpa using hne) (by
      intro x hx
      simp only [List.mem_map] at hx
      obtain ⟨_, ⟨y, hy, rfl⟩, rfl⟩ := hx
      exact nameOk_iff.mp (List.all_eq_true.mp hs y hy)) hst hsc
  rw [str_toList, map_str_toList, str_append] at h
  unfold structLine at h
  refine Emitted.line ?_
  simpa only [str, String.toList_append, String.toList_ofList, joinWith_toList,
    lit_structure, lit_nt, lit_eq, lit_plus, lit_colon, List.append_assoc, List.cons_append, List.nil_append] using h

theorem safeL_names {p : String} {l : List String} (h : ∀ n ∈ l, nameOk (p ++ n) = true) :
    SafeL (Comp.joinWith " + " (l.map (p ++ ·))).toList := by
  rw [joinWith_toList, lit_plus]
  refine forall_intercalate (P := fun c => c ≠ '#' ∧ c ≠ '\n' ∧ c ≠ '\r') (by decide) (fun t ht => ?_)
  simp only [List.mem_map] at ht
  obtain ⟨_, ⟨n, hn, rfl⟩, rfl⟩ := ht
  exact (nameOk_iff.mp (h n hn)).safe

theorem safeL_dec {d : Option Comp.Dec} (h : decOk d = true) (dflt : String) (hd : SafeL dflt.toList) :
    SafeL (match d with | some d => String.ofList d.fmtF | none => dflt).toList := by
  cases d with
  | none => exact hd
  | some d =>
    simp only [String.toList_ofList]
    exact fun c hc => paramChar_safe (List.all_eq_true.mp h c hc)

theorem emitted_kinetic (tbl : CodeTable) {p : String} {k : Comp.KinE}
    (hn : (k.ins ++ k.outs).all (fun n => nameOk (p ++ n)) = true) (hl : decOk k.low = true) (hh : decOk k.high = true) :
    Emitted tbl ["kinetic [" ++ (match k.low with | some d => String.ofList d.fmtF | none => "0.000000") ++
        " /M/s < k < " ++ (match k.high with | some d => String.ofList d.fmtF | none => "inf") ++ " /M/s] " ++
        Comp.joinWith " + " (k.ins.map (p ++ ·)) ++ " -> " ++ Comp.joinWith " + " (k.outs.map (p ++ ·))] [] := by
  have hall := List.all_eq_true.mp hn
  have hins := safeL_names (p := p) (l := k.ins) (fun n h => hall n (List.mem_append_left _ h))
  have houts := safeL_names (p := p) (l := k.outs) (fun n h => hall n (List.mem_append_right _ h))
  have hlo := safeL_dec hl "0.000000" (by rw [String.toList_ofList]; decide)
  have hhi := safeL_dec hh "inf" (by rw [String.toList_ofList]; decide)
  have h1 : SafeL " /M/s < k < ".toList := by rw [String.toList_ofList]; decide
  have h2 : SafeL " /M/s] ".toList := by rw [String.toList_ofList]; decide
  have h3 : SafeL " -> ".toList := by rw [String.toList_ofList]; decide
  refine Emitted.line ?_
  simp only [String.toList_append, lit_kinetic, List.append_assoc, List.cons_append, List.nil_append]
  refine (kwKinetic tbl).reads (o := none) ?_ ⟨'[', by simp, by decide⟩ rfl
  simp only [safeL_append, safeL_cons]
  exact ⟨by decide, hlo, h1, hhi, h2, hins, h3, houts⟩

theorem reads_comp (tbl : CodeTable) (s : Comp.St) (h : compEmitOk tbl s = true) :
    Emitted tbl (Comp.emitPil s) (Emit.compStmts s) := by
  simp only [compEmitOk, Bool.and_eq_true, List.all_eq_true, Bool.not_eq_true'] at h
  obtain ⟨⟨⟨⟨h1, h2⟩, h3⟩, h4⟩, h5⟩ := h
  -- the kinetic lines are a fifth block of lines that contributes no statement
  rw [← List.append_nil (Emit.compStmts s)]
  unfold Comp.emitPil Emit.compStmts
  refine ((((Emitted.map _ _ _ fun e he => ?_).append (Emitted.map _ _ _ fun e he => ?_)).append
    (Emitted.map _ _ _ fun e he => ?_)).append (Emitted.map _ _ _ fun e he => ?_)).append ?_
  · obtain ⟨hn, hc⟩ := h1 e he
    exact emitted_seq tbl e.len hn (List.all_eq_true.mpr (fun c hcm => by simpa [Bool.and_eq_true] using hc c hcm))
  · obtain ⟨hn, hi⟩ := h2 e he
    exact emitted_sup tbl e.len hn (List.all_eq_true.mpr hi)
  · obtain ⟨hn, hi⟩ := h3 e he
    exact emitted_strand tbl e.len hn (List.all_eq_true.mpr hi)
  · obtain ⟨⟨⟨⟨⟨hn, hg⟩, hne⟩, hs⟩, hst⟩, hsc⟩ := h4 e he
    exact emitted_struct tbl hn (List.all_eq_true.mpr hg) hne (List.all_eq_true.mpr hs) hst (List.all_eq_true.mpr hsc)
  · refine Emitted.map_nil _ _ fun k hk => ?_
    obtain ⟨⟨hn, hl⟩, hh⟩ := h5 k hk
    exact emitted_kinetic tbl (List.all_eq_true.mpr hn) hl hh

/-! ### instance trees -/

/-- the name an `equal` line gives a bound port (`Sys.emitPilSys`) -/
def entryName (pfx : String) (e : Sys.SigEntry) : String :=
  match e.port with
  | .seq i _ => pfx ++ e.comp ++ "-" ++ i.name
  | .sig n => pfx ++ e.comp ++ "-" ++ n

/-- the signal part of `sysEmitOk` -/
def signalsEmitOk (pfx : String) (signals : List (String × List Sys.SigEntry)) : Bool :=
  signals.all (fun se => nameOk (pfx ++ se.1) && se.2.all (fun e => nameOk (entryName pfx e)))

mutual
/-- **what the round trip needs of a loaded tree** (decidable): `compEmitOk` for every component; for every system
    the signal sequence names `pfx ++ signal` and the port names `pfx ++ instance ++ "-" ++ name` on `equal` lines are
    non-empty over `[A-Za-z0-9_-]`, and `N` is a code of the reader's table -/
def instEmitOk (tbl : CodeTable) : Sys.Inst → Bool
  | .comp st => compEmitOk tbl st
  | .sys st => sysEmitOk tbl st
def sysEmitOk (tbl : CodeTable) : Sys.SysSt → Bool
  | .mk _ _ pfx _ signals _ components _ _ =>
    compsEmitOk tbl components && tbl.isCode 'N' && signalsEmitOk pfx signals
def compsEmitOk (tbl : CodeTable) : List (String × Sys.Inst) → Bool
  | [] => true
  | (_, i) :: r => instEmitOk tbl i && compsEmitOk tbl r
end

def sigLines (pfx : String) (lengths : List (String × Nat)) (se : String × List Sys.SigEntry) : List String :=
  let len := (lengths.lookup se.1).getD 0
  let sname := pfx ++ se.1
  ["sequence " ++ sname ++ " = " ++ String.ofList (List.replicate len 'N') ++ " : " ++ toString len,
   "equal " ++ sname ++ " " ++ String.join (se.2.map (fun e => entryName pfx e ++ (if e.wc then "* " else " ")))]

theorem emitPilSys_eq (p n pfx : String) (t : List (String × String)) (sg : List (String × List Sys.SigEntry))
    (l : List (String × Nat)) (c : List (String × Sys.Inst)) (is os : List Sys.SigRef) :
    Sys.emitPilSys (.mk p n pfx t sg l c is os) = Sys.emitPilComps c ++ sg.flatMap (sigLines pfx l) := by
  simp only [Sys.emitPilSys]
  congr 1

theorem reads_signal (tbl : CodeTable) (hN : tbl.isCode 'N' = true) (pfx : String) (lengths : List (String × Nat))
    (se : String × List Sys.SigEntry)
    (h : (nameOk (pfx ++ se.1) && se.2.all (fun e => nameOk (entryName pfx e))) = true) :
    Emitted tbl (sigLines pfx lengths se) (Emit.sigStmts pfx lengths se) := by
  simp only [Bool.and_eq_true, List.all_eq_true] at h
  obtain ⟨hn, he⟩ := h
  have hseq := emitted_seq tbl (p := pfx) (n := se.1) (c := List.replicate ((lengths.lookup se.1).getD 0) 'N')
    ((lengths.lookup se.1).getD 0) hn (by
      rw [List.all_eq_true]
      intro c hc
      rw [List.eq_of_mem_replicate hc, hN]; decide)
  rw [String.append_assoc (s₁ := "sequence ") (s₂ := pfx) (s₃ := se.1)] at hseq
  have hmap : se.2.map (fun e => entryName pfx e ++ (if e.wc then "* " else " ")) =
      (se.2.map (fun e => entryName pfx e ++ (if e.wc then "*" else ""))).map (· ++ " ") := by
    rw [List.map_map]
    refine List.map_congr_left (fun e _ => ?_)
    show _ = (_ ++ _) ++ " "
    cases e.wc
    · simp
    · simp only [if_true, String.append_assoc]; rfl
  have heq := reads_equalLine tbl (sn := (pfx ++ se.1).toList)
    (toks := (se.2.map (fun e => entryName pfx e ++ (if e.wc then "*" else ""))).map String.toList)
    (nameOk_iff.mp hn) (by
      intro x hx
      simp only [List.mem_map] at hx
      obtain ⟨_, ⟨e, hem, rfl⟩, rfl⟩ := hx
      rw [String.toList_append, apply_ite String.toList, lit_star, lit_empty]
      exact tokL_star (nameOk_iff.mp (he e hem)) e.wc)
  rw [str_toList, map_str_toList] at heq
  unfold equalLine at heq
  -- `Emit.sigStmts` spells the entry names as the model does; `entryName` is that match
  refine hseq.append (Emitted.line
    (ss := [.equal ((pfx ++ se.1) :: se.2.map (fun e => entryName pfx e ++ (if e.wc then "*" else "")))]) ?_)
  simpa only [hmap, String.toList_append, String.toList_join, List.flatMap_map, lit_equal, lit_blank, List.append_assoc,
    List.cons_append, List.nil_append] using heq

mutual
theorem reads_inst (tbl : CodeTable) : ∀ (i : Sys.Inst), instEmitOk tbl i = true →
    Emitted tbl (Sys.emitPilInst i) (Emit.instStmts i)
  | .comp st, h => by
    simp only [Sys.emitPilInst, Emit.instStmts]
    exact reads_comp tbl st (by simpa [instEmitOk] using h)
  | .sys (.mk p n pfx t sg l c is os), h => by
    simp only [instEmitOk, sysEmitOk, Bool.and_eq_true] at h
    obtain ⟨⟨hc, hN⟩, hs⟩ := h
    simp only [Sys.emitPilInst, Emit.instStmts, emitPilSys_eq, Emit.sysStmts_eq]
    exact Emitted.append (reads_comps tbl c hc)
      (Emitted.flatMap _ _ sg fun se hse => reads_signal tbl hN pfx l se (List.all_eq_true.mp hs se hse))
theorem reads_comps (tbl : CodeTable) : ∀ (c : List (String × Sys.Inst)), compsEmitOk tbl c = true →
    Reads tbl ((Sys.emitPilComps c).map String.toList) (Emit.compsStmts c) ∧ ∀ l ∈ Sys.emitPilComps c, SafeL l.toList
  | [], _ => ⟨Reads.nil tbl, fun _ h => nomatch h⟩
  | (_, i) :: r, h => by
    simp only [compsEmitOk, Bool.and_eq_true] at h
    simp only [Sys.emitPilComps, Emit.compsStmts]
    exact Emitted.append (reads_inst tbl i h.1) (reads_comps tbl r h.2)
end

/-! ### the text of a file -/

theorem parsePil_intercalate {tbl : CodeTable} {ls : List String} {ss : List Pil.Stmt} (h : Emitted tbl ls ss) :
    parsePil tbl (String.intercalate "\n" ls) = .ok ss := by
  have hs' : ∀ l ∈ ls.map String.toList, SafeL l := by
    intro l hl
    obtain ⟨x, hx, rfl⟩ := List.mem_map.mp hl
    exact h.2 x hx
  unfold parsePil
  rw [String.toList_intercalate, lit_nl, uniNl_id, parseLines_intercalate tbl _ hs']
  · exact h.1
  · intro c hc
    rcases mem_intercalate hc with h | ⟨l, hl, hcl⟩
    · simp only [List.mem_singleton] at h; subst h; decide
    · exact (hs' l hl c hcl).2.2

theorem parsePil_join (tbl : CodeTable) {file : List String} (hnl : ∀ l ∈ file, ∀ c ∈ l.toList, c ≠ '\n' ∧ c ≠ '\r') :
    parsePil tbl (String.join (file.map (· ++ "\n"))) = parseLines tbl ((file.map String.toList).map (·, true)) := by
  have htl : (String.join (file.map (· ++ "\n"))).toList = (file.map String.toList).flatMap (· ++ ['\n']) := by
    rw [String.toList_join, List.flatMap_map, List.flatMap_map]
    simp only [String.toList_append, lit_nl]
  unfold parsePil
  rw [htl, uniNl_id, parseLines_unlines tbl]
  · intro l hl c hc
    obtain ⟨x, hx, rfl⟩ := List.mem_map.mp hl
    exact (hnl x hx c hc).1
  · intro c hc
    simp only [List.mem_flatMap, List.mem_map, List.mem_append, List.mem_singleton] at hc
    obtain ⟨_, ⟨x, hx, rfl⟩, hc | rfl⟩ := hc
    · exact (hnl x hx c hc).2
    · decide

theorem parsePil_unlines {tbl : CodeTable} {ls : List String} {ss : List Pil.Stmt} (h : Emitted tbl ls ss) :
    parsePil tbl (String.join (ls.map (· ++ "\n"))) = .ok ss := by
  rw [parsePil_join tbl (fun l hl c hc => ⟨(h.2 l hl c hc).2.1, (h.2 l hl c hc).2.2⟩)]
  exact h.1

/-- is the (newline-terminated) line blank or a comment? -/
def isBlank (l : String) : Bool := (cleanLine l.toList true).isEmpty

/-- the file as the compiler writes it: the statement lines in order, every line newline-terminated, with any
    blank / comment lines (free of `\n`, `\r`) in between -/
theorem parsePil_file {tbl : CodeTable} {file ls : List String} {ss : List Pil.Stmt}
    (hfile : file.filter (fun l => !isBlank l) = ls)
    (hnl : ∀ l ∈ file, ∀ c ∈ l.toList, c ≠ '\n' ∧ c ≠ '\r')
    (hr : Reads tbl (ls.map String.toList) ss) :
    parsePil tbl (String.join (file.map (· ++ "\n"))) = .ok ss := by
  rw [parsePil_join tbl hnl, ← parseLines_filter, ← hr, ← hfile]
  congr 1
  simp only [List.map_map, List.filter_map, isBlank]
  rfl

end Pepper.ParsePil
