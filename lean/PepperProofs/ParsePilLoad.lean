import PepperProofs.ParsePil
import PepperProofs.PilAdd
import PepperProofs.Codes
import PepperProofs.LoadInvSys
/-!
# When a loaded tree satisfies the hypothesis of the round trip (`instEmitOk`)

`compEmitOk_of_load` / `instEmitOk_of_load`: given that the reader's object model accepts the statements (`Pil.load`),
`instEmitOk` follows from its names part (`instNamesOk`; established in `ParsePilNames.lean`) and `instStructsNonempty`.
`load_structsNonempty` / `loadFile_structsNonempty`: `structsNonempty` follows from `Comp.load` (`LoadInv.load_NZ`).  The round trip of `PepperProofs/ParsePil.lean` needs every
emitted structure text to be non-empty (a line `structure [1nt] X = s : ` loses its last blank to `strip()` and then ends in
`:`, which the reader's regex rejects).  The compiler never writes one: a strand of length 0 is refused (`zeroStrand`), a
structure needs one `+`-segment per strand and at least one segment exists.
-/
namespace Pepper.ParsePil
open Pepper

/-- no code letter of the table is white space, `:` or `#` (decidable; true of the generated tables) -/
def tableCharsOk (tbl : CodeTable) : Bool :=
  tbl.codes.all (fun c => c != ':' && !isWs c && c != '#')

theorem isCode_chars {tbl : CodeTable} (ht : tableCharsOk tbl = true) {c : Char} (hc : tbl.isCode c = true) :
    (tbl.isCode c && c != ':' && !isWs c && c != '#') = true := by
  have hm : c ∈ tbl.codes := assoc_isSome_mem tbl.group c hc
  have := List.all_eq_true.mp ht c hm
  simp only [Bool.and_eq_true] at this ⊢
  exact ⟨⟨⟨hc, this.1.1⟩, this.1.2⟩, this.2⟩

theorem load_mem {tbl : CodeTable} : ∀ {stmts : List Pil.Stmt} {s0 spec : Pil.Spec},
    Pil.load tbl stmts s0 = .ok spec → ∀ st ∈ stmts, ∃ s s', Pil.Spec.add tbl s st = .ok s'
  | [], _, _, _, _, h => nomatch h
  | x :: r, s0, spec, h, st, hst => by
    obtain ⟨s1, ha, h⟩ := Pil.load_cons_inv h
    rcases List.mem_cons.mp hst with rfl | hst
    · exact ⟨s0, s1, ha⟩
    · exact load_mem h st hst

theorem add_seq_codes {tbl : CodeTable} {s s' : Pil.Spec} {n : String} {t : List Char}
    (h : Pil.Spec.add tbl s (.seq n t) = .ok s') : t.all tbl.isCode = true := by
  obtain ⟨_, _, hδ⟩ := Pil.add_eq_ok.1 h
  cases hδ with
  | seq _ codes => exact codes

theorem add_struct_shape {tbl : CodeTable} {s s' : Pil.Spec} {n : String} {p : Option String} {ss : List String}
    {st : List Char} (h : Pil.Spec.add tbl s (.struct n p ss st) = .ok s') :
    st.all isStructChar = true ∧ ss.isEmpty = false := by
  obtain ⟨_, _, hδ⟩ := Pil.add_eq_ok.1 h
  cases hδ with
  | struct _ found chars _ count =>
    refine ⟨chars, ?_⟩
    cases ss with
    | cons a b => rfl
    | nil =>
      -- no strands: `objs = []`, but `splitPlus` never returns `[]`
      cases found
      exact absurd (List.eq_nil_of_length_eq_zero count) (Pil.splitPlus_eq st ▸ List.splitOn_ne_nil _ st)

/-- the names part of `compEmitOk` (and the printed numerals): nothing about templates or structure texts -/
def compNamesOk (s : Comp.St) : Bool :=
  (s.baseSeqs.filter (·.len != 0)).all (fun e => nameOk (s.pfx ++ e.name)) &&
  (s.supSeqs.filter (·.len != 0)).all (fun e => nameOk (s.pfx ++ e.name) &&
    (e.items.filter (!·.dummy)).all (fun i => nameOk (s.pfx ++ i.name))) &&
  s.strands.all (fun e => nameOk (s.pfx ++ e.name) &&
    (e.items.filter (!·.dummy)).all (fun i => nameOk (s.pfx ++ i.name))) &&
  s.structs.all (fun e => nameOk (s.pfx ++ e.name) && e.opt.fmtG.all isParamChar &&
    e.strands.all (fun n => nameOk (s.pfx ++ n))) &&
  s.kins.all (fun k => (k.ins ++ k.outs).all (fun n => nameOk (s.pfx ++ n)) && decOk k.low && decOk k.high)

/-- no structure has an empty text (the compiler refuses zero-length strands) -/
def structsNonempty (s : Comp.St) : Bool := s.structs.all (fun e => !e.struct.isEmpty)

/-- `compEmitOk` from the names, given that `Spec.add` accepts each emitted statement in some state: the template
    letters are codes (and codes are no white space, `:`, `#`), structure texts are over `.()+`, and every structure has
    a strand, because `Spec.add` checks exactly that -/
theorem compEmitOk_of_add {tbl : CodeTable} (ht : tableCharsOk tbl = true) {st : Comp.St}
    (hmem : ∀ x ∈ Emit.compStmts st, ∃ s s', Pil.Spec.add tbl s x = .ok s')
    (hn : compNamesOk st = true) (hne : structsNonempty st = true) : compEmitOk tbl st = true := by
  simp only [compNamesOk, Bool.and_eq_true, List.all_eq_true] at hn
  obtain ⟨⟨⟨⟨h1, h2⟩, h3⟩, h4⟩, h5⟩ := hn
  simp only [structsNonempty, List.all_eq_true] at hne
  simp only [compEmitOk, Bool.and_eq_true, List.all_eq_true]
  refine ⟨⟨⟨⟨?_, h2⟩, h3⟩, ?_⟩, h5⟩
  · intro e he
    refine ⟨h1 e he, ?_⟩
    obtain ⟨s, s', hadd⟩ := hmem (.seq (st.pfx ++ e.name) e.const) (Emit.mem_compStmts.2 (.inl ⟨e, he, rfl⟩))
    intro c hc
    have := isCode_chars ht (List.all_eq_true.mp (add_seq_codes hadd) c hc)
    simpa only [Bool.and_eq_true] using this
  · intro e he
    obtain ⟨⟨hnm, hg⟩, hs⟩ := h4 e he
    obtain ⟨s, s', hadd⟩ := hmem (.struct (st.pfx ++ e.name) (some (String.ofList e.opt.fmtG ++ "nt"))
        (e.strands.map (st.pfx ++ ·)) e.struct) (Emit.mem_compStmts.2 (.inr (.inr (.inr ⟨e, he, rfl⟩))))
    obtain ⟨hch, hss⟩ := add_struct_shape hadd
    refine ⟨⟨⟨⟨⟨hnm, hg⟩, ?_⟩, hs⟩, hne e he⟩, List.all_eq_true.mp hch⟩
    cases hes : e.strands with
    | nil => rw [hes] at hss; cases hss
    | cons a b => rfl

theorem compEmitOk_of_load {tbl : CodeTable} (ht : tableCharsOk tbl = true) {st : Comp.St} {s0 spec : Pil.Spec}
    {pre post : List Pil.Stmt} (hload : Pil.load tbl (pre ++ Emit.compStmts st ++ post) s0 = .ok spec)
    (hn : compNamesOk st = true) (hne : structsNonempty st = true) : compEmitOk tbl st = true :=
  compEmitOk_of_add ht (fun x hx => load_mem hload x (List.mem_append_left _ (List.mem_append_right _ hx))) hn hne

mutual
/-- the names part of `instEmitOk` over a tree (`compNamesOk` at the leaves, the signal and port names of `equal`
    lines at the systems) -/
def instNamesOk : Sys.Inst → Bool
  | .comp st => compNamesOk st
  | .sys st => sysNamesOk st
def sysNamesOk : Sys.SysSt → Bool
  | .mk _ _ pfx _ signals _ components _ _ => compsNamesOk components && signalsEmitOk pfx signals
def compsNamesOk : List (String × Sys.Inst) → Bool
  | [] => true
  | (_, i) :: r => instNamesOk i && compsNamesOk r
end

mutual
def instStructsNonempty : Sys.Inst → Bool
  | .comp st => structsNonempty st
  | .sys st => sysStructsNonempty st
def sysStructsNonempty : Sys.SysSt → Bool
  | .mk _ _ _ _ _ _ components _ _ => compsStructsNonempty components
def compsStructsNonempty : List (String × Sys.Inst) → Bool
  | [] => true
  | (_, i) :: r => instStructsNonempty i && compsStructsNonempty r
end

mutual
theorem instEmitOk_of_add {tbl : CodeTable} (ht : tableCharsOk tbl = true) (hN : tbl.isCode 'N' = true) :
    ∀ (i : Sys.Inst), (∀ x ∈ Emit.instStmts i, ∃ s s', Pil.Spec.add tbl s x = .ok s') → instNamesOk i = true →
      instStructsNonempty i = true → instEmitOk tbl i = true
  | .comp st, hm, hn, hz => by
    simp only [instNamesOk] at hn
    simp only [instStructsNonempty] at hz
    simp only [instEmitOk]
    exact compEmitOk_of_add ht (Emit.instStmts_comp st ▸ hm) hn hz
  | .sys (.mk p n pfx t sg l c is os), hm, hn, hz => by
    simp only [instNamesOk, sysNamesOk, Bool.and_eq_true] at hn
    simp only [instStructsNonempty, sysStructsNonempty] at hz
    simp only [instEmitOk, sysEmitOk, Bool.and_eq_true]
    rw [Emit.instStmts_sys, Emit.sysStmts_eq] at hm
    exact ⟨⟨compsEmitOk_of_add ht hN c (fun x hx => hm x (List.mem_append_left _ hx)) hn.1 hz, hN⟩, hn.2⟩
theorem compsEmitOk_of_add {tbl : CodeTable} (ht : tableCharsOk tbl = true) (hN : tbl.isCode 'N' = true) :
    ∀ (c : List (String × Sys.Inst)), (∀ x ∈ Emit.compsStmts c, ∃ s s', Pil.Spec.add tbl s x = .ok s') →
      compsNamesOk c = true → compsStructsNonempty c = true → compsEmitOk tbl c = true
  | [], _, _, _ => rfl
  | (_, i) :: r, hm, hn, hz => by
    simp only [compsNamesOk, Bool.and_eq_true] at hn
    simp only [compsStructsNonempty, Bool.and_eq_true] at hz
    simp only [compsEmitOk, Bool.and_eq_true]
    rw [Emit.compsStmts] at hm
    exact ⟨instEmitOk_of_add ht hN i (fun x hx => hm x (List.mem_append_left _ hx)) hn.1 hz.1,
      compsEmitOk_of_add ht hN r (fun x hx => hm x (List.mem_append_right _ hx)) hn.2 hz.2⟩
end

theorem instEmitOk_of_load {tbl : CodeTable} (ht : tableCharsOk tbl = true) (hN : tbl.isCode 'N' = true)
    (i : Sys.Inst) (pre post : List Pil.Stmt) (s0 spec : Pil.Spec)
    (hl : Pil.load tbl (pre ++ Emit.instStmts i ++ post) s0 = .ok spec) (hn : instNamesOk i = true)
    (hz : instStructsNonempty i = true) : instEmitOk tbl i = true :=
  instEmitOk_of_add ht hN i (fun x hx => load_mem hl x (List.mem_append_left _ (List.mem_append_right _ hx))) hn hz

theorem compsEmitOk_of_load {tbl : CodeTable} (ht : tableCharsOk tbl = true) (hN : tbl.isCode 'N' = true) :
    ∀ (c : List (String × Sys.Inst)) (pre post : List Pil.Stmt) (s0 spec : Pil.Spec),
      Pil.load tbl (pre ++ Emit.compsStmts c ++ post) s0 = .ok spec → compsNamesOk c = true →
      compsStructsNonempty c = true → compsEmitOk tbl c = true :=
  fun c _ _ _ _ hl hn hz =>
    compsEmitOk_of_add ht hN c (fun x hx => load_mem hl x (List.mem_append_left _ (List.mem_append_right _ hx))) hn hz

/-! ### `structsNonempty` from `Comp.load` -/

open Pepper.Comp

theorem load_structsNonempty {src : Src} {n : Nat} {pfx : String} {a : Nat} {st : St} {a' : Nat}
    (h : Comp.load src n pfx a = .ok (st, a')) : structsNonempty st = true := by
  simp only [structsNonempty, List.all_eq_true, Bool.not_eq_true', List.isEmpty_eq_false_iff]
  exact (LoadInv.load_NZ h).2

theorem compsStructsNonempty_of_forall : ∀ (c : List (String × Sys.Inst)),
    (∀ x ∈ c, instStructsNonempty x.2 = true) → compsStructsNonempty c = true
  | [], _ => rfl
  | (n, i) :: r, h => by
    simp only [compsStructsNonempty, Bool.and_eq_true]
    exact ⟨h (n, i) (by simp), compsStructsNonempty_of_forall r (fun x hx => h x (List.mem_cons_of_mem _ hx))⟩

theorem _root_.Pepper.LoadInv.Loaded.structsNonempty {P : Comp.Src → Prop} {Q : Sys.SSrc → Prop} {pfx : String} {inst : Sys.Inst}
    (hL : LoadInv.Loaded P Q pfx inst) : instStructsNonempty inst = true := by
  induction hL with
  | comp hP hload =>
    simp only [instStructsNonempty]
    exact load_structsNonempty hload
  | sys hQ hsub hinv hio ih =>
    simp only [instStructsNonempty, sysStructsNonempty]
    exact compsStructsNonempty_of_forall _ ih

theorem loadFile_structsNonempty {b : Sys.Bundle} {fuel : Nat} {base : String} {args : Nat}
    {argKey pfx path : String} {includes : List String} {anon : Nat} {inst : Sys.Inst} {a' : Nat}
    (h : Sys.loadFile b fuel base args argKey pfx path includes anon = .ok (inst, a')) :
    instStructsNonempty inst = true :=
  LoadInv.Loaded.structsNonempty (LoadInv.loadFile_loaded (P := fun _ => True) (Q := fun _ => True) (fun _ _ _ => trivial)
    (fun _ _ _ => trivial) _ _ _ _ _ _ _ _ _ _ h)

end Pepper.ParsePil
