import PepperProofs.ParsePilLoad
import PepperProofs.LoadInvSys
import PepperProofs.Comp
/-!
# The names part of the round trip's hypothesis follows from predicates on the SOURCES

One component (`compNamesOk_of_load`): from `Comp.load`, a prefix of name characters (`charsOk pfx`) and a source whose
DECLARED names are non-empty over the alphabet (`srcCharsOk`).  Everything else the emitter writes is one of those names,
an anonymous name `_Anon<k>`, a name found in the tables (items, strands of structures: `Comp.WF`; structures on kinetic
lines: looked up when the line was accepted), or `%g` / `%f` of a decimal `parseDec` accepted: digits and a point.

A tree (`loaded_names`, `instNamesOk_of_loadFile`; on the bundle: `bundleCharsOk`): by induction on `Loaded`, carrying for
every instance what its parent's `equal` lines need of it (`PortNamesOk`), since a signal entry names a port of a child.
-/
namespace Pepper.ParsePil
open Pepper Pepper.Comp

/-- all characters are name characters (the string may be empty: prefixes) -/
def charsOk (s : String) : Bool := s.toList.all isNameChar

theorem nameOk_append {p n : String} (hp : charsOk p = true) (hn : nameOk n = true) : nameOk (p ++ n) = true := by
  simp only [charsOk, List.all_eq_true] at hp
  simp only [nameOk, Bool.and_eq_true, Bool.not_eq_true', List.all_eq_true, List.isEmpty_eq_false_iff,
    String.toList_append] at hn ⊢
  refine ⟨fun h => hn.1 (List.append_eq_nil_iff.mp h).2, fun c hc => ?_⟩
  rcases List.mem_append.mp hc with hc | hc
  · exact hp c hc
  · exact hn.2 c hc

theorem nameOk_anonName (k : Nat) : nameOk (anonName k) = true := by
  simp only [nameOk, Bool.and_eq_true, Bool.not_eq_true', List.all_eq_true, List.isEmpty_eq_false_iff, anonName_toList]
  refine ⟨fun h => by simp at h, fun c hc => ?_⟩
  rcases List.mem_append.mp hc with hc | hc
  · have h5 : ∀ c ∈ "_Anon".toList, isNameChar c = true := by decide
    exact h5 c hc
  · exact digit_nameChar ((toDigits_ten_spec k).2 c hc)

def stmtCharsOk : Stmt → Bool
  | .seq name _ _ => nameOk name
  | .strand _ name _ _ => nameOk name
  | .struct _ name _ _ _ => nameOk name
  | .kinetic _ _ _ _ => true

/-- **source predicate**: every declared sequence / strand / structure name is non-empty over `[A-Za-z0-9_-]` -/
def srcCharsOk (src : Src) : Bool := src.stmts.all stmtCharsOk

theorem digit_paramChar {c : Char} (h : c.isDigit = true) : isParamChar c = true := by
  simp [isParamChar, Char.isAlphanum, h]

theorem fmtG_paramChars {d : Dec} (hd : d.int.all Char.isDigit = true ∧ d.frac.all Char.isDigit = true) :
    d.fmtG.all isParamChar = true := by
  rw [List.all_eq_true]
  intro c hc
  unfold Dec.fmtG at hc
  have hz : ∀ c ∈ stripZeros d.int, isParamChar c = true := fun c hc =>
    digit_paramChar (List.all_eq_true.1 (stripZeros_digits hd.1) c hc)
  cases hf : stripTrail d.frac with
  | nil => rw [hf] at hc; exact hz c hc
  | cons x y =>
    rw [hf] at hc
    rcases List.mem_append.mp hc with hc | hc
    · exact hz c hc
    · rcases List.mem_cons.mp hc with rfl | hc
      · decide
      · exact digit_paramChar (List.all_eq_true.1 (stripTrail_digits hd.2) c (by rw [hf]; exact hc))

theorem fmtF_paramChars {d : Dec} (hd : d.int.all Char.isDigit = true ∧ d.frac.all Char.isDigit = true) :
    d.fmtF.all isParamChar = true := by
  rw [List.all_eq_true]
  intro c hc
  unfold Dec.fmtF at hc
  rcases List.mem_append.mp hc with hc | hc
  · exact digit_paramChar (List.all_eq_true.1 (stripZeros_digits hd.1) c hc)
  · rcases List.mem_cons.mp hc with rfl | hc
    · decide
    · have := (List.take_sublist _ _).subset hc
      rcases List.mem_append.mp this with h | h
      · exact digit_paramChar (List.all_eq_true.1 hd.2 c h)
      · rw [List.eq_of_mem_replicate h]; decide

theorem optDec_digits {o : OptSrc} {d : Dec} (h : optDec o = some d) :
    d.int.all Char.isDigit = true ∧ d.frac.all Char.isDigit = true := by
  cases o with
  | default => cases h; exact ⟨by decide, by decide⟩
  | noOpt => cases h; exact ⟨by decide, by decide⟩
  | value t => exact parseDec_digits h

theorem decOpt_ok {t : Option String} {d : Option Dec} (h : decOpt t = some d) : decOk d = true := by
  cases t with
  | none => cases h; rfl
  | some t =>
    simp only [decOpt, Option.map_eq_some_iff] at h
    obtain ⟨x, hx, rfl⟩ := h
    split
    · rfl
    · exact fmtF_paramChars (parseDec_digits hx)

/-- every declared name of the tables, prefixed, is a reader name; numerals print over the parameter alphabet; kinetic lines name
    structures of the table -/
structure NamesInv (pfx : String) (s : St) : Prop where
  seqs : ∀ n ∈ s.seqs.map (·.name), nameOk (pfx ++ n) = true
  strands : ∀ t ∈ s.strands, nameOk (pfx ++ t.name) = true
  structs : ∀ e ∈ s.structs, nameOk (pfx ++ e.name) = true ∧ e.opt.fmtG.all isParamChar = true
  kins : ∀ k ∈ s.kins, (∀ n ∈ k.ins ++ k.outs, nameOk (pfx ++ n) = true) ∧ decOk k.low = true ∧ decOk k.high = true

theorem newAnon_names {a : Nat} {cs : List CItem} {len : Option Nat} {b : Built} (h : buildSuper a cs len = .ok b) :
    ∀ e ∈ b.newAnon, ∃ j, e.name = anonName j := by
  obtain ⟨sg, nf, _⟩ := buildSuper_nf h
  intro e he
  have hm : e.name ∈ (sgAnons sg).map (·.name) := List.mem_map.mpr ⟨e, (nf.memNew e).mp he, rfl⟩
  rw [sgAnons_names] at hm
  obtain ⟨j, _, hj⟩ := List.mem_map.mp hm
  exact ⟨j, hj.symm⟩

theorem registerAnon_names {pfx : String} (hp : charsOk pfx = true) {a : Nat} {cs : List CItem} {len : Option Nat}
    {b : Built} (hb : buildSuper a cs len = .ok b) (s : St)
    (hs : ∀ n ∈ s.seqs.map (·.name), nameOk (pfx ++ n) = true) :
    ∀ n ∈ (registerAnon s b).seqs.map (·.name), nameOk (pfx ++ n) = true := by
  intro n hn
  obtain ⟨e, he, rfl⟩ := List.mem_map.mp hn
  rcases registerAnon_seqs s b e he with h | h
  · exact hs _ (List.mem_map.mpr ⟨e, h, rfl⟩)
  · obtain ⟨j, hj⟩ := newAnon_names hb e h
    rw [hj]
    exact nameOk_append hp (nameOk_anonName j)

theorem findStruct_mem {s : St} {n : String} (h : (s.findStruct n).isSome = true) : ∃ e ∈ s.structs, e.name = n := by
  obtain ⟨e, hf⟩ := Option.isSome_iff_exists.mp h
  exact ⟨e, find?_key_some (key := StructE.name) hf⟩

theorem addStmt_NamesInv {pfx : String} (hp : charsOk pfx = true) {s : St} {a : Nat} {stmt : Stmt} {s' : St} {a' : Nat}
    (hj : NamesInv pfx s) (hok : stmtCharsOk stmt = true) (h : addStmt s a stmt = .ok (s', a')) : NamesInv pfx s' := by
  have hseqs : ∀ {name : String}, nameOk name = true → ∀ e : SeqE, e.name = name →
      ∀ n ∈ (s.seqs ++ [e]).map (·.name), nameOk (pfx ++ n) = true := by
    intro name hname e he n hn
    simp only [List.map_append, List.map_cons, List.map_nil, List.mem_append, List.mem_singleton] at hn
    rcases hn with hn | rfl
    · exact hj.seqs n hn
    · rw [he]; exact nameOk_append hp hname
  cases addStmt_adds h with
  | seqBase => exact ⟨hseqs hok _ rfl, hj.strands, hj.structs, hj.kins⟩
  | @seqSup name _ _ b _ _ hb =>
    obtain ⟨cs, _, hbd⟩ := bind_ok hb
    obtain ⟨h1, h2, h3⟩ := registerAnon_fields { s with seqs := s.seqs ++ [supEntry name b] } b
    exact ⟨registerAnon_names hp hbd _ (hseqs hok _ rfl), by rw [h1]; exact hj.strands, by rw [h2]; exact hj.structs,
      by rw [h3]; exact hj.kins⟩
  | @strand dummy name _ _ b _ hb _ =>
    obtain ⟨cs, _, hbd⟩ := bind_ok hb
    obtain ⟨h1, h2, h3⟩ := registerAnon_fields { s with strands := s.strands ++ [strandEntry name dummy b] } b
    refine ⟨?_, ?_, ?_, ?_⟩
    · rw [markInStrand_names]
      exact registerAnon_names hp hbd _ hj.seqs
    · show ∀ t ∈ (registerAnon _ b).strands, _
      rw [h1]
      intro t ht
      rcases List.mem_append.mp ht with ht | ht
      · exact hj.strands t ht
      · simp only [List.mem_singleton] at ht; subst ht; exact nameOk_append hp hok
    · show ∀ e ∈ (registerAnon _ b).structs, _
      rw [h2]; exact hj.structs
    · show ∀ k ∈ (registerAnon _ b).kins, _
      rw [h3]; exact hj.kins
  | struct _ _ hchk =>
    obtain ⟨_, _, _, _, hopt⟩ := structCheck_ok hchk
    refine ⟨hj.seqs, ?_, ?_, hj.kins⟩
    · intro t ht
      simp only [List.mem_map] at ht
      obtain ⟨o, ho, rfl⟩ := ht
      rw [(structFlag_props _ o).1]
      exact hj.strands o ho
    · intro e he
      rcases List.mem_append.mp he with he | he
      · exact hj.structs e he
      · simp only [List.mem_singleton] at he
        subst he
        exact ⟨nameOk_append hp hok, fmtG_paramChars (optDec_digits hopt)⟩
  | kinetic hk =>
    obtain ⟨hall, lo, hi, hlo, hhi, rfl⟩ := kinEntry_ok hk
    refine ⟨hj.seqs, hj.strands, hj.structs, ?_⟩
    intro k hk
    rcases List.mem_append.mp hk with hk | hk
    · exact hj.kins k hk
    · simp only [List.mem_singleton] at hk
      subst hk
      refine ⟨?_, decOpt_ok hlo, decOpt_ok hhi⟩
      intro n hn
      obtain ⟨e, he, rfl⟩ := findStruct_mem (List.all_eq_true.mp hall n hn)
      exact (hj.structs e he).1

/-- **`compNamesOk` from the source** (`UserNamesOk` gives the table invariant) -/
theorem compNamesOk_of_load {src : Src} {n : Nat} {pfx : String} {a : Nat} {st : St} {a' : Nat}
    (h : Comp.load src n pfx a = .ok (st, a')) (hnames : UserNamesOk src = true) (hp : charsOk pfx = true)
    (hsrc : srcCharsOk src = true) : compNamesOk st = true ∧ ∀ e ∈ st.seqs, nameOk (pfx ++ e.name) = true := by
  obtain ⟨⟨hw, _⟩, hpfx⟩ := LoadInv.load_inv_all h (LoadInv.stmtNamesOk_of_user hnames)
  obtain ⟨s, hadd, hio⟩ := load_inv h
  have hj0 : NamesInv pfx { name := src.name, pfx := pfx, params := src.params } :=
    { seqs := by intro n hn; cases hn
      strands := by intro n hn; cases hn
      structs := by intro n hn; cases hn
      kins := by intro n hn; cases hn }
  have hj : NamesInv pfx s := addStmts_inv (P := fun s _ => NamesInv pfx s)
    (fun x hx _ _ _ _ hj h => addStmt_NamesInv hp hj (List.all_eq_true.mp hsrc x hx) h) hj0 hadd
  obtain ⟨⟨_, hss, hst, hsu, hsk⟩, _⟩ := addIO_inv hio
  have hseq : ∀ e ∈ st.seqs, nameOk (pfx ++ e.name) = true := by
    intro e he
    rw [hss] at he
    exact hj.seqs _ (List.mem_map.mpr ⟨e, he, rfl⟩)
  have hitem : ∀ i, ItemOk st.seqs i → nameOk (pfx ++ i.name) = true := by
    intro i hi
    obtain ⟨e, he, hn⟩ := List.mem_map.mp hi.name_mem
    rw [← hn]; exact hseq e he
  refine ⟨?_, hseq⟩
  simp only [compNamesOk, Bool.and_eq_true, List.all_eq_true, hpfx]
  refine ⟨⟨⟨⟨?_, ?_⟩, ?_⟩, ?_⟩, ?_⟩
  · intro e he
    simp only [St.baseSeqs, List.mem_filter] at he
    exact hseq e he.1.1
  · intro e he
    simp only [St.supSeqs, List.mem_filter] at he
    refine ⟨hseq e he.1.1, ?_⟩
    intro i hi
    have hsup := ((hw.seqs.entries e he.1.1).sup he.1.2).1
    exact hitem i (hsup i (List.mem_filter.mp hi).1)
  · intro t ht
    refine ⟨by rw [hst] at ht; exact hj.strands t ht, ?_⟩
    intro i hi
    exact hitem i ((hw.strands t ht).items i (List.mem_filter.mp hi).1)
  · intro e he
    have he' : e ∈ s.structs := by rw [hsu] at he; exact he
    refine ⟨⟨(hj.structs e he').1, List.all_eq_true.mp (hj.structs e he').2⟩, ?_⟩
    intro n hn
    have hf := (hw.structs e he).found n hn
    cases hft : findT st.strands n with
    | none => rw [hft] at hf; cases hf
    | some t =>
      obtain ⟨hm, hnm⟩ := findT_some hft
      rw [hst] at hm
      rw [← hnm]
      exact hj.strands t hm
  · intro k hk
    rw [hsk] at hk
    obtain ⟨h1, h2, h3⟩ := hj.kins k hk
    exact ⟨⟨h1, h2⟩, h3⟩

section
open Pepper.Sys Pepper.LoadInv

def sstmtCharsOk : SStmt → Bool
  | .imports _ => true
  | .component cname _ _ ins outs => nameOk cname && (ins ++ outs).all (fun r => nameOk r.name)

def sysCharsOk (s : SSrc) : Bool := s.stmts.all sstmtCharsOk

theorem charsOk_append {a b : String} (ha : charsOk a = true) (hb : charsOk b = true) : charsOk (a ++ b) = true := by
  simp only [charsOk, List.all_eq_true, String.toList_append] at *
  intro c hc
  rcases List.mem_append.mp hc with hc | hc
  · exact ha c hc
  · exact hb c hc

theorem charsOk_of_nameOk {a : String} (h : nameOk a = true) : charsOk a = true := by
  simp only [nameOk, Bool.and_eq_true] at h
  exact h.2

theorem sys_names {s : SSrc} (h : sysCharsOk s = true) :
    (∀ n ∈ instNames s.stmts, nameOk n = true) ∧ (∀ n ∈ sigNames s.stmts, nameOk n = true) :=
  names_of_stmts fun _ _ _ _ _ hm =>
    have := Bool.and_eq_true_iff.1 (List.all_eq_true.1 h _ hm)
    ⟨this.1, List.all_eq_true.1 this.2⟩

/-- the names by which a parent's `equal` lines refer to the ports of an instance, under the instance's prefix -/
def PortNamesOk (pfx : String) : Inst → Prop
  | .comp cst => ∀ e ∈ cst.seqs, nameOk (pfx ++ e.name) = true
  | .sys sst => ∀ m, (sst.lengths.lookup m).isSome = true → nameOk (pfx ++ m) = true

theorem compsNamesOk_of_forall : ∀ (c : List (String × Sys.Inst)), (∀ x ∈ c, instNamesOk x.2 = true) → compsNamesOk c = true
  | [], _ => rfl
  | (n, i) :: r, h => by
    simp only [compsNamesOk, Bool.and_eq_true]
    exact ⟨h (n, i) (by simp), compsNamesOk_of_forall r (fun x hx => h x (List.mem_cons_of_mem _ hx))⟩

theorem loaded_names {pfx : String} {inst : Inst}
    (hL : Loaded (fun c => UserNamesOk c = true ∧ srcCharsOk c = true) (fun s => sysCharsOk s = true) pfx inst) :
    charsOk pfx = true → instNamesOk inst = true ∧ PortNamesOk pfx inst := by
  induction hL with
  | comp hP hload =>
    intro hp
    obtain ⟨h1, h2⟩ := compNamesOk_of_load hload hP.1 hp hP.2
    exact ⟨by simpa [instNamesOk] using h1, h2⟩
  | sys hQ hsub hinv hio ih =>
    rename_i s path name pfx tm sg lens comps
    intro hp
    obtain ⟨hin, hsn⟩ := sys_names hQ
    have hpc : ∀ c ∈ comps, charsOk (pfx ++ c.1 ++ "-") = true := by
      intro c hc
      exact charsOk_append (charsOk_append hp (charsOk_of_nameOk (hin _ (hinv.compNames c hc)))) (by decide)
    refine ⟨?_, ?_⟩
    · simp only [instNamesOk, sysNamesOk, Bool.and_eq_true]
      refine ⟨compsNamesOk_of_forall _ (fun c hc => (ih c hc (hpc c hc)).1), ?_⟩
      simp only [signalsEmitOk, List.all_eq_true, Bool.and_eq_true]
      intro x hx
      refine ⟨nameOk_append hp (hsn _ (hinv.sigIn x hx)), ?_⟩
      intro e he
      obtain ⟨inst, len, hmem, _, hport⟩ := hinv.entries x hx e he
      have hpn := (ih (e.comp, inst) hmem (hpc _ hmem)).2
      unfold entryName
      cases inst with
      | comp cst =>
        cases hep : e.port with
        | seq i bases =>
          rw [hep] at hport
          obtain ⟨_, _, se, hf, _⟩ := hport
          obtain ⟨hm, hn⟩ := findE_some hf
          have := hpn se hm
          rw [hn] at this
          exact this
        | sig m => rw [hep] at hport; exact absurd hport (by simp [PortInv])
      | sys sst =>
        cases hep : e.port with
        | seq i bases => rw [hep] at hport; exact absurd hport (by simp [PortInv])
        | sig m =>
          rw [hep] at hport
          have : (sst.lengths.lookup m).isSome = true := by
            simp only [PortInv] at hport; rw [hport]; rfl
          exact hpn m this
    · intro m hm
      simp only [SysSt.lengths] at hm
      rw [lookup_isSome_iff_mem_keys, hinv.keys] at hm
      obtain ⟨x, hx, rfl⟩ := List.mem_map.mp hm
      exact nameOk_append hp (hsn _ (hinv.sigIn x hx))

theorem instNamesOk_of_loadFile {b : Bundle}
    (hc : ∀ k c, b.files.lookup k = some (.comp c) → UserNamesOk c = true ∧ srcCharsOk c = true)
    (hs : ∀ k s, b.files.lookup k = some (.sys s) → sysCharsOk s = true)
    {fuel : Nat} {base : String} {args : Nat} {argKey pfx path : String} {includes : List String} {anon : Nat}
    {inst : Inst} {a' : Nat} (h : loadFile b fuel base args argKey pfx path includes anon = .ok (inst, a'))
    (hp : charsOk pfx = true) : instNamesOk inst = true :=
  (loaded_names (loadFile_loaded hc hs _ _ _ _ _ _ _ _ _ _ h) hp).1

/-- **bundle predicate** (decidable): every component source declares names over `[A-Za-z0-9_-]`, every system source
    names its instances and signals over `[A-Za-z0-9_-]` -/
def bundleCharsOk (b : Bundle) : Bool :=
  b.files.all (fun kf => match kf.2 with
    | .comp c => srcCharsOk c
    | .sys s => sysCharsOk s)

theorem bundleCharsOk_comp {b : Bundle} (h : bundleCharsOk b = true) {k : String} {c : Comp.Src}
    (hl : b.files.lookup k = some (.comp c)) : srcCharsOk c = true :=
  List.all_eq_true.mp h _ (lookup_mem hl)

theorem bundleCharsOk_sys {b : Bundle} (h : bundleCharsOk b = true) {k : String} {s : SSrc}
    (hl : b.files.lookup k = some (.sys s)) : sysCharsOk s = true :=
  List.all_eq_true.mp h _ (lookup_mem hl)

/-- **`instNamesOk` from the bundle**: the decidable form of `instNamesOk_of_loadFile` -/
theorem instNamesOk_of_bundle {b : Bundle} (hu : ∀ k c, b.files.lookup k = some (.comp c) → UserNamesOk c = true)
    (hc : bundleCharsOk b = true)
    {fuel : Nat} {base : String} {args : Nat} {argKey pfx path : String} {includes : List String} {anon : Nat}
    {inst : Inst} {a' : Nat} (h : loadFile b fuel base args argKey pfx path includes anon = .ok (inst, a'))
    (hp : charsOk pfx = true) : instNamesOk inst = true :=
  instNamesOk_of_loadFile (fun _ _ hl => ⟨hu _ _ hl, bundleCharsOk_comp hc hl⟩) (fun _ _ hl => bundleCharsOk_sys hc hl) h hp

end

end Pepper.ParsePil
