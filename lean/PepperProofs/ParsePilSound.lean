import PepperProofs.ParsePil
/-!
# What an accepted PIL line looks like (`stmtWF`)

The shape of the statements of any document `parsePil` accepts: each scanner of `PepperModel/ParsePil.lean` read backwards
(`nameEq_name`, `bodyColon_pre`, `seqBody_chars`, `structHdr_params`), one assembly per statement kind, the dispatch
(`parseLine_wf`) and the loop (`parseLines_wf`).
-/
namespace Pepper.ParsePil
open Pepper

/-- a token of `str.split()`: non-empty, no white space -/
def tokenOk (s : String) : Bool := !s.toList.isEmpty && s.toList.all (fun c => !isWs c)

/-- an item of a super-sequence / strand line: a token without `:` -/
def itemOk (s : String) : Bool := tokenOk s && s.toList.all (· != ':')

/-- a strand field of a structure line: no `+`, no `:` -/
def fieldOk (s : String) : Bool := s.toList.all (fun c => c != '+' && c != ':')

/-- a bracketed structure parameter -/
def paramsOk : Option String → Bool
  | none => true
  | some p => !p.toList.isEmpty && p.toList.all isParamChar

/-- the shape of a statement the reader can produce (it never produces `.kinetic`: such a line leaves no statement) -/
def stmtWF (tbl : CodeTable) : Pil.Stmt → Bool
  | .seq n t => nameOk n && t.all (fun c => tbl.isCode c && c != ':' && !isWs c)
  | .sup n its => nameOk n && its.all itemOk
  | .strand n _ its => nameOk n && its.all itemOk
  | .struct n p ss st => nameOk n && paramsOk p &&
      !ss.isEmpty && ss.all fieldOk && st.all isStructChar
  | .equal its => its.all tokenOk
  | .kinetic => false

theorem mem_words (l : List Char) : ∀ w ∈ words l, w ≠ [] ∧ NoWs w ∧ ∀ x ∈ w, x ∈ l := by
  intro w hw
  rw [words_eq, List.mem_filter] at hw
  exact ⟨by simpa using hw.2, fun c hc => (mem_of_mem_splitOnP hw.1 hc).2, fun c hc => (mem_of_mem_splitOnP hw.1 hc).1⟩

theorem nameEq_name {l : List Char} {nm : String} {r : List Char} (h : nameEq l = some (nm, r)) : nameOk nm = true := by
  unfold nameEq at h
  split at h
  · cases h
  · rename_i l1 _
    simp only [] at h
    split at h
    · cases h
    · rename_i hne
      split at h
      · cases h
        simp only [nameOk, String.toList_ofList, Bool.and_eq_true, Bool.not_eq_true', List.all_eq_true]
        exact ⟨by simpa using hne, fun c hc => (mem_takeWhile hc).1⟩
      · cases h

theorem items_ok {pre : List Char} (hp : ∀ c ∈ pre, c ≠ ':') : ((words pre).map str).all itemOk = true := by
  simp only [List.all_eq_true, List.mem_map]
  rintro _ ⟨w, hw, rfl⟩
  obtain ⟨h1, h2, h3⟩ := mem_words _ _ hw
  simp only [itemOk, tokenOk, str, String.toList_ofList, Bool.and_eq_true, Bool.not_eq_true', List.all_eq_true,
    bne_iff_ne, ne_eq, List.isEmpty_eq_false_iff]
  exact ⟨⟨h1, fun c hc => by simp [h2 c hc]⟩, fun c hc => hp c (h3 c hc)⟩

theorem bodyColon_pre {m : Bool} {t pre st : List Char} (h : bodyColon m t = some (pre, st)) : ∀ c ∈ pre, c ≠ ':' := by
  have hpre : ∀ c ∈ t.takeWhile (· != ':'), c ≠ ':' := fun c hc => by simpa using (mem_takeWhile hc).1
  unfold bodyColon at h
  split at h
  · cases h
  · split at h
    · cases h
    · simp only [] at h
      split at h
      · split at h
        · cases h
        · cases h; exact hpre
      · split at h
        · split at h
          · cases h; exact hpre
          · cases h
        · cases h

theorem seqBody_chars {t tm : List Char} (h : seqBody t = some tm) : ∀ c ∈ tm, c ≠ ':' ∧ isWs c = false := by
  have key : ∀ c ∈ (t.dropWhile isWs).takeWhile (fun c => c != ':' && !isWs c), c ≠ ':' ∧ isWs c = false := by
    intro c hc
    have := (mem_takeWhile hc).1
    simpa using this
  unfold seqBody at h
  simp only [] at h
  split at h
  · cases h
  · split at h
    · split at h
      · cases h; exact fun _ hc => nomatch hc
      · split at h
        · cases h; exact fun _ hc => nomatch hc
        · cases h
      · cases h
    · split at h
      · cases h; exact key
      · cases h

theorem parseSeq_wf {tbl : CodeTable} {rest : List Char} {s : Pil.Stmt} (h : parseSeq tbl rest = .ok s) :
    stmtWF tbl s = true := by
  unfold parseSeq at h
  split at h
  · cases h
  · rename_i name t hne
    split at h
    · cases h
    · rename_i tm hb
      split at h
      · rename_i hall
        cases h
        simp only [stmtWF, Bool.and_eq_true, List.all_eq_true, bne_iff_ne, ne_eq, Bool.not_eq_true']
        exact ⟨nameEq_name hne, fun c hc => ⟨⟨List.all_eq_true.mp hall c hc, (seqBody_chars hb c hc).1⟩,
          (seqBody_chars hb c hc).2⟩⟩
      · cases h

/-- the two parsers differ in the `[dummy]` prefix only -/
theorem items_wf {tbl : CodeTable} {rest : List Char} {s : Pil.Stmt}
    (h : parseSup rest = .ok s ∨ parseStrand rest = .ok s) : stmtWF tbl s = true := by
  rcases h with h | h <;>
  · simp only [parseSup, parseStrand] at h
    split at h
    · cases h
    · rename_i name t hne
      split at h
      · cases h
      · rename_i items st hb
        cases h
        simp only [stmtWF, Bool.and_eq_true]
        exact ⟨nameEq_name hne, items_ok (bodyColon_pre hb)⟩

theorem structHdr_params {rest : List Char} {p : Option String} {r : List Char} (h : structHdr rest = some (p, r)) :
    paramsOk p = true := by
  unfold structHdr at h
  split at h
  · simp only [] at h
    split at h
    · cases h
    · rename_i hne
      split at h
      · cases h
        simp only [paramsOk, str, String.toList_ofList, Bool.and_eq_true, Bool.not_eq_true', List.all_eq_true]
        exact ⟨by simpa using hne, fun c hc => (mem_takeWhile hc).1⟩
      · cases h
  · cases h; rfl

theorem parseStruct_wf {tbl : CodeTable} {rest : List Char} {s : Pil.Stmt} (h : parseStruct rest = .ok s) :
    stmtWF tbl s = true := by
  unfold parseStruct at h
  split at h
  · cases h
  · rename_i params rest' hh
    simp only [] at h
    split at h
    · cases h
    · rename_i name t hne
      split at h
      · cases h
      · rename_i names st hb
        split at h
        · rename_i hall
          cases h
          simp only [stmtWF, Bool.and_eq_true]
          refine ⟨⟨⟨⟨nameEq_name hne, structHdr_params hh⟩, ?_⟩, ?_⟩, ?_⟩
          · cases hs : splitOnPlus names with
            | nil => exact absurd (splitOnPlus_eq _ ▸ hs) (List.splitOn_ne_nil _ _)
            | cons x y => rfl
          · simp only [List.all_eq_true, List.mem_map]
            rintro _ ⟨f, hf, rfl⟩
            simp only [fieldOk, str, String.toList_ofList, List.all_eq_true, Bool.and_eq_true, bne_iff_ne, ne_eq]
            intro c hc
            have hcf := mem_of_mem_strip hc
            have := mem_of_mem_splitOn (splitOnPlus_eq _ ▸ hf) hcf
            exact ⟨this.2, bodyColon_pre hb c this.1⟩
          · simpa [isStructChar] using hall
        · cases h

theorem parseLine_wf {tbl : CodeTable} {line : List Char} {s : Pil.Stmt} (h : parseLine tbl line = .ok (some s)) :
    stmtWF tbl s = true := by
  have inv : ∀ {r : Except Err Pil.Stmt}, r.map some = .ok (some s) → r = .ok s := by
    intro r hr
    cases r with
    | error e => cases hr
    | ok x => cases hr; rfl
  unfold parseLine at h
  rcases ite_ok_cases h with ⟨_, h⟩ | ⟨_, h⟩
  · exact parseSeq_wf (inv h)
  rcases ite_ok_cases h with ⟨_, h⟩ | ⟨_, h⟩
  · exact items_wf (.inl (inv h))
  rcases ite_ok_cases h with ⟨_, h⟩ | ⟨_, h⟩
  · exact items_wf (.inr (inv h))
  rcases ite_ok_cases h with ⟨_, h⟩ | ⟨_, h⟩
  · exact parseStruct_wf (inv h)
  rcases ite_ok_cases h with ⟨_, h⟩ | ⟨_, h⟩
  · cases h
    simp only [stmtWF, List.all_eq_true, List.mem_map]
    rintro _ ⟨w, hw, rfl⟩
    obtain ⟨h1, h2, _⟩ := mem_words _ _ (List.mem_of_mem_drop hw)
    simp only [tokenOk, str, String.toList_ofList, Bool.and_eq_true, Bool.not_eq_true', List.all_eq_true,
      List.isEmpty_eq_false_iff]
    exact ⟨h1, fun c hc => by simp [h2 c hc]⟩
  rcases ite_ok_cases h with ⟨_, h⟩ | ⟨_, h⟩ <;> cases h

theorem parseLines_wf {tbl : CodeTable} {L : List (List Char × Bool)} {ss : List Pil.Stmt}
    (h : parseLines tbl L = .ok ss) : ∀ s ∈ ss, stmtWF tbl s = true := by
  rw [parseLines_eq_mapM] at h
  obtain ⟨rs, hrs, rfl⟩ := map_ok h
  intro s hs
  obtain ⟨x, -, hx⟩ := mapM_mem hrs (some s) (by simpa using hs)
  rw [lineStep] at hx
  split at hx
  · cases hx
  · exact parseLine_wf hx

end Pepper.ParsePil
