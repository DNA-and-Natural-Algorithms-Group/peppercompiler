import PepperProofs.ParseSysDefs
import PepperProofs.Basic
/-!
# `.sys` text parser: rendering a statement and parsing it back
Lemmas for `PepperProps/ParseSys.lean` (`parse_render…`): every leaf element and every nonterminal of
`PepperModel/ParseSys.lean` run on the text `renderSStmtW` / `renderDeclW` write, for an arbitrary `Layout`.

Every nonterminal is run on `sp k ++ (its rendered text ++ t)`; of the continuation `t` it needs `headNot f t` (a
`Word` with body class `f` stops here) or `clearOf bad t` (an optional element that starts in `bad` is not there).
(`ParseComp.HeadNot` is the first condition as a `Prop`, for the regex engine of the `.comp` and `--fixed` readers.)
-/
namespace Pepper.ParseSys
open Pepper.Sys

theorem sp_zero : sp 0 = [] := rfl
theorem sp_succ (n : Nat) : sp (n + 1) = ' ' :: sp n := rfl
theorem sp_length (n : Nat) : (sp n).length = n := by simp [sp]

theorem sp_append (a b : Nat) (t : Str) : sp a ++ (sp b ++ t) = sp (a + b) ++ t := by
  simp only [sp, ← List.append_assoc, List.replicate_append_replicate]

theorem toList_beq_false {a b : String} (h : a ≠ b) : (a.toList == b.toList) = false :=
  beq_eq_false_iff_ne.2 fun e => h (String.toList_inj.1 e)

/-- neither white space of the grammar nor the start of a comment: `skip` stops at such a character -/
def hardC (c : Char) : Bool := !isWs c && c != '#'

/-- the text is empty or starts with a `hardC` character: `skip` leaves it alone -/
def hardHead : Str → Bool
  | [] => true
  | c :: _ => hardC c

/-- the text is empty or starts outside the class `f`: a `Word` with body class `f` stops here -/
def headNot (f : Char → Bool) : Str → Bool
  | [] => true
  | c :: _ => !f c

theorem skip_sp_append (n : Nat) (t : Str) : skip (sp n ++ t) = skip t := by
  have : skipWs (sp n ++ t) = skipWs t := by
    induction n with
    | zero => rfl
    | succ n ih => rw [sp_succ, List.cons_append, skipWs, if_pos (show isWs ' ' = true from rfl), ih]
  simp only [skip, this]

theorem skip_hard {t : Str} (h : hardHead t = true) : skip t = t := by
  cases t with
  | nil => rfl
  | cons c r =>
    simp only [hardHead, hardC, Bool.and_eq_true, Bool.not_eq_true', bne_iff_ne, ne_eq] at h
    rw [skip, skipWs, if_neg (by simp [h.1])]
    split
    · next heq => cases heq; exact absurd rfl h.2
    · rfl

theorem skip_of_hardHead {t : Str} (h : hardHead t = true) (n : Nat) : skip (sp n ++ t) = t := by
  rw [skip_sp_append, skip_hard h]

/-- after `skip`, `t` goes on with a character outside `bad` — or ends -/
def clearOf (bad : Char → Bool) (t : Str) : Bool := headNot bad (skip t)

@[simp] theorem clearOf_sp_append (bad : Char → Bool) (n : Nat) (t : Str) : clearOf bad (sp n ++ t) = clearOf bad t := by
  simp only [clearOf, skip_sp_append]

@[simp] theorem clearOf_sp (bad : Char → Bool) (n : Nat) : clearOf bad (sp n) = true := by
  rw [← List.append_nil (sp n), clearOf_sp_append]; rfl

theorem clearOf_sp_cons (bad : Char → Bool) (n : Nat) {d : Char} (hd : hardC d = true) (hb : bad d = false) (r : Str) :
    clearOf bad (sp n ++ d :: r) = true := by
  rw [clearOf, skip_of_hardHead (t := d :: r) hd]
  simp [headNot, hb]

theorem headNot_mono {f g : Char → Bool} (h : ∀ c, g c = true → f c = true) :
    ∀ t, headNot f t = true → headNot g t = true
  | [], _ => rfl
  | c :: _, ht => by
    simp only [headNot, Bool.not_eq_true'] at ht ⊢
    exact Bool.eq_false_iff.2 fun hg => Bool.eq_false_iff.1 ht (h c hg)

theorem headNot_sp_cons {f : Char → Bool} (hb : f ' ' = false) (n : Nat) {d : Char} (hd : f d = false) (r : Str) :
    headNot f (sp n ++ d :: r) = true := by
  cases n with
  | zero => simp [sp_zero, headNot, hd]
  | succ n => simp [sp_succ, headNot, hb]

theorem headNot_blank {f : Char → Bool} (hb : f ' ' = false) (n : Nat) (t : Str) : headNot f (sp (n + 1) ++ t) = true := by
  simp [sp_succ, headNot, hb]

theorem headNot_of_clearOf {f bad : Char → Bool} (hf : ∀ c, f c = true → hardC c = true ∧ bad c = true) :
    ∀ t, clearOf bad t = true → headNot f t = true
  | [], _ => rfl
  | c :: r, ht => by
    simp only [headNot, Bool.not_eq_true']
    cases hfc : f c with
    | false => rfl
    | true =>
      obtain ⟨hh, hb⟩ := hf c hfc
      rw [clearOf, skip_hard (t := c :: r) hh] at ht
      simp [headNot, hb] at ht

theorem dropPrefix_append (p t : Str) : dropPrefix p (p ++ t) = some t := by
  induction p with
  | nil => cases t <;> rfl
  | cons c p ih => simp [dropPrefix, ih]

theorem lit_render (p : Str) (n : Nat) (t : Str) (hp : hardHead (p ++ t) = true) :
    lit p (sp n ++ (p ++ t)) = some t := by
  rw [lit, skip_of_hardHead hp, dropPrefix_append]

theorem lit_render1 (c : Char) (hc : hardC c = true) (n : Nat) (t : Str) : lit [c] (sp n ++ (c :: t)) = some t :=
  lit_render [c] n t hc

theorem lit_head (c : Char) (hc : hardC c = true) (t : Str) : lit [c] (c :: t) = some t :=
  lit_render1 c hc 0 t

theorem lit_render2 (c d : Char) (hc : hardC c = true) (n : Nat) (t : Str) :
    lit [c, d] (sp n ++ (c :: d :: t)) = some t :=
  lit_render [c, d] n t hc

theorem lit_none_of_clearOf {bad : Char → Bool} {c : Char} (hc : bad c = true) (p : Str) {t : Str}
    (ht : clearOf bad t = true) : lit (c :: p) t = none := by
  have := headNot_mono (g := (· == c)) (fun d hd => eq_of_beq hd ▸ hc) (skip t) ht
  rw [lit]
  generalize skip t = u at this
  cases u with
  | nil => rfl
  | cons d r =>
    simp only [headNot, Bool.not_eq_true'] at this
    simp [dropPrefix, this]

theorem word_none_of_clearOf {bad init : Char → Bool} (body : Char → Bool) (hi : ∀ c, init c = true → bad c = true)
    {t : Str} (ht : clearOf bad t = true) : word init body t = none := by
  have := headNot_mono hi (skip t) ht
  rw [word]
  generalize skip t = u at this
  cases u with
  | nil => rfl
  | cons d r =>
    simp only [headNot, Bool.not_eq_true'] at this
    simp [this]

theorem word_render (init body : Char → Bool) (c : Char) (r t : Str) (n : Nat)
    (hc : init c = true) (hh : hardC c = true) (hr : r.all body = true)
    (ht : headNot body t = true) : word init body (sp n ++ (c :: r ++ t)) = some (c :: r, t) := by
  rw [word, skip_of_hardHead (t := c :: r ++ t) hh]
  simp only [List.cons_append, hc, if_true]
  have hall : ∀ a, a ∈ r → body a = true := List.all_eq_true.1 hr
  rw [List.takeWhile_append_of_pos hall, List.dropWhile_append_of_pos hall]
  cases t with
  | nil => simp
  | cons d u =>
    simp only [headNot, Bool.not_eq_true'] at ht
    simp [ht]

theorem isPathC_hard {c : Char} (h : isPathC c = true) : hardC c = true := by
  simp only [hardC, isWs, Bool.and_eq_true, Bool.not_eq_true', Bool.or_eq_false_iff, bne_iff_ne, ne_eq,
    beq_eq_false_iff_ne]
  refine ⟨⟨?_, ?_⟩, ?_⟩ <;> (rintro rfl; exact absurd h (by decide))

theorem isPathC_plain {c : Char} (h : isPathC c = true) : (c != '\t' && c != '#' && c != '\n') = true := by
  simp only [Bool.and_eq_true, bne_iff_ne, ne_eq]
  refine ⟨⟨?_, ?_⟩, ?_⟩ <;> (rintro rfl; exact absurd h (by decide))

theorem isPathC_notSp {c : Char} (h : isPathC c = true) : isSp c = false := by
  cases hs : isSp c with
  | false => rfl
  | true =>
    simp only [isSp, Bool.or_eq_true, beq_iff_eq] at hs
    rcases hs with ((((((((rfl | rfl) | rfl) | rfl) | rfl) | rfl) | rfl) | rfl) | rfl) | rfl <;>
      exact absurd h (by decide)

theorem isVar0_isVarC {c : Char} (h : isVar0 c = true) : isVarC c = true := by
  simp only [isVar0] at h
  simp [isVarC, Char.isAlphanum, h]

theorem isVarC_isPathC {c : Char} (h : isVarC c = true) : isPathC c = true := by
  simp only [isVarC, Bool.or_eq_true, beq_iff_eq] at h
  simp only [isPathC, Bool.or_eq_true, beq_iff_eq]
  rcases h with h | h <;> simp [h]

theorem isVarC_hard {c : Char} (h : isVarC c = true) : hardC c = true := isPathC_hard (isVarC_isPathC h)

theorem nameOk_cases {n : String} (h : nameOk n = true) :
    ∃ c r, n.toList = c :: r ∧ isVar0 c = true ∧ r.all isVarC = true := by
  unfold nameOk at h
  split at h
  · next c r heq => exact ⟨c, r, heq, by simpa using h⟩
  · cases h

theorem nameOk_chars {n : String} (h : nameOk n = true) : n.toList ≠ [] ∧ ∀ c ∈ n.toList, isVarC c = true := by
  obtain ⟨c, r, heq, hc, hr⟩ := nameOk_cases h
  rw [heq]
  exact ⟨List.cons_ne_nil c r, List.forall_mem_cons.2 ⟨isVar0_isVarC hc, List.all_eq_true.1 hr⟩⟩

theorem nameOk_noDash {n : String} (h : nameOk n = true) : n.toList.contains '-' = false := by
  cases hc : n.toList.contains '-' with
  | false => rfl
  | true => exact absurd ((nameOk_chars h).2 '-' (by simpa using hc)) (by decide)

theorem pathOk_cases {p : String} (h : pathOk p = true) :
    ∃ c r, p.toList = c :: r ∧ isPathC c = true ∧ r.all isPathC = true := by
  unfold pathOk at h
  cases hp : p.toList with
  | nil => rw [hp] at h; cases h
  | cons c r => rw [hp] at h; exact ⟨c, r, rfl, by simpa using h⟩

theorem pathOk_of_nameOk {n : String} (h : nameOk n = true) : pathOk n = true := by
  obtain ⟨c, r, heq, hc, hr⟩ := nameOk_cases h
  simp only [pathOk, heq, List.isEmpty_cons, Bool.not_false, Bool.true_and, List.all_cons, Bool.and_eq_true,
    List.all_eq_true]
  exact ⟨isVarC_isPathC (isVar0_isVarC hc), fun d hd => isVarC_isPathC (List.all_eq_true.1 hr d hd)⟩

theorem pathOk_all {p : String} (h : pathOk p = true) : ∀ c ∈ p.toList, isPathC c = true := by
  simp only [pathOk, Bool.and_eq_true, List.all_eq_true] at h
  exact h.2

theorem hardHead_path {p : String} (h : pathOk p = true) (t : Str) : hardHead (p.toList ++ t) = true := by
  obtain ⟨c, r, heq, hc, -⟩ := pathOk_cases h
  rw [heq]; exact isPathC_hard hc

theorem var_render {n : String} (hn : nameOk n = true) (k : Nat) {t : Str} (ht : headNot isVarC t = true) :
    var (sp k ++ (n.toList ++ t)) = some (n.toList, t) := by
  obtain ⟨c, r, heq, hc, hr⟩ := nameOk_cases hn
  rw [heq]
  exact word_render isVar0 isVarC c r t k hc (isVarC_hard (isVar0_isVarC hc)) hr ht

theorem path_render {p : String} (hp : pathOk p = true) (k : Nat) {t : Str} (ht : headNot isPathC t = true) :
    path (sp k ++ (p.toList ++ t)) = some (p.toList, t) := by
  obtain ⟨c, r, heq, hc, hr⟩ := pathOk_cases hp
  rw [heq]
  exact word_render isPathC isPathC c r t k hc (isPathC_hard hc) hr ht

/-- the keywords are names, which is all the lemmas below need of them -/
theorem nameOk_import : nameOk "import" = true := by decide
theorem nameOk_component : nameOk "component" = true := by decide
theorem nameOk_declare : nameOk "declare" = true := by decide
theorem nameOk_system : nameOk "system" = true := by decide

theorem kw_render {k : String} (hk : nameOk k = true) (n : Nat) (t : Str) (ht : headNot isIdent t = true) :
    kw k.toList (sp n ++ (k.toList ++ t)) = some t := by
  unfold kw
  simp only [skip_of_hardHead (hardHead_path (pathOk_of_nameOk hk) t), List.take_left' rfl, List.drop_left' rfl,
    beq_self_eq_true, if_true]
  cases t with
  | nil => rfl
  | cons c r =>
    simp only [headNot, Bool.not_eq_true'] at ht
    simp [ht]

/-- what the three list renderers of the model (`renderSigsW`, `renderCommaW`, `renderItemsW`) write after the
    first element: list elements `i + 1, i + 2, …`, each with the delimiter `d` in front of it, `gapL j` blanks
    before the delimiter that follows element `j`, `gapR j` after it -/
def sepTail {α : Type} (d : Char) (gapL gapR : Nat → Nat) (render : Nat → α → Str) : Nat → List α → Str
  | _, [] => []
  | i, x :: xs => sp (gapL i) ++ d :: (sp (gapR i) ++ (render (i + 1) x ++ sepTail d gapL gapR render (i + 1) xs))

theorem eq_sepTail {α : Type} {d : Char} {gapL gapR : Nat → Nat} {render : Nat → α → Str} (R : Nat → List α → Str)
    (h1 : ∀ i x, R i [x] = render i x)
    (h2 : ∀ i x y l, R i (x :: y :: l) = render i x ++ sp (gapL i) ++ [d] ++ sp (gapR i) ++ R (i + 1) (y :: l)) :
    ∀ (l : List α) (i : Nat) (x : α), R i (x :: l) = render i x ++ sepTail d gapL gapR render i l
  | [], i, x => by simp [h1, sepTail]
  | y :: l, i, x => by rw [h2, eq_sepTail R h1 h2 l (i + 1) y]; simp [sepTail]

section delimited
variable {α : Type} (d : Char) (hd : hardC d = true) {bad : Char → Bool} (hbad : bad d = false)
  (item : Str → Option (α × Str)) (P : α → Prop) (gapL gapR : Nat → Nat) (render : Nat → α → Str)
  (hitem : ∀ i x, P x → ∀ k {u}, clearOf bad u = true → item (sp k ++ (render i x ++ u)) = some (x, u))
  {t : Str} (ht : clearOf (fun c => c == d || bad c) t = true)
include hd hbad hitem ht

/-- `ZeroOrMore(Suppress(d) + item)` reads a `sepTail` back, provided `item` reads one element back in front of any
    text clear of `bad` (`bad` holds what would let an element go on, not `d`), and `t` is clear of `bad` and `d` -/
theorem more_sepTail : ∀ (xs : List α) (i fuel : Nat), (∀ x ∈ xs, P x) →
    (sepTail d gapL gapR render i xs ++ t).length < fuel →
      more [d] item fuel (sepTail d gapL gapR render i xs ++ t) = (xs, t) ∧
        clearOf bad (sepTail d gapL gapR render i xs ++ t) = true
  | [], i, fuel, _, _ => by
    refine ⟨?_, headNot_mono (fun c hc => by simp [hc]) (skip t) ht⟩
    cases fuel with
    | zero => rfl
    | succ f => simp [sepTail, more, lit_none_of_clearOf (bad := fun c => c == d || bad c) (c := d) (by simp) [] ht]
  | x :: xs, i, fuel, hP, hf => by
    simp only [sepTail, List.append_assoc, List.cons_append] at hf ⊢
    cases fuel with
    | zero => exact absurd hf (by omega)
    | succ f =>
      obtain ⟨hm, hq⟩ := more_sepTail xs (i + 1) f (fun y hy => hP y (List.mem_cons_of_mem _ hy)) (by
        simp only [List.length_append, List.length_cons] at hf ⊢
        omega)
      refine ⟨?_, clearOf_sp_cons bad _ hd hbad _⟩
      simp only [more, lit_render1 d hd, hitem (i + 1) x (hP x List.mem_cons_self) _ hq, hm]

theorem list1_sepTail (x : α) (xs : List α) (hP : ∀ y ∈ x :: xs, P y) (i k : Nat) :
    list1 [d] item (sp k ++ (render i x ++ (sepTail d gapL gapR render i xs ++ t))) = some (x :: xs, t) := by
  obtain ⟨hm, hq⟩ := more_sepTail d hd hbad item P gapL gapR render hitem ht xs i _
    (fun y hy => hP y (List.mem_cons_of_mem _ hy)) (Nat.lt_add_one _)
  simp only [list1, hitem i x (hP x List.mem_cons_self) k hq, hm]

end delimited

def starBad (c : Char) : Bool := c == '*' || isVarC c
def sigBad (c : Char) : Bool := c == '+' || starBad c

theorem signal_render (g : SigGap) (r : SigRef) (hr : nameOk r.name = true) (k : Nat) {t : Str}
    (ht : clearOf starBad t = true) : signal (sp k ++ (renderSigW g r ++ t)) = some (r, t) := by
  obtain ⟨n, st⟩ := r
  cases st with
  | false =>
    have h1 : headNot isVarC t = true := headNot_of_clearOf (fun c hc => ⟨isVarC_hard hc, by simp [starBad, hc]⟩) t ht
    have h2 : lit ['*'] t = none := lit_none_of_clearOf (bad := starBad) (by decide) [] ht
    simp [signal, renderSigW, var_render hr k h1, h2, String.ofList_toList]
  | true =>
    have h1 : headNot isVarC (sp g.star ++ ('*' :: t)) = true := headNot_sp_cons (by decide) _ (by decide) t
    have h2 : lit ['*'] (sp g.star ++ ('*' :: t)) = some t := lit_render1 '*' (by decide) _ t
    simp [signal, renderSigW, List.append_assoc, var_render hr k h1, h2, String.ofList_toList]

theorem renderSigsW_cons (G : Nat → SigGap) (l : List SigRef) (i : Nat) (r : SigRef) :
    renderSigsW G i (r :: l) = renderSigW (G i) r ++
      sepTail '+' (fun i => (G i).plusL) (fun i => (G i).plusR) (fun i => renderSigW (G i)) i l :=
  eq_sepTail (renderSigsW G) (fun _ _ => rfl) (fun _ _ _ _ => rfl) l i r

theorem renderSigW_length_pos (g : SigGap) (r : SigRef) (hr : nameOk r.name = true) : 0 < (renderSigW g r).length := by
  obtain ⟨c, rr, heq, _⟩ := nameOk_cases hr
  simp [renderSigW, heq]

theorem sigsOk_mem {l : List SigRef} (h : sigsOk l = true) : ∀ x ∈ l, nameOk x.name = true :=
  List.all_eq_true.1 h

theorem signalList_nil {t : Str} (ht : clearOf sigBad t = true) : signalList t = ([], t) := by
  have : var t = none := word_none_of_clearOf (bad := sigBad) isVarC
    (fun c hc => by simp [sigBad, starBad, isVar0_isVarC hc]) ht
  simp [signalList, listOf, list1, signal, this]

theorem signalList_cons (G : Nat → SigGap) (r : SigRef) (l : List SigRef) (i k : Nat) {t : Str}
    (hl : sigsOk (r :: l) = true) (ht : clearOf sigBad t = true) :
    signalList (sp k ++ (renderSigsW G i (r :: l) ++ t)) = (r :: l, t) := by
  have key := list1_sepTail '+' (by decide) (bad := starBad) (by decide) signal (fun x => nameOk x.name = true)
    (fun i => (G i).plusL) (fun i => (G i).plusR) (fun i => renderSigW (G i))
    (fun i x hx => signal_render (G i) x hx) ht r l (sigsOk_mem hl) i k
  rw [renderSigsW_cons, List.append_assoc]
  simp only [signalList, listOf, key]

theorem signalList_render (G : Nat → SigGap) (l : List SigRef) (k a : Nat) {t' : Str} (hl : sigsOk l = true)
    (ht : clearOf sigBad t' = true) :
    ∃ m, signalList (sp k ++ (renderSigsW G 0 l ++ (sp a ++ t'))) = (l, sp m ++ t') := by
  cases l with
  | nil =>
    refine ⟨k + a, ?_⟩
    simp only [renderSigsW, List.nil_append, sp_append]
    exact signalList_nil (by simpa using ht)
  | cons r l => exact ⟨a, signalList_cons G r l 0 k hl (by simpa using ht)⟩

theorem endOk_sp (dw : Str) (n : Nat) : endOk dw (sp n) = true := by
  have : skip (sp n) = [] := by simpa using skip_of_hardHead (t := []) rfl n
  simp [endOk, this]

theorem io_render (dw : Str) (L : Layout) (ins outs : List SigRef) (hi : sigsOk ins = true) (ho : sigsOk outs = true)
    (n : Nat) :
    ∃ r6 r7 r8 r9, lit [':'] (renderIOW L ins outs ++ sp n) = some r6 ∧ signalList r6 = (ins, r7) ∧
      lit ['-', '>'] r7 = some r8 ∧ signalList r8 = (outs, r9) ∧ endOk dw r9 = true := by
  simp only [renderIOW, List.append_assoc, List.cons_append, List.nil_append]
  obtain ⟨m, hm⟩ := signalList_render L.inGap ins L.colonR L.arrowL
    (t' := '-' :: '>' :: ((if outs.isEmpty = true then [] else sp L.arrowR ++ renderSigsW L.outGap 0 outs) ++ sp n)) hi
    (clearOf_sp_cons _ 0 (by decide) (by decide) _)
  refine ⟨_, _, _, sp n, lit_render1 ':' (by decide) _ _, hm, lit_render2 '-' '>' (by decide) _ _, ?_⟩
  cases outs with
  | nil => exact ⟨signalList_nil (by simp), endOk_sp dw n⟩
  | cons r l =>
    simp only [List.isEmpty_cons, Bool.false_eq_true, if_false, List.append_assoc]
    exact ⟨signalList_cons L.outGap r l 0 L.arrowR ho (by simp), endOk_sp dw n⟩

theorem clearOf_renderIOW (bad : Char → Bool) (hb : bad ':' = false) (L : Layout) (ins outs : List SigRef) (t : Str) :
    clearOf bad (renderIOW L ins outs ++ t) = true := by
  simp only [renderIOW, List.append_assoc, List.cons_append]
  exact clearOf_sp_cons bad _ (by decide) hb _

theorem renderParensW_cases (L : Layout) (left : Bool) (ws : List Str) :
    (ws = [] ∧ renderParensW L left ws = []) ∨
    renderParensW L left ws =
      sp L.parL ++ '(' :: (sp L.parIn ++ (renderCommaW L left 0 ws ++ (sp (if left then L.parOut else 0) ++ [')']))) := by
  unfold renderParensW
  split
  · next h =>
    rw [Bool.and_eq_true, List.isEmpty_iff] at h
    exact Or.inl ⟨h.1, rfl⟩
  · exact Or.inr (by simp only [List.append_assoc, List.cons_append, List.nil_append])

theorem headNot_renderParensW_IOW (L : Layout) (left : Bool) (ws : List Str) (ins outs : List SigRef) (t : Str) :
    headNot isVarC (renderParensW L left ws ++ (renderIOW L ins outs ++ t)) = true := by
  rcases renderParensW_cases L left ws with ⟨-, h⟩ | h
  · rw [h]
    exact headNot_of_clearOf (fun _ hc => ⟨isVarC_hard hc, hc⟩) _ (clearOf_renderIOW isVarC (by decide) L ins outs t)
  · rw [h, List.append_assoc]
    exact headNot_sp_cons (by decide) _ (by decide) _

theorem renderCommaW_cons (L : Layout) (left : Bool) (ws : List Str) (i : Nat) (w : Str) :
    renderCommaW L left i (w :: ws) =
      w ++ sepTail ',' (fun i => if left then L.commaL i else 0) L.commaR (fun _ w => w) i ws :=
  eq_sepTail (renderCommaW L left) (fun _ _ => rfl) (fun _ _ _ _ => rfl) ws i w

def parBad (c : Char) : Bool := c == '('

theorem declParams_render (L : Layout) (ps : List String) (hp : ps.all nameOk = true) {t : Str}
    (ht : clearOf parBad t = true) :
    declParams (renderParensW L true (ps.map String.toList) ++ t) = (ps, t) := by
  rcases renderParensW_cases L true (ps.map String.toList) with ⟨hnil, h⟩ | h
  · rw [h, List.map_eq_nil_iff.1 hnil]
    simp [declParams, lit_none_of_clearOf (bad := parBad) (c := '(') rfl [] ht]
  · rw [h, declParams]
    simp only [if_true, List.append_assoc, List.cons_append, List.nil_append, lit_render1 '(' (by decide)]
    cases ps with
    | nil =>
      -- `()`: no variable starts at `)`
      have : var (sp (L.parIn + L.parOut) ++ (')' :: t)) = none :=
        word_none_of_clearOf (bad := isVarC) isVarC (fun c hc => isVar0_isVarC hc)
          (clearOf_sp_cons _ _ (by decide) (by decide) t)
      simp [renderCommaW, sp_append, listOf, list1, this, lit_render1 ')' (by decide)]
    | cons p ps =>
      have hp' : ∀ x ∈ p :: ps, nameOk x = true := List.all_eq_true.1 hp
      have key := list1_sepTail ',' (by decide) (bad := isVarC) (by decide) var
        (fun w => nameOk (String.ofList w) = true) L.commaL L.commaR (fun _ w => w)
        (fun i w hw k u hu => by
          simpa using var_render hw k (headNot_of_clearOf (fun _ hc => ⟨isVarC_hard hc, hc⟩) u hu))
        (t := sp L.parOut ++ (')' :: t)) (clearOf_sp_cons _ _ (by decide) (by decide) _)
        p.toList (ps.map String.toList) (by simpa [String.ofList_toList] using hp') 0 L.parIn
      simp only [List.map_cons, renderCommaW_cons, if_true, List.append_assoc]
      simp [listOf, key, lit_render1 ')' (by decide), String.ofList_toList]

/-- template arguments are all spelled `1`; no blank is written before `,` and `)`, where it would belong to the
    argument (`python_object` takes blanks) -/
theorem pyObj_one (k : Nat) {t : Str} (ht : headNot isPyC t = true) : pyObj (sp k ++ ('1' :: t)) = .ok (some t) := by
  have := word_render isPy0 isPyC '1' [] t k (by decide) (by decide) rfl ht
  simp only [List.cons_append, List.nil_append] at this
  have hv : argVerdict ['1'] = .ok := by decide
  simp [pyObj, this, hv]

def argTail (L : Layout) (i n : Nat) : Str :=
  sepTail ',' (fun _ => 0) L.commaR (fun _ w => w) i (List.replicate n ['1'])

theorem argTail_succ (L : Layout) (i n : Nat) :
    argTail L i (n + 1) = ',' :: (sp (L.commaR i) ++ ('1' :: argTail L (i + 1) n)) := by
  simp [argTail, List.replicate_succ, sepTail, sp_zero]

theorem renderCommaW_args (L : Layout) (n i : Nat) :
    renderCommaW L false i (List.replicate (n + 1) ['1']) = '1' :: argTail L i n := by
  rw [List.replicate_succ, renderCommaW_cons]
  simp [argTail]

theorem pyMore_render (L : Layout) {t : Str} (ht : headNot isPyC t = true) (hstop : lit [','] t = none) :
    ∀ (n i fuel : Nat), (argTail L i n ++ t).length < fuel →
      pyMore fuel (argTail L i n ++ t) = .ok (n, t) ∧ headNot isPyC (argTail L i n ++ t) = true
  | 0, i, fuel, _ => by
    refine ⟨?_, ht⟩
    cases fuel with
    | zero => rfl
    | succ f => simp [argTail, sepTail, pyMore, hstop]
  | n + 1, i, fuel, hf => by
    simp only [argTail_succ, List.cons_append, List.append_assoc] at hf ⊢
    cases fuel with
    | zero => exact absurd hf (by omega)
    | succ f =>
      obtain ⟨hm, hq⟩ := pyMore_render L ht hstop n (i + 1) f (by
        simp only [List.length_cons, List.length_append] at hf ⊢
        omega)
      exact ⟨by simp only [pyMore, lit_head ',' (by decide), pyObj_one _ hq, hm], rfl⟩

theorem componentParams_render (L : Layout) (n : Nat) {t : Str} (ht : clearOf parBad t = true) :
    componentParams (renderParensW L false (List.replicate n ['1']) ++ t) = .ok (n, t) := by
  rcases renderParensW_cases L false (List.replicate n ['1']) with ⟨hnil, h⟩ | h
  · rw [h, (List.replicate_eq_nil_iff _).1 hnil]
    simp [componentParams, lit_none_of_clearOf (bad := parBad) (c := '(') rfl [] ht]
  · rw [h, componentParams]
    simp only [Bool.false_eq_true, if_false, sp_zero, List.append_assoc, List.cons_append, List.nil_append,
      lit_render1 '(' (by decide)]
    cases n with
    | zero =>
      -- `()`: no argument starts at `)`
      have hobj : pyObj (sp L.parIn ++ (')' :: t)) = .ok none := by
        simp [pyObj, word_none_of_clearOf (bad := isPy0) isPyC (fun c hc => hc)
          (clearOf_sp_cons isPy0 L.parIn (d := ')') (by decide) (by decide) t)]
      simp [renderCommaW, pyList, hobj, lit_render1 ')' (by decide)]
    | succ m =>
      obtain ⟨hm, hq⟩ := pyMore_render L (t := ')' :: t) rfl
        (lit_none_of_clearOf (bad := fun c => c == ',') (c := ',') rfl [] (clearOf_sp_cons _ 0 (by decide) (by decide) t))
        m 0 _ (Nat.lt_add_one _)
      rw [renderCommaW_args]
      simp only [List.cons_append, pyList, pyObj_one _ hq, hm, lit_head ')' (by decide)]

theorem importItem_render (L : Layout) (i : Nat) (it : String × Option String) (hit : itemOk it = true) (k : Nat)
    {u : Str} (hu : clearOf isPathC u = true) :
    importItem (sp k ++ (renderItemW L i it ++ u)) = some (it, u) := by
  obtain ⟨p, a⟩ := it
  cases a with
  | none =>
    have hp : pathOk p = true := by simpa [itemOk] using hit
    have h1 : headNot isPathC u = true := headNot_of_clearOf (fun _ hc => ⟨isPathC_hard hc, hc⟩) u hu
    have h2 : lit ['a', 's'] u = none := lit_none_of_clearOf (bad := isPathC) (c := 'a') (by decide) ['s'] hu
    simp [importItem, renderItemW, path_render hp k h1, h2, String.ofList_toList]
  | some a =>
    have hp : pathOk p = true ∧ nameOk a = true := by simpa [itemOk] using hit
    have h0 : headNot isVarC u = true := headNot_of_clearOf (fun _ hc => ⟨isVarC_hard hc, isVarC_isPathC hc⟩) u hu
    have h1 := headNot_blank (f := isPathC) (by decide) (L.asL i) ('a' :: 's' :: (sp (L.asR i) ++ (a.toList ++ u)))
    have h2 := lit_render2 'a' 's' (by decide) (L.asL i + 1) (sp (L.asR i) ++ (a.toList ++ u))
    simp only [renderItemW, List.append_assoc, List.cons_append, List.nil_append]
    simp [importItem, path_render hp.1 k h1, h2, var_render hp.2 _ h0, String.ofList_toList]

theorem renderItemsW_cons (L : Layout) (l : List (String × Option String)) (i : Nat) (it : String × Option String) :
    renderItemsW L i (it :: l) = renderItemW L i it ++ sepTail ',' L.commaL L.commaR (renderItemW L) i l :=
  eq_sepTail (renderItemsW L) (fun _ _ => rfl) (fun _ _ _ _ => rfl) l i it

def itemsBad (c : Char) : Bool := c == ',' || isPathC c

theorem items_render (L : Layout) (it : String × Option String) (l : List (String × Option String)) (k : Nat) {t : Str}
    (hok : (it :: l).all itemOk = true) (ht : clearOf itemsBad t = true) :
    list1 [','] importItem (sp k ++ (renderItemsW L 0 (it :: l) ++ t)) = some (it :: l, t) := by
  rw [renderItemsW_cons, List.append_assoc]
  exact list1_sepTail ',' (by decide) (bad := isPathC) (by decide) importItem (fun x => itemOk x = true)
    L.commaL L.commaR (renderItemW L) (importItem_render L) ht it l (List.all_eq_true.1 hok) 0 k

/-! ### the loop leaves a rendered line alone

A rendered core is `plain` (no tab, `#`, newline) and `Solid` (ends in a character `strip` keeps), so `expandtabs`, the
comment regex and `strip` are the identity on it and the line splitter cuts only at the newlines the renderer wrote. -/

def plain (s : Str) : Bool := s.all (fun c => c != '\t' && c != '#' && c != '\n')

@[simp] theorem plain_nil : plain [] = true := rfl
@[simp] theorem plain_append (a b : Str) : plain (a ++ b) = (plain a && plain b) := by simp [plain, List.all_append]
@[simp] theorem plain_cons (c : Char) (r : Str) : plain (c :: r) = ((c != '\t' && c != '#' && c != '\n') && plain r) := by
  simp [plain]
@[simp] theorem plain_sp (n : Nat) : plain (sp n) = true := by
  simp only [plain, sp, List.all_eq_true]
  intro c hc
  rw [List.eq_of_mem_replicate hc]; rfl

theorem mem_plain {s : Str} (h : plain s = true) : ∀ c ∈ s, c ≠ '\n' ∧ c ≠ '#' := by
  intro c hc
  have := List.all_eq_true.1 h c hc
  simp only [Bool.and_eq_true, bne_iff_ne, ne_eq] at this
  exact ⟨this.2, this.1.2⟩

theorem expandTabs_plain : ∀ (s : Str) (col : Nat), plain s = true → expandTabs s col = s
  | [], _, _ => rfl
  | c :: r, col, h => by
    simp only [plain_cons, Bool.and_eq_true, bne_iff_ne, ne_eq] at h
    have h1 : (c == '\t') = false := by simpa using h.1.1.1
    simp only [expandTabs, h1, Bool.false_eq_true, if_false]
    split <;> simp [expandTabs_plain r _ h.2]

theorem expandTabs_padded {y : Str} (hy : plain y = true) (a b : Nat) :
    expandTabs (sp a ++ (y ++ sp b)) 0 = sp a ++ (y ++ sp b) :=
  expandTabs_plain _ _ (by simp [hy])

theorem subCommentAux_noHash : ∀ (s : Str), (∀ c ∈ s, c ≠ '#') → subCommentAux s none = s
  | [], _ => rfl
  | c :: r, h => by
    have h1 : (c == '#') = false := by simpa using h c (by simp)
    simp [subCommentAux, h1, subCommentAux_noHash r (fun d hd => h d (by simp [hd]))]

/-- the text is NOT empty and starts with a character `str.strip` keeps (`[]` is excluded: a stripped line that is
    empty is skipped by the loop) -/
def startsHard : Str → Bool
  | [] => false
  | c :: _ => !isSp c

theorem isEmpty_of_startsHard {y : Str} (h : startsHard y = true) : y.isEmpty = false := by
  cases y with
  | nil => cases h
  | cons c r => rfl

/-- what the rendered pieces are, from a signal up to the core of a statement: `plain`, so that `expandtabs` and the
    comment regex leave the line alone, and ending in a character that `strip` leaves -/
def Solid (y : Str) : Prop := plain y = true ∧ ∃ u d, y = u ++ [d] ∧ isSp d = false

theorem Solid.append {a b : Str} (ha : plain a = true) (hb : Solid b) : Solid (a ++ b) := by
  obtain ⟨hp, u, d, rfl, hd⟩ := hb
  exact ⟨by rw [plain_append, ha, hp]; rfl, a ++ u, d, (List.append_assoc a u [d]).symm, hd⟩

theorem solid_path {p : String} (h : pathOk p = true) : Solid p.toList := by
  refine ⟨List.all_eq_true.2 fun c hc => isPathC_plain (pathOk_all h c hc), ?_⟩
  obtain ⟨c, r, heq, -⟩ := pathOk_cases h
  have hne : p.toList ≠ [] := by rw [heq]; exact List.cons_ne_nil c r
  exact ⟨_, _, (List.dropLast_concat_getLast hne).symm, isPathC_notSp (pathOk_all h _ (List.getLast_mem hne))⟩

theorem solid_name {n : String} (h : nameOk n = true) : Solid n.toList := solid_path (pathOk_of_nameOk h)

theorem startsHard_name {k : String} (h : nameOk k = true) (t : Str) : startsHard (k.toList ++ t) = true := by
  obtain ⟨c, r, heq, hc, -⟩ := nameOk_cases h
  simp [heq, startsHard, isPathC_notSp (isVarC_isPathC (isVar0_isVarC hc))]

theorem solid_sepTail {α : Type} {d : Char} (hd : plain [d] = true) (gapL gapR : Nat → Nat) {render : Nat → α → Str}
    {P : α → Prop} (h : ∀ i x, P x → Solid (render i x)) :
    ∀ (xs : List α) (i : Nat) (first : Str), Solid first → (∀ x ∈ xs, P x) →
      Solid (first ++ sepTail d gapL gapR render i xs)
  | [], _, first, hf, _ => by simpa [sepTail] using hf
  | x :: xs, i, first, hf, hP => by
    have ih := solid_sepTail hd gapL gapR h xs (i + 1) _ (h (i + 1) x (hP x List.mem_cons_self))
      (fun y hy => hP y (List.mem_cons_of_mem _ hy))
    have := Solid.append (a := first ++ (sp (gapL i) ++ ([d] ++ sp (gapR i)))) (by simpa [hf.1] using hd) ih
    simpa [sepTail] using this

theorem isSp_of_mem_sp {n : Nat} {x : Char} (h : x ∈ sp n) : isSp x = true := by
  rw [List.eq_of_mem_replicate h]; rfl

theorem rstrip_append {y w : Str} (hl : ∃ u d, y = u ++ [d] ∧ isSp d = false) (hw : ∀ c ∈ w, isSp c = true) :
    rstrip (y ++ w) = y := by
  obtain ⟨u, d, rfl, hd⟩ := hl
  rw [rstrip, List.reverse_append, List.dropWhile_append_of_pos (fun x hx => hw x (List.mem_reverse.1 hx))]
  simp [hd]

theorem cleanLine_render_ws (a : Nat) (y w : Str) (hf : startsHard y = true) (hy : Solid y)
    (hw : ∀ c ∈ w, isSp c = true) : cleanLine (sp a ++ (y ++ w)) = y := by
  have hno : ∀ c ∈ sp a ++ (y ++ w), c ≠ '#' := by
    simp only [List.mem_append]
    rintro c (hc | hc | hc) rfl
    · exact absurd (isSp_of_mem_sp hc) (by decide)
    · exact (mem_plain hy.1 _ hc).2 rfl
    · exact absurd (hw _ hc) (by decide)
  rw [cleanLine, subComment, subCommentAux_noHash _ hno, strip, lstrip,
    List.dropWhile_append_of_pos (fun x hx => isSp_of_mem_sp hx)]
  cases y with
  | nil => cases hf
  | cons c r =>
    rw [List.cons_append, List.dropWhile_cons_of_neg (by simpa [startsHard] using hf), ← List.cons_append]
    exact rstrip_append hy.2 hw

theorem cleanLine_render (a b : Nat) (y : Str) (hf : startsHard y = true) (hy : Solid y) :
    cleanLine (sp a ++ (y ++ sp b)) = y :=
  cleanLine_render_ws a y (sp b) hf hy (fun _ hc => isSp_of_mem_sp hc)

theorem solid_renderSigW (g : SigGap) (r : SigRef) (h : nameOk r.name = true) : Solid (renderSigW g r) := by
  unfold renderSigW
  split
  · exact Solid.append (solid_name h).1 (Solid.append (plain_sp _) ⟨rfl, [], '*', rfl, rfl⟩)
  · simpa using solid_name h

theorem solid_renderSigsW (G : Nat → SigGap) (i : Nat) (r : SigRef) (l : List SigRef) (h : sigsOk (r :: l) = true) :
    Solid (renderSigsW G i (r :: l)) := by
  have hm := sigsOk_mem h
  rw [renderSigsW_cons]
  exact solid_sepTail (by decide) _ _ (fun j x hx => solid_renderSigW (G j) x hx) l i _
    (solid_renderSigW _ r (hm r List.mem_cons_self)) (fun y hy => hm y (List.mem_cons_of_mem _ hy))

theorem solid_renderIOW (L : Layout) (ins outs : List SigRef) (hi : sigsOk ins = true) (ho : sigsOk outs = true) :
    Solid (renderIOW L ins outs) := by
  have hin : plain (renderSigsW L.inGap 0 ins) = true := by
    cases ins with
    | nil => rfl
    | cons r l => exact (solid_renderSigsW _ 0 r l hi).1
  unfold renderIOW
  cases outs with
  | nil =>
    simp only [List.isEmpty_nil, if_true, List.append_nil]
    exact Solid.append (by simp [hin]) ⟨rfl, ['-'], '>', rfl, rfl⟩
  | cons r l =>
    simp only [List.isEmpty_cons, Bool.false_eq_true, if_false, ← List.append_assoc]
    exact Solid.append (by simp [hin]) (solid_renderSigsW _ 0 r l ho)

theorem plain_renderCommaW (L : Layout) (left : Bool) : ∀ (ws : List Str) (i : Nat), (∀ w ∈ ws, plain w = true) →
    plain (renderCommaW L left i ws) = true
  | [], _, _ => rfl
  | [w], _, h => h w List.mem_cons_self
  | w :: w2 :: rest, i, h => by
    simp [renderCommaW, h w List.mem_cons_self,
      plain_renderCommaW L left (w2 :: rest) (i + 1) (fun y hy => h y (List.mem_cons_of_mem _ hy))]

theorem plain_renderParensW (L : Layout) (left : Bool) (ws : List Str) (h : ∀ w ∈ ws, plain w = true) :
    plain (renderParensW L left ws) = true := by
  unfold renderParensW
  split
  · rfl
  · simp [plain_renderCommaW L left ws 0 h]

theorem solid_renderItemW (L : Layout) (i : Nat) (it : String × Option String) (h : itemOk it = true) :
    Solid (renderItemW L i it) := by
  obtain ⟨p, a⟩ := it
  cases a with
  | none => exact solid_path (by simpa [itemOk] using h)
  | some a =>
    have hp : pathOk p = true ∧ nameOk a = true := by simpa [itemOk] using h
    simp only [renderItemW, List.append_assoc]
    exact Solid.append (solid_path hp.1).1 (Solid.append (plain_sp _) (Solid.append rfl (Solid.append (plain_sp _)
      (solid_name hp.2))))

-- the cores with the keyword literals kept as they are (`simp only [renderCoreW]` runs into evaluating them)
theorem renderCoreW_imports (L : Layout) (items : List (String × Option String)) :
    renderCoreW L (.imports items) = "import".toList ++ sp (L.afterKw + 1) ++ renderItemsW L 0 items := rfl
theorem renderCoreW_component (L : Layout) (name templ : String) (args : Nat) (ins outs : List SigRef) :
    renderCoreW L (.component name templ args ins outs) =
      "component".toList ++ sp (L.afterKw + 1) ++ name.toList ++ sp L.eqL ++ ['='] ++ sp L.eqR ++
        templ.toList ++ renderParensW L false (List.replicate args ['1']) ++ renderIOW L ins outs := rfl
theorem renderDeclCoreW_eq (L : Layout) (d : Decl) :
    renderDeclCoreW L d = "declare".toList ++ sp (L.afterKw + 1) ++ "system".toList ++ sp L.afterSystem ++
      d.name.toList ++ renderParensW L true (d.params.map String.toList) ++ renderIOW L d.inputs d.outputs := rfl

theorem stmtNamesOk_imports {items : List (String × Option String)} (h : stmtNamesOk (.imports items) = true) :
    ∃ it l, items = it :: l ∧ ∀ x ∈ it :: l, itemOk x = true := by
  cases items with
  | nil => simp [stmtNamesOk] at h
  | cons it l => exact ⟨it, l, rfl, List.all_eq_true.1 (by simpa [stmtNamesOk] using h)⟩

theorem stmtNamesOk_component {name templ : String} {args : Nat} {ins outs : List SigRef}
    (h : stmtNamesOk (.component name templ args ins outs) = true) :
    nameOk name = true ∧ nameOk templ = true ∧ sigsOk ins = true ∧ sigsOk outs = true := by
  simpa [stmtNamesOk, and_assoc] using h

theorem declNamesOk_cases {d : Decl} (h : declNamesOk d = true) :
    nameOk d.name = true ∧ d.params.all nameOk = true ∧ sigsOk d.inputs = true ∧ sigsOk d.outputs = true := by
  simpa [declNamesOk, and_assoc] using h

theorem srcNamesOk_cases {src : SSrc} (h : srcNamesOk src = true) :
    declNamesOk ⟨src.name, src.params, src.inputs, src.outputs⟩ = true ∧ src.stmts.all stmtNamesOk = true := by
  simpa [srcNamesOk] using h

theorem renderCoreW_solid (L : Layout) (s : SStmt) (hok : stmtNamesOk s = true) :
    startsHard (renderCoreW L s) = true ∧ Solid (renderCoreW L s) := by
  cases s with
  | imports items =>
    obtain ⟨it, l, rfl, hall⟩ := stmtNamesOk_imports hok
    simp only [renderCoreW_imports, List.append_assoc]
    refine ⟨startsHard_name nameOk_import _, Solid.append (solid_name nameOk_import).1 (Solid.append (plain_sp _) ?_)⟩
    rw [renderItemsW_cons]
    exact solid_sepTail (by decide) _ _ (fun j x hx => solid_renderItemW L j x hx) l 0 _
      (solid_renderItemW L 0 it (hall it List.mem_cons_self)) (fun y hy => hall y (List.mem_cons_of_mem _ hy))
  | component name templ args ins outs =>
    obtain ⟨hn, ht, hi, ho⟩ := stmtNamesOk_component hok
    rw [renderCoreW_component]
    refine ⟨by simp only [List.append_assoc]; exact startsHard_name nameOk_component _,
      Solid.append ?_ (solid_renderIOW L ins outs hi ho)⟩
    simp [-String.reduceToList, (solid_name nameOk_component).1, (solid_name hn).1, (solid_name ht).1,
      plain_renderParensW L false (List.replicate args ['1']) fun w hw => by rw [List.eq_of_mem_replicate hw]; rfl]

theorem renderDeclCoreW_solid (L : Layout) (d : Decl) (hok : declNamesOk d = true) :
    startsHard (renderDeclCoreW L d) = true ∧ Solid (renderDeclCoreW L d) := by
  obtain ⟨hn, hps, hi, ho⟩ := declNamesOk_cases hok
  rw [renderDeclCoreW_eq]
  refine ⟨by simp only [List.append_assoc]; exact startsHard_name nameOk_declare _,
    Solid.append ?_ (solid_renderIOW L d.inputs d.outputs hi ho)⟩
  simp [-String.reduceToList, (solid_name nameOk_declare).1, (solid_name nameOk_system).1, (solid_name hn).1,
    plain_renderParensW L true _ (List.forall_mem_map.2 fun n hn => (solid_name (List.all_eq_true.1 hps n hn)).1)]

theorem parseImportL_render (dw : Str) (L : Layout) (items : List (String × Option String))
    (hok : stmtNamesOk (.imports items) = true) (lead n : Nat) :
    parseImportL dw (sp lead ++ (renderCoreW L (.imports items) ++ sp n)) = some items := by
  rw [parseImportL, expandTabs_padded (renderCoreW_solid L _ hok).2.1]
  obtain ⟨it, l, rfl, hall⟩ := stmtNamesOk_imports hok
  simp only [renderCoreW_imports, List.append_assoc]
  rw [kw_render nameOk_import lead _ (headNot_blank (by decide) _ _)]
  simp only [items_render L it l _ (List.all_eq_true.2 hall) (clearOf_sp itemsBad n), endOk_sp, if_true]

theorem parseComponentL_render (dw : Str) (L : Layout) (name templ : String) (args : Nat) (ins outs : List SigRef)
    (hok : stmtNamesOk (.component name templ args ins outs) = true) (lead n : Nat) :
    parseComponentL dw (sp lead ++ (renderCoreW L (.component name templ args ins outs) ++ sp n)) =
      .ok (.component name templ args ins outs) := by
  obtain ⟨hn, ht, hi, ho⟩ := stmtNamesOk_component hok
  obtain ⟨r6, r7, r8, r9, h6, h7, h8, h9, hend⟩ := io_render dw L ins outs hi ho n
  rw [parseComponentL, expandTabs_padded (renderCoreW_solid L _ hok).2.1]
  simp only [renderCoreW_component, List.append_assoc, List.cons_append, List.nil_append,
    kw_render nameOk_component lead _ (headNot_blank (by decide) _ _),
    var_render hn _ (headNot_sp_cons (d := '=') (by decide) _ (by decide) _), lit_render1 '=' (by decide),
    var_render ht _ (headNot_renderParensW_IOW L false _ ins outs _),
    componentParams_render L args (clearOf_renderIOW parBad (by decide) L ins outs _),
    h6, h7, h8, h9, hend, if_true, String.ofList_toList]

theorem parseDeclareL_render (dw : Str) (L : Layout) (d : Decl) (hok : declNamesOk d = true) (lead n : Nat) :
    parseDeclareL dw (sp lead ++ (renderDeclCoreW L d ++ sp n)) = some d := by
  obtain ⟨hn, hps, hi, ho⟩ := declNamesOk_cases hok
  obtain ⟨r6, r7, r8, r9, h6, h7, h8, h9, hend⟩ := io_render dw L d.inputs d.outputs hi ho n
  rw [parseDeclareL, expandTabs_padded (renderDeclCoreW_solid L d hok).2.1]
  simp only [renderDeclCoreW_eq, List.append_assoc,
    kw_render nameOk_declare lead _ (headNot_blank (by decide) _ _),
    lit_render "system".toList _ _ (hardHead_path (pathOk_of_nameOk nameOk_system) _),
    var_render hn _ (headNot_renderParensW_IOW L true _ d.inputs d.outputs _),
    declParams_render L d.params hps (clearOf_renderIOW parBad (by decide) L d.inputs d.outputs _),
    h6, h7, h8, h9, hend, if_true, String.ofList_toList]

theorem firstWord_name {k : String} (hk : nameOk k = true) (t : Str) : firstWord (k.toList ++ (' ' :: t)) = k.toList := by
  unfold firstWord
  rw [List.takeWhile_append_of_pos (fun c hc => by simp [isPathC_notSp (pathOk_all (pathOk_of_nameOk hk) c hc)])]
  simp [isSp]

theorem parseStmtL_render (dw : Str) (L : Layout) (s : SStmt) (hok : stmtNamesOk s = true) :
    parseStmtL dw (renderCoreW L s) = .ok s := by
  cases s with
  | imports items =>
    have h := parseImportL_render dw L items hok 0 0
    rw [sp_zero, List.nil_append, List.append_nil] at h
    have hfw : firstWord (renderCoreW L (.imports items)) = "import".toList := by
      simp only [renderCoreW_imports, List.append_assoc, sp_succ, List.cons_append]
      exact firstWord_name nameOk_import _
    simp only [parseStmtL, hfw, h, toList_beq_false (show "import" ≠ "declare" by decide), Bool.false_eq_true,
      if_false, beq_self_eq_true, if_true]
  | component name templ args ins outs =>
    have h := parseComponentL_render dw L name templ args ins outs hok 0 0
    rw [sp_zero, List.nil_append, List.append_nil] at h
    have hfw : firstWord (renderCoreW L (.component name templ args ins outs)) = "component".toList := by
      simp only [renderCoreW_component, List.append_assoc, sp_succ, List.cons_append]
      exact firstWord_name nameOk_component _
    simp only [parseStmtL, hfw, h, toList_beq_false (show "component" ≠ "declare" by decide),
      toList_beq_false (show "component" ≠ "import" by decide), Bool.false_eq_true, if_false,
      beq_self_eq_true, if_true]

theorem parseLineL_render (dw : Str) (L : Layout) (s : SStmt) (hok : stmtNamesOk s = true) :
    parseLineL dw (renderSStmtW L s) = .ok (some s) := by
  obtain ⟨hf, hy⟩ := renderCoreW_solid L s hok
  rw [parseLineL, renderSStmtW, List.append_assoc, cleanLine_render _ _ _ hf hy]
  simp only [isEmpty_of_startsHard hf, Bool.false_eq_true, if_false, parseStmtL_render dw L s hok]

theorem parseDeclareL_renderDeclW (dw : Str) (L : Layout) (d : Decl) (hok : declNamesOk d = true) :
    parseDeclareL dw (renderDeclW L d) = some d := by
  rw [renderDeclW, List.append_assoc]
  exact parseDeclareL_render dw L d hok L.lead _

theorem parseDeclareL_renderDeclCoreW (dw : Str) (L : Layout) (d : Decl) (hok : declNamesOk d = true) :
    parseDeclareL dw (renderDeclCoreW L d) = some d := by
  simpa [sp_zero] using parseDeclareL_render dw L d hok 0 0

theorem cleanLine_renderDeclW (L : Layout) (d : Decl) (hok : declNamesOk d = true) :
    cleanLine (renderDeclW L d) = renderDeclCoreW L d := by
  obtain ⟨hf, hy⟩ := renderDeclCoreW_solid L d hok
  rw [renderDeclW, List.append_assoc]
  exact cleanLine_render _ _ _ hf hy

theorem splitOn_eq (sep : Char) : ∀ l, splitOn sep l = l.splitOn sep :=
  eq_splitOn rfl fun d r a b e => by rw [splitOn, e]

theorem splitOn_append (sep : Char) (a b : Str) (h : ∀ c ∈ a, c ≠ sep) :
    splitOn sep (a ++ sep :: b) = a :: splitOn sep b := by
  rw [splitOn_eq, splitOn_eq, List.splitOn_append_cons_self_of_not_mem fun m => h _ m rfl]

theorem parseLineL_nil (dw : Str) : parseLineL dw [] = .ok none := rfl

theorem parseLines_render (dw : Str) (Ls : Nat → Layout) : ∀ (stmts : List SStmt) (i : Nat),
    stmts.all stmtNamesOk = true → parseLines dw (splitOn '\n' (renderDocW Ls i stmts)) = .ok stmts
  | [], _, _ => by simp [renderDocW, splitOn, parseLines, parseLineL_nil]
  | s :: r, i, h => by
    have h' : stmtNamesOk s = true ∧ r.all stmtNamesOk = true := by simpa using h
    rw [renderDocW, splitOn_append '\n' _ _ (fun c hc => (mem_plain (show plain (renderSStmtW (Ls i) s) = true by
        simp [renderSStmtW, (renderCoreW_solid (Ls i) s h'.1).2.1]) c hc).1)]
    simp [parseLines, parseLineL_render dw (Ls i) s h'.1, parseLines_render dw Ls r (i + 1) h'.2]

theorem fileLines_append : ∀ (a b acc : Str), (∀ c ∈ a, c ≠ '\n') →
    fileLines (a ++ '\n' :: b) acc = (acc.reverse ++ a ++ ['\n']) :: fileLines b []
  | [], b, acc, _ => by simp [fileLines]
  | c :: a, b, acc, h => by
    have hc : (c == '\n') = false := by simpa using h c (by simp)
    simp only [List.cons_append, fileLines, hc, Bool.false_eq_true, if_false]
    rw [fileLines_append a b (c :: acc) (fun d hd => h d (by simp [hd]))]
    simp

theorem firstStatementL_render (L : Layout) (d : Decl) (hok : declNamesOk d = true) (rest : Str) :
    firstStatementL (renderDeclW L d ++ '\n' :: rest) = (renderDeclCoreW L d, fileLines rest []) := by
  obtain ⟨hf, hy⟩ := renderDeclCoreW_solid L d hok
  have hplain : plain (renderDeclW L d) = true := by
    simp [renderDeclW, hy.1]
  have hclean : cleanLine (renderDeclW L d ++ ['\n']) = renderDeclCoreW L d := by
    simp only [renderDeclW, List.append_assoc]
    refine cleanLine_render_ws _ _ _ hf hy fun c hc => ?_
    rcases List.mem_append.1 hc with hc | hc
    · exact isSp_of_mem_sp hc
    · rw [List.mem_singleton.1 hc]; rfl
  rw [firstStatementL, fileLines_append _ _ [] (fun c hc => (mem_plain hplain c hc).1)]
  simp only [List.reverse_nil, List.nil_append, firstStatementAux, hclean, isEmpty_of_startsHard hf,
    Bool.false_eq_true, if_false]

end Pepper.ParseSys
