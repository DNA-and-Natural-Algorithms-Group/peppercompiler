import PepperProofs.Basic
import PepperProofs.ParseSys
/-!
# `.sys` text parser: what accepted text looks like, line-locality of the statement loop, irrelevance of the
process-global white-space setting inside the loop (the link to the system-level name hypotheses: `ParseSysLink.lean`)
-/
namespace Pepper.ParseSys
open Pepper.Sys

theorem word_spec {init body : Char → Bool} {s w r : Str} (h : word init body s = some (w, r)) :
    ∃ c r0, skip s = c :: r0 ∧ init c = true ∧ w = c :: r0.takeWhile body ∧ r = r0.dropWhile body := by
  unfold word at h
  split at h
  · cases h
  · next c r0 hs =>
    split at h
    · next hi => cases h; exact ⟨c, r0, hs, hi, rfl, rfl⟩
    · cases h

theorem skipWs_suffix (s : Str) : skipWs s <:+ s := by
  induction s with
  | nil => exact List.suffix_refl _
  | cons c r ih =>
    unfold skipWs
    split
    · exact ih.trans (List.suffix_cons _ _)
    · exact List.suffix_refl _

theorem skipLine_suffix (s : Str) : skipLine s <:+ s := by
  induction s with
  | nil => exact List.suffix_refl _
  | cons c r ih =>
    unfold skipLine
    split
    · exact List.suffix_refl _
    · exact ih.trans (List.suffix_cons _ _)

theorem skip_suffix (s : Str) : skip s <:+ s := by
  unfold skip
  split
  · next r h => exact (skipLine_suffix r).trans ((List.suffix_cons _ _).trans (h ▸ skipWs_suffix s))
  · exact skipWs_suffix s

theorem dropPrefix_suffix {p s r : Str} (h : dropPrefix p s = some r) : r <:+ s := by
  induction p generalizing s with
  | nil => cases s <;> (cases h; exact List.suffix_refl _)
  | cons a b ih =>
    cases s with
    | nil => cases h
    | cons c t =>
      simp only [dropPrefix] at h
      split at h
      · exact (ih h).trans (List.suffix_cons _ _)
      · cases h

theorem lit_suffix {p s r : Str} (h : lit p s = some r) : r <:+ s :=
  (dropPrefix_suffix h).trans (skip_suffix s)

theorem word_suffix {init body : Char → Bool} {s w r : Str} (h : word init body s = some (w, r)) : r <:+ s := by
  obtain ⟨c, r0, hs, -, -, rfl⟩ := word_spec h
  exact (List.dropWhile_suffix _).trans ((List.suffix_cons _ _).trans (hs ▸ skip_suffix s))

theorem kw_suffix {k s r : Str} (h : kw k s = some r) : r <:+ s := by
  unfold kw at h
  dsimp only at h
  repeat' split at h
  all_goals cases h
  · exact List.nil_suffix
  · next hd _ => exact hd ▸ (List.drop_suffix _ _).trans (skip_suffix s)

theorem var_spec {s n r : Str} (h : var s = some (n, r)) : nameOk (String.ofList n) = true ∧ r <:+ s := by
  refine ⟨?_, word_suffix h⟩
  obtain ⟨c, r0, -, hi, rfl, -⟩ := word_spec h
  simp only [nameOk, String.toList_ofList, Bool.and_eq_true]
  exact ⟨hi, List.all_takeWhile⟩

theorem path_spec {s p r : Str} (h : path s = some (p, r)) : pathOk (String.ofList p) = true ∧ r <:+ s := by
  refine ⟨?_, word_suffix h⟩
  obtain ⟨c, r0, -, hi, rfl, -⟩ := word_spec h
  simp only [pathOk, String.toList_ofList, List.isEmpty_cons, Bool.not_false, Bool.true_and, List.all_cons,
    Bool.and_eq_true]
  exact ⟨hi, List.all_takeWhile⟩

section lists
variable {α : Type} {P : α → Prop} {delim : Str} {item : Str → Option (α × Str)}
  (hi : ∀ s x r, item s = some (x, r) → P x ∧ r <:+ s)
include hi

theorem more_spec : ∀ (fuel : Nat) (s : Str),
    (∀ x ∈ (more delim item fuel s).1, P x) ∧ (more delim item fuel s).2 <:+ s
  | 0, s => ⟨fun _ hx => (nomatch hx), List.suffix_refl _⟩
  | fuel + 1, s => by
    unfold more
    split
    · exact ⟨fun _ hx => (nomatch hx), List.suffix_refl _⟩
    · next r hl =>
      split
      · exact ⟨fun _ hx => (nomatch hx), List.suffix_refl _⟩
      · next x r' hx =>
        obtain ⟨hP, hs⟩ := more_spec fuel r'
        obtain ⟨hPx, hsx⟩ := hi _ _ _ hx
        exact ⟨List.forall_mem_cons.2 ⟨hPx, hP⟩, hs.trans (hsx.trans (lit_suffix hl))⟩

theorem list1_spec {s : Str} {xs : List α} {r : Str} (h : list1 delim item s = some (xs, r)) :
    xs ≠ [] ∧ (∀ x ∈ xs, P x) ∧ r <:+ s := by
  unfold list1 at h
  split at h
  · cases h
  · next y r0 hy =>
    cases h
    obtain ⟨hP, hs⟩ := more_spec hi (delim := delim) (r0.length + 1) r0
    obtain ⟨hPy, hsy⟩ := hi _ _ _ hy
    exact ⟨List.cons_ne_nil _ _, List.forall_mem_cons.2 ⟨hPy, hP⟩, hs.trans hsy⟩

theorem listOf_spec {s : Str} {xs : List α} {r : Str} (h : listOf delim item s = (xs, r)) :
    (∀ x ∈ xs, P x) ∧ r <:+ s := by
  unfold listOf at h
  split at h
  · cases h; exact ⟨fun _ hx => (nomatch hx), List.suffix_refl _⟩
  · next hr => cases h; exact (list1_spec hi hr).2

end lists

theorem signal_spec (s : Str) (x : SigRef) (r : Str) (h : signal s = some (x, r)) :
    nameOk x.name = true ∧ r <:+ s := by
  unfold signal at h
  split at h
  · cases h
  · next n r0 hv =>
    obtain ⟨hn, hs⟩ := var_spec hv
    split at h
    · next r' hl => cases h; exact ⟨hn, (lit_suffix hl).trans hs⟩
    · cases h; exact ⟨hn, hs⟩

theorem signalList_spec {s : Str} {l : List SigRef} {r : Str} (h : signalList s = (l, r)) :
    sigsOk l = true ∧ r <:+ s := by
  obtain ⟨hP, hs⟩ := listOf_spec signal_spec h
  exact ⟨List.all_eq_true.2 hP, hs⟩

theorem importItem_spec (s : Str) (x : String × Option String) (r : Str) (h : importItem s = some (x, r)) :
    itemOk x = true ∧ r <:+ s := by
  unfold importItem at h
  split at h
  · cases h
  · next p r0 hp =>
    obtain ⟨hpo, hps⟩ := path_spec hp
    -- no `as`, or no name after it: the path alone
    have alone : itemOk (String.ofList p, none) = true := by simp [itemOk, hpo]
    split at h
    · cases h; exact ⟨alone, hps⟩
    · next r1 hl =>
      split at h
      · cases h; exact ⟨alone, hps⟩
      · next a r2 hv =>
        cases h
        exact ⟨by simp [itemOk, hpo, (var_spec hv).1], (var_spec hv).2.trans ((lit_suffix hl).trans hps)⟩

theorem declParams_namesOk {s : Str} {ps : List String} {r : Str} (h : declParams s = (ps, r)) :
    ps.all nameOk = true := by
  unfold declParams at h
  repeat' split at h
  all_goals cases h
  · rfl
  · next hlist _ _ =>
    simp only [List.all_map, List.all_eq_true, Function.comp]
    exact (listOf_spec (P := fun n => nameOk (String.ofList n) = true) (fun _ _ _ hv => var_spec hv) hlist).1
  · rfl

theorem pyObj_suffix {s r : Str} (h : pyObj s = .ok (some r)) : r <:+ s := by
  unfold pyObj at h
  repeat' split at h
  all_goals cases h
  exact word_suffix ‹_›

theorem pyMore_suffix : ∀ (fuel : Nat) (s : Str) (n : Nat) (r : Str), pyMore fuel s = .ok (n, r) → r <:+ s
  | 0, s, n, r, h => by cases h; exact List.suffix_refl _
  | k + 1, s, n, r, h => by
    unfold pyMore at h
    repeat' split at h
    all_goals cases h
    · exact List.suffix_refl _
    · exact List.suffix_refl _
    · next hcomma _ _ hobj _ _ hmore =>
      exact (pyMore_suffix k _ _ _ hmore).trans ((pyObj_suffix hobj).trans (lit_suffix hcomma))

theorem pyList_suffix {s : Str} {n : Nat} {r : Str} (h : pyList s = .ok (n, r)) : r <:+ s := by
  unfold pyList at h
  repeat' split at h
  all_goals cases h
  · exact List.suffix_refl _
  · next hobj _ _ hmore => exact (pyMore_suffix _ _ _ _ hmore).trans (pyObj_suffix hobj)

theorem componentParams_suffix {s : Str} {n : Nat} {r : Str} (h : componentParams s = .ok (n, r)) : r <:+ s := by
  unfold componentParams at h
  repeat' split at h
  all_goals cases h
  · exact List.suffix_refl _
  · next hopen _ _ _ hlist hclose =>
    exact (lit_suffix hclose).trans ((pyList_suffix hlist).trans (lit_suffix hopen))
  · exact List.suffix_refl _

/-- every character of `dw` is white space for `str.strip`: true of the two values the package's modules set
    (`" \t"`, `" \t\n"`; model header) and of pyparsing's own default `" \n\t\r"`, in force before any of them is
    imported -/
def dwOk (dw : Str) : Bool := dw.all isSp

example : dwOk " \t".toList = true ∧ dwOk " \t\n".toList = true ∧ dwOk " \n\t\r".toList = true := by decide +kernel

/-- empty, or ending in a character that `str.strip` does not remove -/
def EndsHard (s : Str) : Prop := s = [] ∨ ∃ c, s.getLast? = some c ∧ isSp c = false

theorem EndsHard.suffix {s t : Str} (h : EndsHard s) (hs : t <:+ s) : EndsHard t := by
  rcases h with rfl | ⟨c, hc, hsp⟩
  · exact .inl (List.suffix_nil.1 hs)
  · obtain ⟨ys, rfl⟩ := List.getLast?_eq_some_iff.1 hc
    rcases List.suffix_concat_iff.1 hs with rfl | ⟨u, rfl, -⟩
    · exact .inl rfl
    · exact .inr ⟨c, List.getLast?_concat, hsp⟩

theorem endsHard_strip (s : Str) : EndsHard (strip s) := by
  unfold strip rstrip
  cases h : (lstrip s).reverse.dropWhile isSp with
  | nil => exact .inl rfl
  | cons c r =>
    have := List.head_dropWhile_not isSp (l := (lstrip s).reverse) (by rw [h]; exact List.cons_ne_nil c r)
    simp only [h, List.head_cons] at this
    exact .inr ⟨c, by simp, this⟩

theorem expandTabs_snoc (s : Str) (c : Char) (hc : isSp c = false) (col : Nat) :
    expandTabs (s ++ [c]) col = expandTabs s col ++ [c] := by
  induction s generalizing col with
  | nil =>
    have h1 : (c == '\t') = false := beq_eq_false_iff_ne.2 (by rintro rfl; cases hc)
    simp only [List.nil_append, expandTabs, h1, Bool.false_eq_true, if_false]
    split <;> rfl
  | cons a b ih =>
    simp only [List.cons_append, expandTabs, ih]
    split
    · rw [List.append_assoc]
    · split <;> rfl

theorem endsHard_expandTabs {s : Str} (h : EndsHard s) (col : Nat) : EndsHard (expandTabs s col) := by
  rcases h with rfl | ⟨c, hc, hsp⟩
  · exact .inl rfl
  · obtain ⟨ys, rfl⟩ := List.getLast?_eq_some_iff.1 hc
    rw [expandTabs_snoc _ _ hsp]
    exact .inr ⟨c, by simp, hsp⟩

/-- at a position of a stripped statement, `parseAll` does not depend on the white-space setting -/
theorem endOk_eq {dw r : Str} (hdw : dwOk dw = true) (hr : EndsHard r) :
    endOk dw r = (skip r).isEmpty := by
  unfold endOk
  rcases hr.suffix (skip_suffix r) with h | ⟨c, hc, hsp⟩
  · rw [h]; rfl
  · obtain ⟨ys, hys⟩ := List.getLast?_eq_some_iff.1 hc
    have hnc : c ∉ dw := fun hm => by rw [List.all_eq_true.1 hdw c hm] at hsp; cases hsp
    rw [hys, List.dropWhile_append]
    cases ys.dropWhile fun c => dw.contains c <;> simp [hnc]

theorem endOk_dw {dw dw' r : Str} (h : dwOk dw = true) (h' : dwOk dw' = true) (hr : EndsHard r) :
    endOk dw r = endOk dw' r := by
  rw [endOk_eq h hr, endOk_eq h' hr]

/-- `dw` is looked at once, in the `parseAll` test at a suffix `r` of the tab-expanded text -/
theorem parseImportL_endOk (s0 : Str) :
    (∀ dw, parseImportL dw s0 = none) ∨
    ∃ items r, r <:+ expandTabs s0 0 ∧ stmtNamesOk (.imports items) = true ∧
      ∀ dw, parseImportL dw s0 = if endOk dw r then some items else none := by
  unfold parseImportL
  repeat' split
  iterate 2 exact .inl fun _ => rfl
  rename_i hkw _ items r' hlist
  obtain ⟨hne, hall, hs⟩ := list1_spec importItem_spec hlist
  refine .inr ⟨_, _, hs.trans (kw_suffix hkw), ?_, fun _ => rfl⟩
  simp only [stmtNamesOk, Bool.and_eq_true, Bool.not_eq_true', List.isEmpty_eq_false_iff, List.all_eq_true]
  exact ⟨hne, hall⟩

theorem parseComponentL_endOk (s0 : Str) :
    (∃ e, ∀ dw, parseComponentL dw s0 = .error e) ∨
    ∃ st r, r <:+ expandTabs s0 0 ∧ stmtNamesOk st = true ∧
      ∀ dw, parseComponentL dw s0 = if endOk dw r then .ok st else .error .reject := by
  unfold parseComponentL
  repeat' split
  -- the seven places where the statement is given up before `dw` is looked at
  iterate 7 exact .inl ⟨_, fun _ => rfl⟩
  -- the results of the steps, named as in `parseComponentL`
  rename_i _ r1 hkw _ name r2 hname _ r3 heq _ templ r4 htempl _ n r5 hparams _ r6 hcolon _ ins r7 hins _ r8 harrow
    _ outs r9 houts
  obtain ⟨hnameOk, s2⟩ := var_spec hname
  obtain ⟨htemplOk, s4⟩ := var_spec htempl
  obtain ⟨hinsOk, s7⟩ := signalList_spec hins
  obtain ⟨houtsOk, s9⟩ := signalList_spec houts
  refine .inr ⟨_, r9, ?_, ?_, fun _ => rfl⟩
  · -- every step leaves a suffix of what it was run on: from the second signal list back to the keyword
    exact s9.trans ((lit_suffix harrow).trans (s7.trans ((lit_suffix hcolon).trans
      ((componentParams_suffix hparams).trans (s4.trans ((lit_suffix heq).trans (s2.trans (kw_suffix hkw))))))))
  · simp only [stmtNamesOk, Bool.and_eq_true]
    exact ⟨⟨⟨hnameOk, htemplOk⟩, hinsOk⟩, houtsOk⟩

theorem parseImportL_namesOk (dw s : Str) (items : List (String × Option String))
    (h : parseImportL dw s = some items) : stmtNamesOk (.imports items) = true := by
  rcases parseImportL_endOk s with he | ⟨items', r, -, hn, he⟩
  · rw [he] at h; cases h
  · rw [he] at h
    split at h <;> cases h
    exact hn

theorem parseComponentL_namesOk (dw s : Str) (st : SStmt) (h : parseComponentL dw s = .ok st) :
    stmtNamesOk st = true := by
  rcases parseComponentL_endOk s with ⟨e, he⟩ | ⟨st', r, -, hn, he⟩
  · rw [he] at h; cases h
  · rw [he] at h
    split at h <;> cases h
    exact hn

theorem parseDeclareL_namesOk (dw s : Str) (d : Decl) (h : parseDeclareL dw s = some d) :
    declNamesOk d = true := by
  unfold parseDeclareL at h
  repeat' split at h
  all_goals cases h
  -- the results of the steps, named as in `parseDeclareL`
  rename_i name r3 hname _ ps r4 hparams _ r5 hcolon _ ins r6 hins _ r7 harrow _ outs r8 houts hend
  simp only [declNamesOk, Bool.and_eq_true]
  exact ⟨⟨⟨(var_spec hname).1, declParams_namesOk hparams⟩, (signalList_spec hins).1⟩, (signalList_spec houts).1⟩

theorem parseStmtL_namesOk (dw c : Str) (st : SStmt) (h : parseStmtL dw c = .ok st) : stmtNamesOk st = true := by
  unfold parseStmtL at h
  dsimp only at h
  repeat' split at h
  · cases h
  · cases h; exact parseImportL_namesOk dw c _ ‹_›
  · cases h
  · exact parseComponentL_namesOk dw c st h
  · cases h

theorem parseLineL_namesOk (dw l : Str) (st : SStmt) (h : parseLineL dw l = .ok (some st)) :
    stmtNamesOk st = true := by
  unfold parseLineL at h
  dsimp only at h
  repeat' split at h
  all_goals cases h
  exact parseStmtL_namesOk dw _ _ ‹_›

theorem parseLineL_dw_irrelevant (dw dw' l : Str) (h : dwOk dw = true) (h' : dwOk dw' = true) :
    parseLineL dw l = parseLineL dw' l := by
  have hs : EndsHard (expandTabs (cleanLine l) 0) := endsHard_expandTabs (endsHard_strip _) 0
  have hi : parseImportL dw (cleanLine l) = parseImportL dw' (cleanLine l) := by
    rcases parseImportL_endOk (cleanLine l) with he | ⟨items, r, hr, -, he⟩
    · rw [he, he]
    · rw [he, he, endOk_dw h h' (hs.suffix hr)]
  have hc : parseComponentL dw (cleanLine l) = parseComponentL dw' (cleanLine l) := by
    rcases parseComponentL_endOk (cleanLine l) with ⟨e, he⟩ | ⟨st, r, hr, -, he⟩
    · rw [he, he]
    · rw [he, he, endOk_dw h h' (hs.suffix hr)]
  unfold parseLineL parseStmtL
  dsimp only
  rw [hi, hc]

theorem parseLines_eq_mapM (dw : Str) :
    ∀ ls, parseLines dw ls = (ls.mapM (parseLineL dw)).map (List.filterMap id) :=
  lineLoop_eq_mapM rfl fun l r => by
    rw [parseLines]
    rcases parseLineL dw l with e | _ | st
    · rfl
    · rfl
    · cases parseLines dw r <;> rfl

theorem parseLines_dw_irrelevant (dw dw' : Str) (ls : List Str) (h : dwOk dw = true) (h' : dwOk dw' = true) :
    parseLines dw ls = parseLines dw' ls := by
  rw [parseLines_eq_mapM, parseLines_eq_mapM, mapM_congr fun l _ => parseLineL_dw_irrelevant dw dw' l h h']

theorem parseLines_ok_iff (dw : Str) (ls : List Str) (sts : List SStmt) :
    parseLines dw ls = .ok sts ↔
      ∃ rs : List (Option SStmt), ls.map (parseLineL dw) = rs.map Except.ok ∧ sts = rs.filterMap id := by
  simp only [parseLines_eq_mapM, map_eq_ok, mapM_eq_ok_iff, eq_comm (b := sts)]

theorem parseLines_error_iff (dw : Str) (ls : List Str) :
    (∃ e, parseLines dw ls = .error e) ↔ ∃ l ∈ ls, ∃ e, parseLineL dw l = .error e := by
  induction ls with
  | nil => simp [parseLines]
  | cons l r ih =>
    simp only [List.mem_cons, exists_eq_or_imp, ← ih]
    rw [parseLines]
    rcases parseLineL dw l with e | _ | st <;> rcases parseLines dw r with e' | sts' <;> simp

theorem parseDocL_ok_iff (dw decl doc : Str) (src : SSrc) :
    parseDocL dw decl doc = .ok src ↔
      ∃ d sts, parseDeclareL dw decl = some d ∧ parseLines dw (splitOn '\n' doc) = .ok sts ∧
        src = ⟨d.name, d.params, d.inputs, d.outputs, sts⟩ := by
  unfold parseDocL
  rcases parseDeclareL dw decl with _ | d
  · simp
  · rcases parseLines dw (splitOn '\n' doc) with e | sts <;> simp [eq_comm]

theorem parseLines_namesOk (dw : Str) (ls : List Str) (sts : List SStmt) (h : parseLines dw ls = .ok sts) :
    sts.all stmtNamesOk = true := by
  obtain ⟨rs, hrs, rfl⟩ := map_ok (parseLines_eq_mapM dw ls ▸ h)
  refine List.all_eq_true.2 fun st hst => ?_
  obtain ⟨l, -, hl⟩ := mapM_mem hrs (some st) (by simpa using hst)
  exact parseLineL_namesOk dw l st hl

theorem parseDocL_namesOk (dw decl doc : Str) (src : SSrc) (h : parseDocL dw decl doc = .ok src) :
    srcNamesOk src = true := by
  obtain ⟨d, sts, hd, hl, rfl⟩ := (parseDocL_ok_iff dw decl doc src).1 h
  simp only [srcNamesOk, Bool.and_eq_true]
  exact ⟨parseDeclareL_namesOk dw decl d hd, parseLines_namesOk dw _ sts hl⟩

end Pepper.ParseSys
