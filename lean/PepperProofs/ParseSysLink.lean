import PepperProofs.ParseSysInv
import PepperProofs.SysPil
/-!
# `.sys` text parser: the names of an accepted document satisfy the source hypothesis of the system theorems

`sysNamesOk_of_srcNamesOk`: `ParseSys.srcNamesOk` (what `parseDocL_namesOk` gives of every accepted document) implies
`SysProofs.sysNamesOk` (the hypothesis of C02 / C09 on a system source).  The only place where the parser's files meet
the system loader's.
-/
namespace Pepper.ParseSys
open Pepper.Sys

theorem sigNameOk_of_nameOk {n : String} (h : nameOk n = true) : Pepper.SysProofs.sigNameOk n = true := by
  simp only [Pepper.SysProofs.sigNameOk, Bool.and_eq_true, Bool.not_eq_true', nameOk_noDash h, and_true]
  obtain ⟨hne, hall⟩ := nameOk_chars h
  exact Pepper.Comp.endsOk_of_forall hne fun c hc => by rintro rfl; exact absurd (hall _ hc) (by decide)

theorem sstmtOk_of_stmtNamesOk {st : SStmt} (h : stmtNamesOk st = true) : Pepper.SysProofs.sstmtOk st = true := by
  cases st with
  | imports items => rfl
  | component cname templ args ins outs =>
    obtain ⟨h1, -, h3, h4⟩ := stmtNamesOk_component h
    simp only [Pepper.SysProofs.sstmtOk, Bool.and_eq_true, Bool.not_eq_true', nameOk_noDash h1, true_and,
      List.all_eq_true, List.mem_append]
    rintro r (hr | hr)
    · exact sigNameOk_of_nameOk (sigsOk_mem h3 r hr)
    · exact sigNameOk_of_nameOk (sigsOk_mem h4 r hr)

theorem sysNamesOk_of_srcNamesOk (src : Pepper.Sys.SSrc) (h : srcNamesOk src = true) :
    Pepper.SysProofs.sysNamesOk src = true := by
  simp only [Pepper.SysProofs.sysNamesOk, List.all_eq_true]
  exact fun st hst => sstmtOk_of_stmtNamesOk (List.all_eq_true.1 (srcNamesOk_cases h).2 st hst)

end Pepper.ParseSys
