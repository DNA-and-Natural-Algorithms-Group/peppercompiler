import PepperModel.Pickle
import PepperProofs.Basic
/-!
# The canonical form of a rooted heap (`canon`) and isomorphism of reachable parts (`Iso`)

`canon_iso` / `iso_canon`: equal canonical forms ⇔ isomorphic reachable parts (`visit_fuel`: the fuel of `reach` suffices
whenever any does; `Iso.of_cells`: totality follows from the root and the cells).
-/
namespace Pepper.Pickle

/-! ### arrays and lists -/

theorem get_lt {α : Type} {H : Array α} {y : Nat} {c : α} (hc : H[y]? = some c) : y < H.size :=
  (Array.getElem?_eq_some_iff.mp hc).1

theorem push_old {α : Type} {H : Array α} {c : α} {i : Nat} (hi : i < H.size) : (H.push c)[i]? = H[i]? := by
  simp [Array.getElem?_push, Nat.ne_of_lt hi]

theorem push_get {α : Type} {l : Array α} {a z : α} {i : Nat} (hz : (l.push a)[i]? = some z) :
    (i < l.size ∧ l[i]? = some z) ∨ (i = l.size ∧ z = a) := by
  rw [Array.getElem?_push] at hz
  split at hz
  · exact Or.inr ⟨‹_›, (Option.some.inj hz).symm⟩
  · exact Or.inl ⟨get_lt hz, hz⟩

theorem snoc_get {α : Type} {l : List α} {a z : α} {i : Nat} (hz : (l ++ [a])[i]? = some z) :
    (i < l.length ∧ l[i]? = some z) ∨ (i = l.length ∧ z = a) := by
  simpa using push_get (l := l.toArray) (by simpa using hz)

theorem sum_filter_remove (w : Nat → Nat) (p : Nat → Bool) (x : Nat) (hp : p x = true) :
    ∀ l : List Nat, l.Nodup → x ∈ l →
      ((l.filter (fun i => p i && i != x)).map w).sum + w x = ((l.filter p).map w).sum := by
  intro l
  induction l with
  | nil => intro _ hx; cases hx
  | cons a l ih =>
    intro hnd hx
    rw [List.nodup_cons] at hnd
    by_cases hax : a = x
    · subst hax
      have hcongr : l.filter (fun i => p i && i != a) = l.filter p := by
        apply List.filter_congr
        intro i hi
        have : i ≠ a := fun e => hnd.1 (e ▸ hi)
        simp [this]
      simp [hp, hcongr, Nat.add_comm]
    · have hxl : x ∈ l := by
        rcases List.mem_cons.mp hx with e | e
        · exact absurd e.symm hax
        · exact e
      have := ih hnd.2 hxl
      by_cases hpa : p a = true
      · simp [hpa, hax]
        omega
      · simp [hpa]
        simpa using this

inductive Pointwise {α β : Type} (R : α → β → Prop) : List α → List β → Prop
  | nil : Pointwise R [] []
  | cons {a : α} {b : β} {as : List α} {bs : List β} : R a b → Pointwise R as bs → Pointwise R (a :: as) (b :: bs)

theorem Pointwise.length_eq {α β : Type} {R : α → β → Prop} {l : List α} {l' : List β} (hp : Pointwise R l l') :
    l.length = l'.length := by
  induction hp with
  | nil => rfl
  | cons _ _ ih => simp [ih]

theorem Pointwise.append {α β : Type} {R : α → β → Prop} {a1 a2 : List α} {b1 b2 : List β}
    (h1 : Pointwise R a1 b1) (h2 : Pointwise R a2 b2) : Pointwise R (a1 ++ a2) (b1 ++ b2) := by
  induction h1 with
  | nil => exact h2
  | cons hab _ ih => exact Pointwise.cons hab ih

theorem Pointwise.get {α β : Type} {R : α → β → Prop} {l : List α} {l' : List β} (hp : Pointwise R l l') :
    ∀ (j : Nat) (a : α) (b : β), l[j]? = some a → l'[j]? = some b → R a b := by
  induction hp with
  | nil => intro j a b ha; simp at ha
  | cons hab _ ih =>
    intro j a b ha hb
    cases j with
    | zero => simp at ha hb; subst ha; subst hb; exact hab
    | succ j => simp at ha hb; exact ih j a b ha hb

theorem Pointwise.of_get {α β : Type} {S : α → β → Prop} : ∀ {l : List α} {l' : List β}, l.length = l'.length →
    (∀ (j : Nat) (a : α) (b : β), l[j]? = some a → l'[j]? = some b → S a b) → Pointwise S l l'
  | [], [], _, _ => Pointwise.nil
  | [], _ :: _, hl, _ => by simp at hl
  | _ :: _, [], hl, _ => by simp at hl
  | a :: l, b :: l', hl, hS =>
    Pointwise.cons (hS 0 a b (by simp) (by simp))
      (Pointwise.of_get (by simpa using hl) (fun j a' b' ha hb => hS (j + 1) a' b' (by simpa using ha) (by simpa using hb)))

theorem Pointwise.imp_mem {α β : Type} {R S : α → β → Prop} {l : List α} {l' : List β} (hp : Pointwise R l l')
    (hRS : ∀ a b, a ∈ l → b ∈ l' → R a b → S a b) : Pointwise S l l' :=
  Pointwise.of_get hp.length_eq (fun j a b ha hb =>
    hRS a b (List.mem_of_getElem? ha) (List.mem_of_getElem? hb) (hp.get j a b ha hb))

theorem Pointwise.imp {α β : Type} {R S : α → β → Prop} (hRS : ∀ a b, R a b → S a b) {l : List α} {l' : List β}
    (hp : Pointwise R l l') : Pointwise S l l' :=
  hp.imp_mem (fun a b _ _ => hRS a b)

theorem Pointwise.exists_right {α β : Type} {R : α → β → Prop} {l : List α} {l' : List β} (hp : Pointwise R l l') (a : α)
    (ha : a ∈ l) : ∃ b, b ∈ l' ∧ R a b := by
  obtain ⟨j, hj⟩ := List.getElem?_of_mem ha
  have hlt : j < l'.length := hp.length_eq ▸ (List.getElem?_eq_some_iff.mp hj).1
  exact ⟨l'[j], List.getElem_mem hlt, hp.get j a _ hj (List.getElem?_eq_getElem hlt)⟩

theorem Pointwise.exists_left {α β : Type} {R : α → β → Prop} {l : List α} {l' : List β} (hp : Pointwise R l l') (b : β)
    (hb : b ∈ l') : ∃ a, a ∈ l ∧ R a b := by
  obtain ⟨j, hj⟩ := List.getElem?_of_mem hb
  have hlt : j < l.length := hp.length_eq ▸ (List.getElem?_eq_some_iff.mp hj).1
  exact ⟨l[j], List.getElem_mem hlt, hp.get j _ b (List.getElem?_eq_getElem hlt) hj⟩

theorem Pointwise.mem_iff {R : Ref → Ref → Prop} (hf : ∀ x y y', R x y → R x y' → y = y')
    (hi : ∀ x x' y, R x y → R x' y → x = x') {l l' : List Ref} (hp : Pointwise R l l') {x x' : Ref} (hx : R x x') :
    x ∈ l ↔ x' ∈ l' := by
  constructor
  · intro hm
    obtain ⟨b, hb, hr⟩ := hp.exists_right x hm
    rwa [hf _ _ _ hx hr]
  · intro hm
    obtain ⟨a, ha, hr⟩ := hp.exists_left x' hm
    rwa [hi _ _ _ hx hr]

theorem indexOf?_some {x : Ref} {l : List Ref} {i : Nat} (h : indexOf? x l = some i) : l[i]? = some x := by
  fun_induction indexOf? x l generalizing i with
  | case1 => cases h
  | case2 ys => cases h; simp
  | case3 y ys hne ih =>
    obtain ⟨j, hj, rfl⟩ := Option.map_eq_some_iff.mp h
    simpa using ih hj

theorem indexOf?_none {x : Ref} {l : List Ref} (h : indexOf? x l = none) : x ∉ l := by
  fun_induction indexOf? x l with
  | case1 => simp
  | case2 => cases h
  | case3 y ys hne ih =>
    simp only [Option.map_eq_none_iff] at h
    simp [Ne.symm hne, ih h]

theorem mapOpt_some {α β : Type} {f : α → Option β} {l : List α} {ys : List β} (h : mapOpt f l = some ys) :
    Pointwise (fun a y => f a = some y) l ys := by
  fun_induction mapOpt f l generalizing ys with
  | case1 => cases h; exact Pointwise.nil
  | case2 x xs y ys' hys hy ih => cases h; exact Pointwise.cons hy (ih hys)
  | case3 => cases h

theorem mapOpt_length {α β : Type} {f : α → Option β} {l : List α} {ys : List β} (h : mapOpt f l = some ys) :
    ys.length = l.length :=
  (mapOpt_some h).length_eq.symm

theorem mapOpt_get {α β : Type} {f : α → Option β} {l : List α} {ys : List β} (h : mapOpt f l = some ys) {i : Nat} {x : α}
    (hx : l[i]? = some x) : ∃ y, ys[i]? = some y ∧ f x = some y := by
  have hlt : i < ys.length := mapOpt_length h ▸ (List.getElem?_eq_some_iff.mp hx).1
  exact ⟨ys[i], List.getElem?_eq_getElem hlt, (mapOpt_some h).get i x _ hx (List.getElem?_eq_getElem hlt)⟩

/-! ### the reachable part and isomorphism -/

def NonAtom (h : Heap) (x : Ref) : Prop := ∃ c, h[x]? = some c ∧ c.isAtom = false

/-- atoms are left out: they are related by value and have no identity -/
inductive Reach (h : Heap) (r : Ref) : Ref → Prop
  | root : NonAtom h r → Reach h r r
  | step {x k : Ref} {c : Cell} : Reach h r x → h[x]? = some c → k ∈ c.kids → NonAtom h k → Reach h r k

def RelRef (h h' : Heap) (R : Ref → Ref → Prop) (k k' : Ref) : Prop :=
  (∃ c c', h[k]? = some c ∧ h'[k']? = some c' ∧ c.isAtom = true ∧ c'.isAtom = true ∧ c.tag = c'.tag) ∨ R k k'

structure Iso (h : Heap) (r : Ref) (h' : Heap) (r' : Ref) (R : Ref → Ref → Prop) : Prop where
  root : RelRef h h' R r r'
  dom : ∀ x y, R x y → Reach h r x ∧ Reach h' r' y
  left_total : ∀ x, Reach h r x → ∃ y, R x y
  right_total : ∀ y, Reach h' r' y → ∃ x, R x y
  functional : ∀ x y y', R x y → R x y' → y = y'
  injective : ∀ x x' y, R x y → R x' y → x = x'
  cells : ∀ x y, R x y → ∃ c c', h[x]? = some c ∧ h'[y]? = some c' ∧ c.tag = c'.tag ∧
            Pointwise (RelRef h h' R) c.kids c'.kids

theorem visit_inv {h : Heap} {r : Ref} (fuel : Nat) (todo seen o : List Ref) (hv : visit h fuel todo seen = some o)
    (hnd : seen.Nodup) (hseen : ∀ x ∈ seen, Reach h r x) (htodo : ∀ x ∈ todo, NonAtom h x → Reach h r x) :
    o.Nodup ∧ (∀ x ∈ o, Reach h r x) := by
  fun_induction visit h fuel todo seen with
  | case1 | case3 => cases hv
  | case2 => cases hv; exact ⟨hnd, hseen⟩
  | case4 fuel x todo seen c hc hcond ih => exact ih hv hnd hseen (fun y hy => htodo y (List.mem_cons_of_mem _ hy))
  | case5 fuel x todo seen c hc hcond ih =>
    simp only [Bool.or_eq_true, not_or, Bool.not_eq_true] at hcond
    have hx : Reach h r x := htodo x (List.mem_cons_self) ⟨c, hc, hcond.1⟩
    have hns : x ∉ seen := fun hm => by simp [hm] at hcond
    refine ih hv ?_ (List.forall_mem_append.mpr ⟨hseen, by simpa using hx⟩)
      (List.forall_mem_append.mpr ⟨fun y hy hna => Reach.step hx hc hy hna, fun y hy => htodo y (List.mem_cons_of_mem _ hy)⟩)
    simpa [List.nodup_append, hnd] using fun a ha (e : a = x) => hns (e ▸ ha)

theorem reach_sound {h : Heap} {r : Ref} {o : List Ref} (ho : reach h r = some o) :
    o.Nodup ∧ ∀ x ∈ o, Reach h r x := by
  unfold reach at ho
  refine visit_inv _ _ _ _ ho List.nodup_nil (by simp) ?_
  intro x hx hna
  simp at hx; subst hx
  exact Reach.root hna

theorem NonAtom.not_atom {h : Heap} {k : Ref} {c : Cell} (hna : NonAtom h k) (hc : h[k]? = some c) (ha : c.isAtom = true) :
    False := by
  obtain ⟨c', hc', hn⟩ := hna
  rw [hc] at hc'; cases hc'; rw [ha] at hn; cases hn

/-- totality on both sides need not be shown: it follows from the root and from `cells` along `Reach` -/
theorem Iso.of_cells {h h' : Heap} {r r' : Ref} {R : Ref → Ref → Prop} (root : RelRef h h' R r r')
    (dom : ∀ x y, R x y → Reach h r x ∧ Reach h' r' y)
    (functional : ∀ x y y', R x y → R x y' → y = y') (injective : ∀ x x' y, R x y → R x' y → x = x')
    (cells : ∀ x y, R x y → ∃ c c', h[x]? = some c ∧ h'[y]? = some c' ∧ c.tag = c'.tag ∧
      Pointwise (RelRef h h' R) c.kids c'.kids) : Iso h r h' r' R := by
  have ofRel : ∀ {k k'}, RelRef h h' R k k' → NonAtom h k ∨ NonAtom h' k' → R k k' := by
    rintro k k' (⟨c, c', hc, hc', ha, ha', _⟩ | hR) hna
    · exact (hna.elim (fun n => n.not_atom hc ha) (fun n => n.not_atom hc' ha')).elim
    · exact hR
  refine ⟨root, dom, fun x hx => ?_, fun y hy => ?_, functional, injective, cells⟩
  · induction hx with
    | root hna => exact ⟨r', ofRel root (Or.inl hna)⟩
    | step _ hc hk hna ih =>
      obtain ⟨z, hxz⟩ := ih
      obtain ⟨c1, c', hc1, _, _, hkids⟩ := cells _ z hxz
      rw [hc] at hc1; cases hc1
      obtain ⟨k', _, hrel⟩ := hkids.exists_right _ hk
      exact ⟨k', ofRel hrel (Or.inl hna)⟩
  · induction hy with
    | root hna => exact ⟨r, ofRel root (Or.inr hna)⟩
    | step _ hc hk hna ih =>
      obtain ⟨x, hxz⟩ := ih
      obtain ⟨c, c1, _, hc1, _, hkids⟩ := cells x _ hxz
      rw [hc] at hc1; cases hc1
      obtain ⟨k, _, hrel⟩ := hkids.exists_left _ hk
      exact ⟨k, ofRel hrel (Or.inr hna)⟩

/-! ### equal canonical forms ⇒ isomorphic -/

theorem canon_some {h : Heap} {r : Ref} {c : Canon} (hc : canon h r = some c) :
    ∃ o, reach h r = some o ∧ rename h o r = some c.root ∧ mapOpt (canonCell h o) o = some c.cells := by
  unfold canon at hc
  split at hc
  · cases hc
  · rename_i o ho
    split at hc
    · rename_i root cells h1 h2
      cases hc
      exact ⟨o, ho, h1, h2⟩
    · cases hc

theorem rename_atom {h : Heap} {o : List Ref} {k : Ref} {t : Tag} (hr : rename h o k = some (.atom t)) :
    ∃ c, h[k]? = some c ∧ c.isAtom = true ∧ c.tag = t := by
  unfold rename at hr
  split at hr
  · cases hr
  · rename_i c hc
    split at hr
    · rename_i ha; cases hr; exact ⟨c, hc, ha, rfl⟩
    · simp at hr

theorem rename_idx {h : Heap} {o : List Ref} {k : Ref} {i : Nat} (hr : rename h o k = some (.idx i)) :
    NonAtom h k ∧ o[i]? = some k := by
  unfold rename at hr
  split at hr
  · cases hr
  · rename_i c hc
    split at hr
    · cases hr
    · rename_i ha
      obtain ⟨j, hq, e⟩ := Option.map_eq_some_iff.mp hr
      cases e
      exact ⟨⟨c, hc, by simpa using ha⟩, indexOf?_some hq⟩

theorem rename_nonatom {h : Heap} {o : List Ref} {k : Ref} {cr : CRef} (hr : rename h o k = some cr) (hna : NonAtom h k) :
    ∃ i, cr = .idx i ∧ o[i]? = some k := by
  cases cr with
  | atom t =>
    obtain ⟨c, hc, ha, _⟩ := rename_atom hr
    exact (hna.not_atom hc ha).elim
  | idx i => exact ⟨i, rfl, (rename_idx hr).2⟩

theorem canonCell_some {h : Heap} {o : List Ref} {x : Ref} {t : Tag} {ks : List CRef}
    (hx : canonCell h o x = some (t, ks)) : ∃ c, h[x]? = some c ∧ c.tag = t ∧ mapOpt (rename h o) c.kids = some ks := by
  unfold canonCell at hx
  split at hx
  · cases hx
  · rename_i c hc
    obtain ⟨ks', hm, e⟩ := Option.map_eq_some_iff.mp hx
    cases e
    exact ⟨c, hc, rfl, hm⟩

theorem reach_complete {h : Heap} {r : Ref} {o : List Ref} {root : CRef} {cells : List (Tag × List CRef)}
    (hroot : rename h o r = some root) (hcells : mapOpt (canonCell h o) o = some cells) :
    ∀ x, Reach h r x → x ∈ o := by
  intro x hx
  induction hx with
  | root hna =>
    obtain ⟨i, _, hi⟩ := rename_nonatom hroot hna
    exact List.mem_of_getElem? hi
  | step hxr hc hk hna ih =>
    rename_i x k c
    obtain ⟨i, hi⟩ := List.getElem?_of_mem ih
    obtain ⟨⟨t, ks⟩, _, hcc⟩ := mapOpt_get hcells hi
    obtain ⟨c', hc', _, hks⟩ := canonCell_some hcc
    rw [hc] at hc'; cases hc'
    obtain ⟨j, hj⟩ := List.getElem?_of_mem hk
    obtain ⟨cr, _, hcr⟩ := mapOpt_get hks hj
    obtain ⟨i', _, hi'⟩ := rename_nonatom hcr hna
    exact List.mem_of_getElem? hi'

theorem relRef_of_rename {h h' : Heap} {o o' : List Ref} {k k' : Ref} {cr : CRef}
    (h1 : rename h o k = some cr) (h2 : rename h' o' k' = some cr) :
    RelRef h h' (fun x y => ∃ i : Nat, o[i]? = some x ∧ o'[i]? = some y) k k' := by
  cases cr with
  | atom t =>
    obtain ⟨c, hc, ha, ht⟩ := rename_atom h1
    obtain ⟨c', hc', ha', ht'⟩ := rename_atom h2
    exact Or.inl ⟨c, c', hc, hc', ha, ha', by rw [ht, ht']⟩
  | idx i => exact Or.inr ⟨i, (rename_idx h1).2, (rename_idx h2).2⟩

theorem canon_iso {h h' : Heap} {r r' : Ref} {c : Canon} (hc : canon h r = some c) (hc' : canon h' r' = some c) :
    ∃ R, Iso h r h' r' R := by
  obtain ⟨o, ho, hroot, hcells⟩ := canon_some hc
  obtain ⟨o', ho', hroot', hcells'⟩ := canon_some hc'
  obtain ⟨hnd, hsound⟩ := reach_sound ho
  obtain ⟨hnd', hsound'⟩ := reach_sound ho'
  refine ⟨fun x y => ∃ i : Nat, o[i]? = some x ∧ o'[i]? = some y, Iso.of_cells (relRef_of_rename hroot hroot') ?_ ?_ ?_ ?_⟩
  · rintro x y ⟨i, hi, hi'⟩
    exact ⟨hsound x (List.mem_of_getElem? hi), hsound' y (List.mem_of_getElem? hi')⟩
  · rintro x y y' ⟨i, hi, hi'⟩ ⟨j, hj, hj'⟩
    have := nodup_index_unique hnd hi hj
    subst this
    rw [hi'] at hj'; cases hj'; rfl
  · rintro x x' y ⟨i, hi, hi'⟩ ⟨j, hj, hj'⟩
    have := nodup_index_unique hnd' hi' hj'
    subst this
    rw [hi] at hj; cases hj; rfl
  · rintro x y ⟨i, hi, hi'⟩
    obtain ⟨⟨t, ks⟩, hci, hcc⟩ := mapOpt_get hcells hi
    obtain ⟨⟨t', ks'⟩, hci', hcc'⟩ := mapOpt_get hcells' hi'
    rw [hci] at hci'; cases hci'
    obtain ⟨cx, hcx, htx, hkx⟩ := canonCell_some hcc
    obtain ⟨cy, hcy, hty, hky⟩ := canonCell_some hcc'
    refine ⟨cx, cy, hcx, hcy, by rw [htx, hty], ?_⟩
    refine Pointwise.of_get (by rw [← mapOpt_length hkx, ← mapOpt_length hky]) (fun j a b ha hb => ?_)
    obtain ⟨cr, hj, h1⟩ := mapOpt_get hkx ha
    obtain ⟨cr', hj', h2⟩ := mapOpt_get hky hb
    rw [hj] at hj'; cases hj'
    exact relRef_of_rename h1 h2

/-! ### the fuel of `reach` suffices whenever any does -/

theorem visitFuel_eq (h : Heap) : ∃ n, visitFuel h = n + 2 := ⟨_, Nat.add_comm 2 _⟩

/-- the potential of `visit`: the kids of the cells not yet seen (each is pushed at most once) -/
def restKids (h : Heap) (seen : List Ref) : Nat :=
  (((List.range h.size).filter (fun i => !seen.contains i)).map (kidsLen h)).sum

theorem restKids_snoc {h : Heap} {seen : List Ref} {x : Ref} {c : Cell} (hc : h[x]? = some c) (hx : seen.contains x = false) :
    restKids h (seen ++ [x]) + c.kids.length = restKids h seen := by
  have hlt : x < h.size := by
    rcases Nat.lt_or_ge x h.size with hl | hl
    · exact hl
    · simp [Array.getElem?_eq_none hl] at hc
  have hk : kidsLen h x = c.kids.length := by simp [kidsLen, hc]
  unfold restKids
  have hcongr : (List.range h.size).filter (fun i => !(seen ++ [x]).contains i) =
      (List.range h.size).filter (fun i => (fun i => !seen.contains i) i && i != x) := by
    apply List.filter_congr
    intro i _
    by_cases e : i = x <;> simp [e]
  rw [hcongr, ← hk]
  exact sum_filter_remove (kidsLen h) (fun i => !seen.contains i) x (by simpa using hx) _ List.nodup_range
    (List.mem_range.mpr hlt)

theorem visit_fuel {h : Heap} (f : Nat) (todo seen o : List Ref) (hv : visit h f todo seen = some o) (f2 : Nat)
    (hf2 : todo.length + restKids h seen + 1 ≤ f2) : visit h f2 todo seen = some o := by
  obtain ⟨n, rfl⟩ : ∃ n, f2 = n + 1 := ⟨f2 - 1, by omega⟩
  fun_induction visit h f todo seen generalizing n with
  | case1 | case3 => cases hv
  | case2 => simpa [visit] using hv
  | case4 f x todo seen c hc hcond ih =>
    simp only [visit, hc, hcond, if_true]
    obtain ⟨n, rfl⟩ : ∃ k, n = k + 1 := ⟨n - 1, by simp at hf2; omega⟩
    exact ih hv n (by simp at hf2; omega)
  | case5 f x todo seen c hc hcond ih =>
    simp only [visit, hc, hcond]
    simp only [Bool.or_eq_true, not_or, Bool.not_eq_true] at hcond
    have := restKids_snoc hc hcond.2
    obtain ⟨n, rfl⟩ : ∃ k, n = k + 1 := ⟨n - 1, by simp at hf2; omega⟩
    refine ih hv n ?_
    simp at hf2 ⊢
    omega

theorem restKids_nil (h : Heap) : restKids h [] + 2 = visitFuel h := by
  simp [restKids, visitFuel, Nat.add_comm, List.filter_eq_self.mpr]

theorem reach_of_visit {h : Heap} {r : Ref} {f : Nat} {o : List Ref} (hv : visit h f [r] [] = some o) :
    reach h r = some o := by
  unfold reach
  refine visit_fuel f _ _ o hv _ ?_
  have := restKids_nil h
  simp; omega

/-! ### isomorphic ⇒ equal canonical forms -/

theorem reach_nonAtom {h : Heap} {r x : Ref} (hx : Reach h r x) : NonAtom h x := by
  cases hx <;> assumption

theorem visit_iso {h h' : Heap} {r r' : Ref} {R : Ref → Ref → Prop} (iso : Iso h r h' r' R) :
    ∀ (f : Nat) (todo todo' seen seen' o : List Ref), Pointwise (RelRef h h' R) todo todo' → Pointwise R seen seen' →
      visit h f todo seen = some o → ∃ o', visit h' f todo' seen' = some o' ∧ Pointwise R o o' := by
  intro f
  induction f with
  | zero => intro todo todo' seen seen' o _ _ hv; simp [visit] at hv
  | succ f ih =>
    intro todo todo' seen seen' o ht hs hv
    cases ht with
    | nil => simp [visit] at hv ⊢; subst hv; exact hs
    | cons hrel htl =>
      rename_i x x' t t'
      simp only [visit] at hv ⊢
      split at hv
      · cases hv
      · rename_i c hc
        rcases hrel with ⟨c0, c0', h0, h0', ha, ha', _⟩ | hR
        · rw [hc] at h0; cases h0
          simp only [h0', ha, ha', Bool.true_or, if_true] at hv ⊢
          exact ih _ _ _ _ o htl hs hv
        · obtain ⟨cx, cy, hcx, hcy, _, hkids⟩ := iso.cells x x' hR
          rw [hc] at hcx; cases hcx
          obtain ⟨hrx, hry⟩ := iso.dom x x' hR
          obtain ⟨c1, hc1, hna⟩ := reach_nonAtom hrx
          rw [hc] at hc1; cases hc1
          obtain ⟨c2, hc2, hna'⟩ := reach_nonAtom hry
          rw [hcy] at hc2; cases hc2
          have hcont : seen.contains x = seen'.contains x' := by
            have := Pointwise.mem_iff iso.functional iso.injective hs hR
            by_cases hm : x ∈ seen
            · simp [hm, this.mp hm]
            · have hm' : x' ∉ seen' := fun e => hm (this.mpr e)
              simp [hm, hm']
          simp only [hcy, hna, hna', Bool.false_or, hcont] at hv ⊢
          split at hv
          · rename_i hcond
            simp only [hcond, if_true]
            exact ih _ _ _ _ o htl hs hv
          · rename_i hcond
            simp only [hcond]
            exact ih _ _ _ _ o (Pointwise.append hkids htl)
              (Pointwise.append hs (Pointwise.cons hR Pointwise.nil)) hv

theorem indexOf?_rel {R : Ref → Ref → Prop} (hf : ∀ x y y', R x y → R x y' → y = y')
    (hi : ∀ x x' y, R x y → R x' y → x = x') {o o' : List Ref} (hp : Pointwise R o o') {k k' : Ref} (hk : R k k') :
    indexOf? k o = indexOf? k' o' := by
  induction hp with
  | nil => rfl
  | cons hab htl ih =>
    rename_i a b as bs
    simp only [indexOf?]
    by_cases e : a = k
    · subst e
      have : b = k' := hf _ _ _ hab hk
      simp [this]
    · have : b ≠ k' := fun e' => e (hi _ _ _ hab (e' ▸ hk))
      simp [e, this, ih]

theorem rename_rel {h h' : Heap} {r r' : Ref} {R : Ref → Ref → Prop} (iso : Iso h r h' r' R) {o o' : List Ref}
    (hp : Pointwise R o o') {k k' : Ref} (hk : RelRef h h' R k k') : rename h o k = rename h' o' k' := by
  rcases hk with ⟨c, c', hc, hc', ha, ha', ht⟩ | hR
  · simp [rename, hc, hc', ha, ha', ht]
  · obtain ⟨hrx, hry⟩ := iso.dom k k' hR
    obtain ⟨c1, hc1, hna⟩ := reach_nonAtom hrx
    obtain ⟨c2, hc2, hna'⟩ := reach_nonAtom hry
    simp [rename, hc1, hc2, hna, hna', indexOf?_rel iso.functional iso.injective hp hR]

theorem mapOpt_pointwise {α α' β : Type} {f : α → Option β} {g : α' → Option β} {l : List α} {l' : List α'}
    (hp : Pointwise (fun a b => f a = g b) l l') : mapOpt f l = mapOpt g l' := by
  induction hp with
  | nil => rfl
  | cons hab _ ih => simp only [mapOpt, hab, ih]

theorem canonCell_rel {h h' : Heap} {r r' : Ref} {R : Ref → Ref → Prop} (iso : Iso h r h' r' R) {o o' : List Ref}
    (hp : Pointwise R o o') {x x' : Ref} (hx : R x x') : canonCell h o x = canonCell h' o' x' := by
  obtain ⟨cx, cy, hcx, hcy, htag, hkids⟩ := iso.cells x x' hx
  simp only [canonCell, hcx, hcy, htag]
  have := mapOpt_pointwise (f := rename h o) (g := rename h' o')
    (Pointwise.imp (fun a b hab => rename_rel iso hp hab) hkids)
  rw [this]

theorem iso_canon {h h' : Heap} {r r' : Ref} {R : Ref → Ref → Prop} (iso : Iso h r h' r' R) {c : Canon}
    (hc : canon h r = some c) : canon h' r' = some c := by
  obtain ⟨o, ho, hroot, hcells⟩ := canon_some hc
  obtain ⟨o', hv', hoo⟩ := visit_iso iso _ [r] [r'] [] [] o (Pointwise.cons iso.root Pointwise.nil) Pointwise.nil ho
  have ho' := reach_of_visit hv'
  have h1 : rename h' o' r' = some c.root := by rw [← rename_rel iso hoo iso.root]; exact hroot
  have h2 : mapOpt (canonCell h' o') o' = some c.cells := by
    have := mapOpt_pointwise (f := canonCell h o) (g := canonCell h' o')
      (Pointwise.imp (fun a b hab => canonCell_rel iso hoo hab) hoo)
    rw [← this]; exact hcells
  simp [canon, ho', h1, h2]

theorem canon_atom {h : Heap} {r : Ref} {c : Cell} (hc : h[r]? = some c) (ha : c.isAtom = true) :
    canon h r = some ⟨.atom c.tag, []⟩ := by
  obtain ⟨n, hn⟩ := visitFuel_eq h
  simp [canon, reach, hn, visit, hc, ha, rename, mapOpt]

theorem canon_leaf {h : Heap} {r : Ref} {t : Tag} (hc : h[r]? = some ⟨t, []⟩) (ha : (Cell.mk t []).isAtom = false) :
    canon h r = some ⟨.idx 0, [(t, [])]⟩ := by
  obtain ⟨n, hn⟩ := visitFuel_eq h
  simp [canon, reach, hn, visit, hc, ha, rename, mapOpt, indexOf?, canonCell]

end Pepper.Pickle
