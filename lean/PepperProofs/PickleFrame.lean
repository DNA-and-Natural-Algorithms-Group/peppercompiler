import PepperModel.Pickle
import PepperProofs.Basic
/-!
# What one opcode of the unpickler may rewrite (`Frame`, `targets`, `step_frame`)

A successful `do` block of the unpickler is read backwards by the inversion lemmas `popRef_bind`, `topRef_bind`,
`popMark_bind`, `cell_bind`; `step_frame`: one opcode never shrinks the heap and rewrites no old cell outside its `targets`.
Also the table `created` of the value-creating opcodes (`step_created`).
-/
namespace Pepper.Pickle

def Frame (a b : Heap) (T : List Ref) : Prop :=
  a.size ≤ b.size ∧ ∀ i, i < a.size → i ∉ T → b[i]? = a[i]?

theorem Frame.refl (a : Heap) (T) : Frame a a T := ⟨Nat.le_refl _, fun _ _ _ => rfl⟩

theorem Frame.push (a : Heap) (c : Cell) (T) : Frame a (a.push c) T :=
  ⟨by simp, fun i hi _ => by simp [Array.getElem?_push, Nat.ne_of_lt hi]⟩

theorem Frame.trans {a b c : Heap} {T} (h1 : Frame a b T) (h2 : Frame b c T) : Frame a c T :=
  ⟨Nat.le_trans h1.1 h2.1, fun i hi hT => by rw [h2.2 i (Nat.lt_of_lt_of_le hi h1.1) hT, h1.2 i hi hT]⟩

theorem Frame.set {a b : Heap} {T} (h : Frame a b T) (t : Ref) (c : Cell) (ht : t ∈ T ∨ a.size ≤ t) :
    Frame a (b.setIfInBounds t c) T :=
  ⟨by simpa using h.1, fun i hi hT => by
    have : t ≠ i := by
      rintro rfl
      exact ht.elim hT (Nat.not_le_of_lt hi)
    simp [this, h.2 i hi hT]⟩

theorem Frame.mono {a b : Heap} {T T'} (h : Frame a b T) (hs : ∀ x, x ∈ T → x ∈ T') : Frame a b T' :=
  ⟨h.1, fun i hi hT => h.2 i hi (fun m => hT (hs _ m))⟩

/-! ### reading a successful `do` block backwards

The stack operations return `{ v with stack := _ }`, so heap and memo of the state handed on are those of `v` by
computation and need no rewriting. -/

theorem popRef_bind {β : Type} {v : VM} {f : Ref × VM → Except Err β} {b : β} (h : v.popRef >>= f = .ok b) :
    ∃ r rest, v.stack = .ref r :: rest ∧ f (r, { v with stack := rest }) = .ok b := by
  unfold VM.popRef at h
  split at h
  · exact ⟨_, _, ‹_›, h⟩
  · cases h

theorem topRef_bind {β : Type} {v : VM} {f : Ref → Except Err β} {b : β} (h : v.topRef >>= f = .ok b) :
    ∃ r rest, v.stack = .ref r :: rest ∧ f r = .ok b := by
  unfold VM.topRef at h
  split at h
  · exact ⟨_, _, ‹_›, h⟩
  · cases h

theorem popMark_bind {β : Type} {v : VM} {f : List Ref × VM → Except Err β} {b : β} (h : v.popMark >>= f = .ok b) :
    ∃ items rest, splitMark v.stack [] = some (items, rest) ∧ f (items, { v with stack := rest }) = .ok b := by
  unfold VM.popMark at h
  split at h
  · exact ⟨_, _, ‹_›, h⟩
  · cases h

theorem cell_bind {β : Type} {v : VM} {r : Ref} {f : Cell → Except Err β} {b : β} (h : v.cell r >>= f = .ok b) :
    ∃ c, v.heap[r]? = some c ∧ f c = .ok b := by
  unfold VM.cell at h
  split at h
  · exact ⟨_, ‹_›, h⟩
  · cases h

theorem setCell_ok (v : VM) (t : Ref) (c : Cell) :
    Frame v.heap (v.setCell t c).heap [t] ∧ (v.setCell t c).stack = v.stack ∧ (v.setCell t c).memo = v.memo :=
  ⟨(Frame.refl _ _).set t c (by simp), rfl, rfl⟩

theorem extend_ok {v : VM} {t items v'} (h : v.extend t items = .ok v') :
    Frame v.heap v'.heap [t] ∧ v'.stack = v.stack ∧ v'.memo = v.memo := by
  obtain ⟨c, _, h⟩ := cell_bind h
  split at h
  · cases h; exact setCell_ok ..
  · split at h
    · cases h; exact setCell_ok ..
    · cases h
  · cases h

theorem setitems_ok {v : VM} {t kvs v'} (h : v.setitems t kvs = .ok v') :
    Frame v.heap v'.heap [t] ∧ v'.stack = v.stack ∧ v'.memo = v.memo := by
  obtain ⟨c, _, h⟩ := cell_bind h
  split at h
  · obtain ⟨_, _, h⟩ := bind_ok h
    cases h; exact setCell_ok ..
  · split at h
    · obtain ⟨_, _, h⟩ := bind_ok h
      cases h; exact setCell_ok ..
    · cases h
  · cases h

theorem instDict_frame (v : VM) (inst : Ref) (p : ObjParts) :
    Frame v.heap (v.instDict inst p).2.heap (inst :: p.state.toList) ∧
    ((v.instDict inst p).1 ∈ p.state.toList ∨ v.heap.size ≤ (v.instDict inst p).1) ∧
    (v.instDict inst p).2.stack = v.stack ∧ (v.instDict inst p).2.memo = v.memo := by
  unfold VM.instDict
  cases p.state with
  | some d => simp [Frame.refl]
  | none => exact ⟨(Frame.push _ _ _).set _ _ (by simp), by simp, rfl, rfl⟩

theorem updateAttrs_ok {v : VM} {inst p dc v'} (h : v.updateAttrs inst p dc = .ok v') :
    Frame v.heap v'.heap (inst :: p.state.toList) ∧ v'.stack = v.stack ∧ v'.memo = v.memo := by
  unfold VM.updateAttrs at h
  obtain ⟨hf, hd, hs, hm⟩ := instDict_frame v inst p
  split at h
  · cases h
  · cases h; exact ⟨Frame.refl _ _, rfl, rfl⟩
  · split at h
    · cases h
    · split at h
      · cases h
      · split at h
        · cases h
        · split at h
          · cases h
          · cases h
            exact ⟨hf.set _ _ (hd.imp_left (List.mem_cons_of_mem _)), hs, hm⟩

theorem slotState_ok {v : VM} {slot v'} (h : v.slotState slot = .ok v') : v' = v := by
  unfold VM.slotState at h
  split at h
  · cases h; rfl
  · split at h
    · cases h
    · split at h
      · cases h; rfl
      · cases h

/-- the cells `BUILD` may rewrite: the instance under the state, and its attribute dict if it has one -/
def buildTargets (v : VM) : List Ref :=
  match v.stack with
  | _ :: .ref inst :: _ =>
    inst :: (match v.heap[inst]? with
      | some c => match c.objParts? with
        | some p => p.state.toList
        | none => []
      | none => [])
  | _ => []

theorem build_ok {cfg} {v v' : VM} (h : v.build cfg = .ok v') :
    Frame v.heap v'.heap (buildTargets v) ∧ v'.memo = v.memo ∧
    ∃ st inst rest, v.stack = .ref st :: .ref inst :: rest ∧ v'.stack = .ref inst :: rest := by
  obtain ⟨st, below, s1, h⟩ := popRef_bind h
  obtain ⟨inst, rest, (rfl : below = _), h⟩ := topRef_bind h
  obtain ⟨ic, hic, h⟩ := cell_bind h
  split at h
  · cases h
  · rename_i p hp
    split at h
    · cases h
    · obtain ⟨_, h⟩ := ite_ok h
      obtain ⟨_, _, h⟩ := cell_bind h
      obtain ⟨_, _, h⟩ := cell_bind h
      obtain ⟨v1, hu, h⟩ := bind_ok h
      cases slotState_ok h
      obtain ⟨hf, hs, hm⟩ := updateAttrs_ok hu
      have hT : buildTargets v = inst :: p.state.toList := by
        have hic : v.heap[inst]? = some ic := hic
        simp [buildTargets, s1, hic, hp]
      exact ⟨hT ▸ hf, hm, st, inst, rest, s1, hs⟩

/-- the one cell an opcode may rewrite (none for most opcodes; two for `BUILD`) -/
def targets (v : VM) : Op → List Ref
  | .setitem => match v.stack with | _ :: _ :: .ref t :: _ => [t] | _ => []
  | .append => match v.stack with | _ :: .ref t :: _ => [t] | _ => []
  | .setitems | .appends | .additems => match splitMark v.stack [] with | some (_, .ref t :: _) => [t] | _ => []
  | .build => buildTargets v
  | _ => []

theorem step_frame {cfg : Cfg} {v v' : VM} {op : Op} (h : v.step cfg op = .ok v') :
    Frame v.heap v'.heap (targets v op) := by
  cases op <;> simp only [VM.step] at h
  case proto n => split at h <;> cases h; exact Frame.refl _ _
  case frame | stop | mark => cases h; exact Frame.refl _ _
  case none | newtrue | newfalse | int | float | str | bytes | emptyDict | emptyList | emptyTuple | emptySet =>
    cases h; exact Frame.push _ _ _
  case memoize | dup =>
    obtain ⟨_, _, _, h⟩ := topRef_bind h
    cases h; exact Frame.refl _ _
  case get => split at h <;> cases h; exact Frame.refl _ _
  case put =>
    obtain ⟨_, _, _, h⟩ := topRef_bind h
    split at h
    · cases h; exact Frame.refl _ _
    · split at h <;> cases h; exact Frame.refl _ _
  case setitem =>
    obtain ⟨val, below, s1, h⟩ := popRef_bind h
    obtain ⟨key, below', (rfl : below = _), h⟩ := popRef_bind h
    obtain ⟨t, rest, (rfl : below' = _), h⟩ := topRef_bind h
    simpa [targets, s1] using (setitems_ok h).1
  case append =>
    obtain ⟨val, below, s1, h⟩ := popRef_bind h
    obtain ⟨t, rest, (rfl : below = _), h⟩ := topRef_bind h
    simpa [targets, s1] using (extend_ok h).1
  case setitems =>
    obtain ⟨items, below, s1, h⟩ := popMark_bind h
    obtain ⟨t, rest, (rfl : below = _), h⟩ := topRef_bind h
    simpa [targets, s1] using (setitems_ok h).1
  case appends =>
    obtain ⟨items, below, s1, h⟩ := popMark_bind h
    obtain ⟨t, rest, (rfl : below = _), h⟩ := topRef_bind h
    simpa [targets, s1] using (extend_ok h).1
  case additems =>
    obtain ⟨items, below, s1, h⟩ := popMark_bind h
    obtain ⟨t, rest, (rfl : below = _), h⟩ := topRef_bind h
    obtain ⟨c, _, h⟩ := cell_bind h
    obtain ⟨_, h⟩ := ite_ok h
    obtain ⟨_, _, h⟩ := bind_ok h
    cases h
    simpa [targets, s1] using (setCell_ok { v with stack := .ref t :: rest } t _).1
  case frozenset =>
    obtain ⟨_, _, _, h⟩ := popMark_bind h
    obtain ⟨_, _, h⟩ := bind_ok h
    cases h; exact Frame.push _ _ _
  case tuple =>
    obtain ⟨_, _, _, h⟩ := popMark_bind h
    cases h; exact Frame.push _ _ _
  case tuple1 =>
    obtain ⟨_, _, _, h⟩ := popRef_bind h
    cases h; exact Frame.push _ _ _
  case tuple2 =>
    obtain ⟨_, _, _, h⟩ := popRef_bind h
    obtain ⟨_, _, _, h⟩ := popRef_bind h
    cases h; exact Frame.push _ _ _
  case tuple3 =>
    obtain ⟨_, _, _, h⟩ := popRef_bind h
    obtain ⟨_, _, _, h⟩ := popRef_bind h
    obtain ⟨_, _, _, h⟩ := popRef_bind h
    cases h; exact Frame.push _ _ _
  case global m n =>
    cases h
    exact ((Frame.push _ _ _).trans (Frame.push _ _ _)).trans (Frame.push _ _ _)
  case stackGlobal =>
    obtain ⟨_, _, _, h⟩ := popRef_bind h
    obtain ⟨_, _, _, h⟩ := popRef_bind h
    split at h
    · cases h; exact Frame.push _ _ _
    · cases h
  case newobj | reduce =>
    obtain ⟨_, _, _, h⟩ := popRef_bind h
    obtain ⟨_, _, _, h⟩ := popRef_bind h
    obtain ⟨_, _, h⟩ := cell_bind h
    obtain ⟨_, _, h⟩ := cell_bind h
    cases (ite_ok (ite_ok h).2).2; exact Frame.push _ _ _
  case newobjEx =>
    obtain ⟨_, _, _, h⟩ := popRef_bind h
    obtain ⟨_, _, _, h⟩ := popRef_bind h
    obtain ⟨_, _, _, h⟩ := popRef_bind h
    obtain ⟨_, _, h⟩ := cell_bind h
    obtain ⟨_, _, h⟩ := cell_bind h
    obtain ⟨_, _, h⟩ := cell_bind h
    cases (ite_ok (ite_ok (ite_ok (ite_ok h).2).2).2).2; exact Frame.push _ _ _
  case build => exact (build_ok h).1
  case pop => split at h <;> cases h; exact Frame.refl _ _
  case popMark =>
    obtain ⟨_, _, _, h⟩ := popMark_bind h
    cases h; exact Frame.refl _ _

theorem runOps_cons {cfg : Cfg} {op : Op} {rest : List Op} {v v' : VM} (hne : op ≠ .stop) (hs : v.step cfg op = .ok v') :
    runOps cfg (op :: rest) v = runOps cfg rest v' := by
  rw [runOps, hs]
  · rfl
  · exact fun e => hne e

end Pepper.Pickle

namespace Pepper.C16Pickle.Props
open Pepper.Pickle

def created : Op → Option Cell
  | .none => some ⟨.none, []⟩ | .newtrue => some ⟨.bool true, []⟩ | .newfalse => some ⟨.bool false, []⟩
  | .int z => some ⟨.int z, []⟩ | .float b => some ⟨.float b, []⟩ | .str s => some ⟨.str s, []⟩ | .bytes s => some ⟨.bytes s, []⟩
  | .emptyDict => some ⟨.dict, []⟩ | .emptyList => some ⟨.list, []⟩ | .emptyTuple => some ⟨.tuple, []⟩ | .emptySet => some ⟨.set, []⟩
  | _ => none

end Pepper.C16Pickle.Props

namespace Pepper.Pickle
open Pepper.C16Pickle.Props (created)

theorem step_created {cfg : Cfg} {op : Op} {c : Cell} (hc : created op = some c) (v : VM) : v.step cfg op = .ok (v.alloc c) := by
  cases op <;> simp [created] at hc <;> subst hc <;> rfl

theorem created_ne_stop {op : Op} {c : Cell} (hc : created op = some c) : op ≠ .stop := by
  rintro rfl; cases hc

end Pepper.Pickle
