import PepperModel.Pil
import PepperProofs.Basic
/-!
# What `Pil.Spec.add` does when it succeeds

`Adds tbl s st δ`: the statement `st` passes every check of `PIL_Spec.add_*` on top of `s`, and `δ` is the object it
appends (`add_eq_ok`, both directions); `load_invariant` carries any property of specifications along `Pil.load`.  `Adds.congr`: `Adds` reads the
specification only through the names of the statement — the lemma under both frame lemmas (`load_frame_nodup` here,
`SysProofs.load_frame` in SysPil.lean).

The file declares into the namespaces of the modules that use it: `SysProofs`
(`specAppend`, `findSeq_append_*`), `WellFormed` (`stripStar`, `resolveItems_*`), `EndToEnd` (`Apart`), besides `Pil`.
The `do`-block guards are read with `guard_eq_ok` (see the head of its section in `Basic.lean`).
-/
namespace Pepper.SysProofs

def specAppend (a b : Pil.Spec) : Pil.Spec :=
  ⟨a.seqs ++ b.seqs, a.strands ++ b.strands, a.structs ++ b.structs, a.equals ++ b.equals⟩

theorem resolveItems_eq_mapM (s : Pil.Spec) : ∀ items, Pil.resolveItems s items = items.mapM (Pil.resolveItem s)
  | [] => rfl
  | r :: rs => by rw [Pil.resolveItems, List.mapM_cons, resolveItems_eq_mapM s rs]

theorem specAppend_nil_left (b : Pil.Spec) : specAppend {} b = b := by
  simp [specAppend]

theorem specAppend_nil_right (a : Pil.Spec) : specAppend a {} = a := by
  simp [specAppend]

theorem specAppend_assoc (a b c : Pil.Spec) : specAppend (specAppend a b) c = specAppend a (specAppend b c) := by
  simp [specAppend, List.append_assoc]

theorem specAppend_seq (s : Pil.Spec) (o : Pil.SeqObj) :
    specAppend s ⟨[o], [], [], []⟩ = { s with seqs := s.seqs ++ [o] } := by
  simp [specAppend]

theorem specAppend_strand (s : Pil.Spec) (o : Pil.StrandObj) :
    specAppend s ⟨[], [o], [], []⟩ = { s with strands := s.strands ++ [o] } := by
  simp [specAppend]

theorem specAppend_struct (s : Pil.Spec) (o : Pil.StructObj) :
    specAppend s ⟨[], [], [o], []⟩ = { s with structs := s.structs ++ [o] } := by
  simp [specAppend]

theorem specAppend_equal (s : Pil.Spec) (its : List Pil.ItemRef) :
    specAppend s ⟨[], [], [], [its]⟩ = { s with equals := s.equals ++ [its] } := by
  simp [specAppend]

theorem findSeq_append_left {a : Pil.Spec} {n : String} (b : Pil.Spec) (h : (a.findSeq n).isSome = true) :
    (specAppend a b).findSeq n = a.findSeq n := by
  obtain ⟨o, ho⟩ := Option.isSome_iff_exists.1 h
  exact (find?_append_of_some ho _).trans ho.symm

theorem findSeq_append_right {a : Pil.Spec} {n : String} (b : Pil.Spec) (h : a.findSeq n = none) :
    (specAppend a b).findSeq n = b.findSeq n :=
  find?_append_of_none h _

theorem findStrand_append_right {a : Pil.Spec} {n : String} (b : Pil.Spec) (h : a.findStrand n = none) :
    (specAppend a b).findStrand n = b.findStrand n := by
  simp only [Pil.Spec.findStrand, specAppend, List.find?_append] at h ⊢
  rw [h]; rfl

end Pepper.SysProofs

/-! ### `get_seqs`: an item name is looked up without its trailing `*` -/
namespace Pepper.WellFormed

def stripStar (raw : String) : String :=
  match raw.toList.reverse with
  | '*' :: r => String.ofList r.reverse
  | _ => raw

def hasStar (raw : String) : Bool := raw.toList.reverse.head? == some '*'

/-- the split of a trailing `*` that `get_seqs` makes, in terms of `stripStar` and `hasStar` -/
theorem splitStar_eq (raw : String) :
    (match raw.toList.reverse with
      | '*' :: r => (String.ofList r.reverse, true)
      | _ => (raw, false)) = (stripStar raw, hasStar raw) := by
  unfold stripStar hasStar
  generalize raw.toList.reverse = l
  cases l with
  | nil => rfl
  | cons c r =>
    by_cases hc : c = '*'
    · subst hc; rfl
    · have h2 : ((c :: r).head? == some '*') = false := by simpa using hc
      have hne : ∀ r', c :: r ≠ '*' :: r' := fun r' heq => hc (List.cons.inj heq).1
      rw [h2]
      split
      · exact absurd ‹_› (hne _)
      · rfl

theorem resolveItem_eq (s : Pil.Spec) (raw : String) :
    Pil.resolveItem s raw = match s.findSeq (stripStar raw) with
      | some o => .ok (⟨stripStar raw, hasStar raw⟩, o)
      | none => .error .undefinedSeq :=
  congrArg (fun nr : String × Bool => match s.findSeq nr.1 with
    | some o => (Except.ok (⟨nr.1, nr.2⟩, o) : Except Pil.Err (Pil.ItemRef × Pil.SeqObj))
    | none => .error .undefinedSeq) (splitStar_eq raw)

theorem resolveItem_strip (s : Pil.Spec) (raw : String) {x : Pil.ItemRef × Pil.SeqObj}
    (h : Pil.resolveItem s raw = .ok x) : s.findSeq (stripStar raw) = some x.2 ∧ x.1.name = stripStar raw := by
  rw [resolveItem_eq] at h
  cases hf : s.findSeq (stripStar raw) with
  | none => rw [hf] at h; cases h
  | some o =>
    rw [hf] at h
    simp only [Except.ok.injEq] at h
    subst h
    exact ⟨rfl, rfl⟩

theorem resolveItems_mem {s : Pil.Spec} {items : List String} {R : List (Pil.ItemRef × Pil.SeqObj)}
    (h : Pil.resolveItems s items = .ok R) {x : Pil.ItemRef × Pil.SeqObj} (hx : x ∈ R) :
    ∃ r ∈ items, x.1.name = stripStar r ∧ s.findSeq x.1.name = some x.2 := by
  obtain ⟨r, hr, hx⟩ := mapM_mem (SysProofs.resolveItems_eq_mapM s items ▸ h) x hx
  obtain ⟨h1, h2⟩ := resolveItem_strip s r hx
  exact ⟨r, hr, h2, h2 ▸ h1⟩

theorem resolveItems_find {s : Pil.Spec} {items : List String} {R : List (Pil.ItemRef × Pil.SeqObj)}
    (h : Pil.resolveItems s items = .ok R) : ∀ p ∈ R, s.findSeq p.1.name = some p.2 :=
  fun _ hp => let ⟨_, _, _, hf⟩ := resolveItems_mem h hp; hf

theorem resolveItems_defined {s : Pil.Spec} {items : List String} {R : List (Pil.ItemRef × Pil.SeqObj)}
    (h : Pil.resolveItems s items = .ok R) {r : String} (hr : r ∈ items) : (s.findSeq (stripStar r)).isSome = true := by
  obtain ⟨x, _, hx⟩ := mapM_ok_mem (SysProofs.resolveItems_eq_mapM s items ▸ h) r hr
  rw [(resolveItem_strip s r hx).1]; rfl

theorem resolveItems_congr {s1 s2 : Pil.Spec} {items : List String}
    (h : ∀ r ∈ items, s1.findSeq (stripStar r) = s2.findSeq (stripStar r)) :
    Pil.resolveItems s1 items = Pil.resolveItems s2 items := by
  rw [SysProofs.resolveItems_eq_mapM, SysProofs.resolveItems_eq_mapM]
  exact mapM_congr (fun r hr => by rw [resolveItem_eq, resolveItem_eq, h r hr])

end Pepper.WellFormed

namespace Pepper.Pil
open Pepper.SysProofs

theorem splitPlus_eq : ∀ s, splitPlus s = s.splitOn '+' :=
  eq_splitOn rfl fun d r a b e => by rw [splitPlus, e]

/-- `st` passes the checks of `Spec.add` on top of `s`, and `δ` holds the one object it appends.  `δ` depends on `s`
    only through the items and strands the statement names. -/
inductive Adds (tbl : CodeTable) (s : Spec) : Stmt → Spec → Prop
  | seq {n : String} {tpl : List Char} (free : s.findSeq n = none) (codes : tpl.all tbl.isCode = true) :
      Adds tbl s (.seq n tpl) ⟨[⟨n, false, tpl.length, tpl, [], [⟨n, false, tpl.length⟩]⟩], [], [], []⟩
  | sup {n : String} {items : List String} {its : List (ItemRef × SeqObj)} (free : s.findSeq n = none)
      (resolved : resolveItems s items = .ok its) :
      Adds tbl s (.sup n items) ⟨[⟨n, true, (its.map (fun (_, o) => o.len)).sum, [], its.map (·.1),
        its.flatMap (fun (i, o) => basesOfView o i.rev)⟩], [], [], []⟩
  | strand {n : String} {dummy : Bool} {items : List String} {its : List (ItemRef × SeqObj)}
      (free : s.findStrand n = none) (resolved : resolveItems s items = .ok its) :
      Adds tbl s (.strand n dummy items) ⟨[], [⟨n, dummy, (its.map (fun (_, o) => o.len)).sum, its.map (·.1),
        its.flatMap (fun (i, o) => basesOfView o i.rev)⟩], [], []⟩
  | struct {n : String} {params : Option String} {strands : List String} {x : List Char} {objs : List StrandObj}
      {bonds : List (Nat × Nat)} (free : s.structs.find? (·.name == n) = none)
      (found : strands.mapM (m := Except Err) (fun sn => match s.findStrand sn with
        | some o => pure o | none => throw Err.undefinedStrand) = .ok objs)
      (chars : x.all (fun c => c == '.' || c == '(' || c == ')' || c == '+') = true)
      (paired : getBonds x = .ok bonds) (count : (splitPlus x).length = objs.length)
      (lens : (objs.zip (splitPlus x)).all (fun p => p.1.len == p.2.length) = true) :
      Adds tbl s (.struct n params strands x)
        ⟨[], [], [⟨n, params, strands, x, (objs.map (·.len)).sum, bonds⟩], []⟩
  | equal {items : List String} {p : ItemRef × SeqObj} {its : List (ItemRef × SeqObj)}
      (resolved : resolveItems s items = .ok (p :: its))
      (lens : (p :: its).all (fun q => q.2.len == p.2.len) = true) :
      Adds tbl s (.equal items) ⟨[], [], [], [(p :: its).map (·.1)]⟩
  | kinetic : Adds tbl s .kinetic {}

theorem add_eq_ok {tbl : CodeTable} {s s' : Spec} {st : Stmt} :
    s.add tbl st = .ok s' ↔ ∃ δ, s' = specAppend s δ ∧ Adds tbl s st δ := by
  constructor
  · intro h
    cases st with
    | seq n tpl =>
      simp only [Spec.add, ite_error_eq_ok, Except.ok.injEq] at h
      obtain ⟨free, codes, rfl⟩ := h
      exact ⟨_, (specAppend_seq s _).symm, .seq (by simpa using free) (by simpa using codes)⟩
    | sup n items =>
      simp only [Spec.add, ↓guard_eq_ok, bind_eq_ok, pure_eq_ok] at h
      obtain ⟨free, its, resolved, rfl⟩ := h
      exact ⟨_, (specAppend_seq s _).symm, .sup (by simpa using free) resolved⟩
    | strand n dummy items =>
      simp only [Spec.add, ↓guard_eq_ok, bind_eq_ok, pure_eq_ok] at h
      obtain ⟨free, its, resolved, rfl⟩ := h
      exact ⟨_, (specAppend_strand s _).symm, .strand (by simpa using free) resolved⟩
    | struct n params strands x =>
      simp only [Spec.add, ↓guard_eq_ok, bind_eq_ok, pure_eq_ok] at h
      obtain ⟨free, objs, found, chars, bonds, paired, count, lens, rfl⟩ := h
      exact ⟨_, (specAppend_struct s _).symm, .struct (by simpa using free) found
        (by simpa only [Bool.not_eq_true', Bool.not_eq_false] using chars) paired (by simpa using count)
        (by simpa using lens)⟩
    | equal items =>
      simp only [Spec.add, bind_eq_ok] at h
      obtain ⟨its, resolved, h⟩ := h
      cases its with
      | nil => cases h
      | cons p its =>
        simp only [↓guard_eq_ok, pure_eq_ok] at h
        obtain ⟨lens, rfl⟩ := h
        exact ⟨_, (specAppend_equal s _).symm, .equal resolved (by simpa using lens)⟩
    | kinetic =>
      cases h
      exact ⟨_, (specAppend_nil_right s).symm, .kinetic⟩
  · rintro ⟨δ, rfl, hδ⟩
    cases hδ with
    | seq free codes =>
      simp only [Spec.add, ite_error_eq_ok, Except.ok.injEq]
      exact ⟨by simp [free], by simp [codes], (specAppend_seq s _).symm⟩
    | sup free resolved =>
      simp only [Spec.add, ↓guard_eq_ok, bind_eq_ok, pure_eq_ok]
      exact ⟨by simp [free], _, resolved, (specAppend_seq s _).symm⟩
    | strand free resolved =>
      simp only [Spec.add, ↓guard_eq_ok, bind_eq_ok, pure_eq_ok]
      exact ⟨by simp [free], _, resolved, (specAppend_strand s _).symm⟩
    | struct free found chars paired count lens =>
      simp only [Spec.add, ↓guard_eq_ok, bind_eq_ok, pure_eq_ok]
      exact ⟨by simp [free], _, found, by simp [chars], _, paired, by simp [count], by simpa using lens,
        (specAppend_struct s _).symm⟩
    | equal resolved lens =>
      simp only [Spec.add, bind_eq_ok]
      refine ⟨_, resolved, ?_⟩
      simp only [↓guard_eq_ok, pure_eq_ok]
      exact ⟨by simpa using lens, (specAppend_equal s _).symm⟩
    | kinetic => exact congrArg Except.ok (specAppend_nil_right s).symm

/-- the length check of `add_structure`, read as an equation -/
theorem lens_of_zip (objs : List StrandObj) (subs : List (List Char)) (hl : subs.length = objs.length)
    (h : (List.zip objs subs).all (fun x => x.1.len == x.2.length) = true) : subs.map List.length = objs.map (·.len) :=
  ((zip_all_beq_iff StrandObj.len List.length objs subs).1 ⟨hl.symm, h⟩).symm

theorem load_cons_inv {tbl : CodeTable} {x : Stmt} {r : List Stmt} {s s' : Spec}
    (h : load tbl (x :: r) s = .ok s') : ∃ sa, s.add tbl x = .ok sa ∧ load tbl r sa = .ok s' := by
  rw [load] at h
  cases ha : s.add tbl x with
  | error e => rw [ha] at h; cases h
  | ok sa => rw [ha] at h; exact ⟨sa, rfl, h⟩

theorem load_append (tbl : CodeTable) (a b : List Stmt) (s : Spec) :
    load tbl (a ++ b) s = load tbl a s >>= load tbl b := by
  induction a generalizing s with
  | nil => rfl
  | cons x r ih =>
    rw [List.cons_append, load, load]
    cases s.add tbl x with
    | error e => rfl
    | ok sa => exact ih sa

/-- loading one statement per element of `l`: `g pre` is the specification after the elements `pre`; each element is
    looked at where it stands (`l = pre ++ e :: post`) -/
theorem load_map {α} (tbl : CodeTable) (stmt : α → Stmt) (g : List α → Spec) (l : List α) {s0 : Spec} (h0 : g [] = s0)
    (h : ∀ pre e post, l = pre ++ e :: post →
      ∃ δ, g (pre ++ [e]) = SysProofs.specAppend (g pre) δ ∧ Adds tbl (g pre) (stmt e) δ) :
    load tbl (l.map stmt) s0 = .ok (g l) := by
  subst h0
  suffices ∀ post pre, l = pre ++ post → load tbl (post.map stmt) (g pre) = .ok (g l) from this l [] rfl
  intro post
  induction post with
  | nil => intro pre hl; rw [hl, List.append_nil]; rfl
  | cons e r ih =>
    intro pre hl
    obtain ⟨δ, hg, hδ⟩ := h pre e r hl
    rw [List.map_cons, load, add_eq_ok.2 ⟨δ, rfl, hδ⟩, ← hg]
    exact ih (pre ++ [e]) (by rw [hl, List.append_assoc]; rfl)

theorem load_invariant {tbl : CodeTable} (P : Spec → Prop) : ∀ (stmts : List Stmt) {s s' : Spec},
    (∀ s st s', st ∈ stmts → P s → s.add tbl st = .ok s' → P s') → P s → load tbl stmts s = .ok s' → P s'
  | [], _, _, _, hs, h => by cases h; exact hs
  | st :: r, s, _, step, hs, h => by
    obtain ⟨sa, ha, h⟩ := load_cons_inv h
    exact load_invariant P r (fun s x s' hx => step s x s' (List.mem_cons_of_mem _ hx))
      (step s st sa List.mem_cons_self hs ha) h


open Pepper.WellFormed in
/-- the lookups `Spec.add` makes for a statement have the same answers in `s'` as in `s`: the declared name in the table
    of its kind, the item names (without `*`) among the sequences, the strands of a structure among the strands -/
def ReadsSame (s' s : Spec) : Stmt → Prop
  | .seq n _ => s'.findSeq n = s.findSeq n
  | .sup n items => s'.findSeq n = s.findSeq n ∧ ∀ r ∈ items, s'.findSeq (stripStar r) = s.findSeq (stripStar r)
  | .strand n _ items =>
    s'.findStrand n = s.findStrand n ∧ ∀ r ∈ items, s'.findSeq (stripStar r) = s.findSeq (stripStar r)
  | .struct n _ ss _ =>
    s'.structs.find? (·.name == n) = s.structs.find? (·.name == n) ∧ ∀ sn ∈ ss, s'.findStrand sn = s.findStrand sn
  | .equal items => ∀ r ∈ items, s'.findSeq (stripStar r) = s.findSeq (stripStar r)
  | .kinetic => True

open Pepper.WellFormed in
/-- **`Adds` reads the specification only through the names of the statement.**  Both frame lemmas are this with the
    lookups shown equal: `SysProofs.add_frame` (no name of the statement occurs in `s0`) and `load_frame_nodup` below
    (`Apart`: what resolves in `s` does not occur in `s0`) -/
theorem Adds.congr {tbl : CodeTable} {s s' δ : Spec} {st : Stmt} (h : Adds tbl s st δ) (hr : ReadsSame s' s st) :
    Adds tbl s' st δ := by
  cases h with
  | seq free codes => exact .seq (Eq.trans hr free) codes
  | sup free resolved => exact .sup (hr.1.trans free) ((resolveItems_congr hr.2).trans resolved)
  | strand free resolved => exact .strand (hr.1.trans free) ((resolveItems_congr hr.2).trans resolved)
  | struct free found chars paired count lens =>
    exact .struct (hr.1.trans free) ((mapM_congr (fun n hm => by rw [hr.2 n hm])).trans found) chars paired count lens
  | equal resolved lens => exact .equal ((resolveItems_congr hr).trans resolved) lens
  | kinetic => exact .kinetic


/-- a structure statement is accepted under a new name only (`dupStruct`) -/
theorem Adds.structNames {tbl : CodeTable} {s δ : Spec} {st : Stmt} (h : Adds tbl s st δ)
    (hn : (s.structs.map (·.name)).Nodup) : ((s.structs ++ δ.structs).map (·.name)).Nodup := by
  cases h with
  | seq | sup | strand | equal | kinetic => simpa using hn
  | @struct n _ _ _ _ _ free =>
    rw [List.map_append, List.nodup_append]
    refine ⟨hn, by simp, ?_⟩
    intro a ha b hb hab
    obtain ⟨o, ho, rfl⟩ := List.mem_map.1 ha
    cases List.mem_singleton.1 hb
    exact List.find?_eq_none.1 free o ho (by simpa using hab)

theorem load_append_inv {tbl : CodeTable} (xs ys : List Stmt) (s0 s2 : Spec)
    (h : Pil.load tbl (xs ++ ys) s0 = .ok s2) : ∃ s1, Pil.load tbl xs s0 = .ok s1 ∧ Pil.load tbl ys s1 = .ok s2 :=
  bind_eq_ok.1 (load_append tbl xs ys s0 ▸ h)

theorem load_extends {tbl : CodeTable} (ys : List Stmt) (s s' : Spec) (h : Pil.load tbl ys s = .ok s') :
    ∃ d, s' = specAppend s d := by
  refine load_invariant (fun t => ∃ d, t = specAppend s d) ys ?_ ⟨{}, (specAppend_nil_right s).symm⟩ h
  rintro _ _ _ _ ⟨d, rfl⟩ ha
  obtain ⟨δ, rfl, _⟩ := add_eq_ok.1 ha
  exact ⟨specAppend d δ, specAppend_assoc _ _ _⟩

theorem load_structNames_nodup {tbl : CodeTable} (ys : List Stmt) (s0 s1 : Spec) (h : Pil.load tbl ys s0 = .ok s1)
    (hn : (s0.structs.map (·.name)).Nodup) : (s1.structs.map (·.name)).Nodup := by
  refine load_invariant (fun t => (t.structs.map (·.name)).Nodup) ys ?_ hn h
  intro _ _ _ _ hn ha
  obtain ⟨δ, rfl, hδ⟩ := add_eq_ok.1 ha
  exact hδ.structNames hn

end Pepper.Pil

/-! ### FRAME under global uniqueness -/

namespace Pepper.EndToEnd
open Pepper Pepper.Pil

structure Apart (s0 s : Spec) : Prop where
  seqs : ∀ n, (s.findSeq n).isSome = true → s0.findSeq n = none
  strands : ∀ n, (s.findStrand n).isSome = true → s0.findStrand n = none

end Pepper.EndToEnd

namespace Pepper.Pil
open Pepper.SysProofs Pepper.WellFormed Pepper.EndToEnd

theorem apart_of_nodup {s0 s : Spec} (h1 : ((specAppend s0 s).seqs.map (·.name)).Nodup)
    (h2 : ((specAppend s0 s).strands.map (·.name)).Nodup) : Apart s0 s :=
  ⟨fun _ hn => find?_none_of_nodup_append_of_isSome (fun o : SeqObj => o.name) h1 hn,
   fun _ hn => find?_none_of_nodup_append_of_isSome (fun o : StrandObj => o.name) h2 hn⟩

/-- where both runs accept the statement, they made the same lookups: a declared name is new in both, and what the
    statement refers to is found in `s`, hence (`Apart`) not in `s0` -/
theorem Adds.readsSame_of_apart {tbl : CodeTable} {s0 s δ δ' : Spec} {st : Stmt} (ha : Apart s0 s)
    (h : Adds tbl s st δ) (h' : Adds tbl (specAppend s0 s) st δ') : ReadsSame (specAppend s0 s) s st := by
  have items : ∀ {items R}, resolveItems s items = .ok R →
      ∀ r ∈ items, (specAppend s0 s).findSeq (stripStar r) = s.findSeq (stripStar r) :=
    fun hr _ hm => findSeq_append_right s (ha.seqs _ (resolveItems_defined hr hm))
  cases h with
  | seq free => cases h' with | seq free' => exact free'.trans free.symm
  | sup free hr => cases h' with | sup free' => exact ⟨free'.trans free.symm, items hr⟩
  | strand free hr => cases h' with | strand free' => exact ⟨free'.trans free.symm, items hr⟩
  | equal hr => exact items hr
  | kinetic => trivial
  | struct free found =>
    cases h' with
    | struct free' =>
      refine ⟨free'.trans free.symm, fun sn hsn => findStrand_append_right s (ha.strands sn ?_)⟩
      obtain ⟨b, _, hb⟩ := mapM_ok_mem found sn hsn
      cases hf : s.findStrand sn with
      | none => rw [hf] at hb; cases hb
      | some o => rfl

/-- **FRAME under global uniqueness**: statements that load alone (from `s` to `s'`) and on top of `s0`, where the
    result has no two sequences and no two strands of one name, add to `s0` exactly what they add alone -/
theorem load_frame_nodup (tbl : CodeTable) {s0 : Spec} : ∀ (ys : List Stmt) (s s' s1 : Spec),
    Pil.load tbl ys s = .ok s' → Pil.load tbl ys (specAppend s0 s) = .ok s1 →
    (s1.seqs.map (·.name)).Nodup → (s1.strands.map (·.name)).Nodup → s1 = specAppend s0 s' := by
  intro ys
  induction ys with
  | nil =>
    intro s s' s1 h h' _ _
    cases h
    cases h'
    rfl
  | cons st r ih =>
    intro s s' s1 h h' n1 n2
    obtain ⟨sa, h1, h⟩ := load_cons_inv h
    obtain ⟨t, h2, h'⟩ := load_cons_inv h'
    obtain ⟨δ, rfl, hδ⟩ := add_eq_ok.1 h1
    obtain ⟨δ', rfl, hδ'⟩ := add_eq_ok.1 h2
    obtain ⟨d, rfl⟩ := load_extends r _ s1 h'
    have hap : Apart s0 s := apart_of_nodup (nodup_map_of_append_left (nodup_map_of_append_left n1))
      (nodup_map_of_append_left (nodup_map_of_append_left n2))
    rw [← Except.ok.inj ((add_eq_ok.2 ⟨δ, rfl, hδ.congr (hδ.readsSame_of_apart hap hδ')⟩).symm.trans h2),
      specAppend_assoc s0 s δ] at h' n1 n2 ⊢
    exact ih _ s' _ h h' n1 n2

end Pepper.Pil
