import PepperModel.Ssm
import PepperProofs.Codes
import PepperProofs.Basic
/-!
# Proofs about the spuriousSSM model (`PepperModel/Ssm.lean`)

The contract is used in the form `ContractF`: `eq` and `wc` read as partial functions `eqI`, `wcI` from a position
to the 0-based representative of its class / of the complementary class (`none` at a blank / without partner), and
the clauses of `Contract` as laws of these two functions.  Both `constrain` and
`mutate` are shown to compute `canon`, the value a position gets from the values at the free locations;
`canon_good` shows once that these values obey every constraint.  The search loop: invariant, final self-check,
iteration bounds.

The input contract has four forms: `Contract t` (model: a `Prop`, read through `Contract.eqLen` … `Contract.wc`);
`contractB t` (its `decide`: the hypothesis of the C19 theorems); `ContractF t` (here: the same clauses as laws of
`eqI` / `wcI`, what the proofs use, `Contract.toF`); `SsmChecked.Bounds t` (array lengths and value ranges only: all
that memory safety needs, `Bounds.of_contract`).
-/
namespace Pepper.Ssm
open Pepper

theorem foldl_range_inv {σ : Type} (Inv : Nat → σ → Prop) (stp : σ → Nat → σ) (n : Nat) (s0 : σ)
    (h0 : Inv 0 s0) (hs : ∀ k s, k < n → Inv k s → Inv (k + 1) (stp s k)) :
    Inv n ((List.range n).foldl stp s0) := by
  induction n with
  | zero => simpa using h0
  | succ n ih =>
    rw [List.range_succ, List.foldl_append]
    simp only [List.foldl_cons, List.foldl_nil]
    exact hs n _ (Nat.lt_succ_self n) (ih (fun k s hk => hs k s (Nat.lt_succ_of_lt hk)))

/-- a `calloc`ed array (`marked`, `freeloc`) read with its fill value as default -/
theorem getD_replicate {α : Type} (n : Nat) (d : α) (k : Nat) : (List.replicate n d).getD k d = d := by
  rw [List.getD_eq_getElem?_getD, List.getElem?_replicate]
  split <;> rfl

theorem assignLoop_length {α : Type} (d : α) (p : Nat → Bool) (src : Nat) (f : α → α) (js : List Nat)
    (L : List α) : (assignLoop d p src f js L).length = L.length := by
  induction js generalizing L with
  | nil => rfl
  | cons j js ih =>
    simp only [assignLoop]
    rw [ih]
    split <;> simp

/-- `for j in js: if (p j) L[j] = f(L[src])`, every `j` inside `L`; re-reading `L[src]` must yield the same
    `f`-value: `f` is idempotent or `src` is never written -/
theorem assignLoop_getD {α : Type} (d : α) (p : Nat → Bool) (src : Nat) (f : α → α) (js : List Nat)
    (L : List α) (hjs : ∀ j ∈ js, j < L.length)
    (h : (∀ x, f (f x) = f x) ∨ (∀ j ∈ js, p j = true → j ≠ src)) (k : Nat) :
    (assignLoop d p src f js L).getD k d = if k ∈ js ∧ p k = true then f (L.getD src d) else L.getD k d := by
  induction js generalizing L with
  | nil => simp [assignLoop]
  | cons j js ih =>
    have hj := hjs j List.mem_cons_self
    have hjs' : ∀ j' ∈ js, j' < L.length := fun j' hj' => hjs j' (List.mem_cons_of_mem _ hj')
    have h' : (∀ x, f (f x) = f x) ∨ (∀ j' ∈ js, p j' = true → j' ≠ src) :=
      h.imp_right (fun h j' hj' => h j' (List.mem_cons_of_mem _ hj'))
    rw [assignLoop]
    simp only [List.mem_cons]
    by_cases hp : p j = true
    · rw [if_pos hp, ih _ (by simpa using hjs') h']
      have hsrc : f ((L.set j (f (L.getD src d))).getD src d) = f (L.getD src d) := by
        rw [getD_set]
        split
        · next hc => exact h.elim (fun h => h _) (fun h => absurd hc.1 (h j List.mem_cons_self hp))
        · rfl
      rw [hsrc, getD_set]
      by_cases hk : k = j
      · subst hk; simp [hp, hj]
      · simp [hk, Ne.symm hk]
    · rw [if_neg hp, ih _ hjs' h']
      by_cases hk : k = j
      · subst hk; simp [hp]
      · simp [hk]

theorem group_facts : ∀ p ∈ Generated.dnaTable.group, ∀ b ∈ p.2,
    hasSub2 p.1 b Generated.cDegenerates = true ∧ isFixed b = true ∧ WC (WC b) = b ∧
    memCode (WC b) (WC p.1) = true ∧ b ≠ ' ' := by decide +kernel

theorem code_facts : ∀ p ∈ Generated.dnaTable.group,
    WC (WC p.1) = p.1 ∧ p.1 ≠ ' ' ∧ (assoc Generated.cRandbase p.1).isSome = true := by decide +kernel

theorem choices_facts : ∀ p ∈ Generated.cRandbase, ∀ b ∈ p.2, memCode b p.1 = true := by decide +kernel

theorem memCode_unpack {b c : Char} (h : memCode b c = true) :
    ∃ g, (c, g) ∈ Generated.dnaTable.group ∧ b ∈ g := by
  unfold memCode at h
  split at h
  · rename_i g hg
    exact ⟨g, CodeTable.groupOf_mem hg, by simpa using h⟩
  · cases h

theorem isCode_unpack {c : Char} (h : isCode c = true) : ∃ g, (c, g) ∈ Generated.dnaTable.group := by
  obtain ⟨g, hg⟩ := CodeTable.isCode_iff.1 h
  exact ⟨g, CodeTable.groupOf_mem hg⟩

theorem memCode_isCode {b c : Char} (h : memCode b c = true) : isCode c = true := by
  unfold memCode at h
  split at h
  · rename_i g hg
    exact CodeTable.isCode_iff.2 ⟨g, hg⟩
  · cases h

theorem WC_WC_base {b c : Char} (h : memCode b c = true) : WC (WC b) = b := by
  obtain ⟨g, hg, hb⟩ := memCode_unpack h
  exact (group_facts (c, g) hg b hb).2.2.1

theorem memCode_WC {b c : Char} (h : memCode b c = true) : memCode (WC b) (WC c) = true := by
  obtain ⟨g, hg, hb⟩ := memCode_unpack h
  exact (group_facts (c, g) hg b hb).2.2.2.1

theorem memCode_ne_blank {b c : Char} (h : memCode b c = true) : b ≠ ' ' := by
  obtain ⟨g, hg, hb⟩ := memCode_unpack h
  exact (group_facts (c, g) hg b hb).2.2.2.2

theorem memCode_isFixed {b c : Char} (h : memCode b c = true) : isFixed b = true := by
  obtain ⟨g, hg, hb⟩ := memCode_unpack h
  exact (group_facts (c, g) hg b hb).2.1

theorem memCode_hasSub2 {b c : Char} (h : memCode b c = true) :
    hasSub2 c b Generated.cDegenerates = true := by
  obtain ⟨g, hg, hb⟩ := memCode_unpack h
  exact (group_facts (c, g) hg b hb).1

theorem WC_WC_code {c : Char} (h : isCode c = true) : WC (WC c) = c := by
  obtain ⟨g, hg⟩ := isCode_unpack h
  exact (code_facts (c, g) hg).1

theorem isCode_ne_blank {c : Char} (h : isCode c = true) : c ≠ ' ' := by
  obtain ⟨g, hg⟩ := isCode_unpack h
  exact (code_facts (c, g) hg).2.1

theorem choices_memCode {b c : Char} (hc : isCode c = true) (h : b ∈ choices c) : memCode b c = true := by
  unfold choices at h
  split at h
  · rename_i l hl
    exact choices_facts (c, l) (assoc_mem hl) b h
  · rename_i hn
    obtain ⟨g, hg⟩ := isCode_unpack hc
    have := (code_facts (c, g) hg).2.2
    rw [hn] at this
    cases this

/-- representative of the class of `j` (0-based), `none` at a blank -/
def eqI (t : Triple) (j : Nat) : Option Nat := if t.eqAt j = 0 then none else some (t.eqAt j - 1)
/-- representative of the complementary class (0-based) or `none` -/
def wcI (t : Triple) (j : Nat) : Option Nat := if t.wcAt j = -1 then none else some (t.wcIx j)

theorem eqAt_of_le {t : Triple} {j : Nat} (h : t.eq.length ≤ j) : t.eqAt j = 0 := getD_of_length_le h
theorem wcAt_of_le {t : Triple} {j : Nat} (h : t.wc.length ≤ j) : t.wcAt j = -1 := getD_of_length_le h

structure ContractF (t : Triple) : Prop where
  eqLt    : ∀ j r, eqI t j = some r → j < t.N
  eqRep   : ∀ j r, eqI t j = some r → eqI t r = some r ∧ r ≤ j
  wcClass : ∀ j r, eqI t j = some r → wcI t j = wcI t r
  wcRep   : ∀ j w, wcI t j = some w → eqI t w = some w ∧ ∃ r, eqI t j = some r ∧ wcI t w = some r
  notSelf : ∀ j w, wcI t j = some w → eqI t j ≠ some w
  stEq    : ∀ j r, eqI t j = some r → t.stAt j = t.stAt r
  stWc    : ∀ j w, wcI t j = some w → t.stAt j = WC (t.stAt w)
  code    : ∀ j r, eqI t j = some r → isCode (t.stAt j) = true
  blank   : ∀ j, j < t.N → eqI t j = none → t.stAt j = ' ' ∧ wcI t j = none
  /-- the second loop test of the C, in terms of representatives (the first, `testEq`, holds of every triple) -/
  testWc  : ∀ j i, ((t.eqAt j : Int) == t.wcAt i) = true ↔ (wcI t i ≠ none ∧ eqI t j = wcI t i)

theorem eqI_some {t : Triple} {j r : Nat} : eqI t j = some r ↔ t.eqAt j = r + 1 := by
  unfold eqI
  cases t.eqAt j <;> simp

theorem testEq {t : Triple} (j i : Nat) : (t.eqAt j == t.eqAt i) = true ↔ eqI t j = eqI t i := by
  unfold eqI
  cases t.eqAt j <;> cases t.eqAt i <;> simp

theorem eqI_none {t : Triple} {j : Nat} : eqI t j = none ↔ t.eqAt j = 0 := by
  unfold eqI; split <;> simp_all

theorem wcI_none {t : Triple} {j : Nat} : wcI t j = none ↔ t.wcAt j = -1 := by
  unfold wcI; split <;> simp_all

theorem wcI_some {t : Triple} {j w : Nat} : wcI t j = some w ↔ t.wcAt j ≠ -1 ∧ t.wcIx j = w := by
  unfold wcI; split <;> simp_all

theorem wcAt_eq_succ {t : Triple} {j : Nat} (h : 1 ≤ t.wcAt j) : t.wcAt j = ((t.wcIx j + 1 : Nat) : Int) := by
  unfold Triple.wcIx; omega

theorem ContractEq.of_some {t : Triple} {j r : Nat} (c : ContractEq t j) (h : eqI t j = some r) :
    r ≤ j ∧ eqI t r = some r ∧ t.wcAt r = t.wcAt j ∧ t.stAt r = t.stAt j := by
  rw [eqI_some] at h
  obtain ⟨h1, h2, h3, h4⟩ := c (by rw [h]; exact Nat.succ_ne_zero r)
  simp only [h, Nat.add_sub_cancel] at h1 h2 h3 h4
  exact ⟨Nat.le_of_succ_le_succ h1, eqI_some.2 h2, h3, h4⟩

theorem ContractWc.of_some {t : Triple} {j w : Nat} (cb : ContractBlank t j) (c : ContractWc t j)
    (h : wcI t j = some w) :
    eqI t w = some w ∧ eqI t j = some (t.eqAt j - 1) ∧ wcI t w = some (t.eqAt j - 1) ∧ w + 1 ≠ t.eqAt j ∧
      t.stAt j = WC (t.stAt w) := by
  obtain ⟨hne, hw⟩ := wcI_some.1 h
  obtain ⟨h1, _, h3, h4, h5, h6⟩ := c hne
  have hx := wcAt_eq_succ h1
  rw [hw] at h4 h5 h6 hx
  have hnz : t.eqAt j ≠ 0 := fun h0 => hne (cb.2.2 h0)
  refine ⟨eqI_some.2 (Int.natCast_inj.1 (h4.trans hx)), eqI_some.2 (Nat.succ_pred_eq_of_ne_zero hnz).symm,
    wcI_some.2 ⟨by rw [h5]; omega, by unfold Triple.wcIx; rw [h5]; rfl⟩, fun e => h3 ?_, h6⟩
  rw [hx, e]

theorem Contract.pos {t : Triple} (c : Contract t) : 0 < t.N := c.1
theorem Contract.eqLen {t : Triple} (c : Contract t) : t.eq.length = t.N := c.2.1
theorem Contract.wcLen {t : Triple} (c : Contract t) : t.wc.length = t.N := c.2.2.1
theorem Contract.last {t : Triple} (c : Contract t) : t.stAt (t.N - 1) ≠ ' ' := c.2.2.2.1
theorem Contract.blank {t : Triple} (c : Contract t) {i : Nat} (hi : i < t.N) : ContractBlank t i := (c.2.2.2.2 i hi).1
theorem Contract.eq {t : Triple} (c : Contract t) {i : Nat} (hi : i < t.N) : ContractEq t i := (c.2.2.2.2 i hi).2.1
theorem Contract.wc {t : Triple} (c : Contract t) {i : Nat} (hi : i < t.N) : ContractWc t i := (c.2.2.2.2 i hi).2.2

theorem Contract.toF {t : Triple} (c : Contract t) : ContractF t := by
  have hle := c.eqLen
  have hlw := c.wcLen
  have eqlt : ∀ j r, eqI t j = some r → j < t.N := fun j r h =>
    Decidable.byContradiction fun hn => by
      rw [eqI_some, eqAt_of_le (by omega)] at h
      exact Nat.succ_ne_zero r h.symm
  have wclt : ∀ j, t.wcAt j ≠ -1 → j < t.N := fun j h =>
    Decidable.byContradiction fun hn => h (wcAt_of_le (by omega))
  have eqC := fun j r (h : eqI t j = some r) => (c.eq (eqlt j r h)).of_some h
  have wcC := fun j w (h : wcI t j = some w) =>
    have hj := wclt j (wcI_some.1 h).1
    ContractWc.of_some (c.blank hj) (c.wc hj) h
  exact {
    eqLt := eqlt
    eqRep := fun j r h => ⟨(eqC j r h).2.1, (eqC j r h).1⟩
    wcClass := fun j r h => by unfold wcI Triple.wcIx; rw [(eqC j r h).2.2.1]
    wcRep := fun j w h => ⟨(wcC j w h).1, _, (wcC j w h).2.1, (wcC j w h).2.2.1⟩
    notSelf := fun j w h he => (wcC j w h).2.2.2.1 (eqI_some.1 he).symm
    stEq := fun j r h => (eqC j r h).2.2.2.symm
    stWc := fun j w h => (wcC j w h).2.2.2.2
    code := fun j r h => by
      have hb := c.blank (eqlt j r h)
      refine hb.2.1 (fun hs => ?_)
      rw [eqI_some, hb.1.1 hs] at h
      exact Nat.succ_ne_zero r h.symm
    blank := fun j hj h => by
      have hb := c.blank hj
      exact ⟨hb.1.2 (eqI_none.1 h), wcI_none.2 (hb.2.2 (eqI_none.1 h))⟩
    testWc := fun j i => by
      rw [beq_iff_eq]
      by_cases hi : t.wcAt i = -1
      · rw [wcI_none.2 hi, hi]
        simp
      · obtain ⟨h1, _⟩ := c.wc (wclt i hi) hi
        rw [wcI_some.2 ⟨hi, rfl⟩, wcAt_eq_succ h1, Int.natCast_inj, eqI_some]
        simp }

def GoodFn (t : Triple) (F : Nat → Char) : Prop :=
  (∀ j, j < t.N → eqI t j = none → F j = ' ') ∧
  (∀ j r, eqI t j = some r → F j = F r ∧ memCode (F j) (t.stAt j) = true) ∧
  (∀ j w, wcI t j = some w → F j = WC (F w))

/-- `isClassRep` in terms of representatives (`freeF_of_isClassRep`, `isClassRep_of_freeF`): lowest of its class and
    below its partner class.  A free location of `main` is also not a fixed base (`!isFixed`); nothing here needs that -/
def FreeF (t : Triple) (i : Nat) : Prop :=
  eqI t i = some i ∧ (wcI t i = none ∨ ∃ w, wcI t i = some w ∧ i < w)

theorem free_lt_partner {t : Triple} {i w : Nat} (f : FreeF t i) (hw : wcI t i = some w) : i < w := by
  rcases f.2 with hn | ⟨w', hw', h⟩
  · rw [hn] at hw; cases hw
  · rw [hw'] at hw; injection hw with e; omega

/-- the value `constrain` and `mutate` leave at `j`, from the values `F` they start from: `F` of the lowest
    position of its class or, if the partner class starts lower, the complement of that one's -/
def canon (t : Triple) (F : Nat → Char) (j : Nat) : Char :=
  match eqI t j with
  | none => ' '
  | some r =>
    match wcI t r with
    | none => F r
    | some w => if r < w then F r else WC (F w)

theorem canon_of_rep {t : Triple} (c : ContractF t) (F : Nat → Char) {j r : Nat} (h : eqI t j = some r) :
    canon t F j = canon t F r := by
  simp only [canon, h, (c.eqRep j r h).1]

theorem canon_free {t : Triple} (F : Nat → Char) {i x : Nat} (f : FreeF t i) (hx : eqI t x = some i) :
    canon t F x = F i := by
  rcases f.2 with h | ⟨w, h, hlt⟩
  · simp only [canon, hx, h]
  · simp only [canon, hx, h, if_pos hlt]

theorem wcI_symm {t : Triple} (c : ContractF t) {i w : Nat} (hi : eqI t i = some i) (hw : wcI t i = some w) :
    wcI t w = some i := by
  obtain ⟨_, r, hir, hwr⟩ := c.wcRep i w hw
  rw [hi] at hir
  injection hir with e
  rw [e]
  exact hwr

theorem canon_partner {t : Triple} (c : ContractF t) (F : Nat → Char) {i w x : Nat} (f : FreeF t i)
    (hw : wcI t i = some w) (hx : eqI t x = some w) : canon t F x = WC (F i) := by
  simp only [canon, hx, wcI_symm c f.1 hw, if_neg (Nat.lt_asymm (free_lt_partner f hw))]

/-- the free location whose round of `constrain` writes the non-blank position `j` -/
def root (t : Triple) (j : Nat) : Nat :=
  match eqI t j with
  | none => j
  | some r =>
    match wcI t r with
    | none => r
    | some w => if r < w then r else w

theorem root_spec {t : Triple} (c : ContractF t) {j r : Nat} (h : eqI t j = some r) :
    FreeF t (root t j) ∧ root t j ≤ j ∧ (eqI t j = some (root t j) ∨ wcI t (root t j) = eqI t j) := by
  obtain ⟨hr, hle⟩ := c.eqRep j r h
  cases hw : wcI t r with
  | none =>
    simp only [root, h, hw]
    exact ⟨⟨hr, Or.inl hw⟩, hle, Or.inl trivial⟩
  | some w =>
    by_cases hlt : r < w
    · simp only [root, h, hw, if_pos hlt]
      exact ⟨⟨hr, Or.inr ⟨w, hw, hlt⟩⟩, hle, Or.inl trivial⟩
    · have hne : w ≠ r := fun e => c.notSelf r w hw (e ▸ hr)
      have hwr := wcI_symm c hr hw
      simp only [root, h, hw, if_neg hlt]
      exact ⟨⟨(c.wcRep r w hw).1, Or.inr ⟨r, hwr, by omega⟩⟩, by omega, Or.inr hwr⟩

theorem root_of_class {t : Triple} {k x : Nat} (f : FreeF t k) (hx : eqI t x = some k) : root t x = k := by
  rcases f.2 with h | ⟨w, h, hlt⟩
  · simp only [root, hx, h]
  · simp only [root, hx, h, if_pos hlt]

theorem root_of_partner {t : Triple} (c : ContractF t) {k w x : Nat} (f : FreeF t k) (hw : wcI t k = some w)
    (hx : eqI t x = some w) : root t x = k := by
  simp only [root, hx, wcI_symm c f.1 hw, if_neg (Nat.lt_asymm (free_lt_partner f hw))]

theorem rep_cases {t : Triple} (c : ContractF t) {r : Nat} (hr : eqI t r = some r) :
    FreeF t r ∨ ∃ w, FreeF t w ∧ wcI t w = some r := by
  obtain ⟨f, _, h | h⟩ := root_spec c hr
  · rw [hr] at h
    exact Or.inl (Option.some.inj h ▸ f)
  · exact Or.inr ⟨_, f, h.trans hr⟩

/-- goodness is a fact about `canon`; `constrain` and `mutate` only have to be shown to compute it -/
theorem canon_good {t : Triple} (c : ContractF t) {F : Nat → Char}
    (start : ∀ i, FreeF t i → memCode (F i) (t.stAt i) = true) : GoodFn t (canon t F) := by
  refine ⟨fun j _ hn => by simp only [canon, hn], fun j r hjr => ?_, fun j w hjw => ?_⟩
  · have hr := (c.eqRep j r hjr).1
    refine ⟨canon_of_rep c F hjr, ?_⟩
    rw [c.stEq j r hjr]
    rcases rep_cases c hr with f | ⟨w, f, hw⟩
    · rw [canon_free F f hjr]; exact start r f
    · rw [canon_partner c F f hw hjr, ← WC_WC_code (c.code r r hr), ← c.stWc w r hw]
      exact memCode_WC (start w f)
  · obtain ⟨hwrep, r, hjr, hwr⟩ := c.wcRep j w hjw
    have hr := (c.eqRep j r hjr).1
    have hrw : wcI t r = some w := by rw [← c.wcClass j r hjr]; exact hjw
    rcases rep_cases c hr with f | ⟨w', f, hw'⟩
    · rw [canon_free F f hjr, canon_partner c F f hrw hwrep, WC_WC_base (start r f)]
    · have e : w = w' := Option.some.inj (hrw.symm.trans (wcI_symm c f.1 hw'))
      rw [e, canon_partner c F f hw' hjr, canon_free F f f.1]

theorem good_iff {t : Triple} (c : ContractF t) (S : Seq) :
    Good t S ↔ S.length = t.N ∧ GoodFn t (sAt S) := by
  constructor
  · rintro ⟨hl, h⟩
    refine ⟨hl, ?_, ?_, ?_⟩
    · intro j hj hn
      exact (h j hj).1.2 (c.blank j hj hn).1
    · intro j r hjr
      have hj := c.eqLt j r hjr
      have he := eqI_some.1 hjr
      obtain ⟨_, h2, h3, _⟩ := h j hj
      have := h3 (by omega)
      rw [show t.eqAt j - 1 = r by omega] at this
      exact ⟨this, h2 (isCode_ne_blank (c.code j r hjr))⟩
    · intro j w hjw
      obtain ⟨_, r, hjr, _⟩ := c.wcRep j w hjw
      have hj := c.eqLt j r hjr
      obtain ⟨hne, hw⟩ := wcI_some.1 hjw
      have := (h j hj).2.2.2 hne
      rw [hw] at this; exact this
  · rintro ⟨hl, g1, g2, g3⟩
    refine ⟨hl, fun i hi => ?_⟩
    cases he : eqI t i with
    | none =>
      have hb := c.blank i hi he
      have e0 := eqI_none.1 he
      have w0 := wcI_none.1 hb.2
      refine ⟨⟨fun _ => hb.1, fun _ => g1 i hi he⟩, fun h => absurd hb.1 h, fun h => absurd e0 h,
        fun h => absurd w0 h⟩
    | some r =>
      have hc := c.code i r he
      have hm := (g2 i r he).2
      refine ⟨⟨fun h => absurd h (memCode_ne_blank hm), fun h => absurd h (isCode_ne_blank hc)⟩,
        fun _ => hm, fun _ => ?_, fun hne => ?_⟩
      · have := eqI_some.1 he
        rw [show t.eqAt i - 1 = r by omega]
        exact (g2 i r he).1
      · exact g3 i (t.wcIx i) (wcI_some.2 ⟨hne, rfl⟩)

theorem freeF_of_isClassRep {t : Triple} {i : Nat} (h : isClassRep t i = true) : FreeF t i := by
  unfold isClassRep at h
  simp only [Bool.and_eq_true, Bool.or_eq_true, beq_iff_eq, decide_eq_true_eq] at h
  refine ⟨eqI_some.2 h.1, ?_⟩
  rcases h.2 with h2 | h2
  · refine Or.inr ⟨t.wcIx i, wcI_some.2 ⟨by omega, rfl⟩, ?_⟩
    unfold Triple.wcIx; omega
  · exact Or.inl (wcI_none.2 h2)

theorem isClassRep_of_freeF {t : Triple} {i : Nat} (f : FreeF t i) : isClassRep t i = true := by
  unfold isClassRep
  simp only [Bool.and_eq_true, Bool.or_eq_true, beq_iff_eq, decide_eq_true_eq]
  refine ⟨eqI_some.1 f.1, ?_⟩
  rcases f.2 with h | ⟨w, hw, hiw⟩
  · exact Or.inr (wcI_none.1 h)
  · obtain ⟨hne, he⟩ := wcI_some.1 hw
    unfold Triple.wcIx at he
    left; omega

theorem mem_freeLocs {t : Triple} {i : Nat} :
    i ∈ freeLocs t ↔ i < t.N ∧ isClassRep t i = true ∧ isFixed (t.stAt i) = false := by
  unfold freeLocs
  simp [List.mem_filter, List.mem_range]

/-- the two loops of `constrain_single_fast` and of a round of `constrain`, over any positions `js` inside `L`: the
    second wins.  The first stores `g (L[i])` to `L[i]` itself (`g` idempotent), the second never stores there
    (`notSelf`), so that re-reading `L[i]` in every iteration yields the same value -/
theorem classLoops_getD {t : Triple} (c : ContractF t) {α : Type} (d : α) (g f : α → α) (hg : ∀ x, g (g x) = g x)
    (hfg : ∀ x, f (g x) = f x) (i : Nat) (js : List Nat) (L : List α) (hjs : ∀ j ∈ js, j < L.length) (k : Nat) :
    (assignLoop d (fun j => (t.eqAt j : Int) == t.wcAt i) i f js
        (assignLoop d (fun j => t.eqAt j == t.eqAt i) i g js L)).getD k d =
      if k ∈ js ∧ wcI t i ≠ none ∧ eqI t k = wcI t i then f (L.getD i d)
      else if k ∈ js ∧ eqI t k = eqI t i then g (L.getD i d) else L.getD k d := by
  have hns : ∀ j ∈ js, ((t.eqAt j : Int) == t.wcAt i) = true → j ≠ i := by
    intro j _ hp e
    subst e
    obtain ⟨hne, he⟩ := (c.testWc j j).1 hp
    cases hw : wcI t j with
    | none => exact hne hw
    | some w => exact c.notSelf j w hw (by rw [he, hw])
  rw [assignLoop_getD _ _ _ _ _ _ (by rw [assignLoop_length]; exact hjs) (Or.inr hns),
    assignLoop_getD _ _ _ _ _ _ hjs (Or.inl hg), assignLoop_getD _ _ _ _ _ _ hjs (Or.inl hg)]
  have : ∀ (b : Prop) [Decidable b], f (if b then g (L.getD i d) else L.getD i d) = f (L.getD i d) := by
    intro b _
    split
    · exact hfg _
    · rfl
  rw [this]
  simp only [c.testWc, testEq]

theorem sAt_constrainSingleFast {t : Triple} (c : ContractF t) {S : Seq} (hl : S.length = t.N) (i k : Nat) :
    sAt (constrainSingleFast t S i) k =
      if (i < k ∧ k < t.N) ∧ wcI t i ≠ none ∧ eqI t k = wcI t i then WC (sAt S i)
      else if (i < k ∧ k < t.N) ∧ eqI t k = eqI t i then sAt S i
      else sAt S k := by
  have hmem : ∀ x, x ∈ List.range' (i + 1) (t.N - (i + 1)) ↔ (i < x ∧ x < t.N) := by
    intro x; rw [List.mem_range'_1]; omega
  unfold constrainSingleFast sAt
  simp only []
  rw [classLoops_getD c ' ' id WC (fun _ => rfl) (fun _ => rfl) i _ S (fun j hj => by rw [hl]; exact ((hmem j).1 hj).2)]
  simp only [hmem, id]

theorem mutate_length (t : Triple) (S : Seq) (i : Nat) (b : Char) : (mutate t S i b).length = S.length := by
  unfold mutate constrainSingleFast
  simp [assignLoop_length]

/-- `mutate` computes `canon` of the sequence with the new base stored: every position outside the two classes
    of `i` keeps its value, which in a `Good` sequence is the canonical one -/
theorem mutate_good {t : Triple} (c : ContractF t) {S : Seq} (g : Good t S) {i : Nat} {b : Char}
    (f : FreeF t i) (hb : memCode b (t.stAt i) = true) : Good t (mutate t S i b) := by
  obtain ⟨hl, g1, g2, g3⟩ := (good_iff c S).1 g
  have hF : ∀ k, sAt (S.set i b) k = if i = k then b else sAt S k := by
    intro k
    unfold sAt
    rw [getD_set, hl]
    simp only [c.eqLt i i f.1, and_true]
  have hFi : sAt (S.set i b) i = b := by rw [hF, if_pos rfl]
  have hFo : ∀ k, k ≠ i → sAt (S.set i b) k = sAt S k := fun k hk => by rw [hF, if_neg (Ne.symm hk)]
  rw [good_iff c]
  refine ⟨by rw [mutate_length, hl], ?_⟩
  have : sAt (mutate t S i b) = canon t (sAt (S.set i b)) := funext fun k => by
    unfold mutate
    rw [sAt_constrainSingleFast c (by rw [List.length_set]; exact hl) i k, hFi]
    by_cases hB : (i < k ∧ k < t.N) ∧ wcI t i ≠ none ∧ eqI t k = wcI t i
    · rw [if_pos hB]
      cases hw : wcI t i with
      | none => exact absurd hw hB.2.1
      | some w => rw [canon_partner c _ f hw (hB.2.2.trans hw), hFi]
    · rw [if_neg hB]
      by_cases hA : (i < k ∧ k < t.N) ∧ eqI t k = eqI t i
      · rw [if_pos hA, canon_free _ f (hA.2.trans f.1), hFi]
      · rw [if_neg hA]
        by_cases hki : k = i
        · rw [hki, canon_free _ f f.1]
        · rw [hFo k hki]
          cases hk : eqI t k with
          | none =>
            simp only [canon, hk]
            by_cases hkN : k < t.N
            · exact g1 k hkN hk
            · exact getD_of_length_le (by omega)
          | some r =>
            have hr := c.eqRep k r hk
            have hkN := c.eqLt k r hk
            rw [(g2 k r hk).1]
            rcases rep_cases c hr.1 with fr | ⟨w', fw, hw'⟩
            · have : r ≠ i := fun e => hA ⟨⟨by omega, hkN⟩, by rw [hk, f.1, e]⟩
              rw [canon_free _ fr hk, hFo r this]
            · have hlt := free_lt_partner fw hw'
              have : w' ≠ i := fun e =>
                hB ⟨⟨by omega, hkN⟩, by rw [← e, hw']; exact Option.some_ne_none r, by rw [hk, ← e, hw']⟩
              rw [canon_partner c _ fw hw' hk, hFo w' this, g3 r w' (wcI_symm c fw.1 hw')]
  rw [this]
  refine canon_good c (fun r fr => ?_)
  by_cases e : r = i
  · rw [e, hFi]; exact hb
  · rw [hFo r e]; exact (g2 r r fr.1).2

theorem constrainStep_of_marked {t : Triple} {sm : Seq × List Bool} {i : Nat} (h : sm.2.getD i false = true) :
    constrainStep t sm i = sm := by
  unfold constrainStep; rw [if_pos h]

theorem constrainStep_seq_getD {t : Triple} (c : ContractF t) {S : Seq} {m : List Bool} (hl : S.length = t.N)
    {i : Nat} (hm : m.getD i false = false) (x : Nat) :
    sAt (constrainStep t (S, m) i).1 x =
      if x < t.N ∧ wcI t i ≠ none ∧ eqI t x = wcI t i then WC (sAt S i)
      else if x < t.N ∧ eqI t x = eqI t i then sAt S i else sAt S x := by
  unfold constrainStep sAt
  simp only [hm, Bool.false_eq_true, if_false]
  rw [classLoops_getD c ' ' id WC (fun _ => rfl) (fun _ => rfl) i _ S
    (fun j hj => by rw [hl]; exact List.mem_range.1 hj)]
  simp only [List.mem_range, id]

theorem constrainStep_marks_getD {t : Triple} (c : ContractF t) {S : Seq} {m : List Bool} (hl : m.length = t.N)
    {i : Nat} (hm : m.getD i false = false) (x : Nat) :
    (constrainStep t (S, m) i).2.getD x false =
      if x < t.N ∧ wcI t i ≠ none ∧ eqI t x = wcI t i then true
      else if x < t.N ∧ eqI t x = eqI t i then true else m.getD x false := by
  unfold constrainStep
  simp only [hm, Bool.false_eq_true, if_false]
  rw [classLoops_getD c false (fun _ => true) (fun _ => true) (fun _ => rfl) (fun _ => rfl) i _ m
    (fun j hj => by rw [hl]; exact List.mem_range.1 hj)]
  simp only [List.mem_range]

theorem constrainStep_length {t : Triple} (sm : Seq × List Bool) (i : Nat) :
    (constrainStep t sm i).1.length = sm.1.length ∧ (constrainStep t sm i).2.length = sm.2.length := by
  unfold constrainStep
  split
  · exact ⟨rfl, rfl⟩
  · simp [assignLoop_length]

theorem constrain_length {t : Triple} {S : Seq} (h : S.length = t.N) : (constrain t S).length = t.N :=
  foldl_range_inv (fun _ (sm : Seq × List Bool) => sm.1.length = t.N) (constrainStep t) t.N _ h
    (fun k sm _ hk => by rw [(constrainStep_length sm k).1]; exact hk)

/-- `constrain` after positions `< k`: exactly the non-blank positions whose root lies below `k` are marked, and
    they hold their final value -/
structure CInv (t : Triple) (S0 : Seq) (k : Nat) (sm : Seq × List Bool) : Prop where
  lenS : sm.1.length = t.N
  lenM : sm.2.length = t.N
  blank : ∀ j, j < t.N → eqI t j = none → sAt sm.1 j = ' '
  nonblank : ∀ j r, eqI t j = some r → (sm.2.getD j false = true ↔ root t j < k) ∧
    sAt sm.1 j = if root t j < k then canon t (sAt S0) j else sAt S0 j

theorem cinv_step {t : Triple} (c : ContractF t) {S0 : Seq} {k : Nat} (hk : k < t.N)
    {sm : Seq × List Bool} (inv : CInv t S0 k sm) : CInv t S0 (k + 1) (constrainStep t sm k) := by
  have keep : ∀ j, root t j ≠ k → (root t j < k + 1 ↔ root t j < k) := fun j h => by omega
  by_cases hmk : sm.2.getD k false = true
  · -- `k` is marked, so it is not a root
    have nk : ∀ j r, eqI t j = some r → root t j ≠ k := by
      intro j r hj e
      have f := (root_spec c hj).1
      rw [e] at f
      have := (inv.nonblank k k f.1).1.1 hmk
      rw [root_of_class f f.1] at this
      omega
    rw [constrainStep_of_marked hmk]
    exact { inv with nonblank := fun j r hj => by simp only [keep j (nk j r hj)]; exact inv.nonblank j r hj }
  · obtain ⟨S, m⟩ := sm
    have hmk : m.getD k false = false := by simpa using hmk
    have hS := constrainStep_seq_getD c (m := m) inv.lenS hmk
    have hM := constrainStep_marks_getD c (S := S) inv.lenM hmk
    have hlen := constrainStep_length (t := t) (S, m) k
    have other : ∀ x, ¬ (wcI t k ≠ none ∧ eqI t x = wcI t k) → ¬ (x < t.N ∧ eqI t x = eqI t k) →
        sAt (constrainStep t (S, m) k).1 x = sAt S x ∧
          (constrainStep t (S, m) k).2.getD x false = m.getD x false := by
      intro x h1 h2
      rw [hS x, hM x, if_neg (fun h => h1 h.2), if_neg h2, if_neg (fun h => h1 h.2), if_neg h2]
      exact ⟨rfl, rfl⟩
    have stay : ∀ j r, eqI t j = some r → root t j ≠ k → ¬ (wcI t k ≠ none ∧ eqI t j = wcI t k) →
        ¬ (j < t.N ∧ eqI t j = eqI t k) →
        ((constrainStep t (S, m) k).2.getD j false = true ↔ root t j < k + 1) ∧
          sAt (constrainStep t (S, m) k).1 j = if root t j < k + 1 then canon t (sAt S0) j else sAt S0 j := by
      intro j r hj hne h1 h2
      rw [(other j h1 h2).1, (other j h1 h2).2]
      simp only [keep j hne]
      exact inv.nonblank j r hj
    cases hk' : eqI t k with
    | none =>
      -- a blank: the round copies the blank at `k` to the blanks
      have hwk : ¬ wcI t k ≠ none := fun h => h (c.blank k hk hk').2
      refine ⟨hlen.1.trans inv.lenS, hlen.2.trans inv.lenM, fun j hj hn => ?_, fun j r hj => ?_⟩
      · rw [hS j, if_neg (fun h => hwk h.2.1), if_pos ⟨hj, hn.trans hk'.symm⟩]
        exact inv.blank k hk hk'
      · refine stay j r hj (fun e => ?_) (fun h => hwk h.1) (fun h => by rw [hj, hk'] at h; cases h.2)
        have := (root_spec c hj).1.1
        rw [e, hk'] at this
        cases this
    | some r =>
      -- unmarked and not blank: `k` is a free location, its own root
      have hrk : root t k = k := by
        have h1 : ¬ root t k < k := fun h => Bool.false_ne_true (hmk.symm.trans ((inv.nonblank k r hk').1.2 h))
        have := (root_spec c hk').2.1
        omega
      have f : FreeF t k := hrk ▸ (root_spec c hk').1
      have val : sAt S k = sAt S0 k := by
        have := (inv.nonblank k r hk').2
        rwa [hrk, if_neg (Nat.lt_irrefl k)] at this
      -- the two classes are the positions with root `k`
      have inB : ∀ x, wcI t k ≠ none → eqI t x = wcI t k → x < t.N ∧ root t x = k := by
        intro x hne h
        cases hw : wcI t k with
        | none => exact absurd hw hne
        | some w => exact ⟨c.eqLt x w (h.trans hw), root_of_partner c f hw (h.trans hw)⟩
      have inA : ∀ x, eqI t x = eqI t k → root t x = k := fun x h => root_of_class f (h.trans f.1)
      refine ⟨hlen.1.trans inv.lenS, hlen.2.trans inv.lenM, fun j hj hn => ?_, fun j rj hj => ?_⟩
      · rw [(other j (fun h => h.1 (h.2.symm.trans hn)) (fun h => by rw [hn, hk'] at h; cases h.2)).1]
        exact inv.blank j hj hn
      · by_cases e : root t j = k
        · rw [e]
          simp only [Nat.lt_succ_self, if_true, iff_true]
          rw [hM j, hS j]
          by_cases h1 : j < t.N ∧ wcI t k ≠ none ∧ eqI t j = wcI t k
          · rw [if_pos h1, if_pos h1]
            cases hw : wcI t k with
            | none => exact absurd hw h1.2.1
            | some w =>
              exact ⟨rfl, (congrArg WC val).trans (canon_partner c _ f hw (h1.2.2.trans hw)).symm⟩
          · have h2 : j < t.N ∧ eqI t j = eqI t k := by
              rcases (root_spec c hj).2.2 with h | h
              · exact ⟨c.eqLt j rj hj, by rw [h, e, f.1]⟩
              · rw [e] at h
                exact absurd ⟨c.eqLt j rj hj, by rw [h, hj]; exact Option.some_ne_none rj, h.symm⟩ h1
            rw [if_neg h1, if_neg h1, if_pos h2, if_pos h2]
            exact ⟨rfl, val.trans (canon_free _ f (h2.2.trans f.1)).symm⟩
        · exact stay j rj hj e (fun h => e (inB j h.1 h.2).2) (fun h => e (inA j h.2))

theorem constrain_inv {t : Triple} (c : ContractF t) {S0 : Seq} (hs : StartOK t S0) :
    CInv t S0 t.N ((List.range t.N).foldl (constrainStep t) (S0, List.replicate t.N false)) := by
  apply foldl_range_inv (fun k sm => CInv t S0 k sm)
  · exact ⟨hs.1, List.length_replicate, fun j hj hn => (hs.2 j hj).1 (c.blank j hj hn).1,
      fun j r _ => ⟨by
        rw [getD_replicate]
        exact ⟨fun h => absurd h Bool.false_ne_true, fun h => absurd h (Nat.not_lt_zero _)⟩,
        by rw [if_neg (Nat.not_lt_zero _)]⟩⟩
  · intro k s hk inv
    exact cinv_step c hk inv

theorem good_constrain {t : Triple} (c : ContractF t) {S0 : Seq} (hs : StartOK t S0) :
    Good t (constrain t S0) := by
  have inv := constrain_inv c hs
  have hlen : (constrain t S0).length = t.N := inv.lenS
  rw [good_iff c]
  refine ⟨hlen, ?_⟩
  have : sAt (constrain t S0) = canon t (sAt S0) := funext fun j => by
    cases hj : eqI t j with
    | none =>
      have hd : sAt (constrain t S0) j = ' ' := by
        by_cases hjN : j < t.N
        · exact inv.blank j hjN hj
        · exact getD_of_length_le (by rw [hlen]; omega)
      rw [hd]
      simp only [canon, hj]
    | some r =>
      have := (inv.nonblank j r hj).2
      rwa [if_pos (Nat.lt_of_le_of_lt (root_spec c hj).2.1 (c.eqLt j r hj))] at this
  rw [this]
  exact canon_good c (fun i f => (hs.2 i (c.eqLt i i f.1)).2 (isClassRep_of_freeF f))

def ValidEv (t : Triple) (e : Event) : Prop :=
  e.idx ∈ freeLocs t ∧ memCode e.base (t.stAt e.idx) = true

theorem freeF_of_mem_freeLocs {t : Triple} {i : Nat} (h : i ∈ freeLocs t) : FreeF t i :=
  freeF_of_isClassRep (mem_freeLocs.1 h).2.1

theorem validEv_of_validEvent {t : Triple} (c : ContractF t) {e : Event} (h : validEvent t e = true) :
    ValidEv t e := by
  unfold validEvent at h
  simp only [Bool.and_eq_true, List.contains_iff_mem] at h
  refine ⟨h.1, ?_⟩
  have f := freeF_of_mem_freeLocs h.1
  exact choices_memCode (c.code e.idx e.idx f.1) h.2

theorem step_good {t : Triple} (c : ContractF t) {s : State} (g : Good t s.S) {e : Event}
    (hv : ValidEv t e) : Good t (step t s e).S := by
  unfold step
  split
  · exact mutate_good c g (freeF_of_mem_freeLocs hv.1) hv.2
  · exact g

theorem run_inv (t : Triple) (p : Params) (nf : Nat) (Inv : State → Prop) :
    ∀ (es : List Event) (s : State), Inv s → (∀ s e, e ∈ es → Inv s → Inv (step t s e)) →
      Inv (run t p nf s es) ∧ ∀ s' ∈ runList t p nf s es, Inv s'
  | [], _, h, _ => ⟨h, fun _ h' => nomatch h'⟩
  | e :: es, s, h, hs => by
    rw [run, runList]
    split
    · have h1 := hs s e List.mem_cons_self h
      have ih := run_inv t p nf Inv es _ h1 (fun s e' he' => hs s e' (List.mem_cons_of_mem _ he'))
      exact ⟨ih.1, fun s' h' => (List.mem_cons.1 h').elim (fun e => e ▸ h1) (ih.2 s')⟩
    · exact ⟨h, fun _ h' => nomatch h'⟩

theorem startOK_of_good {t : Triple} (c : ContractF t) {S : Seq} (g : Good t S) : StartOK t S :=
  ⟨g.1, fun i hi => ⟨fun h => (g.2 i hi).1.2 h, fun h =>
    (g.2 i hi).2.1 (isCode_ne_blank (c.code i i (freeF_of_isClassRep h).1))⟩⟩

/-- `if (x != d && y != z) OK = 0` does not fire when the guard `x != d` implies `y = z` -/
theorem ne_guard {α β : Type} [BEq α] [LawfulBEq α] [BEq β] [LawfulBEq β] {x d : α} {y z : β}
    (h : x ≠ d → y = z) : (!(x != d && y != z)) = true := by
  by_cases e : x = d
  · simp [e]
  · simp [h e]

/-- the three passes of `testConsistency` at index `i`: links (`tcP1`), the sequence `S` against template and
    links (`tcP2`), template against links (`tcP3`) -/
def tcP1 (t : Triple) (i : Nat) : Bool :=
  !(t.wcAt i != -1 && t.wcAt (t.wcIx i) != (t.eqAt i : Int)) &&
  !(t.eqAt i != 0 && t.eqAt (t.eqAt i - 1) != t.eqAt i)
def tcP2 (t : Triple) (S : Seq) (i : Nat) : Bool :=
  !(sAt S i != ' ' && !hasSub2 (t.stAt i) (sAt S i) Generated.cDegenerates) &&
  !(t.wcAt i != -1 && sAt S i != WC (sAt S (t.wcIx i))) &&
  !(t.eqAt i != 0 && sAt S i != sAt S (t.eqAt i - 1))
def tcP3 (t : Triple) (i : Nat) : Bool :=
  !(t.wcAt i != -1 && t.stAt i != WC (t.stAt (t.wcIx i))) &&
  !(t.eqAt i != 0 && t.stAt i != t.stAt (t.eqAt i - 1))

theorem testConsistency_eq (t : Triple) (S : Seq) :
    testConsistency t S =
      (if !(List.range t.N).all (tcP1 t) then false
       else (List.range t.N).all (tcP2 t S) && (List.range t.N).all (tcP3 t)) := rfl

theorem testConsistency_of_good {t : Triple} (c : Contract t) {S : Seq} (g : Good t S) :
    testConsistency t S = true := by
  have all : ∀ {f : Nat → Bool}, (∀ i, i < t.N → f i = true) → (List.range t.N).all f = true :=
    fun h => List.all_eq_true.2 (fun i hi => h i (List.mem_range.1 hi))
  have ok1 : (List.range t.N).all (tcP1 t) = true := all fun i hi => by
    have he := c.eq hi
    have hw := c.wc hi
    rw [tcP1, Bool.and_eq_true]
    exact ⟨ne_guard fun h => (hw h).2.2.2.2.1, ne_guard fun h => (he h).2.1⟩
  rw [testConsistency_eq]
  simp only [ok1, Bool.not_true, Bool.false_eq_true, if_false, Bool.and_eq_true]
  refine ⟨all fun i hi => ?_, all fun i hi => ?_⟩
  · obtain ⟨g1, g2, g3, g4⟩ := g.2 i hi
    rw [tcP2, Bool.and_eq_true, Bool.and_eq_true]
    refine ⟨⟨?_, ne_guard g4⟩, ne_guard g3⟩
    by_cases hne : sAt S i = ' '
    · simp [hne]
    · simp [memCode_hasSub2 (g2 fun e => hne (g1.2 e))]
  · have he := c.eq hi
    have hw := c.wc hi
    rw [tcP3, Bool.and_eq_true]
    exact ⟨ne_guard fun h => (hw h).2.2.2.2.2, ne_guard fun h => ((he h).2.2.2).symm⟩

def improvements (es : List Event) : Nat := (es.filter (fun e => decide (e.cmp < 0))).length

theorem running_bored {bmax : Nat} (hb : 0 < bmax) {nf : Nat} {s : State}
    (h : running ⟨bmax, 0⟩ nf s = true) : s.bored < bmax := by
  unfold running at h
  simp only [Bool.and_eq_true, Bool.or_eq_true, beq_iff_eq, decide_eq_true_eq] at h
  rcases h.1.2 with h | h
  · omega
  · exact h

theorem step_bored (t : Triple) (s : State) (e : Event) :
    (step t s e).bored = if e.cmp < 0 then 0 else s.bored + 1 := by
  unfold step
  by_cases h : e.cmp ≤ 0
  · rw [if_pos h]
  · rw [if_neg h, if_neg (by omega)]

theorem runList_length_le_budget (t : Triple) (p : Params) (nf : Nat) (B : State → List Event → Nat)
    (h : ∀ s e es, running p nf s = true → B (step t s e) es + 1 ≤ B s (e :: es)) :
    ∀ (es : List Event) (s : State), (runList t p nf s es).length ≤ B s es
  | [], _ => Nat.zero_le _
  | e :: es, s => by
    rw [runList]
    split
    · next hr => exact Nat.le_trans (Nat.succ_le_succ (runList_length_le_budget t p nf B h es _)) (h s e es hr)
    · exact Nat.zero_le _

/-- counting half of the termination argument: every iteration either is a strict improvement or
    increments `bored`, and the loop runs only while `bored < bmax` -/
theorem runList_length_le (t : Triple) {bmax : Nat} (hb : 0 < bmax) (nf : Nat) :
    ∀ (es : List Event) (s : State), s.bored ≤ bmax →
      (runList t ⟨bmax, 0⟩ nf s es).length + s.bored ≤ bmax * (improvements es + 1) := by
  intro es s hbo
  have room : ∀ es, bmax ≤ bmax * (improvements es + 1) := fun es => Nat.le_mul_of_pos_right _ (Nat.succ_pos _)
  have := runList_length_le_budget t ⟨bmax, 0⟩ nf (fun s es => bmax * (improvements es + 1) - s.bored)
    (fun s e es hr => by
      have hlt := running_bored hb hr
      have hsb := step_bored t s e
      have := room es
      by_cases hc : e.cmp < 0
      · have hk : improvements (e :: es) = improvements es + 1 := by simp [improvements, hc]
        rw [if_pos hc] at hsb
        simp only [hsb, hk, Nat.mul_succ]
        omega
      · have hk : improvements (e :: es) = improvements es := by simp [improvements, hc]
        rw [if_neg hc] at hsb
        simp only [hsb, hk]
        omega) es s
  have := room es
  omega

theorem runList_length_le_imax (t : Triple) (p : Params) (hi : 0 < p.imax) (nf : Nat) (es : List Event)
    (s : State) : (runList t p nf s es).length ≤ p.imax - s.steps := by
  refine runList_length_le_budget t p nf (fun s _ => p.imax - s.steps) (fun s e es hr => ?_) es s
  have hst : (step t s e).steps = s.steps + 1 := by unfold step; split <;> rfl
  unfold running at hr
  simp only [Bool.and_eq_true, Bool.or_eq_true, beq_iff_eq, decide_eq_true_eq] at hr
  simp only [hst]
  omega

/-- the score comparison reported in an event agrees with a score function `score` into a strictly
    ordered set: `cmp < 0` means strictly better, `cmp = 0` means equal.  Only events that are
    actually executed are constrained. -/
def Scored {α : Type} (lt : α → α → Prop) (score : Seq → α) (t : Triple) (p : Params) (nf : Nat) :
    State → List Event → Prop
  | _, [] => True
  | s, e :: es =>
    running p nf s = true →
      ((e.cmp < 0 → lt (score (mutate t s.S e.idx e.base)) (score s.S)) ∧
       (e.cmp = 0 → score (mutate t s.S e.idx e.base) = score s.S)) ∧
      Scored lt score t p nf (step t s e) es

/-- the scores left behind by the strict improvements so far -/
structure Above {α : Type} (lt : α → α → Prop) (space : List α) (a : α) (chain : List α) : Prop where
  nodup : chain.Nodup
  above : ∀ x ∈ chain, lt a x
  sub : ∀ x ∈ chain, x ∈ space

theorem Above.length_lt {α : Type} {lt : α → α → Prop} (irr : ∀ a, ¬ lt a a) {space chain : List α} {a : α}
    (h : Above lt space a chain) (ha : a ∈ space) : chain.length < space.length :=
  List.Nodup.length_le_of_subset (List.nodup_cons.2 ⟨fun hm => irr _ (h.above _ hm), h.nodup⟩)
    (fun x hx => (List.mem_cons.1 hx).elim (fun e => e ▸ ha) (h.sub x))

theorem Above.cons {α : Type} {lt : α → α → Prop} (irr : ∀ a, ¬ lt a a) (tr : ∀ a b c, lt a b → lt b c → lt a c)
    {space chain : List α} {a b : α} (h : Above lt space a chain) (ha : a ∈ space) (hb : lt b a) :
    Above lt space b (a :: chain) :=
  ⟨List.nodup_cons.2 ⟨fun hm => irr _ (h.above _ hm), h.nodup⟩,
    fun x hx => (List.mem_cons.1 hx).elim (fun e => e ▸ hb) (fun hx => tr _ _ _ hb (h.above x hx)),
    fun x hx => (List.mem_cons.1 hx).elim (fun e => e ▸ ha) (h.sub x)⟩

theorem runList_bound_chain {α : Type} (lt : α → α → Prop) (irr : ∀ a, ¬ lt a a)
    (tr : ∀ a b c, lt a b → lt b c → lt a c) (score : Seq → α) (space : List α)
    (t : Triple) (Inv : State → Prop) (hsp : ∀ s, Inv s → score s.S ∈ space)
    {bmax : Nat} (hb : 0 < bmax) (nf : Nat) :
    ∀ (es : List Event) (s : State) (chain : List α), Inv s → s.bored ≤ bmax →
      (∀ s e, e ∈ es → Inv s → Inv (step t s e)) → Scored lt score t ⟨bmax, 0⟩ nf s es →
      Above lt space (score s.S) chain →
      (runList t ⟨bmax, 0⟩ nf s es).length + s.bored ≤ bmax * (space.length - chain.length) := by
  intro es
  induction es with
  | nil =>
    intro s chain inv hbo _ _ ha
    have := ha.length_lt irr (hsp _ inv)
    have : bmax ≤ bmax * (space.length - chain.length) := Nat.le_mul_of_pos_right _ (by omega)
    simp only [runList, List.length_nil]
    omega
  | cons e es ih =>
    intro s chain inv hbo hstep hsc ha
    have hlen := ha.length_lt irr (hsp _ inv)
    rw [runList]
    by_cases hr : running ⟨bmax, 0⟩ nf s = true
    · rw [if_pos hr, List.length_cons]
      have hbl := running_bored hb hr
      have hsb := step_bored t s e
      obtain ⟨⟨hneg, hzero⟩, hsc'⟩ := hsc hr
      have hstep' : ∀ s e', e' ∈ es → Inv s → Inv (step t s e') :=
        fun s e' he' => hstep s e' (List.mem_cons_of_mem _ he')
      have inv' := hstep s e List.mem_cons_self inv
      by_cases hc : e.cmp < 0
      · rw [if_pos hc] at hsb
        have hS : (step t s e).S = mutate t s.S e.idx e.base := by
          unfold step; rw [if_pos (by omega)]
        have := ih (step t s e) (score s.S :: chain) inv' (by omega) hstep' hsc'
          (by rw [hS]; exact ha.cons irr tr (hsp _ inv) (hneg hc))
        rw [List.length_cons] at this
        have e1 : space.length - chain.length = (space.length - (chain.length + 1)) + 1 := by omega
        rw [e1, Nat.mul_succ]
        omega
      · rw [if_neg hc] at hsb
        have hsame : score (step t s e).S = score s.S := by
          unfold step
          by_cases h0 : e.cmp ≤ 0
          · rw [if_pos h0]; exact hzero (by omega)
          · rw [if_neg h0]
        have := ih (step t s e) chain inv' (by omega) hstep' hsc' (by rw [hsame]; exact ha)
        omega
    · have : bmax ≤ bmax * (space.length - chain.length) := Nat.le_mul_of_pos_right _ (by omega)
      rw [if_neg hr, List.length_nil]
      omega

def alphabet : List Char := [' ', 'A', 'C', 'G', 'T']

def seqSpace : Nat → List Seq
  | 0 => [[]]
  | n + 1 => alphabet.flatMap fun a => (seqSpace n).map (a :: ·)

theorem length_seqSpace (n : Nat) : (seqSpace n).length = 5 ^ n := by
  induction n with
  | zero => rfl
  | succ n ih =>
    simp only [seqSpace, alphabet, List.flatMap_cons, List.flatMap_nil, List.length_append, List.length_map,
      List.length_nil, ih, Nat.pow_succ]
    omega

theorem mem_seqSpace : ∀ (S : Seq), (∀ c ∈ S, c ∈ alphabet) → S ∈ seqSpace S.length
  | [], _ => List.mem_singleton.2 rfl
  | a :: S, h => List.mem_flatMap.2 ⟨a, h a List.mem_cons_self,
      List.mem_map.2 ⟨S, mem_seqSpace S (fun c hc => h c (List.mem_cons_of_mem _ hc)), rfl⟩⟩

theorem good_mem_seqSpace {t : Triple} {S : Seq} (g : Good t S) : S ∈ seqSpace t.N := by
  rw [← g.1]
  apply mem_seqSpace
  intro ch hc
  obtain ⟨i, hi, e⟩ := List.getElem_of_mem hc
  have hs : sAt S i = ch := (getD_eq_getElem hi ' ').trans e
  obtain ⟨g1, g2, _⟩ := g.2 i (by rw [← g.1]; exact hi)
  by_cases hb : t.stAt i = ' '
  · have := g1.2 hb
    rw [hs] at this; rw [this]; simp [alphabet]
  · have := memCode_isFixed (g2 hb)
    rw [hs] at this
    unfold isFixed at this
    simp only [Bool.or_eq_true, beq_iff_eq] at this
    rcases this with ((e | e) | e) | e <;> rw [e] <;> simp [alphabet]

theorem run_stopped (t : Triple) (p : Params) (nf : Nat) :
    ∀ (es : List Event) (s : State), (runList t p nf s es).length < es.length →
      running p nf (run t p nf s es) = false := by
  intro es
  induction es with
  | nil => intro s h; simp [runList] at h
  | cons e es ih =>
    intro s h
    simp only [runList, run] at *
    by_cases hr : running p nf s = true
    · rw [if_pos hr] at h ⊢
      simp only [List.length_cons] at h
      exact ih _ (by omega)
    · rw [if_neg hr]
      simpa using hr

theorem runList_length_le_length (t : Triple) (p : Params) (nf : Nat) :
    ∀ (es : List Event) (s : State), (runList t p nf s es).length ≤ es.length :=
  runList_length_le_budget t p nf (fun _ es => es.length) (fun _ _ _ _ => Nat.le_refl _)

end Pepper.Ssm
