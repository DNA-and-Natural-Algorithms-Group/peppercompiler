import PepperModel.SsmChecked
import PepperProofs.Ssm
/-!
# Proofs about the bounds-checked spuriousSSM model (`PepperModel/SsmChecked.lean`)

`Post P x Q`: under `P` the checked computation `x` makes no out-of-range access, and whatever it returns satisfies `Q`;
`Sim P x v` is the case "returns the total model's value `v`".  Each checked function is traversed once, with one
combinator per line of its `do` block; what is learned from a run having returned (an index was inside its array, a
loop invariant) travels through the postcondition, so the search loop, whose state `oldS` the total model lacks, and
the `freeloc` loop go the same way.
-/
namespace Pepper.SsmChecked
open Pepper Pepper.Ssm Res

@[simp] theorem ok_bind {α β : Type} (a : α) (f : α → Res β) : (Res.ok a >>= f) = f a := rfl
@[simp] theorem oob_bind {α β : Type} (o : Oob) (f : α → Res β) : ((Res.oob o : Res α) >>= f) = Res.oob o := rfl
@[simp] theorem pure_eq {α : Type} (a : α) : (pure a : Res α) = Res.ok a := rfl

theorem Res.bind_eq_ok {α β : Type} {x : Res α} {f : α → Res β} {v : β} :
    (x >>= f) = ok v ↔ ∃ a, x = ok a ∧ f a = ok v := by
  cases x <;> simp

def IsOk {α : Type} (x : Res α) : Prop := ∃ v, x = ok v

theorem isOk_ok {α : Type} (v : α) : IsOk (ok v) := ⟨v, rfl⟩

theorem isOk_of_eq {α : Type} {x : Res α} {v : α} (h : x = ok v) : IsOk x := ⟨v, h⟩

theorem isOk_iff_not_oob {α : Type} (x : Res α) : IsOk x ↔ x.isOob = false := by
  cases x <;> simp [IsOk, Res.isOob]

theorem rd_eq {α : Type} (a : Arr) (s : Site) (A : List α) (i : Int) (d : α) :
    rd a s A i = if 0 ≤ i ∧ i.toNat < A.length then ok (A.getD i.toNat d) else oob ⟨a, i, s⟩ := by
  unfold rd
  by_cases h0 : 0 ≤ i
  · by_cases h : i.toNat < A.length
    · simp [h0, h, List.getD_eq_getElem?_getD]
    · simp [h0, h]
  · simp [h0]

theorem rdZ_isOk (a : Arr) (s : Site) {A : List Char} {i : Int} (h0 : 0 ≤ i) (h : i ≤ (A.length : Int)) :
    IsOk (rdZ a s A i) := by
  unfold rdZ
  split
  · exact ⟨_, rfl⟩
  · exact ⟨_, by rw [rd_eq a s A i ' ', if_pos ⟨h0, by omega⟩]⟩

theorem natCast_beq (a b : Nat) : ((a : Int) == (b : Int)) = (a == b) := by
  rw [Bool.eq_iff_iff]; simp only [beq_iff_eq]; omega

/-- under `P` no access of `x` is out of range, and whatever `x` returns satisfies `Q` -/
structure Post {α : Type} (P : Prop) (x : Res α) (Q : α → Prop) : Prop where
  safe : P → IsOk x
  only : ∀ v, x = Res.ok v → Q v

theorem Post.ret {α : Type} {P : Prop} {Q : α → Prop} {v : α} (h : Q v) : Post P (pure v : Res α) Q :=
  ⟨fun _ => ⟨v, rfl⟩, fun _ e => Res.ok.inj e ▸ h⟩

theorem Post.bind {α β : Type} {P : Prop} {x : Res α} {Q : α → Prop} {f : α → Res β} {R : β → Prop}
    (hx : Post P x Q) (hf : ∀ a, Q a → Post P (f a) R) : Post P (x >>= f) R := by
  constructor
  · intro p
    obtain ⟨a, ha⟩ := hx.safe p
    rw [ha]
    exact (hf a (hx.only a ha)).safe p
  · intro b h
    obtain ⟨a, h1, h2⟩ := Res.bind_eq_ok.1 h
    exact (hf a (hx.only a h1)).only b h2

theorem Post.mono {α : Type} {P P' : Prop} {x : Res α} {Q Q' : α → Prop} (hx : Post P x Q) (hp : P' → P)
    (hq : ∀ v, Q v → Q' v) : Post P' x Q' :=
  ⟨fun p => hx.safe (hp p), fun v h => hq v (hx.only v h)⟩

/-- the checked computation `x` can only return the total model's value `v`, and under `P` it does -/
abbrev Sim {α : Type} (P : Prop) (x : Res α) (v : α) : Prop := Post P x (· = v)

theorem Sim.eq_ok {α : Type} {P : Prop} {x : Res α} {v : α} (h : Sim P x v) (p : P) : x = Res.ok v := by
  obtain ⟨v', hv⟩ := h.safe p
  rw [hv, h.only v' hv]

theorem Sim.ret {α : Type} {P : Prop} (v : α) : Sim P (pure v : Res α) v := Post.ret rfl

theorem Sim.bind {α β : Type} {P : Prop} {x : Res α} {a : α} {f : α → Res β} {b : β}
    (hx : Sim P x a) (hf : Sim P (f a) b) : Sim P (x >>= f) b :=
  Post.bind hx fun _ e => e ▸ hf

theorem Sim.mono {α : Type} {P Q : Prop} {x : Res α} {v : α} (hx : Sim P x v) (h : Q → P) : Sim Q x v :=
  Post.mono hx h fun _ e => e

theorem Post.read {α : Type} {P : Prop} (a : Arr) (s : Site) {A : List α} {i : Int} (d : α)
    (h : P → 0 ≤ i ∧ i.toNat < A.length) :
    Post P (rd a s A i) (fun v => (0 ≤ i ∧ i.toNat < A.length) ∧ v = A.getD i.toNat d) := by
  rw [rd_eq a s A i d]
  refine ⟨fun p => ⟨_, if_pos (h p)⟩, fun v hv => ?_⟩
  split at hv
  · next hc => exact ⟨hc, (Res.ok.inj hv).symm⟩
  · cases hv

theorem Post.readNat {α : Type} {P : Prop} (a : Arr) (s : Site) {A : List α} {n : Nat} (d : α)
    (h : P → n < A.length) : Post P (rd a s A (n : Int)) (fun v => n < A.length ∧ v = A.getD n d) :=
  (Post.read a s d fun p => ⟨Int.natCast_nonneg n, h p⟩).mono id fun _ hv => ⟨hv.1.2, hv.2⟩

theorem Post.writeNat {α : Type} {P : Prop} (a : Arr) (s : Site) {A : List α} {n : Nat} (v : α)
    (h : P → n < A.length) : Post P (wr a s A (n : Int) v) (fun A' => n < A.length ∧ A' = A.set n v) := by
  unfold wr
  refine ⟨fun p => ⟨_, if_pos ⟨Int.natCast_nonneg n, h p⟩⟩, fun v hv => ?_⟩
  split at hv
  · next hc => exact ⟨hc.2, (Res.ok.inj hv).symm⟩
  · cases hv

theorem Sim.read {α : Type} {P : Prop} (a : Arr) (s : Site) {A : List α} {i : Int} (d : α)
    (h : P → 0 ≤ i ∧ i.toNat < A.length) : Sim P (rd a s A i) (A.getD i.toNat d) :=
  (Post.read a s d h).mono id fun _ hv => hv.2

theorem Sim.readNat {α : Type} {P : Prop} (a : Arr) (s : Site) {A : List α} {n : Nat} (d : α)
    (h : P → n < A.length) : Sim P (rd a s A (n : Int)) (A.getD n d) :=
  (Post.readNat a s d h).mono id fun _ hv => hv.2

/-- the C's `A[x-1]` for a 1-based `x` -/
theorem Sim.readPred {α : Type} {P : Prop} (a : Arr) (s : Site) {A : List α} {x : Int} (d : α)
    (h : P → 1 ≤ x ∧ x ≤ (A.length : Int)) : Sim P (rd a s A (x - 1)) (A.getD (x.toNat - 1) d) := by
  have e : (x - 1).toNat = x.toNat - 1 := by omega
  rw [← e]
  exact Sim.read a s d (fun p => by have := h p; omega)

theorem Sim.writeNat {α : Type} {P : Prop} (a : Arr) (s : Site) {A : List α} {n : Nat} (v : α)
    (h : P → n < A.length) : Sim P (wr a s A (n : Int) v) (A.set n v) :=
  (Post.writeNat a s v h).mono id fun _ hv => hv.2

/-- `if (c && …) OK = 0` with the reads of `…` under the guard `c` -/
theorem Sim.guard {P : Prop} {c : Bool} {x : Res Bool} {b : Bool} (h : c = true → Sim P x (!b)) :
    Sim P (if c = true then x else pure true) (!(c && b)) := by
  cases c
  · exact Sim.ret true
  · simpa using h rfl

theorem Sim.msg {α : Type} {P : Prop} {q : Bool} {y : Res α} (hy : P → IsOk y) :
    Sim P (if q = true then (do let _ ← y; pure false) else pure true) (!q) := by
  cases q
  · exact Sim.ret true
  · exact Post.bind (Q := fun _ => True) ⟨hy, fun _ _ => trivial⟩ fun _ _ => Sim.ret false

theorem Sim.all {P : Prop} {body : Nat → Res Bool} {f : Nat → Bool} :
    ∀ (is : List Nat) (OK : Bool), (∀ i ∈ is, Sim P (body i) (f i)) → Sim P (allC body is OK) (OK && is.all f)
  | [], OK, _ => by rw [List.all_nil, Bool.and_true]; exact Sim.ret OK
  | i :: is, OK, h => by
    have := Sim.bind (f := fun b => allC body is (OK && b)) (h i List.mem_cons_self)
      (Sim.all is (OK && f i) (fun j hj => h j (List.mem_cons_of_mem _ hj)))
    rw [Bool.and_assoc] at this
    exact this

theorem Sim.count {P : Prop} {body : Nat → Res Bool} {f : Nat → Bool} :
    ∀ (is : List Nat) (n : Nat), (∀ i ∈ is, Sim P (body i) (f i)) →
      Sim P (countC body is n) (n + (is.filter f).length)
  | [], n, _ => Sim.ret n
  | i :: is, n, h => by
    have := Sim.bind (f := fun b => countC body is (if b then n + 1 else n)) (h i List.mem_cons_self)
      (Sim.count is (if f i then n + 1 else n) (fun j hj => h j (List.mem_cons_of_mem _ hj)))
    have e : (if f i = true then n + 1 else n) + (is.filter f).length = n + ((i :: is).filter f).length := by
      rw [List.filter_cons]
      cases f i <;> simp <;> omega
    rw [e] at this
    exact this

theorem Sim.count0 {P : Prop} {body : Nat → Res Bool} {f : Nat → Bool} (is : List Nat)
    (h : ∀ i ∈ is, Sim P (body i) (f i)) : Sim P (countC body is 0) (is.filter f).length :=
  Nat.zero_add (is.filter f).length ▸ Sim.count is 0 h

/-- `for (k=0; k<n; k++)` with an invariant of the counter and the state that needs no guard -/
theorem Post.foldRange {σ : Type} {P : Prop} {stepC : σ → Nat → Res σ} (Inv : Nat → σ → Prop) (n : Nat)
    (h : ∀ k s, k < n → Inv k s → Post P (stepC s k) (Inv (k + 1))) (s : σ) (h0 : Inv 0 s) :
    Post P (foldlC stepC s (List.range n)) (Inv n) := by
  have go : ∀ (m k : Nat) (s : σ), k + m = n → Inv k s → Post P (foldlC stepC s (List.range' k m)) (Inv n) := by
    intro m
    induction m with
    | zero => intro k s e inv; exact Post.ret (e ▸ inv)
    | succ m ih =>
      intro k s e inv
      rw [List.range'_succ, foldlC]
      exact Post.bind (h k s (by omega) inv) fun s' inv' => ih (k + 1) s' (by omega) inv'
  rw [List.range_eq_range']
  exact go n 0 s (Nat.zero_add n) h0

theorem classLoopC_sim {P : Prop} {s : Site} {t : Triple} {key : Res Int} {i : Nat} {f : Char → Char} {mark : Bool}
    {K : Int} (hkey : Sim P key K) (p : Nat → Bool) (hp : ∀ j, ((t.eqAt j : Int) == K) = p j)
    (hel : P → t.eq.length = t.N) (hi : P → i < t.N) :
    ∀ (js : List Nat) (sm : Seq × List Bool), (P → ∀ j ∈ js, j < t.N) → (P → sm.1.length = t.N) →
      (P → mark = true → sm.2.length = t.N) →
      Sim P (classLoopC s t key i f mark js sm)
        (assignLoop ' ' p i f js sm.1, if mark then assignLoop false p i (fun _ => true) js sm.2 else sm.2)
  | [], sm, _, _, _ => by
    have : (assignLoop ' ' p i f [] sm.1, if mark then assignLoop false p i (fun _ => true) [] sm.2 else sm.2) = sm := by
      cases mark <;> rfl
    rw [this]
    exact Sim.ret sm
  | j :: js, sm, hjs, hS, hm => by
    have hj := fun q => hjs q j List.mem_cons_self
    have ih := fun sm' => classLoopC_sim (s := s) (f := f) (mark := mark) hkey p hp hel hi js sm'
      (fun q j' hj' => hjs q j' (List.mem_cons_of_mem _ hj'))
    have hS' : ∀ v, P → (sm.1.set j v).length = t.N := fun _ q => List.length_set.trans (hS q)
    rw [classLoopC]
    refine Sim.bind (Sim.readNat _ _ 0 (fun q => by rw [hel q]; exact hj q)) ?_
    refine Sim.bind hkey ?_
    show Sim _ (if ((t.eqAt j : Int) == K) = true then _ else _) _
    rw [hp j]
    simp only [assignLoop]
    cases p j
    · exact ih sm hS hm
    · refine Sim.bind (Sim.readNat _ _ ' ' (fun q => by rw [hS q]; exact hi q)) ?_
      refine Sim.bind (Sim.writeNat _ _ _ (fun q => by rw [hS q]; exact hj q)) ?_
      cases mark
      · exact Sim.bind (Sim.ret sm.2) (ih (_, sm.2) (hS' _) (fun _ => nofun))
      · refine Sim.bind (Sim.writeNat _ _ _ (fun q => by rw [hm q rfl]; exact hj q)) ?_
        exact ih (_, _) (hS' _) (fun q _ => List.length_set.trans (hm q rfl))

theorem eqKey_sim {P : Prop} (s : Site) {t : Triple} {i : Nat} (h : P → i < t.eq.length) :
    Sim P (eqKey s t i) (t.eqAt i : Int) :=
  Sim.bind (Sim.readNat _ _ 0 h) (Sim.ret _)

theorem wcKey_sim {P : Prop} (s : Site) {t : Triple} {i : Nat} (h : P → i < t.wc.length) :
    Sim P (wcKey s t i) (t.wcAt i) :=
  Sim.readNat _ _ (-1) h

/-- the part of the contract that memory safety needs: the array lengths (the loader exits unless all are `N`) and the
    value ranges of `wc` and `eq`, of which the loader checks the lower ends only (`ConstraintGen.reconcile` rejects
    `wc = 0`, `wc < -1`, `eq < 0`) -/
structure Bounds (t : Triple) : Prop where
  eqLen : t.eq.length = t.N
  wcLen : t.wc.length = t.N
  wcB : ∀ i, i < t.N → t.wcAt i ≠ -1 → 1 ≤ t.wcAt i ∧ t.wcAt i ≤ (t.N : Int)
  eqB : ∀ i, i < t.N → t.eqAt i ≤ t.N

instance (t : Triple) : Decidable (Bounds t) :=
  if h : t.eq.length = t.N ∧ t.wc.length = t.N ∧
      (∀ i, i < t.N → t.wcAt i ≠ -1 → 1 ≤ t.wcAt i ∧ t.wcAt i ≤ (t.N : Int)) ∧ (∀ i, i < t.N → t.eqAt i ≤ t.N)
  then isTrue ⟨h.1, h.2.1, h.2.2.1, h.2.2.2⟩
  else isFalse (fun b => h ⟨b.eqLen, b.wcLen, b.wcB, b.eqB⟩)

theorem Bounds.of_contract {t : Triple} (c : Contract t) : Bounds t := by
  refine ⟨c.eqLen, c.wcLen, ?_, ?_⟩
  · intro i hi hw
    have := c.wc hi hw
    exact ⟨this.1, this.2.1⟩
  · intro i hi
    by_cases he : t.eqAt i = 0
    · omega
    · have := (c.eq hi he).1
      omega

theorem Bounds.eqIx {t : Triple} (b : Bounds t) {i : Nat} (hi : i < t.N) : i < t.eq.length := by
  rw [b.eqLen]; exact hi

theorem Bounds.wcIx {t : Triple} (b : Bounds t) {i : Nat} (hi : i < t.N) : i < t.wc.length := by
  rw [b.wcLen]; exact hi

theorem constrainSingleFastC_sim {t : Triple} {S : Seq} {i : Nat} :
    Sim (Bounds t ∧ i < t.N ∧ S.length = t.N) (constrainSingleFastC t S i) (constrainSingleFast t S i) := by
  have hjs : ∀ j ∈ List.range' (i + 1) (t.N - (i + 1)), j < t.N := by
    intro j hj
    have := List.mem_range'_1.1 hj
    omega
  refine Sim.bind (classLoopC_sim (eqKey_sim _ (fun q => q.1.eqIx q.2.1)) (fun j => t.eqAt j == t.eqAt i)
    (fun j => natCast_beq _ _) (·.1.eqLen) (·.2.1) _ (S, []) (fun _ => hjs) (·.2.2) (fun _ => nofun)) ?_
  refine Sim.bind (classLoopC_sim (wcKey_sim _ (fun q => q.1.wcIx q.2.1)) (fun j => (t.eqAt j : Int) == t.wcAt i)
    (fun j => rfl) (·.1.eqLen) (·.2.1) _ (_, []) (fun _ => hjs)
    (fun q => (assignLoop_length _ _ _ _ _ _).trans q.2.2) (fun _ => nofun)) ?_
  exact Sim.ret _

theorem constrainStepC_sim {t : Triple} {sm : Seq × List Bool} {i : Nat} :
    Sim (Bounds t ∧ i < t.N ∧ sm.1.length = t.N ∧ sm.2.length = t.N) (constrainStepC t sm i) (constrainStep t sm i) := by
  have hjs : ∀ j ∈ List.range t.N, j < t.N := fun j hj => List.mem_range.1 hj
  unfold constrainStepC constrainStep
  refine Sim.bind (Sim.readNat _ _ false (fun q => by rw [q.2.2.2]; exact q.2.1)) ?_
  cases sm.2.getD i false
  · refine Sim.bind (classLoopC_sim (eqKey_sim _ (fun q => q.1.eqIx q.2.1)) (fun j => t.eqAt j == t.eqAt i)
      (fun j => natCast_beq _ _) (·.1.eqLen) (·.2.1) _ sm (fun _ => hjs) (·.2.2.1) (fun q _ => q.2.2.2)) ?_
    exact classLoopC_sim (wcKey_sim _ (fun q => q.1.wcIx q.2.1)) (fun j => (t.eqAt j : Int) == t.wcAt i)
      (fun j => rfl) (·.1.eqLen) (·.2.1) _ (_, _) (fun _ => hjs)
      (fun q => (assignLoop_length _ _ _ _ _ _).trans q.2.2.1) (fun q _ => (assignLoop_length _ _ _ _ _ _).trans q.2.2.2)
  · exact Sim.ret sm

theorem constrainC_sim {t : Triple} {S : Seq} : Sim (Bounds t ∧ S.length = t.N) (constrainC t S) (constrain t S) := by
  refine Post.bind (Post.foldRange (fun k sm => sm = (List.range k).foldl (constrainStep t) (S, List.replicate t.N false) ∧
      sm.1.length = S.length ∧ sm.2.length = t.N) t.N (fun k sm hk inv => ?_) (S, List.replicate t.N false)
      ⟨rfl, rfl, List.length_replicate⟩) fun sm h => h.1 ▸ Sim.ret _
  refine Post.mono constrainStepC_sim (fun q => ⟨q.1, hk, inv.2.1.trans q.2, inv.2.2⟩) fun sm' e => ?_
  rw [e, List.range_succ, List.foldl_append, ← inv.1, (constrainStep_length sm k).1, (constrainStep_length sm k).2]
  exact ⟨rfl, inv.2.1, inv.2.2⟩

theorem tcWc_sim {P : Prop} (s : Site) (a : Arr) {A : Seq} (c : Char) {wi : Int}
    (h : P → wi ≠ -1 → 1 ≤ wi ∧ wi ≤ (A.length : Int)) :
    Sim P (tcWc s a A c wi) (!(wi != -1 && c != WC (A.getD (wi.toNat - 1) ' '))) :=
  Sim.guard fun hw =>
    have hb := fun p => h p (bne_iff_ne.1 hw)
    Sim.bind (Sim.readPred a s ' ' hb) (Sim.msg fun p => rdZ_isOk a _ (by have := hb p; omega) (hb p).2)

theorem tcEq_sim {P : Prop} (s : Site) (a : Arr) {A : Seq} (c : Char) {ei : Nat} (h : P → ei ≤ A.length) :
    Sim P (tcEq s a A c ei) (!(ei != 0 && c != A.getD (ei - 1) ' ')) :=
  Sim.guard fun he =>
    have h0 : ei ≠ 0 := bne_iff_ne.1 he
    Sim.bind (Sim.readPred a s ' ' (x := (ei : Int)) (fun p => by have := h p; omega))
      (Sim.msg fun p => rdZ_isOk a _ (by omega) (by have := h p; omega))

theorem tcBody1_sim {t : Triple} {i : Nat} : Sim (Bounds t ∧ i < t.N) (tcBody1 t i) (tcP1 t i) := by
  refine Sim.bind (Sim.readNat _ _ (-1) (fun q => q.1.wcIx q.2)) ?_
  refine Sim.bind (Sim.guard (b := t.wcAt (t.wcIx i) != (t.eqAt i : Int)) fun hw =>
    Sim.bind (Sim.readPred _ _ (-1) (fun q => by rw [q.1.wcLen]; exact q.1.wcB i q.2 (bne_iff_ne.1 hw)))
      (Sim.bind (Sim.readNat _ _ 0 (fun q => q.1.eqIx q.2)) (Sim.ret _))) ?_
  refine Sim.bind (Sim.readNat _ _ 0 (fun q => q.1.eqIx q.2)) ?_
  refine Sim.bind (Sim.guard (b := t.eqAt (t.eqAt i - 1) != t.eqAt i) fun he =>
    Sim.bind (Sim.readPred _ _ 0 (x := (t.eqAt i : Int)) (fun q => by
      have := q.1.eqB i q.2
      have h0 : t.eqAt i ≠ 0 := bne_iff_ne.1 he
      rw [q.1.eqLen]; omega)) (Sim.ret _)) ?_
  exact Sim.ret _

theorem tcBody2_sim {t : Triple} {S : Seq} {i : Nat} :
    Sim (Bounds t ∧ S.length = t.N ∧ i < t.N) (tcBody2 t S i) (tcP2 t S i) := by
  refine Sim.bind (Sim.readNat _ _ ' ' (fun q => q.2.2)) ?_
  refine Sim.bind (Sim.readNat _ _ ' ' (fun q => by rw [q.2.1]; exact q.2.2)) ?_
  refine Sim.bind (Sim.readNat _ _ (-1) (fun q => q.1.wcIx q.2.2)) ?_
  refine Sim.bind (tcWc_sim _ _ _ (fun q => by rw [q.2.1]; exact q.1.wcB i q.2.2)) ?_
  refine Sim.bind (Sim.readNat _ _ 0 (fun q => q.1.eqIx q.2.2)) ?_
  refine Sim.bind (tcEq_sim _ _ _ (fun q => by rw [q.2.1]; exact q.1.eqB i q.2.2)) ?_
  exact Sim.ret _

theorem tcBody3_sim {t : Triple} {i : Nat} : Sim (Bounds t ∧ i < t.N) (tcBody3 t i) (tcP3 t i) := by
  refine Sim.bind (Sim.readNat _ _ (-1) (fun q => q.1.wcIx q.2)) ?_
  refine Sim.bind (Sim.readNat _ _ ' ' (fun q => q.2)) ?_
  refine Sim.bind (tcWc_sim _ _ _ (fun q => q.1.wcB i q.2)) ?_
  refine Sim.bind (Sim.readNat _ _ 0 (fun q => q.1.eqIx q.2)) ?_
  refine Sim.bind (tcEq_sim _ _ _ (fun q => q.1.eqB i q.2)) ?_
  exact Sim.ret _

theorem testConsistencyC_sim {t : Triple} {S : Seq} :
    Sim (Bounds t ∧ S.length = t.N) (testConsistencyC t S) (testConsistency t S) := by
  rw [testConsistency_eq]
  refine Sim.bind (Sim.all _ true (fun i hi => tcBody1_sim.mono (fun q => ⟨q.1, List.mem_range.1 hi⟩))) ?_
  rw [Bool.true_and]
  cases (List.range t.N).all (tcP1 t)
  · exact Sim.ret false
  · refine Sim.bind (Sim.all _ true (fun i hi => tcBody2_sim.mono (fun q => ⟨q.1, q.2, List.mem_range.1 hi⟩))) ?_
    rw [Bool.true_and]
    exact Sim.all _ _ (fun i hi => tcBody3_sim.mono (fun q => ⟨q.1, List.mem_range.1 hi⟩))

theorem isClassRepC_sim {s : Site} {t : Triple} {i : Nat} :
    Sim (Bounds t ∧ i < t.N) (isClassRepC s t i) (isClassRep t i) := by
  unfold isClassRep
  refine Sim.bind (Sim.readNat _ _ 0 (fun q => q.1.eqIx q.2)) ?_
  show Sim _ (if ((t.eqAt i : Int) == ((i + 1 : Nat) : Int)) = true then _ else _) _
  rw [natCast_beq]
  cases t.eqAt i == i + 1
  · exact Sim.ret false
  · exact Sim.bind (Sim.readNat _ _ (-1) (fun q => q.1.wcIx q.2)) (Sim.ret _)

theorem nqC_sim {t : Triple} {n : Nat} :
    Sim (Bounds t ∧ n ≤ t.N) (nqC t n) ((List.range n).filter (isClassRep t)).length :=
  Sim.count0 (List.range n) (fun i hi => (isClassRepC_sim (s := .nq) (t := t) (i := i)).mono
    (fun q : Bounds t ∧ n ≤ t.N => ⟨q.1, Nat.lt_of_lt_of_le (List.mem_range.1 hi) q.2⟩))

theorem nbpC_sim {t : Triple} : Sim (Bounds t) (nbpC t)
    ((List.range' 1 (t.N - 1)).filter fun i => t.wc.getD (i - 1) (-1) == t.wc.getD i (-1) + 1).length :=
  Sim.count0 _ (fun i hi => by
    have := List.mem_range'_1.1 hi
    exact Sim.bind (Sim.readPred _ _ (-1) (x := (i : Int)) (fun q => by rw [q.wcLen]; omega))
      (Sim.bind (Sim.readNat _ _ (-1) (fun q => by rw [q.wcLen]; omega)) (Sim.ret _)))

theorem effectiveBmaxC_sim {o : Opts} {t : Triple} {start : Seq} (hl : start.length = t.N) :
    Sim (Bounds t) (effectiveBmaxC o t start) (effectiveBmax o t) := by
  have hq : ∀ {n}, n = t.N → Sim (Bounds t) (do let q ← nqC t n; pure (o.bmult * q + 1)) (defaultBmax o.bmult t) :=
    fun e => Sim.bind (nqC_sim.mono (fun q => ⟨q, Nat.le_of_eq e⟩)) (e ▸ Sim.ret _)
  unfold effectiveBmaxC effectiveBmax
  cases o.automatic
  · refine Sim.bind (Sim.ret 0) ?_
    cases o.bmax
    · cases o.imax == 0
      · exact Sim.ret 0
      · exact hq rfl
    · exact Sim.ret _
  · refine Sim.bind (Sim.bind nbpC_sim (hq hl)) ?_
    cases o.bmax <;> exact Sim.ret _

/-- what the `freeloc` loop has built after some prefix: `A` is the list of entries made so far -/
structure FlInv (fn : List Nat × Nat) (A : List Nat) (L : Nat) : Prop where
  len : fn.1.length = L
  nf : fn.2 = A.length
  get : ∀ k, fn.1.getD k 0 = A.getD k 0

/-- one round of the loop that fills `freeloc`: `Nfree` never exceeds the loop counter, so the store is inside the
    `N` cells -/
theorem freelocStepC_post {t : Triple} {fn : List Nat × Nat} {k : Nat} {A : List Nat} (hk : k < t.N)
    (hA : A.length ≤ k) (inv : FlInv fn A t.N) :
    Post (Bounds t) (freelocStepC t fn k)
      (fun fn' => FlInv fn' (A ++ if (isClassRep t k && !isFixed (t.stAt k)) = true then [k] else []) t.N) := by
  have hlt : fn.2 < fn.1.length := by rw [inv.len, inv.nf]; omega
  unfold freelocStepC Triple.stAt
  refine Post.bind (isClassRepC_sim.mono fun q => ⟨q, hk⟩) fun c hc => ?_
  subst hc
  cases isClassRep t k
  · exact Post.ret (show FlInv fn (A ++ []) t.N by rw [List.append_nil]; exact inv)
  · refine Post.bind (Sim.readNat _ _ ' ' fun _ => hk) fun ch hch => ?_
    subst hch
    cases isFixed (t.st.getD k ' ')
    · refine Post.bind (Post.writeNat _ _ _ fun _ => hlt) fun fl hfl => Post.ret ?_
      show FlInv (fl, fn.2 + 1) (A ++ [k]) t.N
      refine ⟨by rw [hfl.2, List.length_set]; exact inv.len, by rw [List.length_append, ← inv.nf]; rfl, fun j => ?_⟩
      show fl.getD j 0 = _
      rw [hfl.2, getD_set, inv.nf, getD_append_singleton, inv.get]
      by_cases hj : A.length = j
      · rw [if_pos ⟨hj, by rw [← inv.nf]; exact hlt⟩, if_pos hj]
      · rw [if_neg (fun c => hj c.1), if_neg hj]
    · exact Post.ret (show FlInv fn (A ++ []) t.N by rw [List.append_nil]; exact inv)

theorem freelocC_post {t : Triple} : Post (Bounds t) (freelocC t) (fun fn => FlInv fn (freeLocs t) t.N) :=
  Post.foldRange (fun k fn => FlInv fn ((List.range k).filter fun i => isClassRep t i && !isFixed (t.stAt i)) t.N) t.N
    (fun k fn hk inv => by
      rw [List.range_succ, List.filter_append, List.filter_cons, List.filter_nil]
      exact freelocStepC_post hk
        (Nat.le_trans (List.length_filter_le _ _) (by rw [List.length_range]; exact Nat.le_refl _)) inv) _
    ⟨List.length_replicate, rfl, getD_replicate t.N 0⟩

/-- the event of the total model: the position the table `fl` holds at the drawn index -/
abbrev EventC.look (fl : List Nat) (e : EventC) : Event := ⟨fl.getD e.k 0, e.base, e.cmp⟩

def TableOk (t : Triple) (fl : List Nat) (nf : Nat) : Prop := ∀ k, k < nf → k < fl.length ∧ fl.getD k 0 < t.N

theorem mutateC_post {t : Triple} {fl : List Nat} {nf : Nat} {S : Seq} {k : Nat} {b : Char} (hn : nf ≠ 0) :
    Post (Bounds t ∧ k < fl.length ∧ fl.getD k 0 < t.N ∧ S.length = t.N) (mutateC t fl nf S k b)
      (fun S' => k < fl.length ∧ S' = mutate t S (fl.getD k 0) b) := by
  unfold mutateC mutate
  rw [if_neg (by simpa using hn)]
  refine Post.bind (Post.readNat _ _ 0 (·.2.1)) fun i hi => ?_
  rw [hi.2]
  refine Post.mono (Sim.bind (Sim.readNat _ _ ' ' (fun q => by rw [q.2.2.2]; exact q.2.2.1)) ?_) id fun _ e => ⟨hi.1, e⟩
  refine Sim.bind (Sim.readNat _ _ ' ' (fun q => q.2.2.1)) ?_
  refine Sim.bind (Sim.writeNat _ _ _ (fun q => by rw [q.2.2.2]; exact q.2.2.1)) ?_
  exact constrainSingleFastC_sim.mono (fun q => ⟨q.1, q.2.2.1, by rw [List.length_set]; exact q.2.2.2⟩)

def copyLoop (src : Seq) (is : List Nat) (dst : Seq) : Seq := is.foldl (fun d i => d.set i (src.getD i ' ')) dst

/-- `for i in is: dst[i] = src[i]` -/
theorem copyLoopC_post {s : Site} {a b : Arr} {src : Seq} : ∀ (is : List Nat) (dst : Seq),
    Post (∀ i ∈ is, i < src.length ∧ i < dst.length) (copyLoopC s a b src is dst)
      (fun dst' => (∀ i ∈ is, i < src.length ∧ i < dst.length) ∧ dst' = copyLoop src is dst)
  | [], dst => Post.ret ⟨fun _ h => (nomatch h), rfl⟩
  | i :: is, dst => by
    rw [copyLoopC]
    refine Post.bind (Post.readNat _ _ ' ' fun q => (q i List.mem_cons_self).1) fun v hv => ?_
    refine Post.bind (Post.writeNat _ _ v fun q => (q i List.mem_cons_self).2) fun d hd => ?_
    have hlen : d.length = dst.length := by rw [hd.2, List.length_set]
    refine (copyLoopC_post is d).mono (fun q j hj => by rw [hlen]; exact q j (List.mem_cons_of_mem _ hj))
      fun dst' h => ⟨List.forall_mem_cons.2 ⟨⟨hv.1, hd.1⟩, fun j hj => by rw [← hlen]; exact h.1 j hj⟩, ?_⟩
    rw [h.2, hd.2, hv.2]
    rfl

theorem copyLoop_range (src dst : Seq) : ∀ n, n ≤ src.length → n ≤ dst.length →
    copyLoop src (List.range n) dst = src.take n ++ dst.drop n := by
  intro n
  induction n with
  | zero => intro _ _; rfl
  | succ n ih =>
    intro h1 h2
    have h1' : n < src.length := h1
    have h2' : n < dst.length := h2
    unfold copyLoop at ih ⊢
    rw [List.range_succ, List.foldl_append, ih (by omega) (by omega)]
    simp only [List.foldl_cons, List.foldl_nil]
    rw [List.set_append_right _ _ (by rw [List.length_take]; omega), List.length_take, Nat.min_eq_left (by omega),
      Nat.sub_self, List.drop_eq_getElem_cons h2', List.set_cons_zero, List.take_add_one,
      List.getD_eq_getElem?_getD, List.getElem?_eq_getElem h1', List.append_assoc]
    rfl

/-- `for (i=0; i<n; i++) dst[i] = src[i]` -/
theorem copyLoopC_range {s : Site} {a b : Arr} {src dst : Seq} {n : Nat} :
    Post (n ≤ src.length ∧ n ≤ dst.length) (copyLoopC s a b src (List.range n) dst)
      (fun dst' => (n ≤ src.length ∧ n ≤ dst.length) ∧ dst' = src.take n ++ dst.drop n) :=
  (copyLoopC_post (List.range n) dst).mono (fun q i hi => by have := List.mem_range.1 hi; omega) fun dst' h => by
    have hn : n ≤ src.length ∧ n ≤ dst.length := by
      cases n with
      | zero => exact ⟨Nat.zero_le _, Nat.zero_le _⟩
      | succ n => exact h.1 n (List.mem_range.2 (Nat.lt_succ_self n))
    exact ⟨hn, by rw [h.2, copyLoop_range src dst n hn.1 hn.2]⟩

/-- what an iteration that returned `s'` has done -/
structure StepPost (t : Triple) (fl : List Nat) (s : StateC) (e : EventC) (s' : StateC) : Prop where
  inTable : e.k < fl.length
  sim : s'.toState = step t s.toState (e.look fl)
  lenS : s'.S.length = t.N
  lenOld : s'.oldS.length = s.oldS.length

/-- one iteration: the restore loop gives back exactly the sequence saved in `oldS` -/
theorem stepC_post {t : Triple} {fl : List Nat} {nf : Nat} {s : StateC} {e : EventC} (hn : nf ≠ 0)
    (hl : s.S.length = t.N) :
    Post (Bounds t ∧ TableOk t fl nf ∧ e.k < nf ∧ s.oldS.length = t.N) (stepC t fl nf s e) (StepPost t fl s e) := by
  unfold stepC
  refine Post.bind (copyLoopC_range.mono (fun q => ⟨Nat.le_of_eq hl.symm, Nat.le_of_eq q.2.2.2.symm⟩) fun _ h => h)
    fun oldS ho => ?_
  have hO : oldS.length = s.oldS.length := by
    have := ho.1.2
    rw [ho.2, List.length_append, List.length_take, List.length_drop, hl]; omega
  refine Post.bind ((mutateC_post hn).mono
    (fun q => ⟨q.1, (q.2.1 e.k q.2.2.1).1, (q.2.1 e.k q.2.2.1).2, hl⟩) fun _ h => h) fun S1 h1 => ?_
  have hS1 : S1.length = t.N := by rw [h1.2, mutate_length, hl]
  split
  · next hc => exact Post.ret ⟨h1.1, by simp only [StateC.toState, step, if_pos hc, h1.2], hS1, hO⟩
  · next hc =>
    refine Post.bind (copyLoopC_range.mono (fun q => ⟨by rw [hO, q.2.2.2]; exact Nat.le_refl _, Nat.le_of_eq hS1.symm⟩)
      fun _ h => h) fun S2 h2 => ?_
    -- the first `N` cells of `oldS` are `s.S`; they overwrite all of the mutated sequence
    have : S2 = s.S := by
      rw [h2.2, ho.2, ← hl, List.take_of_length_le (Nat.le_refl _), List.take_left', hl, ← hS1,
        List.drop_of_length_le (Nat.le_refl _), List.append_nil]
      rfl
    exact Post.ret ⟨h1.1, by simp only [StateC.toState, step, if_neg hc, this], this ▸ hl, hO⟩

theorem running_nfree {p : Params} {nf : Nat} {s : State} (h : running p nf s = true) : nf ≠ 0 := by
  simp only [running, Bool.and_eq_true, decide_eq_true_eq] at h
  omega

theorem runC_post {t : Triple} {p : Params} {fl : List Nat} {nf : Nat} : ∀ (es : List EventC) (s : StateC),
    s.S.length = t.N →
    Post (Bounds t ∧ TableOk t fl nf ∧ (∀ e ∈ es, e.k < nf) ∧ s.oldS.length = t.N) (runC t p fl nf s es)
      (fun s' => s'.toState = run t p nf s.toState (es.map (EventC.look fl)) ∧
        s'.S.length = t.N ∧
        ∀ e ∈ es.take (runList t p nf s.toState (es.map (EventC.look fl))).length,
          e.k < fl.length)
  | [], s, hl => Post.ret ⟨rfl, hl, fun _ he => by simp at he⟩
  | e :: es, s, hl => by
    rw [runC]
    simp only [List.map_cons, run, runList]
    by_cases hr : running p nf s.toState = true
    · simp only [if_pos hr]
      refine Post.bind ((stepC_post (running_nfree hr) hl).mono
        (fun q => ⟨q.1, q.2.1, q.2.2.1 e List.mem_cons_self, q.2.2.2⟩) fun _ h => h) fun s1 h1 => ?_
      rw [← h1.sim]
      refine (runC_post es s1 h1.lenS).mono (fun q => ⟨q.1, q.2.1, fun e' he' => q.2.2.1 e' (List.mem_cons_of_mem _ he'),
        h1.lenOld.trans q.2.2.2⟩) fun s' h => ⟨h.1, h.2.1, fun e' he' => ?_⟩
      simp only [List.length_cons, List.take_succ_cons, List.mem_cons] at he'
      rcases he' with rfl | he'
      · exact h1.inTable
      · exact h.2.2 e' he'
    · simp only [if_neg hr]
      exact Post.ret ⟨rfl, hl, fun _ he => by simp at he⟩

theorem runC_events {t : Triple} {p : Params} {fl : List Nat} {nf : Nat} (hfl : fl.length = t.N) :
    ∀ (es : List EventC) (s s' : StateC), s.S.length = t.N → runC t p fl nf s es = ok s' →
      ∀ e ∈ es.take (runList t p nf s.toState (es.map (fun e => ⟨fl.getD e.k 0, e.base, e.cmp⟩))).length, e.k < t.N :=
  fun es s s' hl h e he => hfl ▸ ((runC_post es s hl).only s' h).2.2 e he

theorem tableOk_of_inv {t : Triple} {fn : List Nat × Nat} (inv : FlInv fn (freeLocs t) t.N) : TableOk t fn.1 fn.2 := by
  intro k hk
  rw [inv.nf] at hk
  have hle : (freeLocs t).length ≤ t.N := by
    unfold freeLocs
    exact Nat.le_trans (List.length_filter_le _ _) (by simp)
  refine ⟨by rw [inv.len]; omega, ?_⟩
  rw [inv.get k]
  exact (mem_freeLocs.1 (getD_mem hk 0)).1

theorem programC_sim {t : Triple} {o : Opts} {start : Seq} {es : List EventC} (hl : start.length = t.N) :
    Sim (Bounds t ∧ ∀ e ∈ es, e.k < (freeLocs t).length) (programC t o start es)
      (program t o start (es.map (EventC.toEvent t))) := by
  unfold programC program
  simp only []
  refine Sim.bind ((effectiveBmaxC_sim hl).mono (·.1)) ?_
  refine Sim.bind (constrainC_sim.mono (fun q => ⟨q.1, hl⟩)) ?_
  refine Sim.bind (testConsistencyC_sim.mono (fun q => ⟨q.1, constrain_length hl⟩)) ?_
  cases testConsistency t (constrain t start)
  · exact Sim.ret none
  · refine Post.bind (freelocC_post.mono (·.1) fun _ h => h) fun fn inv => ?_
    refine Post.bind ((runC_post es _ (constrain_length hl)).mono (fun q => ⟨q.1, tableOk_of_inv inv,
      fun e he => by rw [inv.nf]; exact q.2 e he, List.length_replicate⟩) fun _ h => h) fun fin hfin => ?_
    · obtain ⟨r1, hlen, _⟩ := hfin
      have hev : es.map (EventC.look fn.1) = es.map (EventC.toEvent t) :=
        List.map_congr_left (fun e _ => by simp only [EventC.look, EventC.toEvent, inv.get])
      rw [hev, inv.nf] at r1
      have hfin : fin.S = (run t ⟨effectiveBmax o t, o.imax⟩ (freeLocs t).length ⟨constrain t start, 0, 0⟩
          (es.map (EventC.toEvent t))).S := congrArg State.S r1
      rw [← hfin]
      refine Sim.bind (constrainC_sim.mono (fun q => ⟨q.1, hlen⟩)) ?_
      refine Sim.bind (testConsistencyC_sim.mono (fun q => ⟨q.1, constrain_length hlen⟩)) ?_
      cases testConsistency t (constrain t fin.S) <;> exact Sim.ret _

end Pepper.SsmChecked
