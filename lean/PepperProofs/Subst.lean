import PepperModel.Subst
import PepperProofs.Basic
/-!
# Template parameter substitution (C13): brace expansion (`duplicate`) as a product, binding of arguments

`duplicate_unfold`: the fuel of `duplicate` never runs out, so it satisfies the Python's recursion equation.
`segs_spec`, `dup_render`: a line with flat braces decomposes into text and groups, and expanding its groups
from the left gives `choices`, the lexicographic product (`duplicate_eq_expandLine`); hence `C13.subst_is_expansion`.
`choices_length`, `choices_index`, `choices_last` describe that product; `bindArgs_ok`/`bindArgs_err` and
`Env.get_eq_lookup` the binding of template arguments.
-/
namespace Pepper.Subst
open Pepper

theorem splitOn_eq (sep : Char) : ∀ l, splitOn sep l = l.splitOn sep :=
  eq_splitOn rfl fun d r a b e => by rw [splitOn, e]; by_cases h : d = sep <;> simp [h]

theorem joinWith_eq (sep : Char) : ∀ as, joinWith sep as = [sep].intercalate as :=
  eq_intercalate rfl (fun _ => rfl) fun _ _ _ => rfl

theorem splitOn_ne_nil (sep : Char) (l : Str) : splitOn sep l ≠ [] := by
  rw [splitOn_eq]; exact List.splitOn_ne_nil sep l

theorem splitOn_joinWith (sep : Char) (as : List Str) (hne : as ≠ []) (h : ∀ a ∈ as, sep ∉ a) :
    splitOn sep (joinWith sep as) = as := by
  rw [splitOn_eq, joinWith_eq, List.splitOn_intercalate _ h hne]

theorem all_joinWith {p : Char → Bool} {sep : Char} (hs : p sep = true) :
    ∀ (as : List Str), (∀ a ∈ as, a.all p = true) → (joinWith sep as).all p = true
  | [], _ => by simp [joinWith]
  | [a], h => by simpa [joinWith] using h a (by simp)
  | a :: b :: r, h => by
    have ih := all_joinWith hs (b :: r) (fun x hx => h x (by simp [hx]))
    have ha := h a (by simp)
    simp only [joinWith, List.all_append, List.all_cons, ha, hs, ih, Bool.and_self]

theorem findGroup_noOpen {l : Str} (h : '{' ∉ l) : findGroup l = none := by
  induction l with
  | nil => simp [findGroup]
  | cons c r ih =>
    have hc : c ≠ '{' := fun e => h (e ▸ List.mem_cons_self)
    have hr : '{' ∉ r := fun m => h (List.mem_cons_of_mem _ m)
    rw [findGroup, if_neg hc, ih hr]
    rfl

theorem not_mem_of_all_notBrace {l : Str} (h : l.all notBrace = true) : '{' ∉ l := by
  intro m
  have := List.all_eq_true.1 h _ m
  simp [notBrace] at this

theorem findGroup_first {p i : Str} (e : Str) (hp : p.all notBrace = true) (hi : i.all notBrace = true) :
    findGroup (p ++ '{' :: (i ++ '}' :: e)) = some (p, i, e) := by
  induction p with
  | nil =>
    have hi' := List.all_eq_true.1 hi
    simp [findGroup, List.takeWhile_append_of_pos hi', List.dropWhile_append_of_pos hi', notBrace]
  | cons c t ih =>
    simp only [List.all_cons, Bool.and_eq_true] at hp
    have hc : c ≠ '{' := by
      intro e'; subst e'; simp [notBrace] at hp
    rw [List.cons_append, findGroup, if_neg hc, ih hp.2]
    rfl

theorem findGroup_sound {l s i e : Str} (h : findGroup l = some (s, i, e)) :
    l = s ++ '{' :: (i ++ '}' :: e) ∧ i.all notBrace = true := by
  fun_induction findGroup l generalizing s with
  | case1 => cases h
  | case2 r e' hd =>
    cases h
    exact ⟨by rw [← hd, List.takeWhile_append_dropWhile]; rfl, List.all_takeWhile⟩
  | case3 r _ ih | case4 c r _ ih =>
    obtain ⟨⟨s', i', e'⟩, hf, hx⟩ := Option.map_eq_some_iff.1 h
    cases hx
    obtain ⟨a, b⟩ := ih hf
    exact ⟨by rw [a]; rfl, b⟩

@[simp] theorem render_nil : render [] = [] := rfl
@[simp] theorem render_cons (s : Seg) (r : List Seg) : render (s :: r) = s.render ++ render r := rfl

theorem wfSegs_cons {s : Seg} {r : List Seg} : wfSegs (s :: r) = true ↔ s.wf = true ∧ wfSegs r = true := by
  simp [wfSegs]

theorem duplicateFuel_noOpen (n : Nat) {l : Str} (h : '{' ∉ l) : duplicateFuel n l = l := by
  cases n with
  | zero => rfl
  | succ m => rw [duplicateFuel, findGroup_noOpen h]

theorem group_wf_iff {alts : List Str} : (Seg.group alts).wf = true ↔
    alts ≠ [] ∧ ∀ a ∈ alts, ∀ c ∈ a, notBrace c = true ∧ c ≠ ',' := by
  simp only [Seg.wf, Bool.and_eq_true, Bool.not_eq_true', List.all_eq_true, bne_iff_ne, ne_eq,
    List.isEmpty_eq_false_iff]

theorem group_wf {alts : List Str} (h : (Seg.group alts).wf = true) :
    alts ≠ [] ∧ (∀ a ∈ alts, a.all notBrace = true) ∧ (∀ a ∈ alts, ',' ∉ a) := by
  obtain ⟨hne, h⟩ := group_wf_iff.1 h
  exact ⟨hne, fun a ha => List.all_eq_true.2 fun c hc => (h a ha c hc).1, fun a ha m => (h a ha ',' m).2 rfl⟩

theorem count_eq_zero_of_all_notBrace {l : Str} (h : l.all notBrace = true) : l.count '{' = 0 :=
  List.count_eq_zero.2 (not_mem_of_all_notBrace h)

theorem countOpen_sub {l s i e op : Str} (hf : findGroup l = some (s, i, e)) (hop : op ∈ splitOn ',' i) :
    countOpen (s ++ op ++ e) + 1 = countOpen l := by
  obtain ⟨el, hi⟩ := findGroup_sound hf
  have h1 : op.count '{' = 0 := List.count_eq_zero.2 fun m => not_mem_of_all_notBrace hi (mem_of_mem_splitOn (splitOn_eq ',' i ▸ hop) m).1
  rw [el]
  have hb : ('}' == '{') = false := rfl
  simp only [countOpen, List.count_append, List.count_cons, h1, count_eq_zero_of_all_notBrace hi, hb,
    beq_self_eq_true, if_true, Bool.false_eq_true, if_false]
  omega

theorem duplicateFuel_stable : ∀ (n m : Nat) (l : Str), countOpen l ≤ n → countOpen l ≤ m →
    duplicateFuel n l = duplicateFuel m l
  | 0, m, l, h, _ | n + 1, 0, l, _, h => by
    have : '{' ∉ l := List.count_eq_zero.1 (Nat.le_zero.1 h)
    rw [duplicateFuel_noOpen _ this, duplicateFuel_noOpen _ this]
  | n + 1, m + 1, l, hn, hm => by
    simp only [duplicateFuel]
    cases hf : findGroup l with
    | none => rfl
    | some x =>
      obtain ⟨s, i, e⟩ := x
      refine congrArg List.flatten (List.map_congr_left fun op hop => ?_)
      have hc := countOpen_sub hf hop
      exact duplicateFuel_stable n m _ (by omega) (by omega)

theorem duplicate_unfold (l : Str) :
    duplicate l = match findGroup l with
      | none => l
      | some (start, inner, stop) =>
        ((splitOn ',' inner).map (fun op => duplicate (start ++ op ++ stop))).flatten := by
  cases hf : findGroup l with
  | none =>
    simp only [duplicate]
    cases countOpen l with
    | zero => rfl
    | succ k => rw [duplicateFuel, hf]
  | some x =>
    obtain ⟨s, i, e⟩ := x
    obtain ⟨op0, hop0⟩ := List.exists_mem_of_ne_nil _ (splitOn_ne_nil ',' i)
    have h0 := countOpen_sub hf hop0
    simp only [duplicate]
    rw [show countOpen l = (countOpen l - 1) + 1 by omega]
    simp only [duplicateFuel, hf]
    refine congrArg List.flatten (List.map_congr_left fun op hop => ?_)
    rw [show countOpen (s ++ op ++ e) = countOpen l - 1 by have := countOpen_sub hf hop; omega]

theorem prod_flatten (p : Str) (C : List Str) (alts : List Str) :
    (alts.map (fun op => (C.map ((p ++ op) ++ ·)).flatten)).flatten =
      ((alts.flatMap (fun a => C.map (a ++ ·))).map (p ++ ·)).flatten := by
  induction alts with
  | nil => simp
  | cons a t iht =>
    simp only [List.map_cons, List.flatten_cons, List.flatMap_cons, List.map_append, List.flatten_append,
      List.map_map, iht]
    congr 2
    apply List.map_congr_left
    intro x _
    simp

theorem dup_render : ∀ (S : List Seg) (p : Str), wfSegs S = true → p.all notBrace = true →
    duplicate (p ++ render S) = ((choices S).map (p ++ ·)).flatten
  | [], p, _, hp => by
    rw [duplicate_unfold, render_nil, List.append_nil, findGroup_noOpen (not_mem_of_all_notBrace hp)]
    simp [choices]
  | .text s :: r, p, hw, hp => by
    obtain ⟨hs, hr⟩ := wfSegs_cons.1 hw
    have hs' : s.all notBrace = true := hs
    have hps : (p ++ s).all notBrace = true := by simp [List.all_append, hp, hs']
    simp only [render_cons, Seg.render, choices, List.map_map]
    rw [← List.append_assoc, dup_render r (p ++ s) hr hps]
    congr 2
    funext x
    simp
  | .group alts :: r, p, hw, hp => by
    obtain ⟨hg, hr⟩ := wfSegs_cons.1 hw
    obtain ⟨hne, hnb, hnc⟩ := group_wf hg
    have hi : (joinWith ',' alts).all notBrace = true := all_joinWith (by decide) alts hnb
    have hshape : p ++ render (.group alts :: r) = p ++ '{' :: (joinWith ',' alts ++ '}' :: render r) := by
      simp [Seg.render]
    rw [hshape, duplicate_unfold, findGroup_first (render r) hp hi]
    simp only [splitOn_joinWith ',' alts hne hnc, choices]
    rw [← prod_flatten p (choices r) alts]
    refine congrArg List.flatten (List.map_congr_left fun a ha => ?_)
    exact dup_render r (p ++ a) hr (by simp [List.all_append, hp, hnb a ha])

theorem countOpen_render : ∀ (S : List Seg), wfSegs S = true → countOpen (render S) = groups S
  | [], _ => rfl
  | .text s :: r, hw => by
    obtain ⟨hs, hr⟩ := wfSegs_cons.1 hw
    have hs' : s.all notBrace = true := hs
    rw [render_cons, Seg.render, countOpen, List.count_append, count_eq_zero_of_all_notBrace hs', Nat.zero_add,
      groups]
    exact countOpen_render r hr
  | .group alts :: r, hw => by
    obtain ⟨hg, hr⟩ := wfSegs_cons.1 hw
    obtain ⟨_, hnb, _⟩ := group_wf hg
    have hi : (joinWith ',' alts).all notBrace = true := all_joinWith (by decide) alts hnb
    have hb : ('}' == '{') = false := rfl
    rw [groups, ← countOpen_render r hr]
    simp only [render_cons, Seg.render, countOpen, List.cons_append, List.count_cons, List.count_append,
      List.count_nil, count_eq_zero_of_all_notBrace hi, hb, beq_self_eq_true, if_true, Bool.false_eq_true, if_false,
      Nat.zero_add]

theorem render_pushChar (c : Char) (S : List Seg) : render (pushChar c S) = c :: render S := by
  unfold pushChar
  split <;> simp [Seg.render]

theorem wf_pushChar {c : Char} {S : List Seg} (hc : notBrace c = true) (h : wfSegs S = true) :
    wfSegs (pushChar c S) = true := by
  unfold pushChar
  split
  · obtain ⟨hs, hr⟩ := wfSegs_cons.1 h
    refine wfSegs_cons.2 ⟨?_, hr⟩
    show (notBrace c && _) = true
    rw [hc, Bool.true_and]
    exact hs
  · refine wfSegs_cons.2 ⟨?_, h⟩
    show (notBrace c && true) = true
    rw [hc]
    rfl

theorem joinWith_cons_char (sep c : Char) (a : Str) (as : List Str) :
    joinWith sep ((c :: a) :: as) = c :: joinWith sep (a :: as) := by
  cases as <;> simp [joinWith]

/-- what `segs true l` looks like when the group we are in is closed properly -/
def InsideOk (l : Str) : Prop :=
  ∃ a as R, segs true l = .group (a :: as) :: R ∧ (Seg.group (a :: as)).wf = true ∧ wfSegs R = true ∧
    l = joinWith ',' (a :: as) ++ '}' :: render R

theorem segs_spec (b : Bool) (l : Str) (h : flatB b l = true) :
    if b then InsideOk l else wfSegs (segs false l) = true ∧ render (segs false l) = l := by
  fun_induction segs b l with
  | case1 => simp [segs, wfSegs]
  | case2 => simp [flatB] at h
  | case3 r ih =>
    obtain ⟨a, as, R, e1, w1, w2, e2⟩ := ih (by simpa [flatB] using h)
    simp only [Bool.false_eq_true, ↓reduceIte, segs, e1]
    exact ⟨wfSegs_cons.2 ⟨w1, w2⟩, by simp [Seg.render, e2]⟩
  | case4 c r h1 ih =>
    have h2 : c ≠ '}' := by rintro rfl; simp [flatB] at h
    simp only [flatB, h1, h2, ↓reduceIte] at h
    obtain ⟨w, e⟩ := ih h
    simp only [Bool.false_eq_true, ↓reduceIte, segs, h1]
    exact ⟨wf_pushChar (by simp [notBrace, h1, h2]) w, by rw [render_pushChar, e]⟩
  | case5 r ih =>
    obtain ⟨w, e⟩ := ih (by simpa [flatB] using h)
    exact ⟨[], [], segs false r, by simp [segs], by simp [Seg.wf], w, by simp [joinWith, e]⟩
  | case6 r _ ih =>
    obtain ⟨a, as, R, e1, w1, w2, e2⟩ := ih (by simpa [flatB] using h)
    refine ⟨[], a :: as, R, by simp [segs, e1, newAlt], ?_, w2, by simp [joinWith, e2]⟩
    rw [group_wf_iff] at w1 ⊢
    exact ⟨by simp, List.forall_mem_cons.2 ⟨by simp, w1.2⟩⟩
  | case7 c r h2 h3 ih =>
    have h1 : c ≠ '{' := by rintro rfl; simp [flatB] at h
    simp only [flatB, h1, h2, ↓reduceIte] at h
    obtain ⟨a, as, R, e1, w1, w2, e2⟩ := ih h
    refine ⟨c :: a, as, R, by simp [segs, h2, h3, e1, pushAltChar], ?_, w2, by rw [joinWith_cons_char, e2]; simp⟩
    rw [group_wf_iff] at w1 ⊢
    obtain ⟨wa, was⟩ := List.forall_mem_cons.1 w1.2
    exact ⟨by simp, List.forall_mem_cons.2 ⟨List.forall_mem_cons.2 ⟨⟨by simp [notBrace, h1, h2], h3⟩, wa⟩, was⟩⟩

theorem duplicate_render (S : List Seg) (hw : wfSegs S = true) : duplicate (render S) = (choices S).flatten := by
  simpa using dup_render S [] hw rfl

theorem duplicate_eq_expandLine {l : Str} (h : FlatBraces l) : duplicate l = expandLine l := by
  obtain ⟨w, e⟩ : wfSegs (segs false l) = true ∧ render (segs false l) = l := segs_spec false l h
  rw [expandLine, ← duplicate_render _ w, e]

theorem foldl_set_eq {Val : Type} (l : List (Str × Val)) (acc : Env Val) :
    l.foldl (fun env pa => env.set pa.1 pa.2) acc = l.reverse ++ acc := by
  induction l generalizing acc with
  | nil => rfl
  | cons x t ih => simp [List.foldl, Env.set]

theorem Env.get_eq_lookup {Val : Type} (l : Env Val) (x : Str) : Env.get l x = l.lookup x := by
  fun_induction Env.get l x with
  | case1 => rfl
  | case2 w r k => rw [List.lookup_cons_self]
  | case3 k w r x hk ih => rw [List.lookup_cons, beq_false_of_ne (Ne.symm hk), ih]

theorem bindArgs_ok {Val : Type} (ps : List Str) (as : List Val) (h : ps.length = as.length) :
    bindArgs ps as = .ok (ps.zip as).reverse := by
  simp [bindArgs, h, foldl_set_eq]

theorem bindArgs_err {Val : Type} (ps : List Str) (as : List Val) (h : ps.length ≠ as.length) :
    bindArgs ps as = .error .arity := by
  simp [bindArgs, h]

theorem choices_of_render_nil : ∀ (S : List Seg), render S = [] → choices S = [[]]
  | [], _ => rfl
  | .text s :: r, h => by
    simp only [render_cons, Seg.render, List.append_eq_nil_iff] at h
    simp [choices, choices_of_render_nil r h.2, h.1]
  | .group alts :: r, h => by simp [Seg.render] at h

theorem choices_last : ∀ (S : List Seg) (c : Char), (render S).getLast? = some c → notBrace c = true →
    ∀ x ∈ choices S, x.getLast? = some c
  | [], c, h, _ => by simp at h
  | seg :: r, c, h, hc => by
    rw [render_cons, List.getLast?_append] at h
    have rest : ∀ d, (render r).getLast? = some d → ∀ (a : Str), ∀ y ∈ choices r, (a ++ y).getLast? = some c := by
      intro d hg a y hy
      rw [hg, Option.some_or] at h
      rw [List.getLast?_append, choices_last r c (hg.trans h) hc y hy]
      rfl
    intro x hx
    cases seg with
    | text s =>
      obtain ⟨y, hy, rfl⟩ := List.mem_map.1 hx
      cases hg : (render r).getLast? with
      | some d => exact rest d hg s y hy
      | none =>
        rw [choices_of_render_nil r (List.getLast?_eq_none_iff.1 hg)] at hy
        cases List.mem_singleton.1 hy
        rw [hg, Option.none_or] at h
        rw [List.append_nil]
        exact h
    | group alts =>
      simp only [choices, List.mem_flatMap, List.mem_map] at hx
      obtain ⟨a, _, y, hy, rfl⟩ := hx
      cases hg : (render r).getLast? with
      | some d => exact rest d hg a y hy
      | none =>
        rw [hg, Option.none_or] at h
        rw [Seg.render, ← List.cons_append, List.getLast?_concat] at h
        cases h
        simp [notBrace] at hc

theorem terminate_last (l : Str) : (terminate l).getLast? = some '\n' := by
  unfold terminate
  split
  · assumption
  · simp

theorem choices_length : ∀ (S : List Seg), (choices S).length = total S
  | [] => rfl
  | .text s :: r => by simp [choices, total, choices_length r]
  | .group alts :: r => by
    simp only [choices, total]
    induction alts with
    | nil => simp
    | cons a t ih => simp [List.flatMap_cons, choices_length r, ih, Nat.succ_mul, Nat.add_comm]

theorem flatMap_block {α β : Type} (f : α → List β) (m : Nat) :
    ∀ (l : List α), (∀ a ∈ l, (f a).length = m) → ∀ j, j < l.length * m →
      (l.flatMap f)[j]? = (l[j / m]?).bind (fun a => (f a)[j % m]?)
  | [], _, j, hj => by simp at hj
  | a :: t, hl, j, hj => by
    have ha : (f a).length = m := hl a (by simp)
    have ih := flatMap_block f m t (fun x hx => hl x (by simp [hx]))
    rw [List.flatMap_cons]
    by_cases hlt : j < m
    · rw [List.getElem?_append_left (by omega), Nat.div_eq_of_lt hlt, Nat.mod_eq_of_lt hlt]
      simp
    · have hge : m ≤ j := by omega
      have hpos : 0 < m := by
        rcases Nat.eq_zero_or_pos m with e | e
        · subst e; simp at hj
        · exact e
      have hj' : j - m < t.length * m := by
        simp only [List.length_cons, Nat.succ_mul] at hj
        omega
      rw [List.getElem?_append_right (by omega), ha, ih (j - m) hj',
        Nat.div_eq_sub_div hpos hge, ← Nat.mod_eq_sub_mod hge]
      simp

theorem choices_index : ∀ (S : List Seg) (j : Nat), j < total S → (choices S)[j]? = some (pickAt S j)
  | [], j, h => by
    simp only [total] at h
    have : j = 0 := by omega
    subst this
    simp [choices, pickAt]
  | .text s :: r, j, h => by
    simp only [total] at h
    simp [choices, pickAt, choices_index r j h]
  | .group alts :: r, j, h => by
    simp only [total] at h
    have hpos : 0 < total r := by
      rcases Nat.eq_zero_or_pos (total r) with e | e
      · rw [e] at h; simp at h
      · exact e
    have hdiv : j / total r < alts.length := by
      apply (Nat.div_lt_iff_lt_mul hpos).2; exact h
    have hmod : j % total r < total r := Nat.mod_lt _ hpos
    simp only [choices, pickAt]
    rw [flatMap_block (fun a => (choices r).map (a ++ ·)) (total r) alts
      (fun a _ => by simp [choices_length]) j h]
    simp [List.getElem?_eq_getElem hdiv, choices_index r _ hmod]

end Pepper.Subst
