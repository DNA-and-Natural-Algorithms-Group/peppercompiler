import PepperModel.Sys
import PepperProofs.Basic
import PepperProofs.CompBasic
import PepperProofs.CompAdd
/-!
# The system loader (`Sys.loadFile` / `loadStmts`, C02)

The import search; the loader's equations with its binding loop and port lists under names (`bindStep`, `bindSigs`,
`instPorts`); instance prefixes and the `-` that keeps siblings apart; `loadFile_induct`, the induction over an accepted
run of the loader, of which every fact about loaded trees is an instance.  The specification's walk is `SysDenote`; the
two in lockstep are `SysAgree`.
-/
namespace Pepper.SysProofs
open Pepper.Comp Pepper.Sys

/-! ### lists, association lists, folds in `Except` (nothing about the model) -/

theorem mem_zip_map_map {α β γ} (l : List α) (f : α → β) (g : α → γ) {x : β × γ}
    (h : x ∈ (l.map f).zip (l.map g)) : ∃ r ∈ l, x = (f r, g r) := by
  rw [List.zip_map'] at h
  obtain ⟨r, hr, e⟩ := List.mem_map.1 h
  exact ⟨r, hr, e.symm⟩

theorem contains_keys {β} (l : List (String × β)) (n : String) : (l.map (·.1)).contains n = (l.lookup n).isSome := by
  rw [Bool.eq_iff_iff, List.contains_iff_mem, lookup_isSome_iff_mem_keys]

theorem lookup_isSome_of_keys {α β} {l1 : List (String × α)} {l2 : List (String × β)}
    (h : l1.map (·.1) = l2.map (·.1)) (n : String) : (l1.lookup n).isSome = (l2.lookup n).isSome := by
  rw [← contains_keys, ← contains_keys, h]

theorem mem_keys_lookup {β} {l : List (String × β)} {x : String × β} (hx : x ∈ l) : (l.lookup x.1).isSome = true :=
  lookup_isSome_iff_mem_keys.2 (List.mem_map_of_mem hx)

theorem lookup_append_new {β} (l : List (String × β)) (k n : String) (v : β) (h : (l.lookup n).isSome = true) :
    (l ++ [(k, v)]).lookup n = l.lookup n := by
  obtain ⟨w, hw⟩ := Option.isSome_iff_exists.1 h
  rw [List.lookup_append, hw]
  rfl

theorem lookup_append_self {β} (l : List (String × β)) (k : String) (v : β) (h : l.lookup k = none) :
    (l ++ [(k, v)]).lookup k = some v := by
  rw [List.lookup_append, h, List.lookup, beq_self_eq_true]
  rfl

/-! ### the import search (`resolveImport`) -/

def sysAt (probe : String → Bool) (base d : String) : Bool := probe (pathJoin d base ++ ".sys")
def compAt (probe : String → Bool) (base d : String) : Bool := probe (pathJoin d base ++ ".comp")

/-- what `load_file` does once it stands in the first directory that has a candidate -/
def hitResult (probe : String → Bool) (base d : String) : Except Sys.Err (String × Bool × String) :=
  if sysAt probe base d && compAt probe base d then .error .ambiguous
  else if sysAt probe base d then .ok (pathJoin d base ++ ".sys", true, dirname (pathJoin d base))
  else .ok (pathJoin d base ++ ".comp", false, dirname (pathJoin d base))

theorem go_spec (probe : String → Bool) (base : String) (dirs : List String) :
    (∃ i, ∃ h : i < dirs.length,
        (∀ j (hj : j < i), sysAt probe base (dirs[j]'(Nat.lt_trans hj h)) = false ∧
                           compAt probe base (dirs[j]'(Nat.lt_trans hj h)) = false) ∧
        (sysAt probe base dirs[i] = true ∨ compAt probe base dirs[i] = true) ∧
        resolveImport.go probe base dirs = hitResult probe base dirs[i])
    ∨ ((∀ d ∈ dirs, sysAt probe base d = false ∧ compAt probe base d = false) ∧
        (match resolveImport.go probe base dirs with | .error .missing => True | _ => False)) := by
  induction dirs with
  | nil => exact Or.inr ⟨fun d h => (nomatch h), by simp [resolveImport.go]⟩
  | cons d r ih =>
    have hgo : resolveImport.go probe base (d :: r) =
        if sysAt probe base d = true ∨ compAt probe base d = true then hitResult probe base d
        else resolveImport.go probe base r := by
      simp only [resolveImport.go, hitResult, sysAt, compAt]
      rcases Bool.eq_false_or_eq_true (probe (pathJoin d base ++ ".sys")) with hs | hs
      · simp [hs]
      · simp [hs]
    by_cases hd : sysAt probe base d = true ∨ compAt probe base d = true
    · exact Or.inl ⟨0, Nat.succ_pos _, fun j hj => absurd hj (Nat.not_lt_zero j), hd, by rw [hgo, if_pos hd]; rfl⟩
    · rw [hgo, if_neg hd]
      have hd' : sysAt probe base d = false ∧ compAt probe base d = false := by simpa using hd
      rcases ih with ⟨i, h, hbefore, hhit, hres⟩ | ⟨hnone, hmiss⟩
      · refine Or.inl ⟨i + 1, Nat.succ_lt_succ h, fun j hj => ?_, hhit, hres⟩
        cases j with
        | zero => exact hd'
        | succ j => exact hbefore j (Nat.lt_of_succ_lt_succ hj)
      · refine Or.inr ⟨fun x hx => ?_, hmiss⟩
        rcases List.mem_cons.1 hx with rfl | hx
        · exact hd'
        · exact hnone x hx

/-! ### the loader's equations; its binding loop and port lists under names -/

theorem loadFile_zero (b : Bundle) (base : String) (args : Nat) (argKey pfx path : String) (includes : List String) (anon : Nat) :
    loadFile b 0 base args argKey pfx path includes anon = .error .fuel := by
  rw [loadFile]

theorem loadFile_succ (b : Bundle) (fuel : Nat) (base : String) (args : Nat) (argKey pfx path : String)
    (includes : List String) (anon : Nat) :
    loadFile b (fuel + 1) base args argKey pfx path includes anon =
      match resolveImport (fun p => b.exists_.contains (normPath p)) base path includes with
      | .error e => .error e
      | .ok (fname, issys, newPath) =>
        match b.files.lookup (normPath fname ++ argKey) with
        | none => .error .missing
        | some (.comp c) =>
          if issys then .error .wrongKind else
          match Comp.load c args pfx anon with
          | .ok (st, a) => .ok (.comp st, a)
          | .error e => .error (.comp e)
        | some (.sys s) =>
          if !issys then .error .wrongKind else
          if s.params.length != args then .error .arity else
          match loadStmts b fuel includes s.stmts (.mk newPath s.name pfx [] [] [] [] [] []) anon with
          | .error e => .error e
          | .ok (st, a) =>
            if !(s.inputs ++ s.outputs).all (fun r => (st.signals.lookup r.name).isSome) then .error .undefinedSignal
            else match st with
              | .mk p n pf t sg l c _ _ => .ok (.sys (.mk p n pf t sg l c s.inputs s.outputs), a) := by
  rw [loadFile]
  rfl

/-- a port of an instance as the binding loop reads it: the port object, the star of its declaration, its length,
    whether it is a dummy (a component's zero-length sequence) — read below by position `.1`, `.2.1`, `.2.2.1`, `.2.2.2` -/
abbrev PortT := Sys.Port × Bool × Nat × Bool

/-- loop body of the local `bind` of `Sys.loadStmts`: one global signal against one port of the instance -/
def bindStep (cname : String) (acc : List (String × List SigEntry) × List (String × Nat))
    (gp : SigRef × (Sys.Port × Bool × Nat × Bool)) : Except Sys.Err (List (String × List SigEntry) × List (String × Nat)) :=
  match acc.2.lookup gp.1.name with
  | none => if gp.2.2.2.2 then .error .dummySignal
            else .ok (addSig acc.1 gp.1.name ⟨gp.2.1, cname, gp.1.star != gp.2.2.1⟩, acc.2 ++ [(gp.1.name, gp.2.2.2.1)])
  | some l0 => if l0 != gp.2.2.2.1 then .error .signalLength
               else .ok (addSig acc.1 gp.1.name ⟨gp.2.1, cname, gp.1.star != gp.2.2.1⟩, acc.2)

def bindSigs (cname : String) (sigs : List (String × List SigEntry)) (lens : List (String × Nat))
    (globs : List SigRef) (ports : List (Sys.Port × Bool × Nat × Bool)) :
    Except Sys.Err (List (String × List SigEntry) × List (String × Nat)) :=
  (List.zip globs ports).foldlM (bindStep cname) (sigs, lens)

theorem bindStep_ok {cname : String} {acc acc' : List (String × List SigEntry) × List (String × Nat)}
    {z : SigRef × (PortT)} (h : bindStep cname acc z = .ok acc') :
    acc'.1 = addSig acc.1 z.1.name ⟨z.2.1, cname, z.1.star != z.2.2.1⟩ ∧
    ((acc.2.lookup z.1.name = none ∧ z.2.2.2.2 = false ∧ acc'.2 = acc.2 ++ [(z.1.name, z.2.2.2.1)]) ∨
     (acc.2.lookup z.1.name = some z.2.2.2.1 ∧ acc'.2 = acc.2)) := by
  unfold bindStep at h
  split at h
  · next hl =>
    obtain ⟨hd, h⟩ := ite_ok h
    cases h
    exact ⟨rfl, Or.inl ⟨hl, Bool.eq_false_iff.mpr hd, rfl⟩⟩
  · next l0 hl =>
    obtain ⟨hne, h⟩ := ite_ok h
    cases h
    exact ⟨rfl, Or.inr ⟨Decidable.of_not_not (mt bne_iff_ne.mpr hne) ▸ hl, rfl⟩⟩

theorem keys_snocAt {β} (l : List (String × List β)) (n : String) (e : β) :
    (l.map (fun (k, v) => if k == n then (k, v ++ [e]) else (k, v))).map (·.1) = l.map (·.1) := by
  rw [List.map_map]
  refine List.map_congr_left (fun x _ => ?_)
  simp only [Function.comp]
  split <;> rfl

/-- one step of the binding loop on tables with the same keys: a new signal is appended to both, or a signal there is
    gets one more entry -/
theorem bindStep_cases {cname : String} {sigs sigs' : List (String × List SigEntry)} {lens lens' : List (String × Nat)}
    {g : SigRef} {ip : PortT} (hk : sigs.map (·.1) = lens.map (·.1))
    (h : bindStep cname (sigs, lens) (g, ip) = .ok (sigs', lens')) :
    (lens.lookup g.name = none ∧ ip.2.2.2 = false ∧
        sigs' = sigs ++ [(g.name, [⟨ip.1, cname, g.star != ip.2.1⟩])] ∧ lens' = lens ++ [(g.name, ip.2.2.1)]) ∨
    (lens.lookup g.name = some ip.2.2.1 ∧ lens' = lens ∧
        sigs' = sigs.map (fun (k, v) => if k == g.name then (k, v ++ [⟨ip.1, cname, g.star != ip.2.1⟩]) else (k, v))) := by
  have hs := lookup_isSome_of_keys hk g.name
  obtain ⟨h1, h2⟩ := bindStep_ok h
  simp only at h1 h2
  subst h1
  rcases h2 with ⟨hl, hd, rfl⟩ | ⟨hl, rfl⟩ <;> rw [hl] at hs
  · exact Or.inl ⟨hl, hd, by simp only [addSig, hs, Option.isSome_none, Bool.false_eq_true, if_false], rfl⟩
  · exact Or.inr ⟨hl, rfl, by simp only [addSig, hs, Option.isSome_some, if_true]⟩


/-- the port object of a component's port is the *unstarred* sequence -/
def compPorts (cst : Comp.St) : List (Sys.Port × Bool × Nat × Bool) :=
  (cst.inputSeqs ++ cst.outputSeqs).map (fun (i : ItemRef) =>
    let fwdRef : ItemRef := { i with rev := false }
    let bases := match cst.findSeq i.name with | some e => e.bases | none => []
    (Sys.Port.seq fwdRef bases, i.rev, i.len, i.len == 0))

def sysPorts (sst : SysSt) : List (Sys.Port × Bool × Nat × Bool) :=
  (sst.inputSeqs ++ sst.outputSeqs).map (fun (r : SigRef) =>
    (Sys.Port.sig r.name, r.star, (sst.lengths.lookup r.name).getD 0, false))

def instPorts : Inst → List (Sys.Port × Bool × Nat × Bool)
  | .comp cst => compPorts cst
  | .sys sst => sysPorts sst

def instArity : Inst → Nat × Nat
  | .comp cst => (cst.inputSeqs.length, cst.outputSeqs.length)
  | .sys sst => (sst.inputSeqs.length, sst.outputSeqs.length)

def addComp (st : SysSt) (sg : List (String × List SigEntry)) (l : List (String × Nat)) (cname : String) (inst : Inst) : SysSt :=
  match st with
  | .mk p n pf t _ _ c i o => .mk p n pf t sg l (c ++ [(cname, inst)]) i o

theorem loadStmts_nil (b : Bundle) (fuel : Nat) (includes : List String) (st : SysSt) (a : Nat) :
    loadStmts b fuel includes [] st a = .ok (st, a) := by
  rw [loadStmts]

theorem loadStmts_imports (b : Bundle) (fuel : Nat) (includes : List String) (items : List (String × Option String))
    (r : List SStmt) (st : SysSt) (a : Nat) :
    loadStmts b fuel includes (.imports items :: r) st a =
      match loadStmts.addImports items st.template with
      | .error e => .error e
      | .ok t => match st with
        | .mk p n pf _ sg l c i o => loadStmts b fuel includes r (.mk p n pf t sg l c i o) a := by
  rw [loadStmts]
  obtain ⟨p, n, pf, t0, sg, l, c, i, o⟩ := st
  rfl

theorem loadStmts_component (b : Bundle) (fuel : Nat) (includes : List String) (cname templ : String) (args : Nat)
    (ins outs : List SigRef) (r : List SStmt) (st : SysSt) (a : Nat) :
    loadStmts b fuel includes (.component cname templ args ins outs :: r) st a =
      match st.template.lookup templ with
      | none => .error .unknownTemplate
      | some tpath =>
        if (st.components.lookup cname).isSome then .error .dupComponent else
        match loadFile b fuel tpath args ("@" ++ st.pfx ++ cname) (st.pfx ++ cname ++ "-") st.path includes a with
        | .error e => .error e
        | .ok (inst, a') =>
          if ins.length != (instArity inst).1 || outs.length != (instArity inst).2 then .error .portCount else
          match bindSigs cname st.signals st.lengths (ins ++ outs) (instPorts inst) with
          | .error e => .error e
          | .ok (sg, l) => loadStmts b fuel includes r (addComp st sg l cname inst) a' := by
  rw [loadStmts]
  obtain ⟨p, n, pf, t, sg0, l0, c0, i0, o0⟩ := st
  cases (SysSt.mk p n pf t sg0 l0 c0 i0 o0).template.lookup templ with
  | none => rfl
  | some tpath =>
    simp only
    refine ite_congr rfl (fun _ => rfl) (fun _ => ?_)
    cases loadFile b fuel tpath args ("@" ++ (SysSt.mk p n pf t sg0 l0 c0 i0 o0).pfx ++ cname) ((SysSt.mk p n pf t sg0 l0 c0 i0 o0).pfx ++ cname ++ "-") (SysSt.mk p n pf t sg0 l0 c0 i0 o0).path includes a with
    | error e => rfl
    | ok x =>
      obtain ⟨inst, a'⟩ := x
      cases inst <;> rfl

theorem bindSigs_spec (cname : String) :
    ∀ (zs : List (SigRef × (Sys.Port × Bool × Nat × Bool))) (acc acc' : List (String × List SigEntry) × List (String × Nat)),
      zs.foldlM (bindStep cname) acc = .ok acc' →
      acc'.1 = zs.foldl (fun s gp => addSig s gp.1.name ⟨gp.2.1, cname, gp.1.star != gp.2.2.1⟩) acc.1 := by
  intro zs
  induction zs with
  | nil => intro acc acc' h; cases h; rfl
  | cons z r ih =>
    intro acc acc' h
    rw [List.foldlM_cons, bind_eq_ok] at h
    obtain ⟨acc1, hz, h⟩ := h
    rw [ih acc1 acc' h, List.foldl_cons, (bindStep_ok hz).1]

/-! ### the stars a loaded component declares -/

theorem mapM_portOf_stars {s : Comp.St} {ps : List Comp.Port} {rs : List (ItemRef × Option String)}
    (h : ps.mapM (portOf s) = .ok rs) :
    rs.map (fun r => (r.1.name, r.1.rev)) = ps.map (fun p => (p.seq, p.star)) :=
  mapM_map_eq (fun _ _ hp => by rw [(portOf_spec hp).1, (portOf_spec hp).2.1]) h

theorem load_stars {src : Comp.Src} {args : Nat} {pfx : String} {anon : Nat} {st : Comp.St} {a : Nat}
    (h : Comp.load src args pfx anon = .ok (st, a)) :
    src.params.length = args ∧
    (st.inputSeqs ++ st.outputSeqs).map (fun i => (i.name, i.rev)) =
      (src.inputs ++ src.outputs).map (fun p => (p.seq, p.star)) := by
  refine ⟨Decidable.of_not_not (mt bne_iff_ne.mpr (ite_ok (Comp.load_eq src args pfx anon ▸ h)).1), ?_⟩
  obtain ⟨s, vi, vo, _, hi, ho, rfl⟩ := load_ok h
  simp only [List.map_append, List.map_map, ← mapM_portOf_stars hi, ← mapM_portOf_stars ho, Function.comp_def]

/-! ### prefixes -/

def HasPfx (p s : String) : Prop := p.toList <+: s.toList

theorem HasPfx.refl (p : String) : HasPfx p p := List.prefix_refl _
theorem HasPfx.append (p x : String) : HasPfx p (p ++ x) := by
  unfold HasPfx; rw [String.toList_append]; exact List.prefix_append _ _
theorem HasPfx.trans {p q s : String} (h1 : HasPfx p q) (h2 : HasPfx q s) : HasPfx p s := List.IsPrefix.trans h1 h2
theorem HasPfx.of_append {p x s : String} (h : HasPfx (p ++ x) s) : HasPfx p s := (HasPfx.append p x).trans h

/-! ### instance names without `-`: sibling prefixes share no name -/

theorem dash_split {c1 c2 r1 r2 : List Char} (h1 : '-' ∉ c1) (h2 : '-' ∉ c2)
    (h : c1 ++ '-' :: r1 = c2 ++ '-' :: r2) : c1 = c2 := by
  have e := congrArg (List.takeWhile (· != '-')) h
  have k : ∀ {c : List Char}, '-' ∉ c → ∀ x ∈ c, (x != '-') = true :=
    fun hc x hx => bne_iff_ne.2 fun (e : x = '-') => hc (e ▸ hx)
  rwa [takeWhile_append_stop (p := (· != '-')) (k h1) (by simp),
    takeWhile_append_stop (p := (· != '-')) (k h2) (by simp)] at e

theorem exists_of_hasPfx {p x : String} (h : HasPfx p x) : ∃ r : String, x = p ++ r := by
  obtain ⟨t, ht⟩ := h
  exact ⟨String.ofList t, String.toList_inj.1 (by rw [String.toList_append, String.toList_ofList, ht])⟩

theorem append_dash_inj {a b r r' : String} (ha : '-' ∉ a.toList) (hb : '-' ∉ b.toList)
    (h : a ++ "-" ++ r = b ++ "-" ++ r') : a = b ∧ r = r' := by
  have h' := congrArg String.toList h
  simp only [String.toList_append, show "-".toList = ['-'] from rfl, List.append_assoc, List.singleton_append] at h'
  have hab : a = b := String.toList_inj.1 (dash_split ha hb h')
  subst hab
  rw [String.append_assoc, String.append_assoc] at h
  exact ⟨rfl, (String.append_right_inj _).1 ((String.append_right_inj _).1 h)⟩

theorem dash_ne {a b r : String} (hb : '-' ∉ b.toList) : a ++ "-" ++ r ≠ b := by
  rintro rfl
  exact hb (by simp [String.toList_append, show "-".toList = ['-'] from rfl])

theorem prefix_dash_inj {pfx c1 c2 x y : String} (h1 : '-' ∉ c1.toList) (h2 : '-' ∉ c2.toList)
    (h : pfx ++ c1 ++ "-" ++ x = pfx ++ c2 ++ "-" ++ y) : c1 = c2 ∧ x = y :=
  append_dash_inj h1 h2 ((String.append_right_inj pfx).1 (by simpa only [String.append_assoc] using h))

theorem sibling_prefixes_disjoint (pfx c1 c2 : String) (h1 : '-' ∉ c1.toList) (h2 : '-' ∉ c2.toList) (hne : c1 ≠ c2)
    (s : String) : ¬ (HasPfx (pfx ++ c1 ++ "-") s ∧ HasPfx (pfx ++ c2 ++ "-") s) := by
  rintro ⟨q1, q2⟩
  obtain ⟨r1, rfl⟩ := exists_of_hasPfx q1
  obtain ⟨r2, e2⟩ := exists_of_hasPfx q2
  exact hne (prefix_dash_inj h1 h2 e2).1

theorem instPorts_length (inst : Inst) : (instPorts inst).length = (instArity inst).1 + (instArity inst).2 := by
  cases inst <;> simp [instPorts, instArity, compPorts, sysPorts]

theorem fwd_length (name : String) (len : Nat) : (fwd name len).length = len := Pepper.fwd_length name len

/-! ### accepted runs of the loader: inversions, `loadFile_induct` -/

theorem loadFile_ok {b : Bundle} {fuel : Nat} {base : String} {args : Nat} {argKey pfx path : String}
    {includes : List String} {anon : Nat} {inst : Inst} {a' : Nat}
    (h : loadFile b fuel base args argKey pfx path includes anon = .ok (inst, a')) :
    ∃ fuel' fname issys newPath, fuel = fuel' + 1 ∧
      resolveImport (fun p => b.exists_.contains (normPath p)) base path includes = .ok (fname, issys, newPath) ∧
      ((∃ c st, b.files.lookup (normPath fname ++ argKey) = some (.comp c) ∧ issys = false ∧
          c.params.length = args ∧ Comp.load c args pfx anon = .ok (st, a') ∧ inst = .comp st) ∨
       (∃ s st, b.files.lookup (normPath fname ++ argKey) = some (.sys s) ∧ issys = true ∧
          s.params.length = args ∧
          loadStmts b fuel' includes s.stmts (.mk newPath s.name pfx [] [] [] [] [] []) anon = .ok (st, a') ∧
          (s.inputs ++ s.outputs).all (fun r => (st.signals.lookup r.name).isSome) = true ∧
          inst = .sys (.mk st.path st.name st.pfx st.template st.signals st.lengths st.components s.inputs s.outputs))) := by
  cases fuel with
  | zero => rw [loadFile_zero] at h; cases h
  | succ fuel' =>
    rw [loadFile_succ] at h
    split at h
    · cases h
    · rename_i fname issys newPath hr
      refine ⟨fuel', fname, issys, newPath, rfl, hr, ?_⟩
      split at h
      · cases h
      · rename_i c hl
        obtain ⟨hk, h⟩ := ite_ok h
        split at h
        · rename_i st a1 hc
          cases h
          exact Or.inl ⟨c, st, hl, (Bool.not_eq_true _).mp hk, (load_stars hc).1, hc, rfl⟩
        · cases h
      · rename_i s hl
        simp only [ite_error_eq_ok] at h
        obtain ⟨hk, hp, h⟩ := h
        split at h
        · cases h
        · rename_i st a1 hs
          obtain ⟨hio, h⟩ := ite_ok h
          obtain ⟨p, n, pf, t, sg, l, c, i, o⟩ := st
          cases h
          have hnot : ∀ {x : Bool}, ¬ (!x) = true → x = true := fun h => by simpa only [Bool.not_eq_true, Bool.not_eq_false'] using h
          exact Or.inr ⟨s, _, hl, hnot hk, by simpa using hp, hs, hnot hio, rfl⟩

theorem loadStmts_component_ok {b : Bundle} {fuel : Nat} {includes : List String} {cname templ : String} {args : Nat}
    {ins outs : List SigRef} {r : List SStmt} {st st' : SysSt} {a a' : Nat}
    (h : loadStmts b fuel includes (.component cname templ args ins outs :: r) st a = .ok (st', a')) :
    ∃ tpath inst a1 sg l, st.template.lookup templ = some tpath ∧ (st.components.lookup cname).isSome = false ∧
      loadFile b fuel tpath args ("@" ++ st.pfx ++ cname) (st.pfx ++ cname ++ "-") st.path includes a = .ok (inst, a1) ∧
      ins.length = (instArity inst).1 ∧ outs.length = (instArity inst).2 ∧
      bindSigs cname st.signals st.lengths (ins ++ outs) (instPorts inst) = .ok (sg, l) ∧
      loadStmts b fuel includes r (addComp st sg l cname inst) a1 = .ok (st', a') := by
  rw [loadStmts_component] at h
  split at h
  · cases h
  · rename_i tpath hl
    obtain ⟨hdup, h⟩ := ite_ok h
    split at h
    · cases h
    · rename_i inst a1 hf
      obtain ⟨hcount, h⟩ := ite_ok h
      split at h
      · cases h
      · rename_i sg l hb
        have hcount' : ins.length = (instArity inst).1 ∧ outs.length = (instArity inst).2 := by simpa using hcount
        exact ⟨tpath, inst, a1, sg, l, hl, (Bool.not_eq_true _).mp hdup, hf, hcount'.1, hcount'.2, hb, h⟩

theorem loadStmts_imports_ok {b : Bundle} {fuel : Nat} {includes : List String} {items : List (String × Option String)}
    {r : List SStmt} {p n pf : String} {t0 : List (String × String)} {sg : List (String × List SigEntry)}
    {l : List (String × Nat)} {c : List (String × Inst)} {i o : List SigRef} {st' : SysSt} {a a' : Nat}
    (h : loadStmts b fuel includes (.imports items :: r) (.mk p n pf t0 sg l c i o) a = .ok (st', a')) :
    ∃ t, loadStmts.addImports items t0 = .ok t ∧
      loadStmts b fuel includes r (.mk p n pf t sg l c i o) a = .ok (st', a') := by
  rw [loadStmts_imports] at h
  split at h
  · cases h
  · rename_i t hi
    exact ⟨t, hi, h⟩

/-- **induction over an accepted run of `load_file`**: `I` of a call of `loadFile` and what it returns, `J` of a call of
    the statement loop and the state it ends in.  The five cases are the five things the loader can do; each hands out
    the checks that were passed and the two equations, so that an instance never unfolds the loader. -/
theorem loadFile_induct {b : Bundle}
    {I : Nat → String → Nat → String → String → String → List String → Nat → Inst → Nat → Prop}
    {J : Nat → List String → List SStmt → SysSt → Nat → SysSt → Nat → Prop}
    (comp : ∀ {fuel base args argKey pfx path includes anon fname newPath c st a'},
      resolveImport (fun p => b.exists_.contains (normPath p)) base path includes = .ok (fname, false, newPath) →
      b.files.lookup (normPath fname ++ argKey) = some (.comp c) → c.params.length = args →
      Comp.load c args pfx anon = .ok (st, a') →
      I (fuel + 1) base args argKey pfx path includes anon (.comp st) a')
    (sys : ∀ {fuel base args argKey pfx path includes anon fname newPath s st a'},
      resolveImport (fun p => b.exists_.contains (normPath p)) base path includes = .ok (fname, true, newPath) →
      b.files.lookup (normPath fname ++ argKey) = some (.sys s) → s.params.length = args →
      loadStmts b fuel includes s.stmts (.mk newPath s.name pfx [] [] [] [] [] []) anon = .ok (st, a') →
      J fuel includes s.stmts (.mk newPath s.name pfx [] [] [] [] [] []) anon st a' →
      (s.inputs ++ s.outputs).all (fun r => (st.signals.lookup r.name).isSome) = true →
      I (fuel + 1) base args argKey pfx path includes anon
        (.sys (.mk st.path st.name st.pfx st.template st.signals st.lengths st.components s.inputs s.outputs)) a')
    (nil : ∀ {fuel includes st a}, J fuel includes [] st a st a)
    (imports : ∀ {fuel includes items r p n pf t0 t sg l c i o a st' a'}, loadStmts.addImports items t0 = .ok t →
      J fuel includes r (.mk p n pf t sg l c i o) a st' a' →
      J fuel includes (.imports items :: r) (.mk p n pf t0 sg l c i o) a st' a')
    (component : ∀ {fuel includes cname templ args ins outs r st a tpath inst a1 sg l st' a'},
      st.template.lookup templ = some tpath → (st.components.lookup cname).isSome = false →
      loadFile b fuel tpath args ("@" ++ st.pfx ++ cname) (st.pfx ++ cname ++ "-") st.path includes a = .ok (inst, a1) →
      I fuel tpath args ("@" ++ st.pfx ++ cname) (st.pfx ++ cname ++ "-") st.path includes a inst a1 →
      ins.length = (instArity inst).1 → outs.length = (instArity inst).2 →
      bindSigs cname st.signals st.lengths (ins ++ outs) (instPorts inst) = .ok (sg, l) →
      J fuel includes r (addComp st sg l cname inst) a1 st' a' →
      J fuel includes (.component cname templ args ins outs :: r) st a st' a') :
    (∀ fuel base args argKey pfx path includes anon inst a',
      loadFile b fuel base args argKey pfx path includes anon = .ok (inst, a') →
      I fuel base args argKey pfx path includes anon inst a') ∧
    (∀ fuel includes stmts st a st' a',
      loadStmts b fuel includes stmts st a = .ok (st', a') → J fuel includes stmts st a st' a') := by
  have stmts : ∀ fuel, (∀ base args argKey pfx path includes anon inst a',
        loadFile b fuel base args argKey pfx path includes anon = .ok (inst, a') →
        I fuel base args argKey pfx path includes anon inst a') →
      ∀ includes stmts st a st' a', loadStmts b fuel includes stmts st a = .ok (st', a') →
        J fuel includes stmts st a st' a' := by
    intro fuel IH includes stmts
    induction stmts with
    | nil => intro st a st' a' h; rw [loadStmts_nil] at h; cases h; exact nil
    | cons s r ih =>
      intro st a st' a' h
      cases s with
      | imports items =>
        obtain ⟨p, n, pf, t0, sg, l, c, i, o⟩ := st
        obtain ⟨t, hi, h⟩ := loadStmts_imports_ok h
        exact imports hi (ih _ _ _ _ h)
      | component cname templ args ins outs =>
        obtain ⟨tpath, inst, a1, sg, l, hl, hdup, hf, hci, hco, hb, h⟩ := loadStmts_component_ok h
        exact component hl hdup hf (IH _ _ _ _ _ _ _ _ _ hf) hci hco hb (ih _ _ _ _ h)
  have file : ∀ fuel base args argKey pfx path includes anon inst a',
      loadFile b fuel base args argKey pfx path includes anon = .ok (inst, a') →
      I fuel base args argKey pfx path includes anon inst a' := by
    intro fuel
    induction fuel with
    | zero => intro base args argKey pfx path includes anon inst a' h; obtain ⟨_, _, _, _, h0, _⟩ := loadFile_ok h; cases h0
    | succ fuel ih =>
      intro base args argKey pfx path includes anon inst a' h
      obtain ⟨fuel', fname, issys, newPath, h0, hr, hcase⟩ := loadFile_ok h
      cases h0
      rcases hcase with ⟨c, st, hl, rfl, hpar, hload, rfl⟩ | ⟨s, st, hl, rfl, hpar, hs, hio, rfl⟩
      · exact comp hr hl hpar hload
      · exact sys hr hl hpar hs (stmts fuel ih _ _ _ _ _ _ hs) hio
  exact ⟨file, fun fuel => stmts fuel (file fuel)⟩

theorem loadStmts_pfx {b : Bundle} {fuel : Nat} {includes : List String} {stmts : List SStmt} {st st' : SysSt} {a a' : Nat}
    (h : loadStmts b fuel includes stmts st a = .ok (st', a')) : st'.pfx = st.pfx :=
  (loadFile_induct (b := b) (I := fun _ _ _ _ _ _ _ _ _ _ => True) (J := fun _ _ _ st _ st' _ => st'.pfx = st.pfx)
    (fun _ _ _ _ => trivial) (fun _ _ _ _ _ _ => trivial) rfl (fun _ h => h)
    (fun {_ _ _ _ _ _ _ _ st _ _ _ _ _ _ _ _} _ _ _ _ _ _ _ h => h.trans (by cases st; rfl))).2 _ _ _ _ _ _ _ h

end Pepper.SysProofs
