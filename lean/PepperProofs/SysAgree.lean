import PepperProofs.LoadInvSys
import PepperProofs.SysDenote
/-!
# The loader's walk and the specification's walk in lockstep (C02)

`TablesAgree`: the specification's signal accumulator is the image of the loader's signal tables; one step of the binding
loops keeps it (`bind_step_agree`).  `Walk` is what has to be supplied to carry a property of instances along the two
walks; `tree_agrees` is the instance of `loadFile_induct` that does it.
-/
namespace Pepper.SysProofs
open Pepper.Comp Pepper.Sys Pepper.Denote

/-! ### `TablesAgree`, step by step of the binding loop -/

/-- nucleotides of a compile-path `base_seqs` member of an instance loaded under prefix `pfxc` -/
def baseNucs (pfxc : String) (b : Comp.BaseRef) : List Nuc :=
  if b.rev then rc (fwd (pfxc ++ b.name) b.len) else fwd (pfxc ++ b.name) b.len

def basesNucs (pfxc : String) (bs : List Comp.BaseRef) : List Nuc := bs.flatMap (baseNucs pfxc)

/-- what a port of an instance loaded under `pfxc` denotes (the unstarred object), read off the port tuple.
    `Des.portNucs` is the `.des` side's reading of a signal *entry*; the two agree on loaded trees (`DesSys.entry_regions`) -/
def portNucs (pfxc : String) (p : Sys.Port × Bool × Nat × Bool) : List Nuc :=
  match p.1 with
  | .seq _ bases => basesNucs pfxc bases
  | .sig n => fwd (pfxc ++ n) p.2.2.1

def PortsAgree (pfxc : String) (ip : List (Sys.Port × Bool × Nat × Bool)) (dp : List (List Nuc × Bool)) : Prop :=
  ip.length = dp.length ∧
  ∀ x ∈ ip.zip dp, x.2.1 = portNucs pfxc x.1 ∧ x.2.2 = x.1.2.1 ∧ x.2.1.length = x.1.2.2.1 ∧ x.1.2.2.2 = x.2.1.isEmpty

/-- the unstarred nucleotides of the port an entry of signal (of length `len`) refers to -/
def entryNucs (pfx : String) (len : Nat) (e : SigEntry) : List Nuc :=
  match e.port with
  | .seq _ bases => basesNucs (pfx ++ e.comp ++ "-") bases
  | .sig n => fwd (pfx ++ e.comp ++ "-" ++ n) len

def entryRegion (pfx : String) (len : Nat) (e : SigEntry) : List Nuc :=
  if e.wc then rc (entryNucs pfx len e) else entryNucs pfx len e

structure TablesAgree (pfx : String) (sigs : List (String × List SigEntry)) (lens : List (String × Nat))
    (sa : SigAcc) : Prop where
  len : sa.len = lens
  order : sa.order = lens.map (·.1)
  keys : sigs.map (·.1) = lens.map (·.1)
  members : sa.members = sigs.map (fun x => (x.1, x.2.map (entryRegion pfx ((lens.lookup x.1).getD 0))))
  pos : ∀ x ∈ lens, 0 < x.2

theorem TablesAgree.nil (pfx : String) : TablesAgree pfx [] [] {} := ⟨rfl, rfl, rfl, rfl, nofun⟩

theorem TablesAgree.lookup_pos {pfx : String} {sigs : List (String × List SigEntry)} {lens : List (String × Nat)}
    {sa : SigAcc} (ht : TablesAgree pfx sigs lens sa) {n : String} (h : (sigs.lookup n).isSome = true) :
    ∃ v, lens.lookup n = some v ∧ 0 < v := by
  rw [lookup_isSome_of_keys ht.keys] at h
  obtain ⟨v, hv⟩ := Option.isSome_iff_exists.1 h
  exact ⟨v, hv, ht.pos (n, v) (lookup_mem hv)⟩

theorem TablesAgree.lookup_snoc {pfx : String} {sigs : List (String × List SigEntry)} {lens : List (String × Nat)}
    {sa : SigAcc} (ht : TablesAgree pfx sigs lens sa) {x : String × List SigEntry} (hx : x ∈ sigs) (n : String) (v : Nat) :
    (lens ++ [(n, v)]).lookup x.1 = lens.lookup x.1 :=
  lookup_append_new lens n x.1 v (by rw [← lookup_isSome_of_keys ht.keys]; exact mem_keys_lookup hx)

theorem bind_step_agree {pfx cname : String} {sigs sigs' : List (String × List SigEntry)}
    {lens lens' : List (String × Nat)} {sa : SigAcc} {g : SigRef} {ip : Sys.Port × Bool × Nat × Bool}
    {dp : List Nuc × Bool} (ht : TablesAgree pfx sigs lens sa)
    (hp : dp.1 = portNucs (pfx ++ cname ++ "-") ip ∧ dp.2 = ip.2.1 ∧ dp.1.length = ip.2.2.1 ∧ ip.2.2.2 = dp.1.isEmpty)
    (h : bindStep cname (sigs, lens) (g, ip) = .ok (sigs', lens')) :
    ∃ sa', bpStep sa (g, dp) = .ok sa' ∧ TablesAgree pfx sigs' lens' sa' := by
  obtain ⟨hp1, hp2, hp3, hp4⟩ := hp
  have hreg : (if (g.star != dp.2) = true then rc dp.1 else dp.1) =
      entryRegion pfx ip.2.2.1 ⟨ip.1, cname, g.star != ip.2.1⟩ := by
    unfold entryRegion entryNucs
    rw [hp2, hp1]
    rfl
  unfold bpStep
  simp only [ht.len]
  rcases bindStep_cases ht.keys h with ⟨hl, hd, rfl, rfl⟩ | ⟨hl, rfl, rfl⟩
  · have hne : dp.1.isEmpty = false := hp4 ▸ hd
    simp only [hl, hne, Bool.false_eq_true, if_false]
    refine ⟨_, rfl, ?_⟩
    constructor
    · simp only [hp3]
    · simp only [ht.order, List.map_append, List.map_cons, List.map_nil]
    · simp only [List.map_append, List.map_cons, List.map_nil, ht.keys]
    · rw [ht.members]
      simp only [List.map_append, List.map_cons, List.map_nil]
      congr 1
      · apply List.map_congr_left
        intro x hx
        rw [ht.lookup_snoc hx]
      · rw [lookup_append_self lens g.name ip.2.2.1 hl, hreg]
        rfl
    · refine forall_mem_snoc ht.pos ?_
      show 0 < ip.2.2.1
      rw [← hp3]
      cases hd1 : dp.1 with
      | nil => rw [hd1] at hne; cases hne
      | cons _ _ => exact Nat.succ_pos _
  · have : (ip.2.2.1 != dp.1.length) = false := by rw [hp3]; exact bne_self_eq_false _
    simp only [hl, this, Bool.false_eq_true, if_false]
    refine ⟨_, rfl, ?_⟩
    constructor
    · rfl
    · exact ht.order
    · rw [keys_snocAt]; exact ht.keys
    · rw [ht.members, List.map_map, List.map_map]
      apply List.map_congr_left
      intro x _
      obtain ⟨k, v⟩ := x
      simp only [Function.comp]
      by_cases hk : k == g.name
      · cases eq_of_beq hk
        simp only [beq_self_eq_true, if_true, List.map_append, List.map_cons, List.map_nil, hl, Option.getD_some, hreg]
      · simp only [hk, Bool.false_eq_true, if_false]
    · exact ht.pos

theorem bind_agree {pfx cname : String} (K : List (String × List SigEntry) → List (String × Nat) → Prop) :
    ∀ (globs : List SigRef) (ips : List (PortT))
    (dps : List (List Nuc × Bool)) (sigs sigs' : List (String × List SigEntry)) (lens lens' : List (String × Nat))
    (sa : SigAcc), TablesAgree pfx sigs lens sa → PortsAgree (pfx ++ cname ++ "-") ips dps → K sigs lens →
    (∀ g ∈ globs, ∀ ip ∈ ips, ∀ sigs lens sa sigs1 lens1, TablesAgree pfx sigs lens sa → K sigs lens →
      bindStep cname (sigs, lens) (g, ip) = .ok (sigs1, lens1) → K sigs1 lens1) →
    (List.zip globs ips).foldlM (bindStep cname) (sigs, lens) = .ok (sigs', lens') →
    ∃ sa', (List.zip globs dps).foldlM bpStep sa = .ok sa' ∧ TablesAgree pfx sigs' lens' sa' ∧ K sigs' lens' := by
  intro globs
  induction globs with
  | nil =>
    intro ips dps sigs sigs' lens lens' sa ht _ hK _ h
    cases h
    exact ⟨sa, rfl, ht, hK⟩
  | cons g gr ih =>
    intro ips dps sigs sigs' lens lens' sa ht hp hK hstep h
    obtain ⟨hlen, hall⟩ := hp
    match ips, dps, hlen with
    | [], [], _ =>
      cases h
      exact ⟨sa, rfl, ht, hK⟩
    | ip :: ir, dp :: dr, hlen =>
      simp only [List.zip_cons_cons, List.foldlM_cons, bind_eq_ok] at h ⊢
      obtain ⟨⟨sigs1, lens1⟩, h1, h⟩ := h
      obtain ⟨sa1, hs1, ht1⟩ := bind_step_agree ht (hall (ip, dp) List.mem_cons_self) h1
      obtain ⟨sa', hf, ht', hK'⟩ := ih ir dr sigs1 sigs' lens1 lens' sa1 ht1
        ⟨Nat.succ.inj hlen, fun x hx => hall x (List.mem_cons_of_mem _ hx)⟩
        (hstep g List.mem_cons_self ip List.mem_cons_self sigs lens sa sigs1 lens1 ht hK h1)
        (fun g' hg ip' hip => hstep g' (List.mem_cons_of_mem _ hg) ip' (List.mem_cons_of_mem _ hip)) h
      exact ⟨sa', ⟨sa1, hs1, hf⟩, ht', hK'⟩

/-- what the system-level agreement needs of one component; a consequence of C01 for `good c := UserNamesOk c`
    (`SysProofs.compAccept`) -/
def CompAcceptOn (good : Comp.Src → Prop) : Prop :=
  ∀ (c : Comp.Src) (args : Nat) (pfx : String) (anon : Nat) (st : Comp.St) (a : Nat), good c →
    Comp.load c args pfx anon = .ok (st, a) →
    ∃ o ports, denoteComp c pfx anon = .ok (o, ports, a) ∧ PortsAgree pfx (compPorts st) ports

def BundleComps (good : Comp.Src → Prop) (b : Bundle) : Prop :=
  ∀ k c, b.files.lookup k = some (.comp c) → good c

/-! ### the two walks in lockstep (`Walk`, `tree_agrees`) -/

theorem addImports_agree : ∀ (items : List (String × Option String)) (t : List (String × String)),
    (match loadStmts.addImports items t with | .ok t' => some t' | .error _ => none) = addImportsD items t := by
  intro items
  induction items with
  | nil => intro t; rfl
  | cons it r ih =>
    intro t
    have hadd : loadStmts.addImports (it :: r) t =
        if (t.lookup (importName it)).isSome then .error .dupImport
        else loadStmts.addImports r (t ++ [(importName it, it.1)]) := by
      simp only [loadStmts.addImports]; rfl
    have hstep : addImportsD (it :: r) t =
        r.foldl impStep (if (t.lookup (importName it)).isSome then none else some (t ++ [(importName it, it.1)])) := rfl
    rw [hadd, hstep]
    cases (t.lookup (importName it)).isSome
    · exact ih _
    · exact (foldl_impStep_none r).symm

/-- the design of a system's signals, read off the loader's tables: one domain and one `equal` constraint per signal -/
def sigDesignOf (pfx : String) (lens : List (String × Nat)) (sigs : List (String × List SigEntry)) : Design :=
  { domains := sigs.map (fun x => (pfx ++ x.1, List.replicate ((lens.lookup x.1).getD 0) 'N'))
    seqs := sigs.map (fun x => (pfx ++ x.1, fwd (pfx ++ x.1) ((lens.lookup x.1).getD 0)))
    strands := [], structs := [], kinetics := []
    equals := sigs.map (fun x => fwd (pfx ++ x.1) ((lens.lookup x.1).getD 0) ::
      x.2.map (entryRegion pfx ((lens.lookup x.1).getD 0))) }

theorem lookup_map_nodup {β γ} (f : String × β → γ) (l : List (String × β)) (hn : (l.map (·.1)).Nodup)
    (x : String × β) (hx : x ∈ l) : (l.map (fun y => (y.1, f y))).lookup x.1 = some (f x) := by
  rw [lookup_map_snd (fun k v => f (k, v)) l x.1, lookup_of_mem_nodup hn (v := x.2) hx]
  rfl

/-- what `denoteFile` appends for the signals of a system is `sigDesignOf` of the loader's tables -/
theorem sigDesign_eq {pfx : String} {sigs : List (String × List SigEntry)} {lens : List (String × Nat)}
    {sa : Denote.SigAcc} (ht : TablesAgree pfx sigs lens sa) (hnd : (sigs.map (·.1)).Nodup) :
    ({ Design.empty with
        domains := sa.order.map (fun n => (pfx ++ n, List.replicate ((sa.len.lookup n).getD 0) 'N'))
        seqs := sa.order.map (fun n => (pfx ++ n, fwd (pfx ++ n) ((sa.len.lookup n).getD 0)))
        equals := sa.order.map (fun n => fwd (pfx ++ n) ((sa.len.lookup n).getD 0) :: (sa.members.lookup n).getD []) } : Design)
      = sigDesignOf pfx lens sigs := by
  have hord : sa.order = sigs.map (·.1) := by rw [ht.order, ht.keys]
  simp only [sigDesignOf, Design.empty, hord, ht.len, List.map_map, Function.comp_def, Design.mk.injEq, true_and]
  apply List.map_congr_left
  intro x hx
  rw [ht.members, lookup_map_nodup (fun y => y.2.map (entryRegion pfx ((lens.lookup y.1).getD 0))) sigs hnd x hx]
  rfl

/-- what a property `I` of instances and an invariant `J` of the statement loop need to be carried along the walk of
    `load_file` over an instance tree.  `ok` is what is assumed of each statement of a system source, `P` of each
    component source.  The specification's side of a step is in `ports`/`sa` of `bound` only; a finished system is
    described by the loader's tables and what a successful run establishes of them (`LoadInv.SysInv`, `Loaded`). -/
structure Walk (P : Comp.Src → Prop) (ok : SStmt → Prop) (I : String → Inst → Design → Prop)
    (J : String → List (String × List SigEntry) → List (String × Nat) → List (String × Inst) → Design → Prop) : Prop where
  init : ∀ pfx, J pfx [] [] [] Design.empty
  bound : ∀ {pfx sigs lens comps d sa cname templ args ins outs inst d1 ports sg l},
    ok (.component cname templ args ins outs) → (comps.lookup cname).isSome = false →
    TablesAgree pfx sigs lens sa → PortsAgree (pfx ++ cname ++ "-") (instPorts inst) ports →
    J pfx sigs lens comps d → I (pfx ++ cname ++ "-") inst d1 →
    bindSigs cname sigs lens (ins ++ outs) (instPorts inst) = .ok (sg, l) →
    J pfx sg l (comps ++ [(cname, inst)]) (Design.append d d1)
  closed : ∀ {stmts p n pfx t sg l c d} (ins outs : List SigRef), (∀ s ∈ stmts, ok s) →
    LoadInv.SysInv (LoadInv.instNames stmts) (LoadInv.sigNames stmts) sg l c →
    (∀ x ∈ c, LoadInv.Loaded P (fun s => ∀ x ∈ s.stmts, ok x) (pfx ++ x.1 ++ "-") x.2) →
    J pfx sg l c d → (ins ++ outs).all (fun r => (sg.lookup r.name).isSome) = true →
    I pfx (.sys (.mk p n pfx t sg l c ins outs)) (Design.append d (sigDesignOf pfx l sg))

theorem Walk.trivial : Walk (fun _ => True) (fun _ => True) (fun _ _ _ => True) (fun _ _ _ _ _ => True) :=
  ⟨fun _ => True.intro, fun _ _ _ _ _ _ _ => True.intro, fun _ _ _ _ _ _ _ => True.intro⟩

theorem sysPorts_agree {pfx : String} {sigs : List (String × List SigEntry)} {lens : List (String × Nat)} {sa : SigAcc}
    (ht : TablesAgree pfx sigs lens sa) {p n : String} {t : List (String × String)} {comps : List (String × Inst)}
    {ins outs : List SigRef} (hio : (ins ++ outs).all (fun r => (sigs.lookup r.name).isSome) = true) :
    PortsAgree pfx (instPorts (.sys (.mk p n pfx t sigs lens comps ins outs)))
      ((ins ++ outs).map (fun r => (fwd (pfx ++ r.name) ((sa.len.lookup r.name).getD 0), r.star))) := by
  constructor
  · simp [instPorts, sysPorts, SysSt.inputSeqs, SysSt.outputSeqs]
  · intro x hx
    simp only [instPorts, sysPorts, SysSt.inputSeqs, SysSt.outputSeqs, SysSt.lengths] at hx
    obtain ⟨r, hr, rfl⟩ := mem_zip_map_map _ _ _ hx
    obtain ⟨v, hv, hvpos⟩ := ht.lookup_pos (List.all_eq_true.1 hio r hr)
    simp only [portNucs, ht.len, hv, Option.getD_some, fwd_length, true_and]
    -- a signal is not a dummy: its domain has positive length, so it is not empty
    cases v with
    | zero => omega
    | succ v => simp [fwd, List.range_succ]

/-- the two walks in lockstep, as an instance of `loadFile_induct` -/
theorem tree_agrees {P ok I J} {b : Bundle} (W : Walk P ok I J) (hP : LoadInv.CompSrcsOk P b)
    (hcomp : ∀ k c args pfx anon st a, b.files.lookup k = some (.comp c) → Comp.load c args pfx anon = .ok (st, a) →
      ∃ o ports, denoteComp c pfx anon = .ok (o, ports, a) ∧ PortsAgree pfx (compPorts st) ports ∧
        I pfx (.comp st) (o.design []))
    (hsys : ∀ k s, b.files.lookup k = some (.sys s) → ∀ x ∈ s.stmts, ok x) :
    (∀ (fuel : Nat) base args argKey pfx path includes anon inst a',
      loadFile b fuel base args argKey pfx path includes anon = .ok (inst, a') →
      ∃ d ports, denoteFile b fuel base args argKey pfx path includes anon = .ok (d, ports, a') ∧
        PortsAgree pfx (instPorts inst) ports ∧ I pfx inst d) ∧
    (∀ fuel includes stmts st a st' a', loadStmts b fuel includes stmts st a = .ok (st', a') →
      ∀ (d : Design) (sa : SigAcc), (∀ s ∈ stmts, ok s) →
      TablesAgree st.pfx st.signals st.lengths sa → J st.pfx st.signals st.lengths st.components d →
      ∃ d' sa', denoteSysStmts b fuel includes st.path st.pfx stmts st.template d sa a = .ok (d', sa', a') ∧
        TablesAgree st.pfx st'.signals st'.lengths sa' ∧ J st.pfx st'.signals st'.lengths st'.components d') := by
  refine loadFile_induct ?_ ?_ ?_ ?_ ?_
  · intro fuel base args argKey pfx path includes anon fname newPath c st a' hr hl hpar hload
    obtain ⟨o, ports, hd, hp, hi⟩ := hcomp _ c args pfx anon st a' hl hload
    rw [denoteFile_succ, hr]
    simp only [hl, hpar, bne_self_eq_false, Bool.or_false, Bool.false_eq_true, if_false, hd]
    exact ⟨_, _, rfl, hp, hi⟩
  · intro fuel base args argKey pfx path includes anon fname newPath s st a' hr hl hpar hs hJ hio
    obtain ⟨d1, sa, hd, ht, hJ⟩ := hJ Design.empty {} (hsys _ s hl) (.nil pfx) (W.init pfx)
    simp only [SysSt.path, SysSt.pfx, SysSt.template] at hd ht hJ
    rw [show st.pfx = pfx from loadStmts_pfx hs]
    have hall : (s.inputs ++ s.outputs).all (fun r => sa.order.contains r.name) = true := by
      rw [List.all_eq_true] at hio ⊢
      intro r hr
      rw [ht.order, contains_keys, ← lookup_isSome_of_keys ht.keys]
      exact hio r hr
    obtain ⟨hinv, hsub⟩ := LoadInv.loadStmts_loaded hP hsys hs
    rw [denoteFile_succ, hr]
    simp only [hl, hpar, bne_self_eq_false, Bool.not_true, Bool.or_false, Bool.false_eq_true, if_false, hd, hall,
      sigDesign_eq ht hinv.sigNodup]
    obtain ⟨p, n, pf, t, sg, l, c, i, o⟩ := st
    exact ⟨_, _, rfl, sysPorts_agree ht hio, W.closed s.inputs s.outputs (hsys _ s hl) hinv hsub hJ hio⟩
  · intro fuel includes st a d sa _ ht hJ
    exact ⟨d, sa, denoteSysStmts_nil _ _ _ _ _ _ _ _ _, ht, hJ⟩
  · intro fuel includes items r p n pf t0 t sg l c i o a st' a' hi ih d sa hok ht hJ
    rw [denoteSysStmts_imports, ← addImports_agree, show (SysSt.mk p n pf t0 sg l c i o).template = t0 from rfl, hi]
    exact ih d sa (fun x hx => hok x (List.mem_cons_of_mem _ hx)) ht hJ
  · intro fuel includes cname templ args ins outs r st a tpath inst a1 sg l st' a' hl hdup _ hI hci hco hb ih d sa hok ht hJ
    obtain ⟨d1, ports, hdf, hpa, hI⟩ := hI
    have hpl : (ports.length != ins.length + outs.length) = false := by
      rw [← hpa.1, instPorts_length, hci, hco]; exact bne_self_eq_false _
    obtain ⟨sa1, hbp, ht1, _⟩ := bind_agree (fun _ _ => True) (ins ++ outs) (instPorts inst) ports st.signals sg
      st.lengths l sa ht hpa True.intro (fun _ _ _ _ _ _ _ _ _ _ _ _ => True.intro) hb
    have hJ1 := W.bound (hok _ List.mem_cons_self) hdup ht hpa hJ hI hb
    rw [denoteSysStmts_component, hl]
    simp only [hdf, hpl, Bool.false_eq_true, if_false, bindPorts_eq, hbp]
    obtain ⟨p, n, pf, t0, sg0, l0, c, i, o⟩ := st
    exact ih _ sa1 (fun x hx => hok x (List.mem_cons_of_mem _ hx)) ht1 hJ1

theorem CompAcceptOn.leaf {good : Comp.Src → Prop} (hc : CompAcceptOn good) {b : Bundle} (hb : BundleComps good b)
    (k : String) (c : Comp.Src) (args : Nat) (pfx : String) (anon : Nat) (st : Comp.St) (a : Nat)
    (hl : b.files.lookup k = some (.comp c)) (hload : Comp.load c args pfx anon = .ok (st, a)) :
    ∃ o ports, denoteComp c pfx anon = .ok (o, ports, a) ∧ PortsAgree pfx (compPorts st) ports ∧ True :=
  let ⟨o, ports, h1, h2⟩ := hc c args pfx anon st a (hb k c hl) hload
  ⟨o, ports, h1, h2, True.intro⟩

theorem wiring_agrees {good : Comp.Src → Prop} (hc : CompAcceptOn good) (b : Bundle) (hb : BundleComps good b) : ∀ (fuel : Nat) base args argKey pfx path includes anon inst a',
    loadFile b fuel base args argKey pfx path includes anon = .ok (inst, a') →
    ∃ d ports, denoteFile b fuel base args argKey pfx path includes anon = .ok (d, ports, a') ∧
      PortsAgree pfx (instPorts inst) ports := by
  intro fuel base args argKey pfx path includes anon inst a' h
  obtain ⟨d, ports, hd, hp, _⟩ := (tree_agrees Walk.trivial (fun _ _ _ => True.intro) (hc.leaf hb) (fun _ _ _ _ _ => True.intro)).1 fuel base args argKey pfx path includes anon inst a' h
  exact ⟨d, ports, hd, hp⟩

theorem sys_tables_agree {good : Comp.Src → Prop} (hc : CompAcceptOn good) (b : Bundle) (hb : BundleComps good b) (fuel : Nat) (includes : List String) (stmts : List SStmt)
    (newPath name pfx : String) (anon : Nat) (st : SysSt) (a1 : Nat)
    (hs : loadStmts b fuel includes stmts (.mk newPath name pfx [] [] [] [] [] []) anon = .ok (st, a1)) :
    ∃ d1 sa, denoteSysStmts b fuel includes newPath pfx stmts [] Design.empty {} anon = .ok (d1, sa, a1) ∧
      TablesAgree pfx st.signals st.lengths sa := by
  obtain ⟨d1, sa, hd, ht, _⟩ := (tree_agrees Walk.trivial (fun _ _ _ => True.intro) (hc.leaf hb) (fun _ _ _ _ _ => True.intro)).2 fuel includes stmts _ anon st a1 hs Design.empty {}
    (fun _ _ => True.intro) (.nil pfx) True.intro
  exact ⟨d1, sa, hd, ht⟩

end Pepper.SysProofs
