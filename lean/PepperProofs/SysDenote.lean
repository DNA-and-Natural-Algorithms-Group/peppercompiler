import PepperModel.Denote
import PepperProofs.Basic
/-!
# The specification's walk over a system (`Denote.denoteFile`, `denoteSysStmts`, `bindPorts`) as equations

The loop bodies under names (`bpStep`, `impStep`), one equation per arm.  `SysPrefix` follows the walk alone,
`SysAgree` beside the loader's.
-/
namespace Pepper.SysProofs
open Pepper.Comp Pepper.Sys Pepper.Denote

/-- loop body of `Denote.bindPorts` -/
def bpStep (a : Denote.SigAcc) (gp : SigRef × (List Nuc × Bool)) : Except Denote.Err Denote.SigAcc :=
  let g := gp.1
  let x := gp.2.1
  let region := if g.star != gp.2.2 then rc x else x
  match a.len.lookup g.name with
  | none =>
    if x.isEmpty then Except.error Denote.Err.length
    else Except.ok { order := a.order ++ [g.name], len := a.len ++ [(g.name, x.length)],
                     members := a.members ++ [(g.name, [region])] }
  | some l =>
    if l != x.length then Except.error Denote.Err.length
    else Except.ok { a with members := a.members.map (fun (k, v) => if k == g.name then (k, v ++ [region]) else (k, v)) }

theorem bindPorts_eq (acc : Denote.SigAcc) (globs : List SigRef) (ports : List (List Nuc × Bool)) :
    Denote.bindPorts acc globs ports = (List.zip globs ports).foldlM bpStep acc := rfl

theorem bpStep_region (a a' : Denote.SigAcc) (gp : SigRef × (List Nuc × Bool)) (h : bpStep a gp = .ok a') :
    let region := if gp.1.star != gp.2.2 then rc gp.2.1 else gp.2.1
    a'.members = a.members ++ [(gp.1.name, [region])] ∨
    a'.members = a.members.map (fun (k, v) => if k == gp.1.name then (k, v ++ [region]) else (k, v)) := by
  unfold bpStep at h
  simp only at h
  split at h <;> simp only [ite_error_eq_ok, Except.ok.injEq] at h <;> rw [← h.2]
  · exact Or.inl rfl
  · exact Or.inr rfl

theorem denoteFile_succ (b : Bundle) (fuel : Nat) (base : String) (args : Nat) (argKey pfx path : String)
    (includes : List String) (anon : Nat) :
    denoteFile b (fuel + 1) base args argKey pfx path includes anon =
      match resolveImport (fun p => b.exists_.contains (normPath p)) base path includes with
      | .error _ => .error .undefined
      | .ok (fname, issys, newPath) =>
        match b.files.lookup (normPath fname ++ argKey) with
        | none => .error .undefined
        | some (.comp c) =>
          if issys || c.params.length != args then .error .undefined else
          match denoteComp c pfx anon with
          | .error e => .error e
          | .ok (o, ports, a) => .ok (o.design [], ports, a)
        | some (.sys s) =>
          if !issys || s.params.length != args then .error .undefined else
          match denoteSysStmts b fuel includes newPath pfx s.stmts [] Design.empty {} anon with
          | .error e => .error e
          | .ok (d, sa, a) =>
            if !(s.inputs ++ s.outputs).all (fun r => sa.order.contains r.name) then .error .undefined else
            let sigDesign : Design :=
              { Design.empty with
                domains := sa.order.map (fun n => (pfx ++ n, List.replicate ((sa.len.lookup n).getD 0) 'N'))
                seqs := sa.order.map (fun n => (pfx ++ n, fwd (pfx ++ n) ((sa.len.lookup n).getD 0)))
                equals := sa.order.map (fun n => fwd (pfx ++ n) ((sa.len.lookup n).getD 0) :: (sa.members.lookup n).getD []) }
            .ok (Design.append d sigDesign,
                 (s.inputs ++ s.outputs).map (fun r => (fwd (pfx ++ r.name) ((sa.len.lookup r.name).getD 0), r.star)), a) := by
  rw [denoteFile]
  rfl

theorem denoteFile_zero (b : Bundle) (base : String) (args : Nat) (argKey pfx path : String)
    (includes : List String) (anon : Nat) :
    denoteFile b 0 base args argKey pfx path includes anon = .error .undefined := by
  rw [denoteFile]

theorem denoteSysStmts_nil (b : Bundle) (fuel : Nat) (includes : List String) (path pfx : String)
    (tmpl : List (String × String)) (d : Design) (sa : SigAcc) (a : Nat) :
    denoteSysStmts b fuel includes path pfx [] tmpl d sa a = .ok (d, sa, a) := by
  rw [denoteSysStmts]

def importName (it : String × Option String) : String :=
  match it.2 with
  | some n => n
  | none => match (splitSlash it.1).reverse with | x :: _ => x | [] => it.1

def impStep (acc : Option (List (String × String))) (it : String × Option String) : Option (List (String × String)) :=
  match acc with
  | none => none
  | some t => if (t.lookup (importName it)).isSome then none else some (t ++ [(importName it, it.1)])

/-- how `denoteSysStmts` extends the import table -/
def addImportsD (items : List (String × Option String)) (tmpl : List (String × String)) : Option (List (String × String)) :=
  items.foldl impStep (some tmpl)

theorem foldl_impStep_none (l : List (String × Option String)) : l.foldl impStep none = none := by
  induction l with
  | nil => rfl
  | cons _ _ ih => exact ih

theorem denoteSysStmts_imports (b : Bundle) (fuel : Nat) (includes : List String) (path pfx : String)
    (items : List (String × Option String)) (r : List SStmt)
    (tmpl : List (String × String)) (d : Design) (sa : SigAcc) (a : Nat) :
    denoteSysStmts b fuel includes path pfx (.imports items :: r) tmpl d sa a =
      match addImportsD items tmpl with
      | none => .error .duplicate
      | some t => denoteSysStmts b fuel includes path pfx r t d sa a := by
  rw [denoteSysStmts]
  rfl

theorem denoteSysStmts_component (b : Bundle) (fuel : Nat) (includes : List String) (path pfx : String)
    (cname templ : String) (args : Nat) (ins outs : List SigRef) (r : List SStmt)
    (tmpl : List (String × String)) (d : Design) (sa : SigAcc) (a : Nat) :
    denoteSysStmts b fuel includes path pfx (.component cname templ args ins outs :: r) tmpl d sa a =
      match tmpl.lookup templ with
      | none => .error .undefined
      | some tpath =>
        match denoteFile b fuel tpath args ("@" ++ pfx ++ cname) (pfx ++ cname ++ "-") path includes a with
        | .error e => .error e
        | .ok (d', ports, a') =>
          if ports.length != ins.length + outs.length then .error .length else
          match bindPorts sa (ins ++ outs) ports with
          | .error e => .error e
          | .ok sa' => denoteSysStmts b fuel includes path pfx r tmpl (Design.append d d') sa' a' := by
  rw [denoteSysStmts]
  rfl

end Pepper.SysProofs
