import PepperProofs.SysAgree
import PepperProofs.Comp
import PepperProofs.PilAdd
import PepperProofs.Codes
/-!
# The emitted PIL of a whole instance tree loads and denotes the source's design (C02, C09)

Instances are kept apart by their prefixes: statements whose names all carry a prefix load on top of a specification
free of it as they load alone (`load_frame`), and `Pil.denote` is additive over the append (`denote_append`).  The walk
`SysProofs.tree_agrees` carries this along the tree (`LoopInv`, `sys_inst`, `tree_full`).  The source hypotheses `sysNamesOk`,
`bundleOk`, `bundleNamesOk` are defined here; for a parsed system source `ParseSys.sysNamesOk_of_srcNamesOk` gives the first.

The tail (`tableOfBundle`) makes a code table in which every letter the bundle writes is a code, so that a theorem that
mentions no table can drop `CodesOk`.
-/
namespace Pepper.SysProofs
open Pepper.Comp Pepper.Sys Pepper.WellFormed
open Pepper.LoadInv (portName)

theorem rc_parity (a b : Bool) (x : List Nuc) :
    (if a then rc (if b then rc x else x) else (if b then rc x else x)) = if (a != b) then rc x else x := by
  cases a <;> cases b <;> simp [rc_rc]

theorem pil_star_region (o : Pil.SeqObj) (rev : Bool) :
    Pil.nucsOfBases (Pil.basesOfView o rev) = if rev then rc (Pil.nucsOfBases o.bases) else Pil.nucsOfBases o.bases := by
  cases rev
  · rfl
  · simp only [Pil.basesOfView, if_true]
    exact Pil.nucsOfBases_rev o.bases

theorem resolveItem_star (s : Pil.Spec) (nm : String) (o : Pil.SeqObj) (h : s.findSeq nm = some o) :
    Pil.resolveItem s (nm ++ "*") = .ok (⟨nm, true⟩, o) := by
  unfold Pil.resolveItem
  have : (nm ++ "*").toList.reverse = '*' :: nm.toList.reverse := by
    rw [String.toList_append]; simp
  simp only [this, List.reverse_reverse, String.ofList_toList, h]

/-- every name a statement defines or refers to (item names without their trailing `*`) -/
def stmtNames : Pil.Stmt → List String
  | .seq n _ => [n]
  | .sup n items => n :: items.map stripStar
  | .strand n _ items => n :: items.map stripStar
  | .struct n _ ss _ => n :: ss
  | .equal items => items.map stripStar
  | .kinetic => []

structure SpecFree (P : String → Prop) (s : Pil.Spec) : Prop where
  seqs : ∀ o ∈ s.seqs, ¬ P o.name
  strands : ∀ o ∈ s.strands, ¬ P o.name
  structs : ∀ o ∈ s.structs, ¬ P o.name

structure SpecNamesP (P : String → Prop) (s : Pil.Spec) : Prop where
  seqs : ∀ o ∈ s.seqs, P o.name
  strands : ∀ o ∈ s.strands, P o.name
  structs : ∀ o ∈ s.structs, P o.name
  equals : ∀ its ∈ s.equals, ∀ i ∈ its, P i.name

theorem SpecNamesP.empty {P : String → Prop} : SpecNamesP P {} :=
  ⟨(fun _ h => nomatch h), (fun _ h => nomatch h), (fun _ h => nomatch h), (fun _ h => nomatch h)⟩

theorem SpecNamesP.free {P Q : String → Prop} {s : Pil.Spec} (h : SpecNamesP P s) (hpq : ∀ n, P n → ¬ Q n) :
    SpecFree Q s :=
  ⟨fun o ho => hpq _ (h.seqs o ho), fun o ho => hpq _ (h.strands o ho), fun o ho => hpq _ (h.structs o ho)⟩

theorem SpecNamesP.mono {P Q : String → Prop} {s : Pil.Spec} (h : SpecNamesP P s) (hpq : ∀ n, P n → Q n) :
    SpecNamesP Q s :=
  ⟨fun o ho => hpq _ (h.seqs o ho), fun o ho => hpq _ (h.strands o ho), fun o ho => hpq _ (h.structs o ho),
   fun its hi i hm => hpq _ (h.equals its hi i hm)⟩

theorem SpecNamesP.append {P : String → Prop} {a b : Pil.Spec} (ha : SpecNamesP P a) (hb : SpecNamesP P b) :
    SpecNamesP P (specAppend a b) :=
  ⟨fun o ho => (List.mem_append.1 ho).elim (ha.seqs o) (hb.seqs o),
   fun o ho => (List.mem_append.1 ho).elim (ha.strands o) (hb.strands o),
   fun o ho => (List.mem_append.1 ho).elim (ha.structs o) (hb.structs o),
   fun o ho => (List.mem_append.1 ho).elim (ha.equals o) (hb.equals o)⟩

def EqClosed (s : Pil.Spec) : Prop := ∀ its ∈ s.equals, ∀ i ∈ its, (s.findSeq i.name).isSome = true


theorem findSeq_none_of_free {P : String → Prop} {a : Pil.Spec} (hf : SpecFree P a) {n : String} (hn : P n) :
    a.findSeq n = none :=
  find?_key_none hf.seqs hn

theorem findStruct_append_free {P : String → Prop} {a : Pil.Spec} (hf : SpecFree P a) {n : String} (hn : P n)
    (b : Pil.Spec) : (specAppend a b).structs.find? (·.name == n) = b.structs.find? (·.name == n) := by
  have : a.structs.find? (·.name == n) = none := find?_key_none hf.structs hn
  simp only [specAppend, List.find?_append, this]; rfl

/-- FRAME, one statement: `add` reads the specification only through lookups of the statement's names -/
theorem add_frame (tbl : CodeTable) {P : String → Prop} {s0 s s' : Pil.Spec} {st : Pil.Stmt}
    (hf : SpecFree P s0) (hn : ∀ n ∈ stmtNames st, P n) (h : s.add tbl st = .ok s') :
    (specAppend s0 s).add tbl st = .ok (specAppend s0 s') := by
  have fs : ∀ n ∈ stmtNames st, (specAppend s0 s).findSeq n = s.findSeq n :=
    fun n hm => findSeq_append_right s (findSeq_none_of_free hf (hn n hm))
  have ft : ∀ n ∈ stmtNames st, (specAppend s0 s).findStrand n = s.findStrand n :=
    fun n hm => findStrand_append_right s (find?_key_none hf.strands (hn n hm))
  obtain ⟨δ, rfl, hδ⟩ := Pil.add_eq_ok.1 h
  refine Pil.add_eq_ok.2 ⟨δ, (specAppend_assoc s0 s δ).symm, hδ.congr ?_⟩
  cases st with
  | seq n _ => exact fs _ List.mem_cons_self
  | sup n items => exact ⟨fs _ List.mem_cons_self, fun r hr => fs _ (List.mem_cons_of_mem _ (List.mem_map_of_mem hr))⟩
  | strand n _ items => exact ⟨ft _ List.mem_cons_self, fun r hr => fs _ (List.mem_cons_of_mem _ (List.mem_map_of_mem hr))⟩
  | struct n _ ss _ => exact ⟨findStruct_append_free hf (hn _ List.mem_cons_self) s, fun sn hm => ft sn (List.mem_cons_of_mem _ hm)⟩
  | equal items => exact fun r hr => fs _ (List.mem_map_of_mem hr)
  | kinetic => trivial

theorem load_frame (tbl : CodeTable) {P : String → Prop} {s0 : Pil.Spec} (hf : SpecFree P s0) :
    ∀ (ys : List Pil.Stmt) (s s' : Pil.Spec), (∀ st ∈ ys, ∀ n ∈ stmtNames st, P n) →
    Pil.load tbl ys s = .ok s' → Pil.load tbl ys (specAppend s0 s) = .ok (specAppend s0 s') := by
  intro ys
  induction ys with
  | nil =>
    intro s s' _ h
    simp only [Pil.load, Except.ok.injEq] at h ⊢
    rw [h]
  | cons st r ih =>
    intro s s' hn h
    obtain ⟨s1, h1, h⟩ := Pil.load_cons_inv h
    rw [Pil.load, add_frame tbl hf (hn st List.mem_cons_self) h1]
    exact ih s1 s' (fun x hx => hn x (List.mem_cons_of_mem _ hx)) h

theorem load_frame_alone (tbl : CodeTable) {P : String → Prop} {s0 spec : Pil.Spec} {ys : List Pil.Stmt}
    (hf : SpecFree P s0) (hn : ∀ st ∈ ys, ∀ n ∈ stmtNames st, P n) (h : Pil.load tbl ys {} = .ok spec) :
    Pil.load tbl ys s0 = .ok (specAppend s0 spec) := by
  have := load_frame tbl hf ys {} spec hn h
  rwa [specAppend_nil_right] at this

theorem _root_.Pepper.Pil.Adds.names_and_closed {tbl : CodeTable} {s δ : Pil.Spec} {st : Pil.Stmt} (h : Pil.Adds tbl s st δ) :
    SpecNamesP (fun n => n ∈ stmtNames st) δ ∧ ∀ its ∈ δ.equals, ∀ i ∈ its, (s.findSeq i.name).isSome = true := by
  cases h with
  | seq | sup => exact ⟨⟨List.forall_mem_singleton.2 List.mem_cons_self, nofun, nofun, nofun⟩, nofun⟩
  | strand => exact ⟨⟨nofun, List.forall_mem_singleton.2 List.mem_cons_self, nofun, nofun⟩, nofun⟩
  | struct => exact ⟨⟨nofun, nofun, List.forall_mem_singleton.2 List.mem_cons_self, nofun⟩, nofun⟩
  | equal resolved =>
    refine ⟨⟨nofun, nofun, nofun, ?_⟩, ?_⟩
    all_goals
      intro its hi i hm
      cases List.mem_singleton.1 hi
      obtain ⟨x, hx, rfl⟩ := List.mem_map.1 hm
      obtain ⟨r, hr, hx1, hf⟩ := resolveItems_mem resolved hx
    · rw [hx1]; exact List.mem_map_of_mem hr
    · rw [hf]; rfl
  | kinetic => exact ⟨SpecNamesP.empty, nofun⟩

theorem EqClosed.append {a b : Pil.Spec} (ha : EqClosed a)
    (hb : ∀ its ∈ b.equals, ∀ i ∈ its, ((specAppend a b).findSeq i.name).isSome = true) : EqClosed (specAppend a b) := by
  intro its hi i hm
  simp only [specAppend, List.mem_append] at hi
  rcases hi with hi | hi
  · rw [findSeq_append_left b (ha its hi i hm)]; exact ha its hi i hm
  · exact hb its hi i hm

theorem load_names_and_closed (tbl : CodeTable) {P : String → Prop} (ys : List Pil.Stmt) (s' : Pil.Spec)
    (hn : ∀ st ∈ ys, ∀ n ∈ stmtNames st, P n) (h : Pil.load tbl ys {} = .ok s') : SpecNamesP P s' ∧ EqClosed s' := by
  refine Pil.load_invariant (fun s => SpecNamesP P s ∧ EqClosed s) ys ?_ ⟨SpecNamesP.empty, fun _ h => nomatch h⟩ h
  rintro s st _ hst ⟨h1, h2⟩ ha
  obtain ⟨δ, rfl, hδ⟩ := Pil.add_eq_ok.1 ha
  obtain ⟨hδ, hδe⟩ := hδ.names_and_closed
  refine ⟨h1.append (hδ.mono (hn st hst)), h2.append ?_⟩
  intro its hi i hm
  rw [findSeq_append_left δ (hδe its hi i hm)]
  exact hδe its hi i hm

def eqRegions (s : Pil.Spec) (its : List Pil.ItemRef) : List (List Nuc) :=
  its.filterMap (fun i => (s.findSeq i.name).map (fun o => Pil.nucsOfBases (Pil.basesOfView o i.rev)))

theorem eqRegions_congr {s1 s2 : Pil.Spec} {its : List Pil.ItemRef}
    (h : ∀ i ∈ its, s1.findSeq i.name = s2.findSeq i.name) : eqRegions s1 its = eqRegions s2 its := by
  unfold eqRegions
  induction its with
  | nil => rfl
  | cons i r ih =>
    simp only [List.filterMap_cons, h i (by simp)]
    rw [ih (fun j hj => h j (by simp [hj]))]

/-- ADDITIVITY of `Pil.denote`: everything but the `equal` constraints of the second part is read part by part -/
theorem denote_append (a b : Pil.Spec) (ha : EqClosed a) :
    Pil.denote (specAppend a b) =
      { domains := (Pil.denote a).domains ++ (Pil.denote b).domains
        seqs := (Pil.denote a).seqs ++ (Pil.denote b).seqs
        strands := (Pil.denote a).strands ++ (Pil.denote b).strands
        structs := (Pil.denote a).structs ++ (Pil.denote b).structs
        kinetics := []
        equals := (Pil.denote a).equals ++ b.equals.map (eqRegions (specAppend a b)) } := by
  simp only [Pil.denote, specAppend, Pil.Spec.baseSeqs, List.filter_append, List.map_append, Design.mk.injEq, true_and]
  congr 1
  apply List.map_congr_left
  intro its hi
  exact eqRegions_congr (s1 := specAppend a b) (s2 := a) (fun i hm => findSeq_append_left b (ha its hi i hm))

theorem denote_append_free (a b : Pil.Spec) (ha : EqClosed a)
    (hb : ∀ its ∈ b.equals, ∀ i ∈ its, a.findSeq i.name = none) :
    DesignEquiv (Pil.denote (specAppend a b)) (Denote.Design.append (Pil.denote a) (Pil.denote b)) := by
  rw [denote_append a b ha]
  refine ⟨rfl, rfl, rfl, rfl, ?_⟩
  simp only [Denote.Design.append]
  congr 1
  simp only [Pil.denote]
  apply List.map_congr_left
  intro its hi
  exact eqRegions_congr (fun i hm => findSeq_append_right b (hb its hi i hm))


theorem compSpec_find {s : Comp.St} {a : Nat} (hw : WF s a) {e : SeqE} (he : e ∈ s.seqs) (hz : e.len ≠ 0) :
    (compSpec s).findSeq (s.pfx ++ e.name) = some (pilObj s.pfx e) := by
  rw [findSeq_pil s.pfx _ (compSpec s) rfl]
  have : e ∈ s.baseSeqs.filter (·.len != 0) ++ s.supSeqs.filter (·.len != 0) := by
    cases hsup : e.isSup with
    | false => exact List.mem_append_left _ ((mem_baseF s e).mpr ⟨he, hsup, hz⟩)
    | true => exact List.mem_append_right _ ((mem_supF s e).mpr ⟨he, hsup, hz⟩)
  rw [findE_of_mem (nodup_emitted hw) this]; rfl

theorem stripStar_append (p n : String) (h : endsOk n = true) : stripStar (p ++ n) = p ++ n := by
  have := stripStar_fullName p n false h
  simpa [fullName] using this

theorem cnucs_eq_basesNucs (p : String) (bs : List Comp.BaseRef) : cnucs p bs = basesNucs p bs := rfl

theorem compStmts_hasPfx {s : Comp.St} {a : Nat} (hw : WF s a) :
    ∀ st ∈ Emit.compStmts s, ∀ n ∈ stmtNames st, HasPfx s.pfx n := by
  have hitems : ∀ (its : List ItemRef), (∀ i ∈ its, ItemOk s.seqs i) →
      ∀ n ∈ ((its.filter (!·.dummy)).map (Emit.itemRaw s.pfx)).map stripStar, HasPfx s.pfx n := by
    intro its hok n hn
    simp only [List.map_map, List.mem_map, List.mem_filter, Function.comp] at hn
    obtain ⟨i, ⟨hi, _⟩, rfl⟩ := hn
    obtain ⟨ie, h1, _⟩ := hok i hi
    have hne := (hw.seqs.entries ie (findE_some h1).1).nameOk
    rw [(findE_some h1).2] at hne
    rw [Emit.itemRaw, stripStar_fullName _ _ _ hne]
    exact HasPfx.append _ _
  intro st hst n hn
  rcases Emit.mem_compStmts.1 hst with ⟨e, he, rfl⟩ | ⟨e, he, rfl⟩ | ⟨t, ht, rfl⟩ | ⟨e, he, rfl⟩
  · simp only [stmtNames, List.mem_singleton] at hn
    subst hn; exact HasPfx.append _ _
  · simp only [stmtNames, List.mem_cons] at hn
    rcases hn with rfl | hn
    · exact HasPfx.append _ _
    · have hes := (mem_supF s e).mp he
      exact hitems e.items ((hw.seqs.entries e hes.1).sup hes.2.1).1 n hn
  · simp only [stmtNames, List.mem_cons] at hn
    rcases hn with rfl | hn
    · exact HasPfx.append _ _
    · exact hitems t.items (hw.strands t ht).items n hn
  · simp only [stmtNames, List.mem_cons, List.mem_map] at hn
    rcases hn with rfl | ⟨x, _, rfl⟩
    · exact HasPfx.append _ _
    · exact HasPfx.append _ _

/-- what the statements of an instance loaded under prefix `q` provide for one of its ports: the local name reads back
    correctly as an item; a dummy port has length 0; a port that is not a dummy is a defined sequence `q ++ name` of the
    port's length whose nucleotides are the port's -/
def PortInSpec (spec : Pil.Spec) (q : String) (p : PortT) : Prop :=
  endsOk (portName p.1) = true ∧ (p.2.2.2 = true → p.2.2.1 = 0) ∧
  (p.2.2.2 = false → ∃ o, spec.findSeq (q ++ portName p.1) = some o ∧ o.len = p.2.2.1 ∧
      Pil.nucsOfBases o.bases = portNucs q p)

structure InstPil (tbl : CodeTable) (q : String) (inst : Inst) (d : Design) : Prop where
  names : ∀ st ∈ Emit.instStmts inst, ∀ n ∈ stmtNames st, HasPfx q n
  bal : ∀ n p ss x, Pil.Stmt.struct n p ss x ∈ Emit.instStmts inst → Notation.balanced x = true
  load : ∃ spec, Pil.load tbl (Emit.instStmts inst) {} = .ok spec ∧ DesignEquiv (Pil.denote spec) d ∧
    ∀ p ∈ instPorts inst, PortInSpec spec q p

theorem comp_inst {c : Comp.Src} {args : Nat} {pfx : String} {anon : Nat} {st : Comp.St} {a1 : Nat}
    (hload : Comp.load c args pfx anon = .ok (st, a1)) (hnames : UserNamesOk c = true) :
    ∃ o ports, Denote.denoteComp c pfx anon = .ok (o, ports, a1) ∧ PortsAgree pfx (compPorts st) ports ∧
      DesignEquiv (Comp.designOf st) (o.design []) ∧
      ∀ tbl, CodesOk tbl c = true → InstPil tbl pfx (.comp st) (o.design []) := by
  obtain ⟨env, o, hw, hA, hstp, hci, hport, hden⟩ := load_refines hload hnames
  have hitems := load_items hload
  have hitem : ∀ {p : Comp.Port} {e : SeqE}, st.findSeq p.seq = some e → itemOf st p = ⟨e.name, p.star, e.len, e.isSup⟩ :=
    fun he => by simp only [itemOf, he]
  refine ⟨o, _, hden, ?_, hA.design hstp, fun tbl hcodes => ?_⟩
  · unfold compPorts
    rw [hitems]
    refine ⟨by simp, ?_⟩
    intro x hx
    rw [List.map_map] at hx
    obtain ⟨p, hp, rfl⟩ := mem_zip_map_map _ _ _ hx
    obtain ⟨e, b, hfe, hlk, hcn, _⟩ := hport p hp
    have hel : e ∈ st.seqs := (findE_some hfe).1
    have hfst : st.findSeq e.name = some e := by rw [(findE_some hfe).2]; exact hfe
    have hlen : (cnucs pfx e.bases).length = e.len := by
      rw [cnucs_length]; exact ((hw.seqs.entries e hel).lenB).symm
    simp only [Function.comp, hitem hfe, hlk, Option.map_some, Option.getD_some, portNucs, hfst, ← hcn]
    refine ⟨rfl, True.intro, hlen, ?_⟩
    rw [← hlen]
    cases cnucs pfx e.bases <;> rfl
  · have hl := comp_spec tbl hw (hci tbl hcodes)
    refine ⟨?_, ?_, compSpec st, ?_, ?_, ?_⟩
    · rw [Emit.instStmts_comp, ← hstp]; exact compStmts_hasPfx hw
    · intro n p ss x hx
      rw [Emit.instStmts_comp] at hx
      obtain ⟨e, he, rfl⟩ := mem_compStmts_struct hx
      exact (hw.structs e he).bal
    · rw [Emit.instStmts_comp]; exact hl
    · rw [denote_compSpec st]; exact hA.design hstp
    · intro q hq
      simp only [instPorts, compPorts] at hq
      rw [hitems] at hq
      obtain ⟨i, hi, rfl⟩ := List.mem_map.1 hq
      obtain ⟨p, hp, rfl⟩ := List.mem_map.1 hi
      obtain ⟨e, b, hfe, hlk, hcn, _⟩ := hport p hp
      have hel : e ∈ st.seqs := (findE_some hfe).1
      have hfst : st.findSeq e.name = some e := by rw [(findE_some hfe).2]; exact hfe
      simp only [hitem hfe, PortInSpec, portName, portNucs, hfst]
      refine ⟨(hw.seqs.entries e hel).nameOk, fun hz => by simpa using hz, fun hz => ?_⟩
      refine ⟨pilObj st.pfx e, ?_, rfl, ?_⟩
      · rw [← hstp]; exact compSpec_find hw hel (by simpa using hz)
      · simp only [pilObj, nucsOfBases_filter_tb, hstp]; rfl

theorem compAccept : CompAcceptOn (fun c => UserNamesOk c = true) := by
  intro c args pfx anon st a hg hl
  obtain ⟨o, ports, h1, h2, _⟩ := comp_inst hl hg
  exact ⟨o, ports, h1, h2⟩


def entryName (pfx : String) (e : SigEntry) : String := pfx ++ e.comp ++ "-" ++ portName e.port

def EntryInSpec (spec : Pil.Spec) (pfx : String) (len : Nat) (e : SigEntry) : Prop :=
  endsOk (portName e.port) = true ∧ ∃ o, spec.findSeq (entryName pfx e) = some o ∧ o.len = len ∧
    Pil.nucsOfBases o.bases = entryNucs pfx len e

def EntriesInSpec (spec : Pil.Spec) (pfx : String) (sigs : List (String × List SigEntry)) (lens : List (String × Nat)) : Prop :=
  ∀ x ∈ sigs, ∀ e ∈ x.2, EntryInSpec spec pfx ((lens.lookup x.1).getD 0) e

theorem entryInSpec_of_port {spec : Pil.Spec} {pfx cname : String} {ip : PortT}
    (hp : PortInSpec spec (pfx ++ cname ++ "-") ip) (hd : ip.2.2.2 = false) (wc : Bool) :
    EntryInSpec spec pfx ip.2.2.1 ⟨ip.1, cname, wc⟩ := by
  obtain ⟨h1, _, h3⟩ := hp
  obtain ⟨o, ho, hl, hn⟩ := h3 hd
  refine ⟨h1, o, ho, hl, ?_⟩
  rw [hn]
  obtain ⟨port, x⟩ := ip
  cases port <;> rfl

theorem bind_step_entries {spec : Pil.Spec} {pfx cname : String} {sigs sigs' : List (String × List SigEntry)}
    {lens lens' : List (String × Nat)} {sa : Denote.SigAcc} {g : SigRef} {ip : PortT}
    (ht : TablesAgree pfx sigs lens sa) (he : EntriesInSpec spec pfx sigs lens)
    (hp : PortInSpec spec (pfx ++ cname ++ "-") ip)
    (h : bindStep cname (sigs, lens) (g, ip) = .ok (sigs', lens')) : EntriesInSpec spec pfx sigs' lens' := by
  rcases bindStep_cases ht.keys h with ⟨hl, hd, rfl, rfl⟩ | ⟨hl, rfl, rfl⟩
  · refine forall_mem_snoc (fun x hx e hxe => ?_) (List.forall_mem_singleton.2 ?_)
    · rw [ht.lookup_snoc hx]
      exact he x hx e hxe
    · rw [lookup_append_self lens g.name ip.2.2.1 hl]
      exact entryInSpec_of_port hp hd _
  · -- the signal has positive length, so the port bound to it is not a dummy
    have hd : ip.2.2.2 = false := by
      cases hdd : ip.2.2.2 with
      | false => rfl
      | true => have := ht.pos _ (lookup_mem hl); have := hp.2.1 hdd; omega
    intro x hx e hxe
    obtain ⟨⟨k, v⟩, hkv, rfl⟩ := List.mem_map.1 hx
    by_cases hk : k == g.name
    · simp only [hk, if_true] at hxe ⊢
      rcases List.mem_append.1 hxe with hxe | hxe
      · exact he (k, v) hkv e hxe
      · cases List.mem_singleton.1 hxe
        rw [eq_of_beq hk, hl]
        exact entryInSpec_of_port hp hd _
    · simp only [hk, Bool.false_eq_true, if_false] at hxe ⊢
      exact he (k, v) hkv e hxe

theorem bind_full {spec : Pil.Spec} {pfx cname : String} (globs : List SigRef) (ips : List (PortT))
    (dps : List (List Nuc × Bool)) (sigs sigs' : List (String × List SigEntry)) (lens lens' : List (String × Nat))
    (sa : Denote.SigAcc) (ht : TablesAgree pfx sigs lens sa) (hpa : PortsAgree (pfx ++ cname ++ "-") ips dps)
    (he : EntriesInSpec spec pfx sigs lens) (hpo : ∀ ip ∈ ips, PortInSpec spec (pfx ++ cname ++ "-") ip)
    (h : (List.zip globs ips).foldlM (bindStep cname) (sigs, lens) = .ok (sigs', lens')) :
    EntriesInSpec spec pfx sigs' lens' :=
  let ⟨_, _, _, hK⟩ := bind_agree (fun sg l => EntriesInSpec spec pfx sg l) globs ips dps sigs sigs' lens lens' sa ht hpa he
    (fun _ _ ip hip _ _ _ _ _ ht1 hK h1 => bind_step_entries ht1 hK (hpo ip hip) h1) h
  hK

/-- the two statements of a signal, the entry names spelt the way `resolveItem` reads them -/
theorem sigStmts_eq (pfx : String) (lens : List (String × Nat)) (x : String × List SigEntry) :
    Emit.sigStmts pfx lens x =
      [Pil.Stmt.seq (pfx ++ x.1) (List.replicate ((lens.lookup x.1).getD 0) 'N'),
       Pil.Stmt.equal ((pfx ++ x.1) :: x.2.map (fun e => fullName (pfx ++ e.comp ++ "-") (portName e.port) e.wc))] := by
  simp only [Emit.sigStmts, fullName]
  congr 5
  funext e
  cases e.port <;> rfl

def sigObj (pfx : String) (lens : List (String × Nat)) (x : String × List SigEntry) : Pil.SeqObj :=
  ⟨pfx ++ x.1, false, (lens.lookup x.1).getD 0, List.replicate ((lens.lookup x.1).getD 0) 'N', [],
   [⟨pfx ++ x.1, false, (lens.lookup x.1).getD 0⟩]⟩

def sigEq (pfx : String) (x : String × List SigEntry) : List Pil.ItemRef :=
  ⟨pfx ++ x.1, false⟩ :: x.2.map (fun e => ⟨entryName pfx e, e.wc⟩)

def sigSpec (pfx : String) (lens : List (String × Nat)) (L : List (String × List SigEntry)) : Pil.Spec :=
  ⟨L.map (sigObj pfx lens), [], [], L.map (sigEq pfx)⟩

theorem EntryInSpec.append {spec : Pil.Spec} {pfx : String} {len : Nat} {e : SigEntry} (h : EntryInSpec spec pfx len e)
    (b : Pil.Spec) : EntryInSpec (specAppend spec b) pfx len e := by
  obtain ⟨h1, o, ho, h2, h3⟩ := h
  exact ⟨h1, o, by rw [findSeq_append_left _ (by rw [ho]; rfl)]; exact ho, h2, h3⟩

theorem resolve_members {spec : Pil.Spec} {pfx : String} (g : SigEntry → Pil.SeqObj) : ∀ (es : List SigEntry),
    (∀ e ∈ es, endsOk (portName e.port) = true ∧ spec.findSeq (entryName pfx e) = some (g e)) →
    Pil.resolveItems spec (es.map (fun e => fullName (pfx ++ e.comp ++ "-") (portName e.port) e.wc)) =
      .ok (es.map (fun e => (⟨entryName pfx e, e.wc⟩, g e))) := by
  intro es
  induction es with
  | nil => intro _; rfl
  | cons e r ih =>
    intro h
    obtain ⟨h1, h2⟩ := h e List.mem_cons_self
    have h2' : spec.findSeq (pfx ++ e.comp ++ "-" ++ portName e.port) = some (g e) := h2
    simp only [List.map_cons, Pil.resolveItems, resolveItem_fullName spec _ _ _ h1, h2',
      ih (fun x hx => h x (List.mem_cons_of_mem _ hx))]
    rfl

theorem load_sig (tbl : CodeTable) (hN : tbl.isCode 'N' = true) {S : Pil.Spec} {pfx : String}
    {lens : List (String × Nat)} {x : String × List SigEntry} (hxe : endsOk x.1 = true)
    (hxf : S.findSeq (pfx ++ x.1) = none) (he : ∀ e ∈ x.2, EntryInSpec S pfx ((lens.lookup x.1).getD 0) e) :
    Pil.load tbl (Emit.sigStmts pfx lens x) S = .ok (specAppend S ⟨[sigObj pfx lens x], [], [], [sigEq pfx x]⟩) := by
  let S1 := specAppend S ⟨[sigObj pfx lens x], [], [], []⟩
  have hadd1 : S.add tbl (.seq (pfx ++ x.1) (List.replicate ((lens.lookup x.1).getD 0) 'N')) = .ok S1 := by
    refine Pil.add_eq_ok.2 ⟨_, ?_, .seq hxf (List.all_eq_true.2 (fun c hc => (List.mem_replicate.1 hc).2 ▸ hN))⟩
    simp [S1, sigObj]
  -- in `S1` the signal is the new object, the entries are where they were
  -- `resolve_members` wants a total function of the entry; the default is never reached (`hg`)
  let g : SigEntry → Pil.SeqObj := fun e => (S.findSeq (entryName pfx e)).getD (sigObj pfx lens x)
  have hg : ∀ e ∈ x.2, endsOk (portName e.port) = true ∧ S1.findSeq (entryName pfx e) = some (g e) ∧
      (g e).len = (lens.lookup x.1).getD 0 := by
    intro e hm
    obtain ⟨h1, o, ho, hl, _⟩ := he e hm
    have hge : g e = o := by simp only [g, ho, Option.getD_some]
    exact ⟨h1, by rw [findSeq_append_left _ (by rw [ho]; rfl), ho, hge], by rw [hge]; exact hl⟩
  have hself : Pil.resolveItem S1 (pfx ++ x.1) = .ok (⟨pfx ++ x.1, false⟩, sigObj pfx lens x) := by
    have := resolveItem_fullName S1 pfx x.1 false hxe
    have hf : S1.findSeq (pfx ++ x.1) = some (sigObj pfx lens x) := by
      rw [findSeq_append_right _ hxf]; simp [Pil.Spec.findSeq, sigObj]
    simpa only [fullName, Bool.false_eq_true, if_false, String.append_empty, hf] using this
  have hadd2 : S1.add tbl (.equal ((pfx ++ x.1) :: x.2.map (fun e => fullName (pfx ++ e.comp ++ "-") (portName e.port) e.wc))) =
      .ok (specAppend S ⟨[sigObj pfx lens x], [], [], [sigEq pfx x]⟩) := by
    have hall : ((⟨pfx ++ x.1, false⟩, sigObj pfx lens x) :: x.2.map (fun e => ((⟨entryName pfx e, e.wc⟩ : Pil.ItemRef), g e))).all
        (fun (y : Pil.ItemRef × Pil.SeqObj) => y.2.len == (sigObj pfx lens x).len) = true := by
      simp only [List.all_cons, beq_self_eq_true, Bool.true_and, List.all_map, List.all_eq_true, Function.comp, beq_iff_eq]
      intro e hm
      rw [(hg e hm).2.2]; rfl
    refine Pil.add_eq_ok.2 ⟨_, ?_, .equal ?_ hall⟩
    · simp [S1, specAppend, sigEq, List.map_map, Function.comp_def]
    · simp only [Pil.resolveItems, hself, resolve_members g x.2 (fun e hm => ⟨(hg e hm).1, (hg e hm).2.1⟩)]
      rfl
  simp only [sigStmts_eq, Pil.load, hadd1, hadd2]

theorem load_sigs (tbl : CodeTable) (hN : tbl.isCode 'N' = true) {pfx : String} {lens : List (String × Nat)} :
    ∀ (L : List (String × List SigEntry)) (S : Pil.Spec), (L.map (·.1)).Nodup →
    (∀ x ∈ L, endsOk x.1 = true ∧ S.findSeq (pfx ++ x.1) = none) →
    (∀ x ∈ L, ∀ e ∈ x.2, EntryInSpec S pfx ((lens.lookup x.1).getD 0) e) →
    Pil.load tbl (L.flatMap (Emit.sigStmts pfx lens)) S = .ok (specAppend S (sigSpec pfx lens L)) := by
  intro L
  induction L with
  | nil => intro S _ _ _; exact congrArg Except.ok (specAppend_nil_right S).symm
  | cons x r ih =>
    intro S hnd hk he
    obtain ⟨hxe, hxf⟩ := hk x List.mem_cons_self
    rw [List.flatMap_cons, Pil.load_append, load_sig tbl hN hxe hxf (he x List.mem_cons_self), ok_bind,
      ih _ (List.nodup_cons.1 hnd).2 (fun y hy => ⟨(hk y (List.mem_cons_of_mem _ hy)).1, ?_⟩)
        (fun y hy e hm => (he y (List.mem_cons_of_mem _ hy) e hm).append _), specAppend_assoc]
    · rfl
    · -- a later signal has another name
      rw [findSeq_append_right _ (hk y (List.mem_cons_of_mem _ hy)).2]
      simp only [Pil.Spec.findSeq, List.find?_eq_none, List.mem_singleton, forall_eq, sigObj, beq_iff_eq,
        String.append_right_inj]
      intro h
      exact (List.nodup_cons.1 hnd).1 (List.mem_map.2 ⟨y, hy, h.symm⟩)

theorem sigSpec_find {pfx : String} {lens : List (String × Nat)} : ∀ (L : List (String × List SigEntry)),
    (L.map (·.1)).Nodup → ∀ x ∈ L, (sigSpec pfx lens L).findSeq (pfx ++ x.1) = some (sigObj pfx lens x) := by
  intro L
  induction L with
  | nil => intro _ x hx; cases hx
  | cons a r ih =>
    intro hnd x hx
    simp only [List.map_cons, List.nodup_cons] at hnd
    simp only [Pil.Spec.findSeq, sigSpec, List.map_cons, List.find?_cons]
    rcases List.mem_cons.1 hx with rfl | hx
    · simp [sigObj]
    · have hne : a.1 ≠ x.1 := by
        intro he
        exact hnd.1 (he ▸ List.mem_map.2 ⟨x, hx, rfl⟩)
      have : ((sigObj pfx lens a).name == pfx ++ x.1) = false := by
        simp only [sigObj, beq_eq_false_iff_ne, ne_eq, String.append_right_inj]; exact hne
      simp only [this]
      exact ih hnd.2 x hx

theorem nucs_single (nm : String) (len : Nat) : Pil.nucsOfBases [⟨nm, false, len⟩] = fwd nm len := by
  simp [Pil.nucsOfBases, Pil.nucsOfBase]

theorem denote_sys {specC : Pil.Spec} {pfx : String} {sigs : List (String × List SigEntry)} {lens : List (String × Nat)}
    (hc : EqClosed specC) (hnd : (sigs.map (·.1)).Nodup) (hpos : ∀ x ∈ sigs, (lens.lookup x.1).getD 0 ≠ 0)
    (hfree : ∀ x ∈ sigs, specC.findSeq (pfx ++ x.1) = none) (he : EntriesInSpec specC pfx sigs lens) :
    DesignEquiv (Pil.denote (specAppend specC (sigSpec pfx lens sigs)))
      (Denote.Design.append (Pil.denote specC) (sigDesignOf pfx lens sigs)) := by
  rw [denote_append specC _ hc]
  -- no signal object is filtered out: none is a super-sequence, none has length 0
  have h1 : sigs.filter ((fun o : Pil.SeqObj => !o.isSup) ∘ sigObj pfx lens) = sigs :=
    List.filter_eq_self.2 (fun x _ => by simp [sigObj])
  have h2 : sigs.filter ((fun o : Pil.SeqObj => o.len != 0) ∘ sigObj pfx lens) = sigs :=
    List.filter_eq_self.2 (fun x hx => by simpa [sigObj] using hpos x hx)
  have hdom : (Pil.denote (sigSpec pfx lens sigs)).domains = (sigDesignOf pfx lens sigs).domains := by
    simp only [Pil.denote, sigSpec, Pil.Spec.baseSeqs, sigDesignOf, List.filter_map, List.map_map, h1, h2]
    rfl
  have hseq : (Pil.denote (sigSpec pfx lens sigs)).seqs = (sigDesignOf pfx lens sigs).seqs := by
    simp only [Pil.denote, sigSpec, sigDesignOf, List.filter_map, List.map_map, h2]
    apply List.map_congr_left
    intro x _
    simp only [Function.comp, sigObj, nucs_single]
  refine ⟨by rw [hdom]; rfl, by rw [hseq]; rfl, by simp [Pil.denote, sigSpec, sigDesignOf, Denote.Design.append],
    by simp [Pil.denote, sigSpec, sigDesignOf, Denote.Design.append], ?_⟩
  generalize hWd : specAppend specC (sigSpec pfx lens sigs) = W
  have hself : ∀ x ∈ sigs, W.findSeq (pfx ++ x.1) = some (sigObj pfx lens x) := by
    intro x hx
    rw [← hWd, findSeq_append_right _ (hfree x hx)]; exact sigSpec_find sigs hnd x hx
  have hmem : ∀ x ∈ sigs, ∀ e ∈ x.2, (W.findSeq (entryName pfx e)).map (fun o => Pil.nucsOfBases (Pil.basesOfView o e.wc)) =
      some (entryRegion pfx ((lens.lookup x.1).getD 0) e) := by
    intro x hx e hm
    obtain ⟨_, o, ho, _, hn⟩ := he x hx e hm
    rw [← hWd, findSeq_append_left _ (show (specC.findSeq (entryName pfx e)).isSome = true by rw [ho]; rfl), ho]
    simp only [Option.map_some, pil_star_region, hn, entryRegion]
  show (Pil.denote specC).equals ++ (sigs.map (sigEq pfx)).map (eqRegions W) =
    (Pil.denote specC).equals ++ sigs.map (fun x => fwd (pfx ++ x.1) ((lens.lookup x.1).getD 0) ::
      x.2.map (entryRegion pfx ((lens.lookup x.1).getD 0)))
  congr 1
  rw [List.map_map]
  apply List.map_congr_left
  intro x hx
  simp only [Function.comp, sigEq, eqRegions, List.filterMap_cons, hself x hx, Option.map_some]
  congr 1
  · simp only [sigObj, Pil.basesOfView, Bool.false_eq_true, if_false, nucs_single]
  · have := hmem x hx
    generalize x.2 = es at this
    induction es with
    | nil => rfl
    | cons e r ih =>
      simp only [List.map_cons, List.filterMap_cons, this e (by simp)]
      rw [ih (fun y hy => this y (by simp [hy]))]


/-- a signal name: non-empty, not ending in `*` (the PIL reader would split it off), without `-` (the separator of
    instance paths: a signal `c-a` of a system and the sequence `a` of its instance `c` would be one name) -/
def sigNameOk (n : String) : Bool := endsOk n && !n.toList.contains '-'

def sstmtOk : SStmt → Bool
  | .imports _ => true
  | .component cname _ _ ins outs => !cname.toList.contains '-' && (ins ++ outs).all (fun r => sigNameOk r.name)

/-- the PIL side's hypothesis on a system source (C02).  Not `LoadInv.SysNamesOk` (capital `S`), the `.des` side's,
    which asks more: no signal named like an instance, declared signals distinct -/
def sysNamesOk (s : SSrc) : Bool := s.stmts.all sstmtOk

/-- hypotheses on a bundle: `N` is a code of the reader's table (signal sequences are written as `N…N`); every
    component source has `UserNamesOk` and `CodesOk`; every system source has `sysNamesOk`.  In the `lookup` form the
    walks use: `bundleOk_comp` / `bundleOk_sys`; there `LoadInv.CompSrcsOk P b` and `BundleComps P b` are one proposition. -/
def bundleOk (tbl : CodeTable) (b : Bundle) : Bool :=
  tbl.isCode 'N' && b.files.all (fun kf => match kf.2 with
    | .comp c => UserNamesOk c && CodesOk tbl c
    | .sys s => sysNamesOk s)

theorem bundleOk_comp {tbl : CodeTable} {b : Bundle} (h : bundleOk tbl b = true) {k : String} {c : Comp.Src}
    (hl : b.files.lookup k = some (.comp c)) : UserNamesOk c = true ∧ CodesOk tbl c = true := by
  simp only [bundleOk, Bool.and_eq_true, List.all_eq_true] at h
  have := h.2 _ (lookup_mem hl)
  simpa using this

theorem bundleOk_sys {tbl : CodeTable} {b : Bundle} (h : bundleOk tbl b = true) {k : String} {s : SSrc}
    (hl : b.files.lookup k = some (.sys s)) : sysNamesOk s = true := by
  simp only [bundleOk, Bool.and_eq_true, List.all_eq_true] at h
  have := h.2 _ (lookup_mem hl)
  simpa using this

theorem bundleOk_N {tbl : CodeTable} {b : Bundle} (h : bundleOk tbl b = true) : tbl.isCode 'N' = true := by
  simp only [bundleOk, Bool.and_eq_true] at h
  exact h.1

theorem DesignEquiv.append {a b c d : Design} (h1 : DesignEquiv a c) (h2 : DesignEquiv b d) :
    DesignEquiv (Denote.Design.append a b) (Denote.Design.append c d) :=
  Comp.DesignEquiv.append h1 h2

theorem lookup_none_ne {β} {l : List (String × β)} {k : String} (h : (l.lookup k).isSome = false) :
    ∀ x ∈ l, x.1 ≠ k := by
  intro x hx he
  have := mem_keys_lookup hx
  rw [he, h] at this
  cases this

theorem not_under_instance (pfx c k : String) (hk : '-' ∉ k.toList) : ¬ HasPfx (pfx ++ c ++ "-") (pfx ++ k) := by
  intro h
  obtain ⟨r, hr⟩ := exists_of_hasPfx h
  exact dash_ne hk ((String.append_right_inj pfx).1 (by simpa only [String.append_assoc] using hr.symm))

structure LoopInv (tbl : CodeTable) (pfx : String) (sigs : List (String × List SigEntry)) (lens : List (String × Nat))
    (comps : List (String × Inst)) (d : Design) : Prop where
  dash : ∀ c ∈ comps, '-' ∉ c.1.toList
  names : ∀ s ∈ Emit.compsStmts comps, ∀ n ∈ stmtNames s, ∃ c ∈ comps, HasPfx (pfx ++ c.1 ++ "-") n
  bal : ∀ n p ss x, Pil.Stmt.struct n p ss x ∈ Emit.compsStmts comps → Notation.balanced x = true
  load : ∃ specC, Pil.load tbl (Emit.compsStmts comps) {} = .ok specC ∧ DesignEquiv (Pil.denote specC) d ∧
    EntriesInSpec specC pfx sigs lens

theorem LoopInv.init (tbl : CodeTable) (pfx : String) : LoopInv tbl pfx [] [] [] Design.empty :=
  ⟨nofun, nofun, nofun, {}, rfl, ⟨rfl, rfl, rfl, rfl, rfl⟩, nofun⟩

/-- one more instance: its statements are framed off the earlier ones by its prefix (`load_frame`), the design is the
    append (`denote_append_free`), and the binding loop keeps the entries resolvable (`bind_full`) -/
theorem LoopInv.bound {tbl : CodeTable} {pfx : String} {sigs sg : List (String × List SigEntry)}
    {lens l : List (String × Nat)} {comps : List (String × Inst)} {d d1 : Design} {sa : Denote.SigAcc}
    {cname templ : String} {args : Nat} {ins outs : List SigRef} {inst : Inst} {ports : List (List Nuc × Bool)}
    (hsok : sstmtOk (.component cname templ args ins outs) = true) (hdup : (comps.lookup cname).isSome = false)
    (ht : TablesAgree pfx sigs lens sa) (hpa : PortsAgree (pfx ++ cname ++ "-") (instPorts inst) ports)
    (hinv : LoopInv tbl pfx sigs lens comps d) (hI : InstPil tbl (pfx ++ cname ++ "-") inst d1)
    (hb : bindSigs cname sigs lens (ins ++ outs) (instPorts inst) = .ok (sg, l)) :
    LoopInv tbl pfx sg l (comps ++ [(cname, inst)]) (Denote.Design.append d d1) := by
  simp only [sstmtOk, Bool.and_eq_true, Bool.not_eq_true', List.all_eq_true] at hsok
  have hcdash : '-' ∉ cname.toList := by simpa using hsok.1
  obtain ⟨specC, hlC, hdC, heC⟩ := hinv.load
  obtain ⟨specI, hlI, hdI, hpI⟩ := hI.load
  have hnC : SpecNamesP (fun n => ∃ c ∈ comps, HasPfx (pfx ++ c.1 ++ "-") n) specC ∧ EqClosed specC :=
    load_names_and_closed tbl _ specC hinv.names hlC
  have hnI : SpecNamesP (HasPfx (pfx ++ cname ++ "-")) specI ∧ EqClosed specI :=
    load_names_and_closed tbl _ specI hI.names hlI
  have hfree : SpecFree (HasPfx (pfx ++ cname ++ "-")) specC := by
    apply hnC.1.free
    rintro n ⟨c, hc, hcp⟩ hq
    exact sibling_prefixes_disjoint pfx c.1 cname (hinv.dash c hc) hcdash (lookup_none_ne hdup c hc) n ⟨hcp, hq⟩
  have hstm : Emit.compsStmts (comps ++ [(cname, inst)]) = Emit.compsStmts comps ++ Emit.instStmts inst := by
    simp only [Emit.compsStmts_eq, List.flatMap_append, List.flatMap_cons, List.flatMap_nil, List.append_nil]
  have hlAll : Pil.load tbl (Emit.compsStmts (comps ++ [(cname, inst)])) {} = .ok (specAppend specC specI) := by
    rw [hstm, Pil.load_append, hlC, ok_bind]
    exact load_frame_alone tbl hfree hI.names hlI
  have hdAll : DesignEquiv (Pil.denote (specAppend specC specI)) (Denote.Design.append d d1) :=
    (denote_append_free specC specI hnC.2 (fun its hi i hm =>
      findSeq_none_of_free hfree (hnI.1.equals its hi i hm))).trans (hdC.append hdI)
  have heAll : EntriesInSpec (specAppend specC specI) pfx sigs lens := fun x hx e hm => (heC x hx e hm).append _
  have hpAll : ∀ ip ∈ instPorts inst, PortInSpec (specAppend specC specI) (pfx ++ cname ++ "-") ip := by
    intro ip hip
    obtain ⟨h1, h2, h3⟩ := hpI ip hip
    refine ⟨h1, h2, fun hd => ?_⟩
    obtain ⟨o, ho, g1, g2⟩ := h3 hd
    exact ⟨o, by rw [findSeq_append_right _ (findSeq_none_of_free hfree (HasPfx.append _ _))]; exact ho, g1, g2⟩
  have he1 := bind_full (ins ++ outs) (instPorts inst) ports sigs sg lens l sa ht hpa heAll hpAll hb
  refine ⟨forall_mem_snoc hinv.dash hcdash, ?_, ?_, specAppend specC specI, hlAll, hdAll, he1⟩
  · intro s hs nm hnm
    rw [hstm] at hs
    rcases List.mem_append.1 hs with hs | hs
    · obtain ⟨x, hx, hxp⟩ := hinv.names s hs nm hnm
      exact ⟨x, List.mem_append_left _ hx, hxp⟩
    · exact ⟨(cname, inst), List.mem_append_right _ List.mem_cons_self, hI.names s hs nm hnm⟩
  · intro nm pp ss x hx
    rw [hstm] at hx
    rcases List.mem_append.1 hx with hx | hx
    · exact hinv.bal nm pp ss x hx
    · exact hI.bal nm pp ss x hx

theorem sys_inst (tbl : CodeTable) (hN : tbl.isCode 'N' = true) {p n pf : String} {t : List (String × String)}
    {sg : List (String × List SigEntry)} {l : List (String × Nat)} {c : List (String × Inst)}
    {d1 : Design} {IN SN : List String} (ins outs : List SigRef)
    (hS : LoadInv.SysInv IN SN sg l c) (hinv : LoopInv tbl pf sg l c d1) (hsig : ∀ x ∈ sg, sigNameOk x.1 = true)
    (hio : (ins ++ outs).all (fun r => (sg.lookup r.name).isSome) = true) :
    InstPil tbl pf (.sys (.mk p n pf t sg l c ins outs)) (Denote.Design.append d1 (sigDesignOf pf l sg)) := by
  have hndS := hS.sigNodup
  obtain ⟨specC, hlC, hdC, heC⟩ := hinv.load
  have hnames := hinv.names
  have hnC : SpecNamesP (fun nm => ∃ x ∈ c, HasPfx (pf ++ x.1 ++ "-") nm) specC ∧ EqClosed specC :=
    load_names_and_closed tbl _ specC hnames hlC
  have hsigOk : ∀ x ∈ sg, endsOk x.1 = true ∧ '-' ∉ x.1.toList := by
    intro x hx
    have := hsig x hx
    simp only [sigNameOk, Bool.and_eq_true, Bool.not_eq_true'] at this
    exact ⟨this.1, by simpa using this.2⟩
  have hends : ∀ x ∈ sg, endsOk x.1 = true := fun x hx => (hsigOk x hx).1
  have hfreeS : ∀ x ∈ sg, specC.findSeq (pf ++ x.1) = none := by
    intro x hx
    exact find?_key_none (P := fun nm => ¬ ∃ y ∈ c, HasPfx (pf ++ y.1 ++ "-") nm) (fun o ho h => h (hnC.1.seqs o ho))
      fun ⟨y, _, hy⟩ => not_under_instance pf y.1 x.1 (hsigOk x hx).2 hy
  have hposS : ∀ x ∈ sg, (l.lookup x.1).getD 0 ≠ 0 := by
    intro x hx
    obtain ⟨v, hv⟩ := Option.isSome_iff_exists.1
      ((lookup_isSome_of_keys hS.keys x.1).trans (mem_keys_lookup hx))
    rw [hv]
    exact hS.lensPos _ (lookup_mem hv)
  have hstm : Emit.instStmts (.sys (.mk p n pf t sg l c ins outs)) = Emit.compsStmts c ++ sg.flatMap (Emit.sigStmts pf l) := by
    rw [Emit.instStmts_sys, Emit.sysStmts_eq]
  have hload : Pil.load tbl (Emit.instStmts (.sys (.mk p n pf t sg l c ins outs))) {} =
      .ok (specAppend specC (sigSpec pf l sg)) := by
    rw [hstm, Pil.load_append, hlC, ok_bind]
    exact load_sigs tbl hN sg specC hndS (fun x hx => ⟨hends x hx, hfreeS x hx⟩) heC
  refine ⟨?_, ?_, specAppend specC (sigSpec pf l sg), hload, ?_, ?_⟩
  · intro st hst nm hnm
    rw [hstm] at hst
    rcases List.mem_append.1 hst with hst | hst
    · obtain ⟨x, _, hx⟩ := hnames st hst nm hnm
      exact HasPfx.of_append (HasPfx.of_append hx)
    · obtain ⟨x, hx, hst⟩ := List.mem_flatMap.1 hst
      simp only [sigStmts_eq, List.mem_cons, List.mem_nil_iff, or_false] at hst
      rcases hst with rfl | rfl
      · simp only [stmtNames, List.mem_singleton] at hnm
        subst hnm; exact HasPfx.append _ _
      · simp only [stmtNames, List.map_cons, List.mem_cons, List.map_map, List.mem_map, Function.comp] at hnm
        rcases hnm with rfl | ⟨e, he, rfl⟩
        · rw [stripStar_append _ _ (hends x hx)]; exact HasPfx.append _ _
        · rw [stripStar_fullName _ _ _ (heC x hx e he).1]
          exact HasPfx.of_append (HasPfx.of_append (HasPfx.append _ _))
  · intro nm pp ss x hx
    rw [hstm] at hx
    rcases List.mem_append.1 hx with hx | hx
    · exact hinv.bal nm pp ss x hx
    · obtain ⟨y, _, hy⟩ := List.mem_flatMap.1 hx
      simp [sigStmts_eq] at hy
  · exact (denote_sys hnC.2 hndS hposS hfreeS heC).trans (hdC.append (.refl _))
  · intro q hq
    simp only [instPorts, sysPorts, SysSt.inputSeqs, SysSt.outputSeqs, SysSt.lengths, List.mem_map] at hq
    obtain ⟨r, hr, rfl⟩ := hq
    obtain ⟨v, hv⟩ := Option.isSome_iff_exists.1 (List.all_eq_true.1 hio r hr)
    have hx : (r.name, v) ∈ sg := lookup_mem hv
    have hfind : (specAppend specC (sigSpec pf l sg)).findSeq (pf ++ r.name) = some (sigObj pf l (r.name, v)) := by
      rw [findSeq_append_right _ (hfreeS _ hx)]
      exact sigSpec_find sg hndS _ hx
    exact ⟨hends (r.name, v) hx, nofun, fun _ => ⟨_, hfind, rfl, nucs_single _ _⟩⟩

theorem sigNameOk_of_stmts {stmts : List SStmt} (h : ∀ s ∈ stmts, sstmtOk s = true) :
    ∀ n ∈ LoadInv.sigNames stmts, sigNameOk n = true :=
  (LoadInv.names_of_stmts (P := fun _ => True) fun _ _ _ _ _ hm =>
    ⟨trivial, List.all_eq_true.1 (Bool.and_eq_true_iff.1 (h _ hm)).2⟩).2

/-- the `Walk` with `I := InstPil tbl`, `J := LoopInv tbl`; `LoopInv` holds only what is about the PIL: that the signal
    names of a finished system are distinct and well formed is read off the `LoadInv.SysInv` that `closed` is handed -/
theorem walkPil (tbl : CodeTable) (hN : tbl.isCode 'N' = true) :
    Walk (fun _ => True) (fun s => sstmtOk s = true) (InstPil tbl) (LoopInv tbl) where
  init := LoopInv.init tbl
  bound := LoopInv.bound
  closed := fun ins outs hok hS _ hinv hio =>
    sys_inst tbl hN ins outs hS hinv (fun x hx => sigNameOk_of_stmts hok _ (hS.sigIn x hx)) hio

theorem tree_full (tbl : CodeTable) (b : Bundle) (hb : bundleOk tbl b = true) :
    ∀ (fuel : Nat) base args argKey pfx path includes anon inst a',
    loadFile b fuel base args argKey pfx path includes anon = .ok (inst, a') →
    ∃ d ports, Denote.denoteFile b fuel base args argKey pfx path includes anon = .ok (d, ports, a') ∧
      PortsAgree pfx (instPorts inst) ports ∧ InstPil tbl pfx inst d :=
  (tree_agrees (walkPil tbl (bundleOk_N hb)) (fun _ _ _ => trivial)
    (fun _ _ _ _ _ _ _ hl hload =>
      let ⟨o, ports, hd, hp, _, hI⟩ := comp_inst hload (bundleOk_comp hb hl).1
      ⟨o, ports, hd, hp, hI tbl (bundleOk_comp hb hl).2⟩)
    (fun _ _ hl => List.all_eq_true.1 (bundleOk_sys hb hl))).1


def itemsChars (items : List SrcItem) : List Char :=
  items.flatMap (fun it => match it with
    | .nuc t => (Constraint.parseQuoted t).map (·.2)
    | _ => [])

def stmtChars : Comp.Stmt → List Char
  | .seq _ items _ => itemsChars items
  | .strand _ _ items _ => itemsChars items
  | _ => []

def srcChars (c : Comp.Src) : List Char := c.stmts.flatMap stmtChars

theorem itemCodesOk_of_chars {tbl : CodeTable} {items : List SrcItem} (h : ∀ ch ∈ itemsChars items, tbl.isCode ch = true) :
    itemCodesOk tbl items = true := by
  simp only [itemCodesOk, List.all_eq_true]
  intro it hit
  cases it with
  | nuc t =>
    simp only [partsCodesOk, List.all_eq_true]
    intro mc hmc
    apply h
    simp only [itemsChars, List.mem_flatMap]
    exact ⟨.nuc t, hit, List.mem_map.2 ⟨mc, hmc, rfl⟩⟩
  | ref _ _ => rfl
  | domains _ _ => rfl

theorem codesOk_of_chars {tbl : CodeTable} {c : Comp.Src} (h : ∀ ch ∈ srcChars c, tbl.isCode ch = true) :
    CodesOk tbl c = true := by
  simp only [CodesOk, List.all_eq_true]
  intro st hst
  have hst' : ∀ ch ∈ stmtChars st, tbl.isCode ch = true :=
    fun ch hch => h ch (List.mem_flatMap.2 ⟨st, hst, hch⟩)
  cases st with
  | seq _ items _ => exact itemCodesOk_of_chars hst'
  | strand _ _ items _ => exact itemCodesOk_of_chars hst'
  | struct _ _ _ _ _ => rfl
  | kinetic _ _ _ _ => rfl

def bundleNamesOk (b : Bundle) : Bool :=
  b.files.all (fun kf => match kf.2 with
    | .comp c => UserNamesOk c
    | .sys s => sysNamesOk s)

theorem bundleNamesOk_comp {b : Bundle} (h : bundleNamesOk b = true) {k : String} {c : Comp.Src}
    (hl : b.files.lookup k = some (.comp c)) : UserNamesOk c = true :=
  List.all_eq_true.1 h _ (lookup_mem hl)

def tableOfBundle (b : Bundle) : CodeTable :=
  CodeTable.tableOf ('N' :: b.files.flatMap (fun kf => match kf.2 with
    | .comp c => srcChars c
    | .sys _ => []))

theorem bundleOk_tableOfBundle {b : Bundle} (h : bundleNamesOk b = true) : bundleOk (tableOfBundle b) b = true := by
  simp only [bundleNamesOk, List.all_eq_true] at h
  simp only [bundleOk, Bool.and_eq_true, List.all_eq_true]
  refine ⟨CodeTable.tableOf_isCode _ _ (by simp), ?_⟩
  intro kf hkf
  have := h kf hkf
  cases hk : kf.2 with
  | comp c =>
    rw [hk] at this
    simp only [Bool.and_eq_true]
    refine ⟨this, codesOk_of_chars (fun ch hch => CodeTable.tableOf_isCode _ _ ?_)⟩
    apply List.mem_cons_of_mem
    exact List.mem_flatMap.2 ⟨kf, hkf, by rw [hk]; exact hch⟩
  | sys s => rw [hk] at this; exact this

end Pepper.SysProofs
