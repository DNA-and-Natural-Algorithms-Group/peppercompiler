import PepperProofs.Sys
import PepperProofs.SysDenote
import PepperProofs.DenoteStmt
/-!
# Every name below an instance carries the instance's prefix (C02)

The specification alone: `denoteFile_P` follows `Denote.denoteFile` through components, binding loops and nested systems
with an invariant on the environment, the output and the signal accumulator (`EnvP`, `OutP`, `SigP`), for any property
of names that every `pfx ++ x` has.
-/
namespace Pepper.SysProofs
open Pepper.Comp Pepper.Sys Pepper.Denote

theorem mem_take_cons_drop {α} {l : List α} {i j : Nat} {x y : α} (h : y ∈ l.take i ++ x :: l.drop j) :
    y ∈ l ∨ y = x := by
  rcases List.mem_append.1 h with h | h
  · exact Or.inl (List.mem_of_mem_take h)
  · exact (List.mem_cons.1 h).symm.imp_left List.mem_of_mem_drop

theorem closed2 {P : String → Prop} {p : String} (hP : ∀ x, P (p ++ x)) (x y : String) : P (p ++ x ++ y) := by
  rw [String.append_assoc]; exact hP _

def NucsP (P : String → Prop) (l : List Nuc) : Prop := ∀ n ∈ l, P n.var.dom

theorem NucsP.nil {P} : NucsP P [] := fun _ h => nomatch h
theorem NucsP.append {P} {a b : List Nuc} (ha : NucsP P a) (hb : NucsP P b) : NucsP P (a ++ b) := by
  intro n hn; rcases List.mem_append.1 hn with h | h; exact ha n h; exact hb n h
theorem NucsP.rc {P} {a : List Nuc} (ha : NucsP P a) : NucsP P (rc a) :=
  List.forall_mem_map.2 fun m hm => ha m (List.mem_reverse.1 hm)
theorem NucsP.rcIf {P} {a : List Nuc} (ha : NucsP P a) (c : Prop) [Decidable c] : NucsP P (if c then Pepper.rc a else a) := by
  split
  · exact ha.rc
  · exact ha
theorem NucsP.fwd {P : String → Prop} {name : String} (h : P name) (len : Nat) : NucsP P (fwd name len) :=
  List.forall_mem_map.2 fun _ _ => h
theorem NucsP.flatten {P} {l : List (List Nuc)} (h : ∀ s ∈ l, NucsP P s) : NucsP P l.flatten := by
  intro n hn
  obtain ⟨s, hs, hns⟩ := List.mem_flatten.1 hn
  exact h s hs n hns

structure DesignP (P : String → Prop) (d : Design) : Prop where
  domains : ∀ x ∈ d.domains, P x.1
  seqs : ∀ x ∈ d.seqs, P x.1 ∧ NucsP P x.2
  strands : ∀ x ∈ d.strands, P x.1 ∧ NucsP P x.2.2
  structs : ∀ x ∈ d.structs, P x.name ∧ ∀ s ∈ x.strands, P s
  kinetics : ∀ k ∈ d.kinetics, (∀ s ∈ k.inputs, P s) ∧ (∀ s ∈ k.outputs, P s)
  equals : ∀ e ∈ d.equals, ∀ r ∈ e, NucsP P r

theorem DesignP.empty {P} : DesignP P Design.empty := ⟨nofun, nofun, nofun, nofun, nofun, nofun⟩

theorem DesignP.append {P} {a b : Design} (ha : DesignP P a) (hb : DesignP P b) : DesignP P (Design.append a b) :=
  ⟨List.forall_mem_append.2 ⟨ha.domains, hb.domains⟩, List.forall_mem_append.2 ⟨ha.seqs, hb.seqs⟩,
   List.forall_mem_append.2 ⟨ha.strands, hb.strands⟩, List.forall_mem_append.2 ⟨ha.structs, hb.structs⟩,
   List.forall_mem_append.2 ⟨ha.kinetics, hb.kinetics⟩, List.forall_mem_append.2 ⟨ha.equals, hb.equals⟩⟩

structure EnvP (P : String → Prop) (env : Env) : Prop where
  seqs : ∀ x ∈ env.seqs, NucsP P x.2.nucs ∧ ∀ s ∈ x.2.segs, NucsP P s
  strands : ∀ x ∈ env.strands, NucsP P x.2.1 ∧ ∀ s ∈ x.2.2, NucsP P s

structure AccP (P : String → Prop) (a : ItemsAcc) : Prop where
  segs : ∀ s ∈ a.segs, NucsP P s
  doms : ∀ d ∈ a.newDomains, P d.2.1

theorem rcSegs_P {P} {segs : List (List Nuc)} (h : ∀ s ∈ segs, NucsP P s) : ∀ s ∈ rcSegs segs, NucsP P s :=
  List.forall_mem_map.2 fun x hx => (h x (List.mem_reverse.1 hx)).rc

theorem denoteItems_P {P : String → Prop} {pfx : String} (hP : ∀ x, P (pfx ++ x)) {env : Env} (he : EnvP P env) :
    ∀ (items : List SrcItem) (a a' : ItemsAcc), AccP P a → denoteItems pfx env items a = .ok a' → AccP P a' := by
  intro items
  induction items with
  | nil => intro a a' ha h; cases h; exact ha
  | cons it r ih =>
    intro a a' ha h
    cases it with
    | ref n star =>
      simp only [denoteItems] at h
      split at h
      · cases h
      · rename_i b hl
        refine ih _ a' ?_ h
        exact ⟨forall_mem_snoc ha.segs ((he.seqs _ (lookup_mem hl)).1.rcIf _), ha.doms⟩
    | domains n star =>
      simp only [denoteItems] at h
      split at h
      · cases h
      · rename_i b hl
        have hb := (he.seqs _ (lookup_mem hl)).2
        split at h
        · cases h
        · refine ih _ a' ?_ h
          refine ⟨List.forall_mem_append.2 ⟨ha.segs, ?_⟩, ha.doms⟩
          split
          · exact rcSegs_P hb
          · exact hb
    | nuc text =>
      simp only [denoteItems] at h
      split at h
      · rename_i l c _
        refine ih _ a' ?_ h
        exact ⟨forall_mem_snoc ha.segs (NucsP.fwd (closed2 hP _ _) l), forall_mem_snoc ha.doms (closed2 hP _ _)⟩
      · split at h
        · cases h
        · refine ih _ a' ?_ h
          exact ⟨forall_mem_snoc ha.segs NucsP.nil, ha.doms⟩
      · cases h

theorem denoteRegion_P {P : String → Prop} {pfx : String} (hP : ∀ x, P (pfx ++ x)) {env : Env} (he : EnvP P env)
    {items : List SrcItem} {length : Option Nat} {segs : List (List Nuc)} {doms : List (String × List Char)} {anon : Nat}
    (h : denoteRegion pfx env items length = .ok (segs, doms, anon)) :
    (∀ s ∈ segs, NucsP P s) ∧ (∀ d ∈ doms, P d.1) := by
  simp only [denoteRegion, bind_eq_ok] at h
  obtain ⟨a, ha, h⟩ := h
  have hA : AccP P a := denoteItems_P hP he items _ a (by constructor <;> (intro x hx; cases hx)) ha
  have hdoms : ∀ d ∈ a.newDomains.map (·.2), P d.1 := List.forall_mem_map.2 hA.doms
  split at h
  · have : (a.segs, a.newDomains.map (·.2), a.anon) = (segs, doms, anon) := by
      split at h
      · simp only [↓guard_eq_ok, pure_eq_ok] at h; exact h.2
      · exact pure_eq_ok.1 h
    cases this
    exact ⟨hA.segs, hdoms⟩
  · split at h
    · cases h
    · simp only [↓guard_eq_ok] at h
      obtain ⟨_, h⟩ := h
      split at h
      · cases h
      · rename_i wl c _
        cases pure_eq_ok.1 h
        refine ⟨fun s hs => ?_, fun d hd => ?_⟩
        · rcases mem_take_cons_drop hs with hs | rfl
          · exact hA.segs s hs
          · exact NucsP.fwd (closed2 hP _ _) wl
        · rcases mem_take_cons_drop hd with hd | rfl
          · exact hdoms d hd
          · exact closed2 hP _ _

structure OutP (P : String → Prop) (o : Out) : Prop where
  domains : ∀ x ∈ o.domains, P x.1
  baseSeqs : ∀ x ∈ o.baseSeqs, P x.1 ∧ NucsP P x.2
  supSeqs : ∀ x ∈ o.supSeqs, P x.1 ∧ NucsP P x.2
  strands : ∀ x ∈ o.strands, P x.1 ∧ NucsP P x.2.2
  structs : ∀ x ∈ o.structs, P x.name ∧ ∀ s ∈ x.strands, P s
  kinetics : ∀ k ∈ o.kinetics, (∀ s ∈ k.inputs, P s) ∧ (∀ s ∈ k.outputs, P s)

theorem OutP.design {P} {o : Out} (h : OutP P o) : DesignP P (o.design []) :=
  ⟨h.domains, List.forall_mem_append.2 ⟨h.baseSeqs, h.supSeqs⟩, h.strands, h.structs, h.kinetics, nofun⟩

theorem withNewDomains_P {P : String → Prop} {o : Out} (ho : OutP P o) {doms : List (String × List Char)}
    (hd : ∀ d ∈ doms, P d.1) : OutP P (withNewDomains o doms) :=
  have hf : ∀ d ∈ doms.filter (fun d => d.2.length != 0), P d.1 := fun d h => hd d (List.mem_filter.1 h).1
  { ho with
    domains := List.forall_mem_append.2 ⟨ho.domains, hf⟩
    baseSeqs := List.forall_mem_append.2 ⟨ho.baseSeqs, List.forall_mem_map.2 fun d h => ⟨hf d h, NucsP.fwd (hf d h) _⟩⟩ }

theorem denoteStmt_P {P : String → Prop} {pfx : String} (hp : ∀ x, P (pfx ++ x)) {env env' : Env} {o o' : Out}
    (he : EnvP P env) (ho : OutP P o) (st : Stmt) (h : denoteStmt pfx env o st = .ok (env', o')) :
    EnvP P env' ∧ OutP P o' := by
  have hmap : ∀ (l : List String), ∀ s ∈ l.map (pfx ++ ·), P s := fun l => List.forall_mem_map.2 fun y _ => hp y
  cases st with
  | seq name items length =>
    by_cases hat : ∃ t, items = [.nuc t]
    · obtain ⟨text, rfl⟩ := hat
      rw [Denote.denoteStmt_atom] at h
      obtain ⟨_, h⟩ := ite_ok h
      split at h
      · cases h
      · rename_i l c _
        cases h
        have hn := NucsP.fwd (hp name) l
        refine ⟨{ he with seqs := forall_mem_snoc he.seqs ⟨hn, List.forall_mem_singleton.2 hn⟩ }, ?_⟩
        show OutP _ (if _ then _ else _)
        split
        · exact ho
        · exact { ho with domains := forall_mem_snoc ho.domains (hp _), baseSeqs := forall_mem_snoc ho.baseSeqs ⟨hp _, hn⟩ }
    · rw [Denote.denoteStmt_seq _ _ _ _ _ fun t ht => hat ⟨t, ht⟩] at h
      obtain ⟨_, h⟩ := ite_ok h
      obtain ⟨⟨segs, doms, anon⟩, hr, h⟩ := map_ok h
      cases h
      obtain ⟨hsegs, hdoms⟩ := denoteRegion_P hp he hr
      have ho1 := withNewDomains_P ho hdoms
      refine ⟨{ he with seqs := forall_mem_snoc he.seqs ⟨NucsP.flatten hsegs, hsegs⟩ }, ?_⟩
      show OutP _ (if _ then _ else _)
      split
      · exact ho1
      · exact { ho1 with supSeqs := forall_mem_snoc ho1.supSeqs ⟨hp _, NucsP.flatten hsegs⟩ }
  | strand dummy name items length =>
    rw [Denote.denoteStmt_strand] at h
    obtain ⟨_, h⟩ := ite_ok h
    obtain ⟨⟨segs, doms, anon⟩, hr, h⟩ := bind_ok h
    obtain ⟨_, h⟩ := ite_ok h
    cases h
    obtain ⟨hsegs, hdoms⟩ := denoteRegion_P hp he hr
    have ho1 := withNewDomains_P ho hdoms
    exact ⟨{ he with strands := forall_mem_snoc he.strands ⟨NucsP.flatten hsegs, hsegs⟩ },
      { ho1 with strands := forall_mem_snoc ho1.strands ⟨hp _, NucsP.flatten hsegs⟩ }⟩
  | struct opt name strands domain text =>
    -- whatever the notation checks decide, an accepted statement adds one structure with prefixed names
    rw [Denote.denoteStmt_struct] at h
    obtain ⟨_, h⟩ := ite_ok h
    obtain ⟨objs, -, h⟩ := bind_ok h
    obtain ⟨full, -, h⟩ := bind_ok h
    obtain ⟨x, hx, h⟩ := map_ok h
    cases h
    obtain ⟨_, hx⟩ := ite_ok hx
    obtain ⟨ov, -, rfl⟩ := map_ok hx
    exact ⟨he, { ho with structs := forall_mem_snoc ho.structs ⟨hp _, hmap strands⟩ }⟩
  | kinetic low high ins outs =>
    rw [Denote.denoteStmt_kinetic] at h
    obtain ⟨_, h⟩ := ite_ok h
    obtain ⟨k, hk, h⟩ := map_ok h
    cases h
    simp only [kinOf, bind_eq_ok, pure_eq_ok] at hk
    obtain ⟨lo, _, hi, _, rfl⟩ := hk
    exact ⟨he, { ho with kinetics := forall_mem_snoc ho.kinetics ⟨hmap ins, hmap outs⟩ }⟩

theorem denoteStmts_P {P : String → Prop} {pfx : String} (hP : ∀ x, P (pfx ++ x)) :
    ∀ (stmts : List Stmt) (env env' : Env) (o o' : Out),
    EnvP P env → OutP P o → denoteStmts pfx stmts env o = .ok (env', o') → EnvP P env' ∧ OutP P o' := by
  intro stmts
  induction stmts with
  | nil => intro env env' o o' he ho h; cases h; exact ⟨he, ho⟩
  | cons st r ih =>
    intro env env' o o' he ho h
    rw [denoteStmts_cons, bind_eq_ok] at h
    obtain ⟨⟨e1, o1⟩, hs, h⟩ := h
    obtain ⟨he1, ho1⟩ := denoteStmt_P hP he ho st hs
    exact ih e1 env' o1 o' he1 ho1 h

theorem denoteComp_P {P : String → Prop} {src : Src} {pfx : String} (hP : ∀ x, P (pfx ++ x)) {anon : Nat} {o : Out}
    {ports : List (List Nuc × Bool)} {a : Nat} (h : denoteComp src pfx anon = .ok (o, ports, a)) :
    DesignP P (o.design []) ∧ ∀ p ∈ ports, NucsP P p.1 := by
  rw [denoteComp_eq, bind_eq_ok] at h
  obtain ⟨⟨env, o1⟩, hs, h⟩ := h
  obtain ⟨ps, hps, h⟩ := map_eq_ok.1 h
  cases h
  obtain ⟨he, ho⟩ := denoteStmts_P hP src.stmts _ env _ o1 (by constructor <;> (intro x hx; cases hx))
    (by constructor <;> (intro x hx; cases hx)) hs
  refine ⟨ho.design, fun p hp => ?_⟩
  obtain ⟨x, _, hx⟩ := mapM_mem hps p hp
  -- whichever arm of `portOf` accepted, the port is the nucleotides of a bound sequence
  unfold Denote.portOf at hx
  split at hx
  · cases hx
  · rename_i b hl
    have hb := (he.seqs _ (lookup_mem hl)).1
    split at hx
    · split at hx
      · cases pure_eq_ok.1 hx; exact hb
      · cases hx
    · cases pure_eq_ok.1 hx; exact hb

def SigP (P : String → Prop) (sa : SigAcc) : Prop := ∀ x ∈ sa.members, ∀ r ∈ x.2, NucsP P r

theorem bpStep_P {P : String → Prop} {a a' : SigAcc} {gp : SigRef × (List Nuc × Bool)} (ha : SigP P a)
    (hp : NucsP P gp.2.1) (h : bpStep a gp = .ok a') : SigP P a' := by
  have hreg : NucsP P (if gp.1.star != gp.2.2 then rc gp.2.1 else gp.2.1) := hp.rcIf _
  unfold SigP
  rcases bpStep_region a a' gp h with hm | hm <;> rw [hm]
  · exact forall_mem_snoc ha (List.forall_mem_singleton.2 hreg)
  · refine List.forall_mem_map.2 fun ⟨k, v⟩ hkv => ?_
    dsimp only
    split
    · exact forall_mem_snoc (ha _ hkv) hreg
    · exact ha _ hkv

theorem bindPorts_P {P : String → Prop} (zs : List (SigRef × (List Nuc × Bool))) (a a' : SigAcc) (ha : SigP P a)
    (hz : ∀ z ∈ zs, NucsP P z.2.1) (h : zs.foldlM bpStep a = .ok a') : SigP P a' :=
  foldlM_ok_inv (SigP P) ha (fun _ z hm hq _ hs => bpStep_P hq (hz z hm) hs) h

theorem denoteSysStmts_P {P : String → Prop} (b : Bundle) (fuel : Nat) (includes : List String) (path pfx : String)
    (hP : ∀ x, P (pfx ++ x))
    (IH : ∀ base args argKey pfx' path includes anon d ports a, (∀ x, P (pfx' ++ x)) →
      denoteFile b fuel base args argKey pfx' path includes anon = .ok (d, ports, a) →
      DesignP P d ∧ ∀ p ∈ ports, NucsP P p.1) :
    ∀ (stmts : List SStmt) (tmpl : List (String × String)) (d : Design) (sa : SigAcc) (a : Nat) (d' : Design)
      (sa' : SigAcc) (a' : Nat), DesignP P d → SigP P sa →
      denoteSysStmts b fuel includes path pfx stmts tmpl d sa a = .ok (d', sa', a') →
      DesignP P d' ∧ SigP P sa' := by
  intro stmts
  induction stmts with
  | nil =>
    intro tmpl d sa a d' sa' a' hd hs h
    rw [denoteSysStmts_nil] at h
    cases h
    exact ⟨hd, hs⟩
  | cons st r ih =>
    intro tmpl d sa a d' sa' a' hd hs h
    cases st with
    | imports items =>
      rw [denoteSysStmts_imports] at h
      split at h
      · cases h
      · exact ih _ d sa a d' sa' a' hd hs h
    | component cname templ args ins outs =>
      rw [denoteSysStmts_component] at h
      split at h
      · cases h
      · split at h
        · cases h
        · rename_i d1 ports a1 hf
          obtain ⟨_, h⟩ := ite_ok h
          split at h
          · cases h
          · rename_i sa1 hb
            -- what is closed under `pfx` is closed under the instance's longer prefix
            obtain ⟨hd1, hports⟩ := IH _ _ _ _ _ _ _ _ _ _ (fun x => closed2 (closed2 hP _) _ x) hf
            exact ih tmpl _ sa1 a1 d' sa' a' (hd.append hd1)
              (bindPorts_P _ sa sa1 hs (fun z hz => hports z.2 (List.of_mem_zip hz).2) hb) h

theorem denoteFile_P {P : String → Prop} (b : Bundle) : ∀ (fuel : Nat) base args argKey pfx path includes anon d ports a,
    (∀ x, P (pfx ++ x)) → denoteFile b fuel base args argKey pfx path includes anon = .ok (d, ports, a) →
    DesignP P d ∧ ∀ p ∈ ports, NucsP P p.1 := by
  intro fuel
  induction fuel with
  | zero => intro base args argKey pfx path includes anon d ports a _ h; rw [denoteFile_zero] at h; cases h
  | succ fuel ih =>
    intro base args argKey pfx path includes anon d ports a hn h
    rw [denoteFile_succ] at h
    split at h
    · cases h
    · rename_i fname issys newPath _
      split at h
      · cases h
      · rename_i c _
        obtain ⟨_, h⟩ := ite_ok h
        split at h
        · cases h
        · rename_i o ps a1 hc
          cases h
          exact denoteComp_P hn hc
      · rename_i s _
        obtain ⟨_, h⟩ := ite_ok h
        split at h
        · cases h
        · rename_i d1 sa a1 hs
          obtain ⟨_, h⟩ := ite_ok h
          cases h
          obtain ⟨hd1, hsa⟩ := denoteSysStmts_P b fuel includes newPath pfx hn ih s.stmts [] Design.empty {} anon d1 sa _
            DesignP.empty nofun hs
          refine ⟨hd1.append ⟨List.forall_mem_map.2 fun n _ => hn n,
            List.forall_mem_map.2 fun n _ => ⟨hn n, NucsP.fwd (hn n) _⟩, nofun, nofun, nofun,
            List.forall_mem_map.2 fun n _ r hr => ?_⟩, List.forall_mem_map.2 fun r _ => NucsP.fwd (hn r.name) _⟩
          rcases List.mem_cons.1 hr with rfl | hr
          · exact NucsP.fwd (hn n) _
          · cases hm : sa.members.lookup n with
            | none => rw [hm] at hr; cases hr
            | some v =>
              rw [hm] at hr
              exact hsa _ (lookup_mem hm) r hr

/-- the variables (nucleotides up to complement) a design mentions -/
def designVars (d : Design) : List Var :=
  (d.seqs.flatMap (fun x => x.2.map (·.var))) ++ (d.strands.flatMap (fun x => x.2.2.map (·.var))) ++
  (d.equals.flatMap (fun e => e.flatMap (fun r => r.map (·.var))))

theorem designVars_P {P : String → Prop} {d : Design} (h : DesignP P d) : ∀ v ∈ designVars d, P v.dom := by
  intro v hv
  simp only [designVars, List.mem_append, List.mem_flatMap, List.mem_map] at hv
  rcases hv with (⟨x, hx, n, hn, rfl⟩ | ⟨x, hx, n, hn, rfl⟩) | ⟨e, he, r, hr, n, hn, rfl⟩
  · exact (h.seqs x hx).2 n hn
  · exact (h.strands x hx).2 n hn
  · exact h.equals e he r hr n hn

end Pepper.SysProofs
