import PepperModel.Sys
import PepperProofs.LoadInvSys
import PepperProofs.CompShift
import PepperProofs.EmitEq
/-!
# Instance trees: renumbering, uniqueness of names, dependence on the file system (C18)

`Sys.loadFile` depends on the file system only through the probes of the import search (`loadFile_congr`); it is
equivariant under the renamings under which `Comp.load` is (`loadFile_rename`); the names declared over a loaded tree
are distinct (`tree_names_nodup` of a `TreeOk` tree; `loadFile_treeOk` reads `TreeOk` off the tree invariant
`LoadInv.Loaded`).
-/
namespace Pepper.CompShift  -- the namespace of `CompShift.lean`, whose results these continue
open Pepper.Comp Pepper.Constraint

section paths
open Pepper.Sys

theorem resolveImport_go_congr (probe probe' : String → Bool) (base : String) :
    ∀ (dirs : List String),
      (∀ d ∈ dirs, probe (pathJoin d base ++ ".sys") = probe' (pathJoin d base ++ ".sys") ∧
                   probe (pathJoin d base ++ ".comp") = probe' (pathJoin d base ++ ".comp")) →
      resolveImport.go probe base dirs = resolveImport.go probe' base dirs
  | [], _ => by simp [resolveImport.go]
  | d :: r, h => by
    have hd := h d List.mem_cons_self
    have ih := resolveImport_go_congr probe probe' base r (fun x hx => h x (List.mem_cons_of_mem _ hx))
    simp only [resolveImport.go, hd.1, hd.2, ih]

/-! `loadFile_congr` and `loadFile_rename` are equations that also cover rejected runs, so they go by the equations of
the loader in `Sys.lean` (`loadFile_zero/_succ`, `loadStmts_nil/_imports/_component`), not by
`SysProofs.loadFile_induct`, which follows accepted runs only.  A lemma `…_of` is the statement-list half of the mutual
recursion, with the `loadFile` half at the same fuel as its hypothesis `hLF`.  `includes` is bound before the other
arguments of `loadFile` because it is constant through the recursion. -/

theorem loadStmts_congr_of (b1 b2 : Bundle) (fuel : Nat) (includes : List String)
    (hLF : ∀ base args key pfx path a, loadFile b1 fuel base args key pfx path includes a =
                                       loadFile b2 fuel base args key pfx path includes a) :
    ∀ (stmts : List SStmt) (st : SysSt) (a : Nat),
      loadStmts b1 fuel includes stmts st a = loadStmts b2 fuel includes stmts st a
  | [], st, a => by rw [SysProofs.loadStmts_nil, SysProofs.loadStmts_nil]
  | .imports items :: r, st, a => by
    rw [SysProofs.loadStmts_imports, SysProofs.loadStmts_imports]
    simp only [loadStmts_congr_of b1 b2 fuel includes hLF r]
  | .component cname templ args ins outs :: r, st, a => by
    rw [SysProofs.loadStmts_component, SysProofs.loadStmts_component]
    simp only [hLF, loadStmts_congr_of b1 b2 fuel includes hLF r]

theorem loadFile_congr (b1 b2 : Bundle) (hf : b1.files = b2.files)
    (he : ∀ p, b1.exists_.contains (normPath p) = b2.exists_.contains (normPath p)) :
    ∀ (fuel : Nat) (includes : List String) (base : String) (args : Nat) (key pfx path : String) (a : Nat),
      loadFile b1 fuel base args key pfx path includes a = loadFile b2 fuel base args key pfx path includes a
  | 0, includes, base, args, key, pfx, path, a => by rw [SysProofs.loadFile_zero, SysProofs.loadFile_zero]
  | fuel + 1, includes, base, args, key, pfx, path, a => by
    have hp : (fun p => b1.exists_.contains (normPath p)) = (fun p => b2.exists_.contains (normPath p)) :=
      funext he
    have ih := loadStmts_congr_of b1 b2 fuel includes (loadFile_congr b1 b2 hf he fuel includes)
    rw [SysProofs.loadFile_succ, SysProofs.loadFile_succ]
    simp only [hp, hf, ih]

end paths

theorem prefix_disjoint (pfx c1 c2 x y : String) (h1 : '-' ∉ c1.toList) (h2 : '-' ∉ c2.toList)
    (h : pfx ++ c1 ++ "-" ++ x = pfx ++ c2 ++ "-" ++ y) : c1 = c2 ∧ x = y :=
  SysProofs.prefix_dash_inj h1 h2 h

section systems
open Pepper.Sys
open Pepper.SysProofs (PortT bindStep bindSigs compPorts sysPorts instPorts instArity addComp loadStmts_component
  loadStmts_imports)

def rnPort (ρ : String → String) : Sys.Port → Sys.Port
  | .seq i bs => .seq (rnI ρ i) (bs.map (rnB ρ))
  | .sig n => .sig n

def rnSig (ρ : String → String) (e : SigEntry) : SigEntry := { e with port := rnPort ρ e.port }

def rnSigs (ρ : String → String) (sg : List (String × List SigEntry)) : List (String × List SigEntry) :=
  sg.map (fun x => (x.1, x.2.map (rnSig ρ)))

mutual
def renameInst (ρ : String → String) : Inst → Inst
  | .comp st => .comp (rename ρ st)
  | .sys st => .sys (renameSys ρ st)
def renameSys (ρ : String → String) : SysSt → SysSt
  | .mk p n pf t sg l c i o => .mk p n pf t (rnSigs ρ sg) l (renameComps ρ c) i o
def renameComps (ρ : String → String) : List (String × Inst) → List (String × Inst)
  | [] => []
  | (n, i) :: r => (n, renameInst ρ i) :: renameComps ρ r
end

theorem renameComps_eq_map (ρ : String → String) (c : List (String × Inst)) :
    renameComps ρ c = c.map fun x => (x.1, renameInst ρ x.2) := by
  induction c with
  | nil => rfl
  | cons h t ih => rw [renameComps, ih]; rfl

theorem lookup_renameComps (ρ : String → String) (c : List (String × Inst)) (n : String) :
    (renameComps ρ c).lookup n = (c.lookup n).map (renameInst ρ) := by
  rw [renameComps_eq_map]
  exact lookup_map_snd (fun _ => renameInst ρ) _ _

theorem lookup_rnSigs (ρ : String → String) (sg : List (String × List SigEntry)) (n : String) :
    (rnSigs ρ sg).lookup n = (sg.lookup n).map (List.map (rnSig ρ)) :=
  lookup_map_snd (fun _ => List.map (rnSig ρ)) _ _

theorem addSig_rename (ρ : String → String) (sg : List (String × List SigEntry)) (n : String) (e : SigEntry) :
    addSig (rnSigs ρ sg) n (rnSig ρ e) = rnSigs ρ (addSig sg n e) := by
  unfold addSig
  rw [lookup_rnSigs, Option.isSome_map]
  split
  · simp only [rnSigs, List.map_map]
    apply List.map_congr_left
    intro x _
    simp only [Function.comp]
    split <;> simp
  · simp [rnSigs]

@[simp] theorem renameSys_template (ρ : String → String) (st : SysSt) : (renameSys ρ st).template = st.template := by
  cases st; rfl
@[simp] theorem renameSys_pfx (ρ : String → String) (st : SysSt) : (renameSys ρ st).pfx = st.pfx := by
  cases st; rfl
@[simp] theorem renameSys_path (ρ : String → String) (st : SysSt) : (renameSys ρ st).path = st.path := by
  cases st; rfl
@[simp] theorem renameSys_lengths (ρ : String → String) (st : SysSt) : (renameSys ρ st).lengths = st.lengths := by
  cases st; rfl
@[simp] theorem renameSys_signals (ρ : String → String) (st : SysSt) :
    (renameSys ρ st).signals = rnSigs ρ st.signals := by
  cases st; rfl
@[simp] theorem renameSys_components (ρ : String → String) (st : SysSt) :
    (renameSys ρ st).components = renameComps ρ st.components := by
  cases st; rfl
@[simp] theorem renameSys_inputSeqs (ρ : String → String) (st : SysSt) : (renameSys ρ st).inputSeqs = st.inputSeqs := by
  cases st; rfl
@[simp] theorem renameSys_outputSeqs (ρ : String → String) (st : SysSt) : (renameSys ρ st).outputSeqs = st.outputSeqs := by
  cases st; rfl

theorem addComp_rename (ρ : String → String) (st : SysSt) (sg : List (String × List SigEntry)) (l : List (String × Nat))
    (cname : String) (inst : Inst) :
    addComp (renameSys ρ st) (rnSigs ρ sg) l cname (renameInst ρ inst) = renameSys ρ (addComp st sg l cname inst) := by
  cases st
  simp [addComp, renameSys, renameComps_eq_map]

def rnInstPort (ρ : String → String) (x : PortT) : PortT := (rnPort ρ x.1, x.2)

theorem instPorts_rename {ρ : String → String} (h : Function.Injective ρ) (inst : Inst) :
    instPorts (renameInst ρ inst) = (instPorts inst).map (rnInstPort ρ) := by
  cases inst with
  | comp cst =>
    simp only [renameInst, instPorts, compPorts]
    have : (rename ρ cst).inputSeqs ++ (rename ρ cst).outputSeqs = (cst.inputSeqs ++ cst.outputSeqs).map (rnI ρ) := by
      simp [rename]
    rw [this, List.map_map, List.map_map]
    apply List.map_congr_left
    intro i _
    simp only [Function.comp, rnI_name, findSeq_rename h, rnInstPort, rnPort]
    cases cst.findSeq i.name <;> simp [rnI, rnE]
  | sys sst =>
    simp only [renameInst, instPorts, sysPorts, renameSys_inputSeqs, renameSys_outputSeqs, renameSys_lengths,
      List.map_map]
    apply List.map_congr_left
    intro r _
    rfl

theorem instArity_rename (ρ : String → String) (inst : Inst) : instArity (renameInst ρ inst) = instArity inst := by
  cases inst with
  | comp cst => simp [renameInst, instArity, rename]
  | sys sst => simp [renameInst, instArity]

theorem bindStep_rename (ρ : String → String) (cname : String) (acc : List (String × List SigEntry) × List (String × Nat))
    (gp : SigRef × PortT) :
    bindStep cname (rnSigs ρ acc.1, acc.2) (Prod.map id (rnInstPort ρ) gp) =
      (bindStep cname acc gp).map (fun r => (rnSigs ρ r.1, r.2)) := by
  -- the renaming enters only through the port of the new entry
  have hs : ∀ wc, addSig (rnSigs ρ acc.1) gp.1.name ⟨rnPort ρ gp.2.1, cname, wc⟩ =
      rnSigs ρ (addSig acc.1 gp.1.name ⟨gp.2.1, cname, wc⟩) := fun wc => addSig_rename ρ _ _ ⟨gp.2.1, cname, wc⟩
  unfold bindStep
  simp only [rnInstPort, Prod.map, id, hs]
  cases acc.2.lookup gp.1.name with
  | none =>
    dsimp only
    split <;> rfl
  | some l0 =>
    dsimp only
    split <;> rfl

theorem bindFold_rename (ρ : String → String) (cname : String) :
    ∀ (zs : List (SigRef × PortT)) (acc : List (String × List SigEntry) × List (String × Nat)),
      (zs.map (Prod.map id (rnInstPort ρ))).foldlM (bindStep cname) (rnSigs ρ acc.1, acc.2) =
        (zs.foldlM (bindStep cname) acc).map (fun r => (rnSigs ρ r.1, r.2))
  | [], acc => rfl
  | z :: r, acc => by
    simp only [List.map_cons, List.foldlM_cons, bindStep_rename]
    cases bindStep cname acc z with
    | error e => rfl
    | ok acc1 => exact bindFold_rename ρ cname r acc1

theorem bindSigs_rename (ρ : String → String) (cname : String) (sg : List (String × List SigEntry)) (l : List (String × Nat))
    (globs : List SigRef) (ports : List PortT) :
    bindSigs cname (rnSigs ρ sg) l globs (ports.map (rnInstPort ρ)) =
      (bindSigs cname sg l globs ports).map (fun r => (rnSigs ρ r.1, r.2)) := by
  unfold bindSigs
  rw [List.zip_map_right]
  exact bindFold_rename ρ cname _ (sg, l)

theorem loadFile_anon_le {b : Bundle} {fuel : Nat} {base : String} {args : Nat} {key pfx path : String}
    {includes : List String} {a : Nat} {r : Inst × Nat}
    (h : loadFile b fuel base args key pfx path includes a = .ok r) : a ≤ r.2 :=
  (SysProofs.loadFile_induct (b := b) (I := fun _ _ _ _ _ _ _ a _ a' => a ≤ a') (J := fun _ _ _ _ a _ a' => a ≤ a')
    (fun _ _ _ hld => (load_grows hld).anon_le) (fun _ _ _ _ h _ => h) (Nat.le_refl _) (fun _ h => h)
    (fun _ _ _ h1 _ _ _ h2 => Nat.le_trans h1 h2)).1 fuel base args key pfx path includes a r.1 r.2 h

theorem loadStmts_rename_of {ρ : String → String} (hinj : Function.Injective ρ) {k : Nat} (b : Bundle) (fuel : Nat)
    (includes : List String)
    (hLF : ∀ base args key pfx path a, Renum ρ a k →
      loadFile b fuel base args key pfx path includes (a + k) =
        (loadFile b fuel base args key pfx path includes a).map (rnRes (renameInst ρ) k)) :
    ∀ (stmts : List SStmt) (st : SysSt) (a : Nat), Renum ρ a k →
      loadStmts b fuel includes stmts (renameSys ρ st) (a + k) =
        (loadStmts b fuel includes stmts st a).map (rnRes (renameSys ρ) k)
  | [], st, a, _ => by
    rw [SysProofs.loadStmts_nil, SysProofs.loadStmts_nil]
    rfl
  | .imports items :: r, st, a, hr => by
    rw [loadStmts_imports, loadStmts_imports, renameSys_template]
    cases loadStmts.addImports items st.template with
    | error e => rfl
    | ok t =>
      obtain ⟨p, n, pf, t0, sg, l, c, i, o⟩ := st
      exact loadStmts_rename_of hinj b fuel includes hLF r (.mk p n pf t sg l c i o) a hr
  | .component cname templ args ins outs :: r, st, a, hr => by
    rw [loadStmts_component, loadStmts_component]
    simp only [renameSys_template, renameSys_components, renameSys_pfx, renameSys_path, renameSys_signals,
      renameSys_lengths, lookup_renameComps, Option.isSome_map]
    cases st.template.lookup templ with
    | none => rfl
    | some tpath =>
      dsimp only
      split
      · rfl
      · rw [hLF tpath args ("@" ++ st.pfx ++ cname) (st.pfx ++ cname ++ "-") st.path a hr]
        cases hlf : loadFile b fuel tpath args ("@" ++ st.pfx ++ cname) (st.pfx ++ cname ++ "-") st.path includes a with
        | error e => rfl
        | ok x =>
          obtain ⟨inst, a'⟩ := x
          simp only [Except.map, rnRes, instArity_rename, instPorts_rename hinj]
          split
          · rfl
          · rw [bindSigs_rename]
            cases bindSigs cname st.signals st.lengths (ins ++ outs) (instPorts inst) with
            | error e => rfl
            | ok sl =>
              simp only [Except.map]
              rw [addComp_rename]
              exact loadStmts_rename_of hinj b fuel includes hLF r _ a'
                (hr.mono (loadFile_anon_le hlf))

theorem loadFile_rename {ρ : String → String} (hinj : Function.Injective ρ) {k : Nat} (b : Bundle)
    (hb : LoadInv.CompSrcsOk (fun c => ∀ x ∈ srcSeqNames c, ρ x = x) b) :
    ∀ (fuel : Nat) (includes : List String) (base : String) (args : Nat) (key pfx path : String) (a : Nat),
      Renum ρ a k →
      loadFile b fuel base args key pfx path includes (a + k) =
        (loadFile b fuel base args key pfx path includes a).map (rnRes (renameInst ρ) k)
  | 0, includes, base, args, key, pfx, path, a, _ => by
    rw [SysProofs.loadFile_zero, SysProofs.loadFile_zero]
    rfl
  | fuel + 1, includes, base, args, key, pfx, path, a, hr => by
    have ih := loadStmts_rename_of hinj b fuel includes (loadFile_rename hinj (k := k) b hb fuel includes)
    rw [SysProofs.loadFile_succ, SysProofs.loadFile_succ]
    cases resolveImport (fun p => b.exists_.contains (normPath p)) base path includes with
    | error e => rfl
    | ok res =>
      obtain ⟨fname, issys, newPath⟩ := res
      dsimp only
      cases hlk : b.files.lookup (normPath fname ++ key) with
      | none => rfl
      | some fs =>
        cases fs with
        | comp c =>
          dsimp only
          split
          · rfl
          · rw [load_rename hinj hr c args pfx (hb _ c hlk)]
            cases Comp.load c args pfx a <;> rfl
        | sys s =>
          dsimp only
          split
          · rfl
          · split
            · rfl
            · -- the initial state has empty tables, so renaming it changes nothing
              have h1 : loadStmts b fuel includes s.stmts (SysSt.mk newPath s.name pfx [] [] [] [] [] []) (a + k) = _ :=
                ih s.stmts (SysSt.mk newPath s.name pfx [] [] [] [] [] []) a hr
              rw [h1]
              cases loadStmts b fuel includes s.stmts (SysSt.mk newPath s.name pfx [] [] [] [] [] []) a with
              | error e => rfl
              | ok x =>
                simp only [Except.map, rnRes, renameSys_signals, lookup_rnSigs, Option.isSome_map]
                split
                · rfl
                · cases x.1
                  rfl

def sigStmtsWith (ρ : String → String) (pfx : String) (signals : List (String × List SigEntry))
    (lengths : List (String × Nat)) : List Pil.Stmt :=
  signals.flatMap (fun (sg, entries) =>
    let len := (lengths.lookup sg).getD 0
    [Pil.Stmt.seq (pfx ++ sg) (List.replicate len 'N'),
     Pil.Stmt.equal ((pfx ++ sg) :: entries.map (fun e =>
        (match e.port with
         | .seq i _ => pfx ++ e.comp ++ "-" ++ ρ i.name
         | .sig n => pfx ++ e.comp ++ "-" ++ n) ++ (if e.wc then "*" else "")))])

mutual
def instStmtsWith (ρ : String → String) : Inst → List Pil.Stmt
  | .comp st => compStmtsWith ρ st
  | .sys st => sysStmtsWith ρ st
def sysStmtsWith (ρ : String → String) : SysSt → List Pil.Stmt
  | .mk _ _ pfx _ signals lengths components _ _ =>
    compsStmtsWith ρ components ++ sigStmtsWith ρ pfx signals lengths
def compsStmtsWith (ρ : String → String) : List (String × Inst) → List Pil.Stmt
  | [] => []
  | (_, i) :: r => instStmtsWith ρ i ++ compsStmtsWith ρ r
end

theorem sigStmts_rename (ρ : String → String) (pfx : String) (signals : List (String × List SigEntry))
    (lengths : List (String × Nat)) :
    sigStmtsWith id pfx (rnSigs ρ signals) lengths = sigStmtsWith ρ pfx signals lengths := by
  unfold sigStmtsWith rnSigs
  rw [List.flatMap_map]
  congr 1
  funext x
  obtain ⟨sg, entries⟩ := x
  simp only [List.map_map]
  congr 4
  apply List.map_congr_left
  intro e _
  simp only [Function.comp, rnSig, rnPort]
  cases e.port <;> rfl

mutual
theorem instStmts_rename (ρ : String → String) : ∀ inst : Inst, Emit.instStmts (renameInst ρ inst) = instStmtsWith ρ inst
  | .comp st => by simp only [renameInst, Emit.instStmts, instStmtsWith, compStmts_rename]
  | .sys st => by
    simp only [renameInst, Emit.instStmts, instStmtsWith]
    exact sysStmts_rename ρ st
theorem sysStmts_rename (ρ : String → String) : ∀ st : SysSt, Emit.sysStmts (renameSys ρ st) = sysStmtsWith ρ st
  | .mk p n pfx t signals lengths components i o => by
    simp only [renameSys, Emit.sysStmts, sysStmtsWith, compsStmts_rename ρ components]
    congr 1
    exact sigStmts_rename ρ pfx signals lengths
theorem compsStmts_rename (ρ : String → String) : ∀ c : List (String × Inst),
    Emit.compsStmts (renameComps ρ c) = compsStmtsWith ρ c
  | [] => rfl
  | (n, i) :: r => by
    simp only [renameComps, Emit.compsStmts, compsStmtsWith, instStmts_rename ρ i, compsStmts_rename ρ r]
end

mutual
theorem instStmtsWith_id : ∀ inst : Inst, instStmtsWith id inst = Emit.instStmts inst
  | .comp st => by simp only [instStmtsWith, Emit.instStmts, compStmtsWith_id]
  | .sys st => by
    simp only [instStmtsWith, Emit.instStmts]
    exact sysStmtsWith_id st
theorem sysStmtsWith_id : ∀ st : SysSt, sysStmtsWith id st = Emit.sysStmts st
  | .mk p n pfx t signals lengths components i o => by
    simp only [sysStmtsWith, Emit.sysStmts, compsStmtsWith_id components]
    rfl
theorem compsStmtsWith_id : ∀ c : List (String × Inst), compsStmtsWith id c = Emit.compsStmts c
  | [] => rfl
  | (n, i) :: r => by
    simp only [compsStmtsWith, Emit.compsStmts, instStmtsWith_id i, compsStmtsWith_id r]
end

def instPfx : Inst → String
  | .comp st => st.pfx
  | .sys st => st.pfx

def dashFree (s : String) : Prop := '-' ∉ s.toList

mutual
/-- well-formedness of an instance tree as far as names go -/
def TreeOk : Inst → Prop
  | .comp st => NamesNodup st
  | .sys st => SysOk st
def SysOk : SysSt → Prop
  | .mk _ _ pfx _ signals _ components _ _ =>
    (components.map (·.1)).Nodup ∧ (∀ c ∈ components.map (·.1), dashFree c) ∧
    (signals.map (·.1)).Nodup ∧ (∀ g ∈ signals.map (·.1), dashFree g) ∧ CompsOk pfx components
def CompsOk (pfx : String) : List (String × Inst) → Prop
  | [] => True
  | (c, i) :: r => instPfx i = pfx ++ c ++ "-" ∧ TreeOk i ∧ CompsOk pfx r
end

theorem sigStmtsWith_id (pfx : String) (signals : List (String × List SigEntry)) (lengths : List (String × Nat)) :
    sigStmtsWith id pfx signals lengths = signals.flatMap (Emit.sigStmts pfx lengths) := rfl

mutual
theorem treeNodup_inst (f : Pil.Stmt → Option String)
    (hcomp : ∀ st, NamesNodup st → (List.filterMap f (Emit.compStmts st)).Nodup ∧
      ∀ n ∈ List.filterMap f (Emit.compStmts st), HasPfx st.pfx n)
    (hsig : ∀ pfx signals lengths,
      (List.filterMap f (sigStmtsWith id pfx signals lengths)).Sublist (signals.map (fun x => pfx ++ x.1))) :
    ∀ inst, TreeOk inst → (List.filterMap f (Emit.instStmts inst)).Nodup ∧
      ∀ n ∈ List.filterMap f (Emit.instStmts inst), HasPfx (instPfx inst) n
  | .comp st, h => by
    simp only [Emit.instStmts, instPfx]
    exact hcomp st h
  | .sys (.mk p nm pfx t signals lengths components i o), h => by
    simp only [TreeOk, SysOk] at h
    obtain ⟨hc1, hc2, hs1, hs2, hok⟩ := h
    obtain ⟨hn, hp⟩ := treeNodup_comps f hcomp hsig pfx components hok hc1 hc2
    have hsub := hsig pfx signals lengths
    -- a name declared for a signal is `pfx ++ g` with `g` free of `-`
    have hsg : ∀ b ∈ List.filterMap f (sigStmtsWith id pfx signals lengths), ∃ g, dashFree g ∧ b = pfx ++ g :=
      fun b hb => by
        obtain ⟨x, hx, rfl⟩ := List.mem_map.1 (hsub.subset hb)
        exact ⟨x.1, hs2 _ (List.mem_map_of_mem hx), rfl⟩
    simp only [Emit.instStmts_sys, instPfx, SysSt.pfx, Emit.sysStmts_eq, ← sigStmtsWith_id, List.filterMap_append]
    refine ⟨List.nodup_append.2 ⟨hn, hsub.nodup (nodup_prefixed pfx (fun (x : String × List SigEntry) => x.1) hs1), ?_⟩, fun a ha => ?_⟩
    · rintro a ha b hb rfl
      obtain ⟨c, _, rest, hrest⟩ := hp a ha
      obtain ⟨g, hg, hag⟩ := hsg a hb
      have h2 : g = c ++ "-" ++ rest :=
        (String.append_right_inj pfx).1 (by rw [← hag, hrest]; simp [String.append_assoc])
      exact SysProofs.dash_ne hg h2.symm
    · rcases List.mem_append.1 ha with ha | ha
      · obtain ⟨c, _, rest, hrest⟩ := hp a ha
        exact ⟨c ++ "-" ++ rest, by rw [hrest]; simp [String.append_assoc]⟩
      · obtain ⟨g, _, hag⟩ := hsg a ha
        exact ⟨g, hag⟩
theorem treeNodup_comps (f : Pil.Stmt → Option String)
    (hcomp : ∀ st, NamesNodup st → (List.filterMap f (Emit.compStmts st)).Nodup ∧
      ∀ n ∈ List.filterMap f (Emit.compStmts st), HasPfx st.pfx n)
    (hsig : ∀ pfx signals lengths,
      (List.filterMap f (sigStmtsWith id pfx signals lengths)).Sublist (signals.map (fun x => pfx ++ x.1))) :
    ∀ pfx comps, CompsOk pfx comps → (comps.map (·.1)).Nodup → (∀ c ∈ comps.map (·.1), dashFree c) →
      (List.filterMap f (Emit.compsStmts comps)).Nodup ∧
      ∀ n ∈ List.filterMap f (Emit.compsStmts comps), ∃ c ∈ comps.map (·.1), HasPfx (pfx ++ c ++ "-") n
  | pfx, [], _, _, _ => by
    simp [Emit.compsStmts]
  | pfx, (c, i) :: r, h, hnd, hdf => by
    simp only [CompsOk] at h
    obtain ⟨hpf, hti, hr⟩ := h
    simp only [List.map_cons, List.nodup_cons] at hnd
    obtain ⟨nd_i, pf_i⟩ := treeNodup_inst f hcomp hsig i hti
    obtain ⟨nd_r, pf_r⟩ := treeNodup_comps f hcomp hsig pfx r hr hnd.2 (fun x hx => hdf x (List.mem_cons_of_mem _ hx))
    simp only [Emit.compsStmts, List.filterMap_append]
    refine ⟨?_, ?_⟩
    · rw [List.nodup_append]
      refine ⟨nd_i, nd_r, ?_⟩
      -- a name of this instance and a name of a later one differ already in the instance prefix
      intro a ha b hb hab
      obtain ⟨r1, hr1⟩ := pf_i a ha
      obtain ⟨c', hc', r2, hr2⟩ := pf_r b hb
      rw [hpf] at hr1
      rw [hab, hr2] at hr1
      have := prefix_disjoint pfx c' c r2 r1 (hdf c' (List.mem_cons_of_mem _ hc')) (hdf c List.mem_cons_self) hr1
      exact hnd.1 (this.1 ▸ hc')
    · intro a ha
      rcases List.mem_append.1 ha with ha | ha
      · obtain ⟨r1, hr1⟩ := pf_i a ha
        exact ⟨c, List.mem_cons_self, r1, by rw [hr1, hpf]⟩
      · obtain ⟨c', hc', hh⟩ := pf_r a ha
        exact ⟨c', List.mem_cons_of_mem _ hc', hh⟩
end

theorem sig_names_sublist (f : Pil.Stmt → Option String) (hseq : ∀ n t, f (.seq n t) = some n ∨ f (.seq n t) = none)
    (hequal : ∀ l, f (.equal l) = none) (pfx : String) (signals : List (String × List SigEntry))
    (lengths : List (String × Nat)) :
    (List.filterMap f (sigStmtsWith id pfx signals lengths)).Sublist (signals.map (fun x => pfx ++ x.1)) := by
  unfold sigStmtsWith
  induction signals with
  | nil => exact List.Sublist.refl _
  | cons x r ih =>
    simp only [List.flatMap_cons, List.filterMap_append, List.filterMap_cons, List.filterMap_nil, hequal,
      List.map_cons]
    rcases hseq (pfx ++ x.1) (List.replicate ((lengths.lookup x.1).getD 0) 'N') with h | h <;> rw [h]
    · exact ih.cons_cons _
    · exact ih.cons _

theorem tree_names_nodup (inst : Inst) (h : TreeOk inst) :
    (seqDeclNames (Emit.instStmts inst)).Nodup ∧ (strandDeclNames (Emit.instStmts inst)).Nodup ∧
      (structDeclNames (Emit.instStmts inst)).Nodup :=
  ⟨(treeNodup_inst seqNameOf (fun _ hn => seqDeclNames_nodup hn)
      (sig_names_sublist _ (fun _ _ => .inl rfl) fun _ => rfl) inst h).1,
   (treeNodup_inst strandNameOf (fun _ hn => strandDeclNames_nodup hn)
      (sig_names_sublist _ (fun _ _ => .inr rfl) fun _ => rfl) inst h).1,
   (treeNodup_inst structNameOf (fun _ hn => structDeclNames_nodup hn)
      (sig_names_sublist _ (fun _ _ => .inr rfl) fun _ => rfl) inst h).1⟩

/-- instance and signal names written in a system source contain no `-` (the system grammar's identifiers
    are `Word(alphas, alphanums+"_")`) -/
def sstmtDashFree : SStmt → Prop
  | .component cname _ _ ins outs => dashFree cname ∧ ∀ g ∈ ins ++ outs, dashFree g.name
  | .imports _ => True

def BundleDashFree (b : Bundle) : Prop :=
  ∀ key s, b.files.lookup key = some (.sys s) → ∀ st ∈ s.stmts, sstmtDashFree st

theorem compsOk_of_forall {pfx : String} : ∀ {comps : List (String × Inst)},
    (∀ c ∈ comps, TreeOk c.2 ∧ instPfx c.2 = pfx ++ c.1 ++ "-") → CompsOk pfx comps
  | [], _ => trivial
  | (_, _) :: _, h =>
    ⟨(h _ List.mem_cons_self).2, (h _ List.mem_cons_self).1, compsOk_of_forall fun c hc => h c (List.mem_cons_of_mem _ hc)⟩

/-- what C18 needs of a loaded tree is read off the tree invariant: `SysInv` has the distinct names, the names come
    from the source, and the index of `Loaded` is the prefix -/
theorem _root_.Pepper.LoadInv.Loaded.treeOk {P : Comp.Src → Prop} {pfx : String} {inst : Inst}
    (hL : LoadInv.Loaded P (fun s => ∀ st ∈ s.stmts, sstmtDashFree st) pfx inst) :
    TreeOk inst ∧ instPfx inst = pfx := by
  induction hL with
  | comp _ hload => exact ⟨load_namesNodup hload, Comp.load_pfx hload⟩
  | sys hQ _ hinv _ ih =>
    obtain ⟨hi, hs⟩ := LoadInv.names_of_stmts (P := dashFree) (Q := dashFree) fun _ _ _ _ _ hm => hQ _ hm
    exact ⟨⟨hinv.compNodup, List.forall_mem_map.2 fun c hc => hi _ (hinv.compNames c hc), hinv.sigNodup,
      List.forall_mem_map.2 fun x hx => hs _ (hinv.sigIn x hx), compsOk_of_forall ih⟩, rfl⟩

theorem loadFile_treeOk {b : Bundle} (hb : BundleDashFree b) {fuel : Nat} {base : String} {args : Nat}
    {key pfx path : String} {includes : List String} {a : Nat} {inst : Inst} {a' : Nat}
    (h : loadFile b fuel base args key pfx path includes a = .ok (inst, a')) : TreeOk inst ∧ instPfx inst = pfx :=
  (LoadInv.loadFile_loaded (P := fun _ => True) (fun _ _ _ => trivial) hb _ _ _ _ _ _ _ _ _ _ h).treeOk

end systems

end Pepper.CompShift
