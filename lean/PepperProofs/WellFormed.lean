import PepperProofs.Codes
import PepperProofs.PilAdd
import PepperProofs.CompEmit
/-!
# Well-formedness of an emitted specification (C09)

`WellFormedPil` is an independent, simple check of a PIL statement list: one pass with a table of the names defined so
far (sequences and strands with their lengths, structures); it does not go through `Pil.load` (`stripStar`, an item's
name without a final `*`, is defined in PilAdd).  `wellFormed_of_load`:
a statement list `Pil.load` accepts (any code table) whose structure texts are balanced is well formed;
`compStmts_wellFormed`: so is that of every state satisfying `WF`.
-/
namespace Pepper.WellFormed
open Pepper.Comp

structure Tab where
  seqs : List (String × Nat) := []
  strands : List (String × Nat) := []
  structs : List String := []
deriving Repr, DecidableEq

def lenOf (l : List (String × Nat)) (n : String) : Option Nat := (l.find? (·.1 == n)).map (·.2)

def lensOf (l : List (String × Nat)) : List String → Option (List Nat)
  | [] => some []
  | n :: r =>
    match lenOf l n, lensOf l r with
    | some x, some xs => some (x :: xs)
    | _, _ => none

def segments : List Char → List (List Char)
  | [] => [[]]
  | c :: r =>
    match segments r with
    | [] => [[]]
    | h :: t => if c == '+' then [] :: h :: t else (c :: h) :: t

def structOk (s : List Char) (lens : List Nat) : Bool :=
  s.all (fun c => c == '.' || c == '(' || c == ')' || c == '+') && Notation.balanced s &&
    ((segments s).map List.length == lens)

def step (t : Tab) : Pil.Stmt → Option Tab
  | .seq name template =>
    if (lenOf t.seqs name).isSome then none
    else some { t with seqs := t.seqs ++ [(name, template.length)] }
  | .sup name items =>
    if (lenOf t.seqs name).isSome then none
    else match lensOf t.seqs (items.map stripStar) with
      | some ls => some { t with seqs := t.seqs ++ [(name, ls.sum)] }
      | none => none
  | .strand name _ items =>
    if (lenOf t.strands name).isSome then none
    else match lensOf t.seqs (items.map stripStar) with
      | some ls => some { t with strands := t.strands ++ [(name, ls.sum)] }
      | none => none
  | .struct name _ strands s =>
    if t.structs.contains name then none
    else match lensOf t.strands strands with
      | some lens => if structOk s lens then some { t with structs := t.structs ++ [name] } else none
      | none => none
  | .equal items =>
    match lensOf t.seqs (items.map stripStar) with
    | some (l :: ls) => if ls.all (· == l) then some t else none
    | _ => none
  | .kinetic => some t

def check : List Pil.Stmt → Tab → Bool
  | [], _ => true
  | st :: r, t =>
    match step t st with
    | some t' => check r t'
    | none => false

def WellFormedPil (stmts : List Pil.Stmt) : Bool := check stmts {}

def tabOf (s : Pil.Spec) : Tab :=
  ⟨s.seqs.map (fun o => (o.name, o.len)), s.strands.map (fun o => (o.name, o.len)), s.structs.map (·.name)⟩

theorem lenOf_seqs (s : Pil.Spec) (n : String) : lenOf (tabOf s).seqs n = (s.findSeq n).map (·.len) := by
  simp only [lenOf, tabOf, Pil.Spec.findSeq, List.find?_map, Option.map_map]
  rfl

theorem lenOf_strands (s : Pil.Spec) (n : String) : lenOf (tabOf s).strands n = (s.findStrand n).map (·.len) := by
  simp only [lenOf, tabOf, Pil.Spec.findStrand, List.find?_map, Option.map_map]
  rfl

theorem lensOf_resolve {s : Pil.Spec} : ∀ {items : List String} {R : List (Pil.ItemRef × Pil.SeqObj)},
    Pil.resolveItems s items = .ok R → lensOf (tabOf s).seqs (items.map stripStar) = some (R.map (fun x => x.2.len)) := by
  intro items
  induction items with
  | nil => intro R h; cases h; rfl
  | cons r rs ih =>
    intro R h
    rw [Pil.resolveItems] at h
    obtain ⟨x, h1, h⟩ := bind_ok h
    obtain ⟨xs, h2, h⟩ := bind_ok h
    cases h
    simp only [List.map_cons, lensOf, lenOf_seqs, (resolveItem_strip s r h1).1, ih h2, Option.map_some]

theorem segments_eq (s : List Char) : segments s = Pil.splitPlus s :=
  (eq_splitOn (c := '+') rfl (fun d r a b e => by rw [segments, e]) s).trans (Pil.splitPlus_eq s).symm

theorem lensOf_strands_mapM (s : Pil.Spec) : ∀ (strands : List String) (objs : List Pil.StrandObj),
    strands.mapM (fun n => match s.findStrand n with
        | some o => (pure o : Except Pil.Err Pil.StrandObj) | none => throw Pil.Err.undefinedStrand) = .ok objs →
    lensOf (tabOf s).strands strands = some (objs.map (·.len)) := by
  intro strands objs h
  induction strands generalizing objs with
  | nil => cases h; rfl
  | cons n r ih =>
    rw [List.mapM_cons] at h
    obtain ⟨o, ho, h⟩ := bind_ok h
    obtain ⟨os, hos, h⟩ := bind_ok h
    cases h
    cases hf : s.findStrand n with
    | none => rw [hf] at ho; cases ho
    | some o' =>
      rw [hf] at ho
      cases ho
      simp only [lensOf, lenOf_strands, hf, Option.map_some, ih os hos, List.map_cons]

theorem contains_structs (s : Pil.Spec) (n : String) :
    (tabOf s).structs.contains n = (s.structs.find? (·.name == n)).isSome := by
  rw [Bool.eq_iff_iff]
  simp [tabOf]

theorem lenOf_seqs_free {s : Pil.Spec} {n : String} (h : s.findSeq n = none) :
    (lenOf (tabOf s).seqs n).isSome = false := by
  rw [lenOf_seqs, h]; rfl

theorem tabOf_seq (s : Pil.Spec) (o : Pil.SeqObj) :
    tabOf (SysProofs.specAppend s ⟨[o], [], [], []⟩) = { tabOf s with seqs := (tabOf s).seqs ++ [(o.name, o.len)] } := by
  simp [tabOf, SysProofs.specAppend]

theorem tabOf_strand (s : Pil.Spec) (o : Pil.StrandObj) :
    tabOf (SysProofs.specAppend s ⟨[], [o], [], []⟩) =
      { tabOf s with strands := (tabOf s).strands ++ [(o.name, o.len)] } := by
  simp [tabOf, SysProofs.specAppend]

theorem tabOf_struct (s : Pil.Spec) (o : Pil.StructObj) :
    tabOf (SysProofs.specAppend s ⟨[], [], [o], []⟩) = { tabOf s with structs := (tabOf s).structs ++ [o.name] } := by
  simp [tabOf, SysProofs.specAppend]

theorem tabOf_equal (s : Pil.Spec) (its : List Pil.ItemRef) :
    tabOf (SysProofs.specAppend s ⟨[], [], [], [its]⟩) = tabOf s := by
  simp [tabOf, SysProofs.specAppend]

theorem step_of_add (tbl : CodeTable) (s s' : Pil.Spec) (st : Pil.Stmt)
    (hbal : ∀ n p ss x, st = .struct n p ss x → Notation.balanced x = true)
    (h : s.add tbl st = .ok s') : step (tabOf s) st = some (tabOf s') := by
  obtain ⟨δ, rfl, hδ⟩ := Pil.add_eq_ok.1 h
  cases hδ with
  | seq free =>
    rw [tabOf_seq]
    simp only [step, lenOf_seqs_free free, Bool.false_eq_true, if_false]
  | sup free resolved =>
    rw [tabOf_seq]
    simp only [step, lenOf_seqs_free free, Bool.false_eq_true, if_false, lensOf_resolve resolved]
  | @strand n _ _ _ free resolved =>
    have : (lenOf (tabOf s).strands n).isSome = false := by rw [lenOf_strands, free]; rfl
    rw [tabOf_strand]
    simp only [step, this, Bool.false_eq_true, if_false, lensOf_resolve resolved]
  | @struct n _ strands x objs _ free found chars _ count lens =>
    have hc : (tabOf s).structs.contains n = false := by rw [contains_structs, free]; rfl
    have hseg : (segments x).map List.length = objs.map (·.len) := by
      rw [segments_eq]
      exact Pil.lens_of_zip objs _ count lens
    have hok : structOk x (objs.map (·.len)) = true := by
      simp only [structOk, Bool.and_eq_true, beq_iff_eq]
      exact ⟨⟨chars, hbal _ _ _ _ rfl⟩, hseg⟩
    rw [tabOf_struct]
    simp only [step, hc, Bool.false_eq_true, if_false, lensOf_strands_mapM s strands objs found, hok, if_true]
  | @equal _ y ys resolved lens =>
    have : (ys.map (fun x => x.2.len)).all (· == y.2.len) = true := by
      simp only [List.all_cons, Bool.and_eq_true, List.all_eq_true] at lens
      simpa [List.all_eq_true] using lens.2
    rw [tabOf_equal]
    simp only [step, lensOf_resolve resolved, List.map_cons, this, if_true]
  | kinetic => rw [SysProofs.specAppend_nil_right]; rfl

theorem check_of_load (tbl : CodeTable) : ∀ (stmts : List Pil.Stmt) (s s' : Pil.Spec),
    (∀ n p ss x, Pil.Stmt.struct n p ss x ∈ stmts → Notation.balanced x = true) →
    Pil.load tbl stmts s = .ok s' → check stmts (tabOf s) = true := by
  intro stmts
  induction stmts with
  | nil => intro _ _ _ _; rfl
  | cons st r ih =>
    intro s s' hbal h
    obtain ⟨s1, h1, h⟩ := Pil.load_cons_inv h
    have := step_of_add tbl s s1 st (fun n p ss x hx => hbal n p ss x (by simp [hx])) h1
    simp only [check, this]
    exact ih s1 s' (fun n p ss x hx => hbal n p ss x (by simp [hx])) h

/-- `Pil.load` itself only rejects an unmatched `)`: `get_bonds` leaves an unmatched `(` unpaired — that is why balance
    is a separate hypothesis. -/
theorem wellFormed_of_load (tbl : CodeTable) (stmts : List Pil.Stmt) (spec : Pil.Spec)
    (h : Pil.load tbl stmts {} = .ok spec)
    (hbal : ∀ n p ss x, Pil.Stmt.struct n p ss x ∈ stmts → Notation.balanced x = true) :
    WellFormedPil stmts = true :=
  check_of_load tbl stmts {} spec hbal h

/-- C09 mentions no code table: any table containing the letters of the constraint strings will do for `emit_sound` -/
theorem compStmts_wellFormed {s : St} {a : Nat} (hw : WF s a) : WellFormedPil (Emit.compStmts s) = true := by
  let tbl := CodeTable.tableOf (s.seqs.flatMap (·.const))
  have hcodes : ∀ e ∈ s.seqs, e.const.all tbl.isCode = true := by
    intro e he
    rw [List.all_eq_true]
    intro c hc
    exact CodeTable.tableOf_isCode _ c (List.mem_flatMap.2 ⟨e, he, hc⟩)
  obtain ⟨spec, hl, _⟩ := emit_sound tbl hw hcodes
  refine wellFormed_of_load tbl _ spec hl ?_
  intro n p ss x hx
  obtain ⟨e, he, rfl⟩ := mem_compStmts_struct hx
  exact (hw.structs e he).bal

end Pepper.WellFormed
