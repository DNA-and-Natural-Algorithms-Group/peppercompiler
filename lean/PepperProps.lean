import PepperProps.C01
import PepperProps.C02
import PepperProps.C03
import PepperProps.C04
import PepperProps.C05
import PepperProps.C06
import PepperProps.C06Gc
import PepperProps.C06Text
import PepperProps.C07
import PepperProps.C08
import PepperProps.C09
import PepperProps.C10
import PepperProps.C11
import PepperProps.C12
import PepperProps.C13
import PepperProps.C14
import PepperProps.C15
import PepperProps.C16
import PepperProps.C16Pickle
import PepperProps.C17
import PepperProps.C18
import PepperProps.C19
import PepperProps.C19Safe
import PepperProps.C20
import PepperProps.ParseComp
import PepperProps.ParseFixed
import PepperProps.ParsePil
import PepperProps.ParseSys
