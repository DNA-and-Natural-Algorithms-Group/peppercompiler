import PepperProofs.Comp
import PepperModel.Generated.Tables
/-!
# C01 — compiled PIL preserves each component's strands, structures and constraints

"For every component program the compiler accepts, the emitted .pil file denotes exactly the design the
source describes: the same named strands (length, dummy flag, and at every position the same underlying
domain nucleotide, in the same orientation, with the same allowed bases), the same named sequences and
super-sequences (those of non-zero length; the formats cannot express empty ones), the same structures
(strand order, nucleotide-level dot-paren target, optimisation flag) and the same kinetic reactions.
Nothing is added, dropped, reordered or re-oriented, whichever notation the source used."

Model: `PepperModel/Comp.lean` (`Comp.load` = `load_component` from the statement loop on: `clean_const`,
`SuperSequence.__init__`, `add_*`, `output_synthesis`), `PepperModel/Emit.lean` (`compStmts`: the emitted
PIL as the statement list a PIL reader obtains), `PepperModel/Pil.lean` (`Pil.load`, `Pil.denote`: what a
PIL document denotes), `PepperModel/Denote.lean` (`denoteComp`: what the source denotes, defined directly
on the AST).  Proofs: `PepperProofs/Comp*.lean`; from there also the words of the statements: `UserNamesOk`, `CodesOk`
(CompStep), `WF` (CompWF), `designOf` (CompEmit), `DesignEquiv` (CompDenote), `renderKin` (Comp).

`denoteComp` calls the same leaf functions as `Comp.load` (`Constraint.parseQuoted` / `resolve`,
`Notation.compileStruct` / `domainExpand` / `sizesOk`, `parseDec`) and numbers anonymous regions the same way, so
wildcard arithmetic, structure notations and decimals cancel here: they are the subject of C10 and C08.

Hypotheses (both decidable):
* `UserNamesOk src` — no sequence name the source defines or mentions has the reserved form `_Anon<digits>`,
  contains `*` or is empty (the PIL reader splits a trailing `*` off item names; the compiler would find its
  own anonymous sequences under a user name of the reserved form);
* `CodesOk tbl src` — every code letter written in a quoted region is a code of the reader's table (the
  compiler does not validate the alphabet of quoted regions, the PIL reader does).
The code table `tbl` is arbitrary: not even `tbl.lawful` is needed.

`DesignEquiv` is plain equality of all fields of a `Design` except `kinetics` (a PIL statement list carries no
kinetic constraint).  It is stronger than equality up to a renaming of anonymous domains: model and
specification number the anonymous regions of a statement identically, the wildcard region last.  The
kinetic reactions are compared with the kinetic lines of the emitted text (`Comp.emitPil`).
-/
namespace Pepper.C01
open Pepper.Comp Pepper.Denote Pepper.Generated

/-- C01.  For every component source the compile path accepts: reading the emitted PIL back
    succeeds; the specification accepts the source with the same final anonymous counter; the design the PIL
    denotes equals the design the source denotes in domains (names, templates), sequences and super-sequences
    of non-zero length (names, nucleotides), strands (names, dummy flags, nucleotides), structures (names,
    strand order, dot-paren target, optimisation parameter) and `equal` constraints (none), all in the same
    order; and the lines of the emitted text after the sequence / strand / structure lines are exactly the
    denoted kinetic reactions, in order. -/
theorem compile_preserves_design (tbl : CodeTable) (src : Comp.Src) (n : Nat) (pfx : String) (a : Nat)
    (st : Comp.St) (a' : Nat) (hload : Comp.load src n pfx a = .ok (st, a'))
    (hnames : UserNamesOk src = true) (hcodes : CodesOk tbl src = true) :
    ∃ spec o ports a'', Pil.load tbl (Emit.compStmts st) {} = .ok spec ∧
      Denote.denoteComp src pfx a = .ok (o, ports, a'') ∧ a'' = a' ∧
      DesignEquiv (Pil.denote spec) (o.design []) ∧
      (Comp.emitPil st).drop (Emit.compStmts st).length = o.kinetics.map renderKin := by
  obtain ⟨spec, o, ports, h1, h2, h3, h4⟩ := compile_preserves tbl src n pfx a st a' hload hnames hcodes
  exact ⟨spec, o, ports, a', h1, h2, rfl, h3, h4⟩

/-- what `DesignEquiv` says, field by field -/
theorem designEquiv_iff (d1 d2 : Design) :
    DesignEquiv d1 d2 ↔ d1.domains = d2.domains ∧ d1.seqs = d2.seqs ∧ d1.strands = d2.strands ∧
      d1.structs = d2.structs ∧ d1.equals = d2.equals := Iff.rfl

/-- the strands in particular: same names, dummy flags and nucleotides (domain, position, orientation), in
    the same order -/
theorem strands_preserved (tbl : CodeTable) (src : Comp.Src) (n : Nat) (pfx : String) (a : Nat)
    (st : Comp.St) (a' : Nat) (hload : Comp.load src n pfx a = .ok (st, a'))
    (hnames : UserNamesOk src = true) (hcodes : CodesOk tbl src = true) :
    ∃ spec o ports, Pil.load tbl (Emit.compStmts st) {} = .ok spec ∧
      Denote.denoteComp src pfx a = .ok (o, ports, a') ∧ (Pil.denote spec).strands = o.strands ∧
      (Pil.denote spec).structs = o.structs ∧ (Pil.denote spec).domains = o.domains := by
  obtain ⟨spec, o, ports, h1, h2, h3, _⟩ := compile_preserves tbl src n pfx a st a' hload hnames hcodes
  exact ⟨spec, o, ports, h1, h2, h3.2.2.1, h3.2.2.2.1, h3.1⟩

/-! ### the parts of the proof that are properties in their own right -/

/-- the table invariant (unique names; an entry's `base_seqs` is the concatenation of its items' views and its
    length their sum; definition before use) is preserved by every accepted statement whose names are user names
    (`stmtNamesOk`) -/
theorem invariant_preserved {s : Comp.St} {a : Nat} {stmt : Comp.Stmt} {s' : Comp.St} {a' : Nat} (hw : WF s a)
    (hok : stmtNamesOk stmt = true) (h : Comp.addStmt s a stmt = .ok (s', a')) : WF s' a' ∧ a ≤ a' :=
  (addStmt_step hw.zero (defNotAnon_of_namesOk hok) h).wf hw hok

/-- for tables satisfying the invariant the emitted PIL loads and denotes the design read off the tables:
    nothing is lost or reordered between the object model and the file -/
theorem emitted_pil_denotes_tables (tbl : CodeTable) {s : Comp.St} {a : Nat} (hw : WF s a)
    (hcodes : ∀ e ∈ s.seqs, e.const.all tbl.isCode = true) :
    ∃ spec, Pil.load tbl (Emit.compStmts s) {} = .ok spec ∧ Pil.denote spec = designOf s :=
  emit_sound tbl hw hcodes

/-- the reversed view of a sequence or super-sequence denotes the reverse complement -/
theorem reversed_view_is_rc (p : String) (e : Comp.SeqE) :
    cnucs p (Comp.basesOfView e true) = rc (cnucs p e.bases) := by
  rw [cnucs_basesOfView]; rfl

/-- reverse complement is an involution -/
theorem rc_involutive (l : List Nuc) : rc (rc l) = l := rc_rc l
/-- reverse complement reverses concatenation -/
theorem rc_concat (x y : List Nuc) : rc (x ++ y) = rc y ++ rc x := rc_append x y

/-! ### non-vacuity -/

/-- the example source satisfies the hypotheses (live PIL reader table) -/
example : UserNamesOk exampleSrc = true ∧ CodesOk pilTable exampleSrc = true := by
  unfold exampleSrc
  repeat rw [String.toList_ofList]
  decide +kernel

/-- the compile path accepts it; this is the emitted PIL (anonymous counter 5 ↦ 6) -/
example : (Comp.load exampleSrc 0 "c-" 5).toOption.map (fun r => (Emit.compStmts r.1, r.2)) =
    some ([.seq "c-a" "NNN".toList, .seq "c-b" "SSWW".toList, .seq "c-_Anon5" "RRY".toList,
           .sup "c-s" ["c-a", "c-_Anon5", "c-b*"],
           .strand "c-X" false ["c-s", "c-b", "c-_Anon5*", "c-a*"],
           .struct "c-T" (some "2.5nt") ["c-X"] "(((((((((())))))))))".toList], 6) := by
  unfold exampleSrc
  repeat rw [String.toList_ofList]
  decide +kernel

/-- the conclusion of `compile_preserves_design`, computed: the PIL read back denotes the source's design -/
example :
    (do let r ← (Comp.load exampleSrc 0 "c-" 5).toOption
        let spec ← (Pil.load pilTable (Emit.compStmts r.1) {}).toOption
        let d ← (Denote.denoteComp exampleSrc "c-" 5).toOption
        pure (decide (Pil.denote spec = { d.1.design [] with kinetics := [] }) &&
              decide ((Comp.emitPil r.1).drop (Emit.compStmts r.1).length = d.1.kinetics.map renderKin) &&
              decide (d.2.2 = r.2))) = some true := by
  unfold exampleSrc
  repeat rw [String.toList_ofList]
  decide +kernel

/-- and what it denotes: the strand `X = s domains(s*)` is `a _Anon5 b* b _Anon5* a*`, 20 nucleotides -/
example :
    ((Denote.denoteComp exampleSrc "c-" 5).toOption.map (fun d => d.1.strands.map (fun x => (x.1, x.2.1, x.2.2.length)))) =
      some [("c-X", false, 20)] := by
  unfold exampleSrc
  repeat rw [String.toList_ofList]
  decide +kernel
example :
    ((Denote.denoteComp exampleSrc "c-" 5).toOption.map (fun d => d.1.structs)) =
      some [⟨"c-T", ["c-X"], "(((((((((())))))))))".toList, .other "2.5"⟩] := by
  unfold exampleSrc
  repeat rw [String.toList_ofList]
  decide +kernel
/-- a reserved name is rejected by `UserNamesOk`, a foreign letter by `CodesOk` -/
example : UserNamesOk { exampleSrc with stmts := [.seq "_Anon3" [.nuc "3N".toList] none] } = false := by decide +kernel
example : CodesOk pilTable { exampleSrc with stmts := [.seq "a" [.nuc "3X".toList] none] } = false := by decide +kernel

end Pepper.C01
