import PepperProofs.SysPrefix
import PepperProofs.SysPil
import PepperModel.Generated.Tables
/-!
# C02 — system composition wires signals with the right orientation at any depth

"For every system program, each component or sub-system instance appears in the emitted specification under
its own instance-path prefix and shares no nucleotide with any other instance except through signals; for each
signal, every port bound to it is constrained equal to the signal when the stars on the binding and on the
port's declaration agree and reverse-complementary when they differ, through any depth of nested systems.
Each import resolves to the first matching file in the importing file's directory and then the include
directories in order, and instance arguments reach the instantiated template unchanged."

Code path: `PepperModel/Sys.lean` (`resolveImport`, `loadFile`, `loadStmts`, emission `Emit.sysStmts`);
specification: `PepperModel/Denote.lean` (`denoteFile` / `denoteSysStmts` / `bindPorts`: what a system *means*)
and `Pil.denote` (what the emitted statements mean to the designer).  Proofs: `PepperProofs/Sys.lean` (imports,
binding loop, the induction `loadFile_induct`), `SysPrefix.lean` (prefixes), `SysAgree.lean` (agreement of the signal
tables, `tree_agrees`) and
`PepperProofs/SysPil.lean` (the emitted PIL of a whole instance tree: frame lemma for `Pil.load`, additivity of
`Pil.denote`, the component case from C01, the `Walk` instance `walkPil`, `tree_full`).

Hypotheses on the bundle of sources (`bundleOk tbl b`, decidable; all necessary):
* every component source has `UserNamesOk` and `CodesOk tbl` (the hypotheses of C01);
* in every system source, instance names contain no `-` and signal names are non-empty, do not end in `*` and
  contain no `-` (`sysNamesOk`): the instance path separator is `-`, so a signal `c-a` of a system and the sequence
  `a` of its instance `c` would be emitted under one name, and the PIL reader splits a trailing `*` off item names;
* `N` is a code of the reader's table (signal sequences are written `N…N`).

Template arguments are substituted into the source text *before* the model sees it (C13 models the
substitution); the bundle key `path@instance-path` selects the substituted source of that instance, and the
model checks the *number* of arguments.
-/
namespace Pepper.C02
open Pepper Pepper.Comp Pepper.Sys Pepper.SysProofs

/-- **first match**: for an arbitrary file-existence test `probe`, `load_file` searches `dir :: includes` in
    order; the outcome is decided by the FIRST directory `dirs[i]` in which `base.sys` or `base.comp` exists
    (no earlier directory `dirs[j]`, `j < i`, has either): `ambiguous` if both exist there, otherwise that file
    (with its kind and its directory as the new base path); and `missing` exactly when no directory has either -/
theorem import_first_match (probe : String → Bool) (base dir : String) (includes : List String) :
    let dirs := dir :: includes
    (∃ i, ∃ h : i < dirs.length,
        (∀ j (hj : j < i), sysAt probe base (dirs[j]'(Nat.lt_trans hj h)) = false ∧
                           compAt probe base (dirs[j]'(Nat.lt_trans hj h)) = false) ∧
        (sysAt probe base dirs[i] = true ∨ compAt probe base dirs[i] = true) ∧
        resolveImport probe base dir includes =
          (if sysAt probe base dirs[i] && compAt probe base dirs[i] then .error .ambiguous
           else if sysAt probe base dirs[i] then
             .ok (pathJoin dirs[i] base ++ ".sys", true, dirname (pathJoin dirs[i] base))
           else .ok (pathJoin dirs[i] base ++ ".comp", false, dirname (pathJoin dirs[i] base))))
    ∨ ((∀ d ∈ dirs, sysAt probe base d = false ∧ compAt probe base d = false) ∧
        (match resolveImport probe base dir includes with | .error .missing => True | _ => False)) :=
  go_spec probe base (dir :: includes)

/-- **arity**: `load_file` succeeds only if the number of arguments equals the number of declared parameters of
    the file it resolved, and then it elaborates exactly the source stored under `resolved path ++ argKey`
    (`argKey` = `@instance-path`: the source with this instance's arguments substituted) -/
theorem arity_checked (b : Bundle) (fuel : Nat) (base : String) (args : Nat) (argKey pfx path : String)
    (includes : List String) (anon : Nat) (inst : Inst) (a' : Nat)
    (h : loadFile b fuel base args argKey pfx path includes anon = .ok (inst, a')) :
    ∃ fuel' fname issys newPath, fuel = fuel' + 1 ∧
      resolveImport (fun p => b.exists_.contains (normPath p)) base path includes = .ok (fname, issys, newPath) ∧
      ((∃ c st, b.files.lookup (normPath fname ++ argKey) = some (.comp c) ∧ issys = false ∧
          c.params.length = args ∧ Comp.load c args pfx anon = .ok (st, a') ∧ inst = .comp st) ∨
       (∃ s st, b.files.lookup (normPath fname ++ argKey) = some (.sys s) ∧ issys = true ∧
          s.params.length = args ∧
          loadStmts b fuel' includes s.stmts (.mk newPath s.name pfx [] [] [] [] [] []) anon = .ok (st, a') ∧
          inst = .sys (.mk st.path st.name st.pfx st.template st.signals st.lengths st.components s.inputs s.outputs))) := by
  obtain ⟨fuel', fname, issys, newPath, h0, hr, hcase⟩ := loadFile_ok h
  refine ⟨fuel', fname, issys, newPath, h0, hr, ?_⟩
  rcases hcase with hc | ⟨s, st, hl, hsys, hpar, hs, _, hinst⟩
  · exact Or.inl hc
  · exact Or.inr ⟨s, st, hl, hsys, hpar, hs, hinst⟩

/-- **the compile path**: every entry `⟨port, comp, wc⟩` that binding an instance's ports adds to the signal table
    has `wc = (star on the binding ≠ star on the port's declaration)`, in the order of the ports -/
theorem signal_orientation_built (cname : String) (sigs sigs' : List (String × List SigEntry))
    (lens lens' : List (String × Nat)) (globs : List SigRef) (ports : List (Sys.Port × Bool × Nat × Bool))
    (h : bindSigs cname sigs lens globs ports = .ok (sigs', lens')) :
    sigs' = (List.zip globs ports).foldl
      (fun s gp => addSig s gp.1.name ⟨gp.2.1, cname, gp.1.star != gp.2.2.1⟩) sigs :=
  bindSigs_spec cname _ (sigs, lens) (sigs', lens') h

/-- `loadStmts` on a `component` statement is: resolve the template, load the instance under the prefix
    `pfx ++ name ++ "-"` (with the bundle key `@pfx name`), check the port counts, run the binding loop above over
    the instance's port list, continue -/
theorem component_statement (b : Bundle) (fuel : Nat) (includes : List String) (cname templ : String) (args : Nat)
    (ins outs : List SigRef) (r : List SStmt) (st : SysSt) (a : Nat) :
    loadStmts b fuel includes (.component cname templ args ins outs :: r) st a =
      match st.template.lookup templ with
      | none => .error .unknownTemplate
      | some tpath =>
        if (st.components.lookup cname).isSome then .error .dupComponent else
        match loadFile b fuel tpath args ("@" ++ st.pfx ++ cname) (st.pfx ++ cname ++ "-") st.path includes a with
        | .error e => .error e
        | .ok (inst, a') =>
          if ins.length != (instArity inst).1 || outs.length != (instArity inst).2 then .error .portCount else
          match bindSigs cname st.signals st.lengths (ins ++ outs) (instPorts inst) with
          | .error e => .error e
          | .ok (sg, l) => loadStmts b fuel includes r (addComp st sg l cname inst) a' :=
  loadStmts_component b fuel includes cname templ args ins outs r st a

/-- the "star on the declaration" in a component's port list is the star written in the `declare component`
    line, port by port, and the port object is the *unstarred* sequence of that name -/
theorem declaration_stars_component {src : Comp.Src} {args : Nat} {pfx : String} {anon : Nat} {st : Comp.St} {a : Nat}
    (h : Comp.load src args pfx anon = .ok (st, a)) :
    (compPorts st).map (fun p => (match p.1 with | .seq i _ => (i.name, i.rev) | .sig n => (n, false), p.2.1)) =
      (src.inputs ++ src.outputs).map (fun p => ((p.seq, false), p.star)) := by
  have h2 := congrArg (List.map (fun x : String × Bool => ((x.1, false), x.2))) (load_stars h).2
  simp only [List.map_map] at h2
  simp only [compPorts, List.map_map]
  exact h2

/-- … and in a sub-system's port list it is the star written in its `declare system` line -/
theorem declaration_stars_system (sst : SysSt) :
    (sysPorts sst).map (fun p => (p.1, p.2.1)) =
      (sst.inputSeqs ++ sst.outputSeqs).map (fun r => (Sys.Port.sig r.name, r.star)) := by
  unfold sysPorts
  rw [List.map_map]
  rfl

/-- the member written for an entry is the instance-path name of the port, followed by `*` exactly when `wc` (first
    conjunct: that expression, reflexively; what is emitted is stated in `PepperProofs/EmitEq.lean`); the content is
    the second conjunct: the reader resolves `nm ++ "*"` to the reversed view of `nm` -/
theorem equal_member_star (pfx : String) (e : SigEntry) :
    ((match e.port with
       | .seq i _ => pfx ++ e.comp ++ "-" ++ i.name
       | .sig n => pfx ++ e.comp ++ "-" ++ n) ++ (if e.wc then "*" else "")) =
    (match e.port with
       | .seq i _ => pfx ++ e.comp ++ "-" ++ i.name
       | .sig n => pfx ++ e.comp ++ "-" ++ n) ++ (if e.wc then "*" else "") ∧
    (∀ (s : Pil.Spec) (nm : String) (o : Pil.SeqObj), s.findSeq nm = some o →
      Pil.resolveItem s (nm ++ "*") = .ok (⟨nm, true⟩, o)) :=
  ⟨rfl, resolveItem_star⟩

/-- **what the designer reads**: under `Pil.denote` a member `name*` denotes the reverse complement of what `name`
    denotes (and `name` denotes the object's nucleotides) -/
theorem pil_member_region (o : Pil.SeqObj) (star : Bool) :
    Pil.nucsOfBases (Pil.basesOfView o star) =
      if star then rc (Pil.nucsOfBases o.bases) else Pil.nucsOfBases o.bases :=
  pil_star_region o star

/-- **what the source means**: `Denote.bindPorts` contributes, for a port with nucleotides `X`, the region `X` when
    the stars on binding and declaration agree and `rc X` when they differ — the same rule -/
theorem denote_member_region (acc : Denote.SigAcc) (globs : List SigRef) (ports : List (List Nuc × Bool)) :
    Denote.bindPorts acc globs ports = (List.zip globs ports).foldlM bpStep acc ∧
    ∀ a a' gp, bpStep a gp = .ok a' →
      let region := if gp.1.star != gp.2.2 then rc gp.2.1 else gp.2.1
      a'.members = a.members ++ [(gp.1.name, [region])] ∨
      a'.members = a.members.map (fun (k, v) => if k == gp.1.name then (k, v ++ [region]) else (k, v)) :=
  ⟨bindPorts_eq acc globs ports, bpStep_region⟩

/-- **through nesting**: orientations compose by xor (`rc` is an involution): a port reached through an outer
    binding with parity `a` of a sub-system signal to which it is bound with parity `b` is constrained to the
    outer signal with parity `a xor b` -/
theorem signal_orientation_nested (a b : Bool) (x : List Nuc) :
    (if a then rc (if b then rc x else x) else (if b then rc x else x)) = if (a != b) then rc x else x :=
  rc_parity a b x

/-- **prefixes**: in the design `denoteFile` assigns to an instance loaded under prefix `pfx` (a component, or a
    system with everything below it), every domain, sequence, strand and structure name and every nucleotide —
    including those in `equals` — carries the prefix `pfx`; so do the nucleotides of its ports -/
theorem instance_prefixed (b : Bundle) (fuel : Nat) (base : String) (args : Nat) (argKey pfx path : String)
    (includes : List String) (anon : Nat) (d : Design) (ports : List (List Nuc × Bool)) (a : Nat)
    (h : Denote.denoteFile b fuel base args argKey pfx path includes anon = .ok (d, ports, a)) :
    DesignP (HasPfx pfx) d ∧ ∀ p ∈ ports, NucsP (HasPfx pfx) p.1 :=
  denoteFile_P b fuel base args argKey pfx path includes anon d ports a (HasPfx.append pfx) h

/-- **disjointness**: two instances at the same level, `pfx ++ c1 ++ "-"` and `pfx ++ c2 ++ "-"` with different
    instance names without dashes, share no nucleotide (no `Var`): nothing carries both prefixes -/
theorem instances_disjoint (b : Bundle) (fuel : Nat) (pfx c1 c2 : String) (h1 : '-' ∉ c1.toList) (h2 : '-' ∉ c2.toList)
    (hne : c1 ≠ c2) (base1 base2 : String) (args1 args2 : Nat) (k1 k2 path : String) (includes : List String)
    (an1 an2 : Nat) (d1 d2 : Design) (p1 p2 : List (List Nuc × Bool)) (a1 a2 : Nat)
    (hd1 : Denote.denoteFile b fuel base1 args1 k1 (pfx ++ c1 ++ "-") path includes an1 = .ok (d1, p1, a1))
    (hd2 : Denote.denoteFile b fuel base2 args2 k2 (pfx ++ c2 ++ "-") path includes an2 = .ok (d2, p2, a2)) :
    ∀ v ∈ designVars d1, v ∉ designVars d2 := by
  intro v hv1 hv2
  have q1 := designVars_P (instance_prefixed b fuel _ _ _ _ _ _ _ _ _ _ hd1).1 v hv1
  have q2 := designVars_P (instance_prefixed b fuel _ _ _ _ _ _ _ _ _ _ hd2).1 v hv2
  exact sibling_prefixes_disjoint pfx c1 c2 h1 h2 hne v.dom ⟨q1, q2⟩

/-- **only signals connect**: the design of a system is the designs of its instances, appended in order, followed
    by one fresh domain `pfx ++ sig` per signal and one `equals` entry per signal relating that domain to the
    regions of the bound ports; the instances' own designs are not touched -/
theorem system_design_shape (b : Bundle) (fuel : Nat) (base : String) (args : Nat) (argKey pfx path : String)
    (includes : List String) (anon : Nat) (d : Design) (ports : List (List Nuc × Bool)) (a : Nat)
    (fname newPath : String) (s : SSrc)
    (hr : resolveImport (fun p => b.exists_.contains (normPath p)) base path includes = .ok (fname, true, newPath))
    (hl : b.files.lookup (normPath fname ++ argKey) = some (.sys s))
    (h : Denote.denoteFile b (fuel + 1) base args argKey pfx path includes anon = .ok (d, ports, a)) :
    ∃ d0 sa, Denote.denoteSysStmts b fuel includes newPath pfx s.stmts [] Design.empty {} anon = .ok (d0, sa, a) ∧
      d = Denote.Design.append d0
        { Design.empty with
          domains := sa.order.map (fun n => (pfx ++ n, List.replicate ((sa.len.lookup n).getD 0) 'N'))
          seqs := sa.order.map (fun n => (pfx ++ n, fwd (pfx ++ n) ((sa.len.lookup n).getD 0)))
          equals := sa.order.map (fun n => fwd (pfx ++ n) ((sa.len.lookup n).getD 0) :: (sa.members.lookup n).getD []) } ∧
      ports = (s.inputs ++ s.outputs).map (fun r => (fwd (pfx ++ r.name) ((sa.len.lookup r.name).getD 0), r.star)) := by
  rw [denoteFile_succ, hr] at h
  simp only [hl, ite_error_eq_ok] at h
  obtain ⟨_, h⟩ := h
  split at h
  · cases h
  · rename_i d0 sa a1 hs
    simp only [ite_error_eq_ok] at h
    cases h.2
    exact ⟨d0, sa, hs, rfl, rfl⟩

/-- **orientation, for whole systems**: for every system the compile path loads (any depth below it), the
    specification `Denote` processes the same statements successfully and the two signal tables agree
    (`TablesAgree`): the same signals in the same order with the same lengths, and for every signal the
    specification's member regions are, entry by entry, `entryRegion` of the compile path's entries — the
    nucleotides of the bound port (a component's unstarred sequence under the instance prefix, or a sub-system's
    signal domain), reverse-complemented exactly when the entry's flag `wc = (binding star ≠ declaration star)` is
    set.  The only hypothesis on the bundle: its component sources have `UserNamesOk` (the component-level fact is
    discharged by the C01 machinery, `SysProofs.compAccept`) -/
theorem signal_orientation (b : Bundle) (hb : BundleComps (fun c => UserNamesOk c = true) b) (fuel : Nat)
    (includes : List String) (stmts : List SStmt)
    (newPath name pfx : String) (anon : Nat) (st : SysSt) (a1 : Nat)
    (hs : loadStmts b fuel includes stmts (.mk newPath name pfx [] [] [] [] [] []) anon = .ok (st, a1)) :
    ∃ d1 sa, Denote.denoteSysStmts b fuel includes newPath pfx stmts [] Design.empty {} anon = .ok (d1, sa, a1) ∧
      sa.len = st.lengths ∧ sa.order = st.lengths.map (·.1) ∧ st.signals.map (·.1) = st.lengths.map (·.1) ∧
      sa.members = st.signals.map (fun x => (x.1, x.2.map (entryRegion pfx ((st.lengths.lookup x.1).getD 0)))) := by
  obtain ⟨d1, sa, hd, ht⟩ := sys_tables_agree compAccept b hb fuel includes stmts newPath name pfx anon st a1 hs
  exact ⟨d1, sa, hd, ht.len, ht.order, ht.keys, ht.members⟩

/-- the region of an entry, spelled out: `rc X` iff `wc`, where `X` is what the port denotes unstarred (the two
    definitions unfolded; that `Pil.denote` reads exactly these regions off the emitted `equal` statement is
    `SysProofs.denote_sys`) -/
theorem entry_region_rule (pfx : String) (len : Nat) (e : SigEntry) :
    entryRegion pfx len e = (if e.wc then rc (entryNucs pfx len e) else entryNucs pfx len e) ∧
    entryNucs pfx len e = (match e.port with
      | .seq _ bases => basesNucs (pfx ++ e.comp ++ "-") bases
      | .sig n => fwd (pfx ++ e.comp ++ "-" ++ n) len) :=
  ⟨rfl, rfl⟩

/-- the component sources of a bundle satisfying `bundleOk` have `UserNamesOk` -/
theorem bundleOk_comps {tbl : CodeTable} {b : Bundle} (hb : bundleOk tbl b = true) :
    BundleComps (fun c => UserNamesOk c = true) b :=
  fun _ _ hl => (bundleOk_comp hb hl).1

/-- **system_preserves_design** (full).  For every bundle satisfying `bundleOk tbl` and every instance tree
    `load_file` returns — a component, a system, a system of systems, to any depth: reading the emitted PIL of the
    tree back succeeds; the specification `denoteFile` accepts the same sources, consuming the same
    anonymous-sequence numbers; and the design the PIL denotes equals the design the sources denote in domains,
    sequences, strands, structures and `equal` constraints (`DesignEquiv`: plain equality of these fields, in order;
    kinetic lines carry no constraint and are compared per component by C01).  In particular every instance appears
    under its instance-path prefix, nothing is shared between instances except through the `equal` constraint of a
    signal, and each member of that constraint is the port's region, reverse-complemented exactly when the stars of
    binding and declaration differ (`signal_orientation`, `instance_prefixed`, `system_design_shape` describe `d`). -/
theorem system_preserves_design (tbl : CodeTable) (b : Bundle) (fuel : Nat) (base : String) (args : Nat)
    (argKey pfx path : String) (includes : List String) (anon : Nat) (inst : Inst) (a' : Nat)
    (h : loadFile b fuel base args argKey pfx path includes anon = .ok (inst, a'))
    (hb : bundleOk tbl b = true) :
    ∃ spec d ports, Pil.load tbl (Emit.instStmts inst) {} = .ok spec ∧
      Denote.denoteFile b fuel base args argKey pfx path includes anon = .ok (d, ports, a') ∧
      DesignEquiv (Pil.denote spec) d := by
  obtain ⟨d, ports, hd, _, hI⟩ := tree_full tbl b hb fuel base args argKey pfx path includes anon inst a' h
  obtain ⟨spec, hl, he, _⟩ := hI.load
  exact ⟨spec, d, ports, hl, hd, he⟩

/-- the compile path and the specification also agree on the ports of every instance — what each port denotes
    (`portNucs`), the star of its declaration, its length, whether it is a dummy — and every name of the design
    carries the instance prefix; only `UserNamesOk` of the component sources is needed for this half -/
theorem system_ports_agree (b : Bundle) (hb : BundleComps (fun c => UserNamesOk c = true) b) (fuel : Nat) (base : String)
    (args : Nat) (argKey pfx path : String) (includes : List String) (anon : Nat) (inst : Inst) (a' : Nat)
    (h : loadFile b fuel base args argKey pfx path includes anon = .ok (inst, a')) :
    ∃ d ports, Denote.denoteFile b fuel base args argKey pfx path includes anon = .ok (d, ports, a') ∧
      PortsAgree pfx (instPorts inst) ports ∧ DesignP (HasPfx pfx) d :=
  let ⟨d, ports, hd, hp⟩ := wiring_agrees compAccept b hb fuel base args argKey pfx path includes anon inst a' h
  ⟨d, ports, hd, hp, (denoteFile_P b fuel base args argKey pfx path includes anon d ports a' (HasPfx.append pfx) hd).1⟩

/-- the frame lemma behind the composition: statements all of whose names carry a prefix no object of `s0` carries
    load on top of `s0` as they load alone, and the result is the append of the two specifications -/
theorem pil_load_frame (tbl : CodeTable) (q : String) (s0 spec : Pil.Spec) (ys : List Pil.Stmt)
    (hfree : SpecFree (HasPfx q) s0) (hnames : ∀ st ∈ ys, ∀ n ∈ stmtNames st, HasPfx q n)
    (h : Pil.load tbl ys {} = .ok spec) : Pil.load tbl ys s0 = .ok (specAppend s0 spec) :=
  load_frame_alone tbl hfree hnames h

/-- additivity of `Pil.denote` over independent parts -/
theorem pil_denote_additive (a b : Pil.Spec) (ha : EqClosed a)
    (hb : ∀ its ∈ b.equals, ∀ i ∈ its, a.findSeq i.name = none) :
    DesignEquiv (Pil.denote (specAppend a b)) (Denote.Design.append (Pil.denote a) (Pil.denote b)) :=
  denote_append_free a b ha hb

/-- binding `g1 : s0* -> …` to a port declared `a` (no star): the entry has `wc = true`, a second instance
    binding `s0*` to a port declared `b*` gets `wc = false`, and both go to the same signal, in order -/
example :
    (match bindSigs "g1" [] [] [⟨"s0", true⟩] [(Sys.Port.seq ⟨"a", false, 4, false⟩ [], false, 4, false)] with
     | .ok (sg, l) =>
       (match bindSigs "g2" sg l [⟨"s0", true⟩] [(Sys.Port.seq ⟨"b", false, 4, false⟩ [], true, 4, false)] with
        | .ok (sg', _) => sg'.map (fun x => (x.1, x.2.map (fun e => (e.comp, e.wc)))) == [("s0", [("g1", true), ("g2", false)])]
        | .error _ => false)
     | .error _ => false) = true := by decide

/-- a length mismatch between two ports of one signal is rejected -/
example :
    (match bindSigs "g2" [("s0", [])] [("s0", 4)] [⟨"s0", false⟩] [(Sys.Port.sig "x", false, 5, false)] with
     | .error .signalLength => true | _ => false) = true := by decide

/-- reverse complement, concretely -/
example : rc [⟨⟨"g1-a", 0⟩, false⟩, ⟨⟨"g1-a", 1⟩, false⟩] = [⟨⟨"g1-a", 1⟩, true⟩, ⟨⟨"g1-a", 0⟩, true⟩] := by decide

/-- the specification side on the same two bindings: region = `rc X` for the first, `X` for the second -/
example :
    (match Denote.bindPorts {} [⟨"s0", true⟩, ⟨"s0", true⟩]
        [([⟨⟨"g1-a", 0⟩, false⟩, ⟨⟨"g1-a", 1⟩, false⟩], false), ([⟨⟨"g2-b", 0⟩, false⟩, ⟨⟨"g2-b", 1⟩, false⟩], true)] with
     | .ok sa => sa.members == [("s0", [[⟨⟨"g1-a", 1⟩, true⟩, ⟨⟨"g1-a", 0⟩, true⟩], [⟨⟨"g2-b", 0⟩, false⟩, ⟨⟨"g2-b", 1⟩, false⟩]])]
     | .error _ => false) = true := by decide

/-- the region of a starred entry of signal `s0` (length 2) bound to port `a` of instance `g1` -/
example : entryRegion "" 2 ⟨.seq ⟨"a", false, 2, false⟩ [⟨"a", false, 2⟩], "g1", true⟩
    = [⟨⟨"g1-a", 1⟩, true⟩, ⟨⟨"g1-a", 0⟩, true⟩] := by decide

/-- … and of an unstarred entry pointing at signal `x` of the sub-system instance `g2` -/
example : entryRegion "top-" 2 ⟨.sig "x", "g2", false⟩ = [⟨⟨"top-g2-x", 0⟩, false⟩, ⟨⟨"top-g2-x", 1⟩, false⟩] := by decide

/-- a two-instance system: `g1 : s0 -> s1`, `g2 : s1* -> s2` of a gate `a -> b*` -/
def exGate : Comp.Src :=
  { name := "gate", params := [], inputs := [⟨"a", false, none⟩], outputs := [⟨"b", true, none⟩],
    stmts := [.seq "a" [.nuc "4N".toList] none, .seq "b" [.nuc "2S 2W".toList] none,
              .strand false "X" [.ref "a" false, .ref "b" true] none] }
def exSys : SSrc :=
  { name := "top", params := [], inputs := [], outputs := [],
    stmts := [.imports [("gate", none)],
              .component "g1" "gate" 0 [⟨"s0", false⟩] [⟨"s1", false⟩],
              .component "g2" "gate" 0 [⟨"s1", true⟩] [⟨"s2", false⟩]] }
def exBundle : Bundle :=
  { files := [("top.sys@", .sys exSys), ("gate.comp@g1", .comp exGate), ("gate.comp@g2", .comp exGate)],
    exists_ := ["top.sys", "gate.comp"] }

/-- the hypothesis of `system_preserves_design` holds for it, with the live PIL reader table -/
example : bundleOk Pepper.Generated.pilTable exBundle = true := by decide +kernel

/-- the instance tree `loadFile exBundle 4 "top" 0 "@" "" "." [] 0` returns (`#eval`; the kernel cannot unfold
    `String.splitOn` inside `normPath`, so the tree is rebuilt here from its parts: the two component loads and the
    two binding loops) -/
def exTree : Option Inst := do
  let (g1, a1) ← (Comp.load exGate 0 "g1-" 0).toOption
  let (g2, _) ← (Comp.load exGate 0 "g2-" a1).toOption
  let (sg1, l1) ← (bindSigs "g1" [] [] [⟨"s0", false⟩, ⟨"s1", false⟩] (compPorts g1)).toOption
  let (sg2, l2) ← (bindSigs "g2" sg1 l1 [⟨"s1", true⟩, ⟨"s2", false⟩] (compPorts g2)).toOption
  pure (.sys (.mk "." "top" "" [("gate", "gate")] sg2 l2 [("g1", .comp g1), ("g2", .comp g2)] [] []))

/-- its emitted statements: instances under their prefixes, then one sequence and one `equal` line per signal; the
    output port is declared `b*`, so it is bound with a star to the unstarred `s1`, and `g2`'s input, bound to `s1*`,
    as well -/
example : exTree.map Emit.instStmts =
    some [.seq "g1-a" "NNNN".toList, .seq "g1-b" "SSWW".toList, .strand "g1-X" false ["g1-a", "g1-b*"],
          .seq "g2-a" "NNNN".toList, .seq "g2-b" "SSWW".toList, .strand "g2-X" false ["g2-a", "g2-b*"],
          .seq "s0" "NNNN".toList, .equal ["s0", "g1-a"],
          .seq "s1" "NNNN".toList, .equal ["s1", "g1-b*", "g2-a*"],
          .seq "s2" "NNNN".toList, .equal ["s2", "g2-b*"]] := by
  -- literals to character lists first: the kernel's share is mostly decoding them
  repeat rw [String.toList_ofList]
  decide +kernel

/-- reading them back succeeds, and the `equal` constraint of `s1` relates the signal domain to the reverse
    complements of `g1-b` and `g2-a` -/
example : ((exTree.bind (fun i => (Pil.load Pepper.Generated.pilTable (Emit.instStmts i) {}).toOption)).map
      (fun spec => ((Pil.denote spec).equals.drop 1).take 1)) =
    some [[fwd "s1" 4, rc (fwd "g1-b" 4), rc (fwd "g2-a" 4)]] := by decide +kernel

end Pepper.C02
