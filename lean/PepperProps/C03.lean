import PepperProofs.Des
import PepperProofs.LoadInvDes
import PepperProofs.LoadInvDesSys
/-!
# C03 — the NUPACK `.des` output is constraint-equivalent to the source program

"For every accepted program, the .des specification (structures, sequence templates, sequence-to-structure
assignments, objective lines, and the auxiliary duplex structures that tie signals together) forces exactly
the same nucleotide equalities, complementarities and allowed bases on the program's structures as the
source program does, no more and no fewer, and lists every structure with its target and its
optimisation bound."

Model: `PepperModel/Des.lean`.  `desDoc inst` is what `Component.output_nupack` / `System.output_nupack`
print for the instance tree `inst` (the result of `Sys.loadFile`), as a list of lines; `SatDes` is the
reading of the format; `designOf inst` is the design the same object tables describe (domains, strands,
structures of the components; per signal one domain `S` and the `equals` entry `[S, R₁', …]`), with
`Sat` = `LinkSpec.Sat`, the specification layer shared with C04/C15.  Proofs: `PepperProofs/Des.lean`.

Tie to the code (harness/props/c03.py, every run): an independent reader of the implementation's `.des`
text gives exactly `desDoc` of the model; `BlocksOk` holds for the model's instance tree of every accepted
program; `designOf inst` is the design `Denote.denoteTop` assigns to the source.

**The full statement is `des_equiv_of_load`** (no hypothesis on the tables, none on the design): for every
program `Sys.loadFile` accepts, under name hypotheses on the sources only, the `.des` document and the design the
*source* denotes (`Denote.denoteFile`) have the same solutions on the program's own domains.  It is assembled from
* `des_equiv_partial`: the equivalence relative to the table-consistency condition `BlocksOk` and to `designOf`;
* M1, `blocksOk_of_load` (`PepperProofs/LoadInvDes.lean`): `BlocksOk` holds for whatever `Sys.loadFile` returns, for
  bundles satisfying `DesNamesOk` — component sources with user names in their statements (`StmtNamesOk`) and
  pairwise distinct sequences in the declaration (`PortsDistinct`); system sources with instance and signal names
  without `-`, no signal named like an instance of the same system, pairwise distinct signals in the declaration
  (`SysNamesOk`).  Each is needed for a name clause of `BlocksOk` (counterexample programs at `LoadInv.SysNamesOk`:
  collisions in the real `.des` text, too; for `LoadInv.PortsDistinct` the real text is kept apart by the `-_rc` suffix,
  `connectors_written_once`);
* M2, `designOf_sat_iff_of_load` (`PepperProofs/LoadInvDesSys.lean`): `designOf inst` and the design
  `Denote.denoteFile` assigns to the source agree on every field `Sat` reads, for trees of any depth, under the
  names-only part of C02's `bundleOk` (`bundleNamesOk`); `Sat` is compared for an arbitrary code table.
`DesNamesOk b ∧ bundleNamesOk b` follows from the single decidable check `DesSys.desBundleOk b`
(`des_equiv_of_load_checked`).  The driver evaluates `BlocksOk` and `designOf` = `denoteTop` per run:
a cross-check of the theorems for sources satisfying the name hypotheses, the only evidence for others.

Two features of `System.output_nupack` that the model follows:
* the `done` set (model `Sys.dedupEntries`): of the entries of one signal with equal connector name and
  orientation only the first is written (`connectors_written_once_keys`).  The design still lists every entry, so
  `BlockOk` demands of a signal block that such entries are the same entry, which is what `Sys.loadFile` produces;
  without that clause `des_no_fewer` is false (`exClash` below).
* the `-_rc` suffix (model `Sys.rcSuffix`): when one port is bound to one signal both plainly and starred, both connectors are
  written and the one of the complementary binding is called `<signal>-<instance>-<port>-_rc`.  The structure names
  of a signal block are then pairwise distinct unless a third entry's own connector name is `<instance>-<port>-_rc`
  (`connectors_written_once`: exact condition; `exRcClash` below shows it is needed).  On loaded trees no suffix is
  written (`LoadInv.connNames_nodup`, `connectors_plain_of_consistent`).
-/
namespace Pepper.C03
open Pepper Pepper.Comp Pepper.Sys Pepper.LinkSpec Pepper.Des

/-- the names of the components' base sequences under their instance prefixes: the program's own
    domain variables (everything else in the document — signal sequences `S`, auxiliary `S-_WC` — is
    introduced by the compiler) -/
def progDomains (inst : Inst) : List String := compDomains (blocksInst inst)

/-- For every instance tree whose structure names are distinct, every component `st` of the tree and every
    structure `e` of it: the document has exactly one `structure` line of that (prefixed) name and it
    carries the target string; exactly one assignment line, whose items are the structure's base
    sequences of non-zero length in order, starred iff reversed; and exactly one bound line, printed `%f`, if the
    optimisation parameter is non-zero — none if it is zero. -/
theorem lists_every_structure (inst : Inst) (hn : ((assignLines (desDoc inst)).map (·.1)).Nodup)
    (st : Comp.St) (hb : Block.comp st ∈ blocksInst inst) (e : StructE) (he : e ∈ st.structs) :
    (structLines (desDoc inst)).filter (·.1 == st.pfx ++ e.name) = [(st.pfx ++ e.name, e.struct)] ∧
    (assignLines (desDoc inst)).filter (·.1 == st.pfx ++ e.name) =
      [(st.pfx ++ e.name, (e.bases.filter (·.len != 0)).map (fun b => ⟨st.pfx ++ b.name, b.rev⟩))] ∧
    (boundLines (desDoc inst)).filter (·.1 == st.pfx ++ e.name) =
      if e.opt.isZero then [] else [(st.pfx ++ e.name, String.ofList e.opt.fmtF)] := by
  unfold desDoc at hn ⊢
  refine ⟨?_, ?_, ?_⟩
  · apply filter_eq_singleton (by rw [structNames_docOf]; exact hn)
    exact mem_struct_block hb (by simp only [blockDoc, structLines_compDoc]; exact List.mem_map.2 ⟨e, he, rfl⟩)
  · apply filter_eq_singleton hn
    exact mem_assign_block hb (by simp only [blockDoc, assignLines_compDoc]; exact List.mem_map.2 ⟨e, he, rfl⟩)
  · cases hz : e.opt.isZero
    · simp only [Bool.false_eq_true, if_false]
      apply filter_eq_singleton ((boundNames_sublist _).nodup hn)
      rw [boundLines_docOf]
      refine List.mem_flatMap.2 ⟨_, hb, ?_⟩
      simp only [blockDoc, boundLines_compDoc]
      exact List.mem_map.2 ⟨e, List.mem_filter.2 ⟨he, by simp [hz]⟩, rfl⟩
    · rw [if_pos rfl, List.filter_eq_nil_iff]
      rintro ⟨n, t⟩ hz' hk
      have hn' : n = st.pfx ++ e.name := eq_of_beq hk
      subst hn'
      have := (bound_of_name hn hb he hz').1
      rw [hz] at this; cases this

/-- the same for a single component, where distinctness of the structure names is all that is needed -/
theorem lists_every_structure_component (st : Comp.St) (hn : (st.structs.map (·.name)).Nodup)
    (e : StructE) (he : e ∈ st.structs) :
    (structLines (compDoc st)).filter (·.1 == st.pfx ++ e.name) = [(st.pfx ++ e.name, e.struct)] ∧
    (assignLines (compDoc st)).filter (·.1 == st.pfx ++ e.name) =
      [(st.pfx ++ e.name, (e.bases.filter (·.len != 0)).map (fun b => ⟨st.pfx ++ b.name, b.rev⟩))] ∧
    (boundLines (compDoc st)).filter (·.1 == st.pfx ++ e.name) =
      if e.opt.isZero then [] else [(st.pfx ++ e.name, String.ofList e.opt.fmtF)] := by
  have hd : desDoc (Inst.comp st) = compDoc st := List.append_nil _
  have := lists_every_structure (Inst.comp st)
    (by rw [hd]; show (LoadInv.asgN (.comp st)).Nodup; rw [LoadInv.asgN_comp]; exact nodup_pfx_map hn st.pfx)
    st (List.mem_singleton.2 rfl) e he
  rwa [hd] at this

/-- For every program structure, the nucleotides the document lays onto its positions and the nucleotides
    of its strands in the design are both the expansion of the structure's `base_seqs` in the object
    tables (`cnucs`: `fwd` of each base sequence, `rc` of it when reversed) — zero-length sequences
    contribute nothing on either side (`cnucs_filter`). -/
theorem positions_agree (inst : Inst) (ok : BlocksOk (blocksInst inst)) (st : Comp.St)
    (hb : Block.comp st ∈ blocksInst inst) (e : StructE) (he : e ∈ st.structs) :
    desPositions (desDoc inst) (st.pfx ++ e.name) = Des.cnucs st.pfx e.bases ∧
    designPositions (designOf inst) (st.pfx ++ e.name) = Des.cnucs st.pfx e.bases := by
  refine ⟨desPositions_comp ok hb he, ?_⟩
  unfold designPositions Des.designOf
  have hsD : (⟨st.pfx ++ e.name, e.strands.map (st.pfx ++ ·), e.struct, Des.optOfDec e.opt⟩ : StructD) ∈
      (designOfBlocks (blocksInst inst)).structs :=
    List.mem_flatMap.2 ⟨_, hb, List.mem_map.2 ⟨e, he, rfl⟩⟩
  have := find?_of_mem_nodup (·.name) ((designStructNames_sublist _).nodup ok.structNames) hsD rfl
  simp only at this
  rw [this]
  exact structNucs_comp ok hb he _

theorem positions_skip_dummies (p : String) (bs : List BaseRef) :
    Des.cnucs p (bs.filter (·.len != 0)) = Des.cnucs p bs := Des.cnucs_filter p bs

/-- **The heart of "no more and no fewer".**  One signal `S` of length `n`, its auxiliary sequence `W`
    (`S-_WC`), bound regions `Rᵢ` of length `n` with flags `wcᵢ` (complementary binding), none mentioning
    `S` or `W`; any base type with an involutive complement.  An assignment `a` of the other variables
    extends to `S` and `W` satisfying the duplex `S-_Self` (`W` paired with `S`) and, for each `i`, the
    duplex over `S Rᵢ` (if `wcᵢ`) or `W Rᵢ` (if not)  **iff**  `a` extends to `S` alone satisfying the
    source's `equals` entry `[S, R₁', …]` with `Rᵢ' = rc Rᵢ` when `wcᵢ` — i.e. iff there is a value for
    the signal with every `Rᵢ` equal to it (not `wcᵢ`) or reverse-complementary to it (`wcᵢ`).  Both
    directions construct the witness (`W := rc S`). -/
theorem signal_gadget_equiv {β : Type} {compl : β → β} (hcc : ∀ b, compl (compl b) = b) (n : Nat)
    (sName wName : String) (hne : sName ≠ wName) (Rs : List (List Nuc × Bool))
    (hlen : ∀ r ∈ Rs, r.1.length = n)
    (hfresh : ∀ r ∈ Rs, ∀ m ∈ r.1, m.var.dom ≠ sName ∧ m.var.dom ≠ wName) (a : Var → β) :
    (∃ a', (∀ v : Var, v.dom ≠ sName → v.dom ≠ wName → a' v = a v) ∧
        GadgetSat (compl := compl) a' n (fwd sName n) (fwd wName n) Rs) ↔
    (∃ a'', (∀ v : Var, v.dom ≠ sName → a'' v = a v) ∧
        EqualSat compl a'' (fwd sName n :: Rs.map regionOf)) :=
  Des.signal_gadget_equiv hcc n sName wName hne Rs hlen hfresh a

/-- the connector structures are read off the document: for a signal block of the tree, the structure
    lines `S-_Self` and `S-<port>` with the positions the document lays onto them say exactly `GadgetSat`
    over `fwd S`, `fwd S-_WC` and the ports' nucleotides -/
theorem connector_is_gadget (inst : Inst) (ok : BlocksOk (blocksInst inst)) (pfx sg : String) (len : Nat)
    (es : List SigEntry) (hb : Block.signal pfx sg len es ∈ blocksInst inst) (a : Var → Base) :
    (∀ s ∈ structLines (signalDoc pfx sg len es), PairSat Base.compl a s.2 (desPositions (desDoc inst) s.1)) ↔
    GadgetSat (compl := Base.compl) a len (fwd (pfx ++ sg) len) (fwd (wcName pfx sg) len)
      (es.map (fun e => (portNucs pfx len e, e.wc))) :=
  gadget_of_block ok hb a

/-- **A connector is written once, the complementary one of a port bound both ways as `…-_rc`.**  `System.output_nupack` keeps a `done` set: of the entries of one signal that share connector name
    (`<instance>-<port>`) and orientation (`wc`) only the first is written.  For every signal block, unconditionally:
    the connector lines of `signalDoc pfx sg len es` are those of a sub-list `kept` of the entry table (same order)
    whose (connector name, orientation) pairs are pairwise distinct and which represents every entry; the connector
    of a kept entry `e` is called `<signal>-<instance>-<port>` followed by `Sys.rcSuffix es e`, which is `-_rc` if
    `e` is a complementary binding and some entry of the (full) table binds the same port plainly, and empty
    otherwise (`rcSuffix_spec`). -/
theorem connectors_written_once_keys (pfx sg : String) (len : Nat) (es : List SigEntry) :
    ∃ kept : List SigEntry, kept.Sublist es ∧
      (kept.map (fun e => (e.connName, e.wc))).Nodup ∧
      (∀ e ∈ es, ∃ e' ∈ kept, e'.connName = e.connName ∧ e'.wc = e.wc) ∧
      structLines (signalDoc pfx sg len es) =
        (pfx ++ sg ++ "-_Self", duplex len) ::
        kept.map (fun e => (pfx ++ sg ++ "-" ++ e.connName ++ rcSuffix es e, duplex len)) ∧
      assignLines (signalDoc pfx sg len es) =
        (pfx ++ sg ++ "-_Self", [⟨wcName pfx sg, false⟩, ⟨pfx ++ sg, false⟩]) ::
        kept.map (fun e => (pfx ++ sg ++ "-" ++ e.connName ++ rcSuffix es e,
          (⟨if e.wc then pfx ++ sg else wcName pfx sg, false⟩ : Item) :: (portItems pfx e).2)) :=
  ⟨dedupEntries es, dedupEntries_sublist es, dedupEntries_keys_nodup es, fun _ he => dedupEntries_cover he,
    by simp only [structLines_signalDoc, portItems_fst_connName],
    by simp only [assignLines_signalDoc, portItems_fst_connName]⟩

theorem rcSuffix_spec (es : List SigEntry) (e : SigEntry) :
    rcSuffix es e = if e.wc = true ∧ ∃ e' ∈ es, e'.connName = e.connName ∧ e'.wc = false then "-_rc" else "" := by
  split
  · rename_i h; exact rcSuffix_eq_rc h
  · rename_i h; exact rcSuffix_eq_empty h

/-- For every signal block, the structure names of `signalDoc pfx sg len es` (`S-_Self`, the connectors
    `S-<instance>-<port>` and, for a port bound both ways, `S-<instance>-<port>-_rc`) are pairwise distinct **iff** no
    port that the signal binds in both orientations (`e` starred, `e₀` plain, same connector name) has a sibling entry
    `e'` whose own connector name is that name followed by `-_rc`.  The side condition is exact; it can fail because
    sequence names of components may contain `-` and `_` (`exRcClash` below).  One port bound to one signal both
    plainly and starred does not give two connectors of one name (the `-_rc` suffix), nor does a port bound twice in
    the same orientation (an input that is also an output, `examples/David_CRN/Oscillator.sys`; the `done` set). -/
theorem connectors_written_once (pfx sg : String) (len : Nat) (es : List SigEntry) :
    ((structLines (signalDoc pfx sg len es)).map (·.1)).Nodup ↔
      ∀ e ∈ es, ∀ e₀ ∈ es, ∀ e' ∈ es, e.wc = true → e₀.wc = false → e₀.connName = e.connName →
        e'.connName ≠ e.connName ++ "-_rc" := by
  rw [show (structLines (signalDoc pfx sg len es)).map (·.1) = LoadInv.asgN (.signal pfx sg len es) from
    Des.structNames_block (.signal pfx sg len es), LoadInv.asgN_signal, ← Des.connTails_nodup_iff]
  constructor
  · intro h
    exact (List.nodup_cons.1 (List.Pairwise.of_map _ (fun a b hne hab => hne (by rw [hab])) h)).2
  · intro h
    exact nodup_map_inj_on (fun a _ b _ e => (String.append_right_inj _).1 ((String.append_right_inj _).1 e))
      (List.nodup_cons.2 ⟨LoadInv.self_notin_tails es, h⟩)

theorem connectors_written_once_of_no_rc (pfx sg : String) (len : Nat) (es : List SigEntry)
    (h : ∀ e ∈ es, ∀ s : String, e.connName ≠ s ++ "-_rc") :
    ((structLines (signalDoc pfx sg len es)).map (·.1)).Nodup :=
  (connectors_written_once pfx sg len es).2 (fun e _ _ _ e' he' _ _ _ => h e' he' e.connName)

/-- on a table in which the entries of one connector name have one orientation — in particular pairwise distinct
    connector names, which is what `Sys.loadFile` produces from sources satisfying `DesNamesOk`
    (`LoadInv.connNames_nodup`) — no suffix is written and the structure names are pairwise distinct -/
theorem connectors_plain_of_consistent (pfx sg : String) (len : Nat) (es : List SigEntry)
    (h : ∀ e ∈ es, ∀ e' ∈ es, e.connName = e'.connName → e.wc = e'.wc) :
    (∀ e ∈ es, rcSuffix es e = "") ∧ ((structLines (signalDoc pfx sg len es)).map (·.1)).Nodup :=
  ⟨fun _ he => rcSuffix_of_consistent h he,
   (connectors_written_once pfx sg len es).2 ((connTails_nodup_iff es).1 (connTails_nodup_of_consistent h))⟩

/-- every solution of the document is, unchanged, a solution of the design (the document forces no fewer
    constraints than the program) -/
theorem des_no_fewer (inst : Inst) (ok : BlocksOk (blocksInst inst)) (tbl : CodeTable) (a : Var → Base)
    (h : SatDes tbl (desDoc inst) a) : Des.Sat tbl (designOf inst) a :=
  satDes_sat tbl ok h

/-- every solution of the design — signals included — becomes a solution of the document by setting each
    auxiliary `S-_WC` to the reverse complement of `S` and changing nothing else (the document forces no
    more constraints than the program) -/
theorem des_no_more (inst : Inst) (ok : BlocksOk (blocksInst inst)) (tbl : CodeTable)
    (hN : ∀ b, allows tbl 'N' b) (a : Var → Base) (h : Des.Sat tbl (designOf inst) a) :
    SatDes tbl (desDoc inst) (fixW (blocksInst inst) a) ∧
    ∀ q ∈ (designOf inst).domains, ∀ k, fixW (blocksInst inst) a ⟨q.1, k⟩ = a ⟨q.1, k⟩ :=
  ⟨sat_satDes tbl hN ok h, fun _ hq _ => fixW_domain ok a hq rfl⟩

/-- **`des_equiv`, relative to the object tables.**  For every instance tree — any nesting depth,
    any number of signals — that satisfies the decidable consistency condition `BlocksOk` (sequence,
    structure and strand names distinct across the tree; every structure made of its component's strands
    and emitted sequences; every bound port of the signal's length and made of program domains; entries of one
    signal with equal connector name and orientation are the same entry), every
    code table in which `N` allows every base, and every assignment `a` of the program's own domain
    variables: `a` extends to the signal and auxiliary sequences so as to satisfy the document  **iff**
    `a` extends to the signal sequences so as to satisfy the design of the tables.
    Neither M1 nor M2 (head of the file) is used here. -/
theorem des_equiv_partial (inst : Inst) (ok : BlocksOk (blocksInst inst)) (tbl : CodeTable)
    (hN : ∀ b, allows tbl 'N' b) (a : Var → Base) :
    (∃ a', (∀ v : Var, v.dom ∈ progDomains inst → a' v = a v) ∧ SatDes tbl (desDoc inst) a') ↔
    (∃ a'', (∀ v : Var, v.dom ∈ progDomains inst → a'' v = a v) ∧ Des.Sat tbl (designOf inst) a'') := by
  constructor
  · rintro ⟨a', hag, h⟩
    exact ⟨a', hag, satDes_sat tbl ok h⟩
  · rintro ⟨a'', hag, h⟩
    refine ⟨fixW (blocksInst inst) a'', ?_, sat_satDes tbl hN ok h⟩
    intro v hv
    obtain ⟨q, hq, e⟩ := compDomains_sub hv
    rw [fixW_domain ok a'' hq e]; exact hag v hv

/-- a single component (no signals, no auxiliary sequences): the document and the design have the very
    same solutions -/
theorem des_equiv_component (st : Comp.St) (ok : BlocksOk [Block.comp st]) (tbl : CodeTable)
    (a : Var → Base) : SatDes tbl (compDoc st) a ↔ Des.Sat tbl (compDesign st) a := by
  have hd : docOf [Block.comp st] = compDoc st := List.append_nil _
  have hD : designOfBlocks [Block.comp st] = compDesign st := by simp [designOfBlocks, blockDesign]
  -- no signal block: `satDes_iff` has no side condition
  rw [← hd, ← hD, satDes_iff ok (fun _ _ _ _ => rfl) tbl]
  exact and_iff_left fun b hb => List.mem_singleton.1 hb ▸ ⟨trivial, fun _ hp => nomatch hp⟩

section of_load
open Pepper.LoadInv

/-- **M1**: the instance tree of every successful `loadFile` — from a bundle whose sources satisfy
    the name hypotheses `DesNamesOk` — satisfies `BlocksOk` -/
theorem blocksOk_of_load {b : Bundle} (hb : DesNamesOk b) {fuel : Nat} {base : String} {args : Nat}
    {argKey pfx path : String} {includes : List String} {anon : Nat} {inst : Inst} {a' : Nat}
    (hload : Sys.loadFile b fuel base args argKey pfx path includes anon = .ok (inst, a')) :
    BlocksOk (blocksInst inst) :=
  loadFile_blocksOk hb hload

/-- **`des_equiv` for one component.**  For every component source the compiler accepts (with
    C01's hypotheses: `UserNamesOk`, `CodesOk tbl`): the specification `Denote.denoteComp` accepts the source,
    and an assignment satisfies the emitted `.des` document **iff** it satisfies the design the *source*
    denotes.  No hypothesis on the tables: `BlocksOk` comes from `LoadInv.comp_blocksOk`, the step from the
    tables to the source from the refinement of one component (`LoadInv.comp_sat_iff`: `DesSys.comp_satEq` →
    `SysProofs.comp_inst` → `Comp.load_refines` + `Comp.Agree.design`; no PIL is read back, `CodesOk` is not used). -/
theorem des_equiv_component_of_load (tbl : CodeTable) {src : Comp.Src} {n : Nat} {pfx : String} {a : Nat}
    {st : Comp.St} {a' : Nat} (hload : Comp.load src n pfx a = .ok (st, a'))
    (hnames : UserNamesOk src = true) (hcodes : CodesOk tbl src = true) :
    ∃ o ports, Denote.denoteComp src pfx a = .ok (o, ports, a') ∧
      ∀ asg : Var → Base, SatDes tbl (compDoc st) asg ↔ Des.Sat tbl (o.design []) asg := by
  obtain ⟨o, ports, hden, hsat⟩ := comp_sat_iff tbl hload hnames hcodes
  refine ⟨o, ports, hden, fun asg => ?_⟩
  exact (des_equiv_component st (comp_blocksOk hload (stmtNamesOk_of_user hnames)) tbl asg).trans (hsat asg)

theorem des_no_fewer_no_more_of_load {b : Bundle} (hb : DesNamesOk b) {fuel : Nat} {base : String} {args : Nat}
    {argKey pfx path : String} {includes : List String} {anon : Nat} {inst : Inst} {a' : Nat}
    (hload : Sys.loadFile b fuel base args argKey pfx path includes anon = .ok (inst, a')) (tbl : CodeTable)
    (hN : ∀ b, allows tbl 'N' b) (a : Var → Base) :
    (SatDes tbl (desDoc inst) a → Des.Sat tbl (designOf inst) a) ∧
    (Des.Sat tbl (designOf inst) a → SatDes tbl (desDoc inst) (fixW (blocksInst inst) a) ∧
      ∀ q ∈ (designOf inst).domains, ∀ k, fixW (blocksInst inst) a ⟨q.1, k⟩ = a ⟨q.1, k⟩) :=
  ⟨des_no_fewer inst (blocksOk_of_load hb hload) tbl a, des_no_more inst (blocksOk_of_load hb hload) tbl hN a⟩

/-- **`des_equiv` for instance trees, M2 a hypothesis.**  For every bundle satisfying
    `DesNamesOk`, every tree `loadFile` returns for it, every code table in which `N` allows every base and every
    design `d` with the same solutions as the design of the tables (`hM2`): an assignment `a` of the program's
    own domain variables extends to the signal and auxiliary sequences so as to satisfy the document **iff** it
    extends to the signal sequences so as to satisfy `d`. -/
theorem des_equiv_of_load_partial {b : Bundle} (hb : DesNamesOk b) {fuel : Nat} {base : String} {args : Nat}
    {argKey pfx path : String} {includes : List String} {anon : Nat} {inst : Inst} {a' : Nat}
    (hload : Sys.loadFile b fuel base args argKey pfx path includes anon = .ok (inst, a')) (tbl : CodeTable)
    (hN : ∀ b, allows tbl 'N' b) (d : Design) (hM2 : ∀ asg, Des.Sat tbl (designOf inst) asg ↔ Des.Sat tbl d asg)
    (a : Var → Base) :
    (∃ a', (∀ v : Var, v.dom ∈ progDomains inst → a' v = a v) ∧ SatDes tbl (desDoc inst) a') ↔
    (∃ a'', (∀ v : Var, v.dom ∈ progDomains inst → a'' v = a v) ∧ Des.Sat tbl d a'') :=
  (des_equiv_partial inst (blocksOk_of_load hb hload) tbl hN a).trans
    (exists_congr fun a'' => and_congr_right fun _ => hM2 a'')

/-- **M2 for instance trees of any depth**: for every bundle whose sources satisfy the names-only
    hypotheses of C02 (`bundleNamesOk`: `UserNamesOk` for component sources; instance names without `-` and signal
    names non-empty, not ending in `*`, without `-` for system sources) and every tree `loadFile` returns for it,
    the specification `Denote.denoteFile` accepts the same sources, consuming the same anonymous-sequence numbers,
    and — for every code table — an assignment satisfies the design read off the object tables **iff** it
    satisfies the design `d` the *sources* denote. -/
theorem designOf_sat_iff_of_load {b : Bundle} (hb : SysProofs.bundleNamesOk b = true) {fuel : Nat} {base : String}
    {args : Nat} {argKey pfx path : String} {includes : List String} {anon : Nat} {inst : Inst} {a' : Nat}
    (hload : Sys.loadFile b fuel base args argKey pfx path includes anon = .ok (inst, a')) :
    ∃ d ports, Denote.denoteFile b fuel base args argKey pfx path includes anon = .ok (d, ports, a') ∧
      ∀ (tbl : CodeTable) (asg : Var → Base), Des.Sat tbl (designOf inst) asg ↔ Des.Sat tbl d asg :=
  DesSys.tree_sat_iff hb hload

/-- **`des_equiv`.**  For every bundle of sources satisfying the name hypotheses `DesNamesOk` (M1) and
    `bundleNamesOk` (M2), every program `Sys.loadFile` accepts for it — a component, a system, a system of systems
    to any depth, any number of signals — with instance tree `inst`: the specification `Denote.denoteFile`
    accepts the same sources and assigns them a design `d` (consuming the same anonymous-sequence numbers), and for
    every code table in which `N` allows every base and every assignment `a` of the program's own domain
    variables: `a` extends to the signal sequences `S` and the auxiliary sequences `S-_WC` so as to satisfy the
    emitted `.des` document  **iff**  `a` extends to the signal sequences so as to satisfy the design `d` the
    *source* denotes.  No hypothesis on the object tables (`BlocksOk` is `blocksOk_of_load`) and none relating the
    tables to the source (`designOf_sat_iff_of_load`). -/
theorem des_equiv_of_load {b : Bundle} (hb : DesNamesOk b) (hb2 : SysProofs.bundleNamesOk b = true) {fuel : Nat}
    {base : String} {args : Nat} {argKey pfx path : String} {includes : List String} {anon : Nat} {inst : Inst}
    {a' : Nat} (hload : Sys.loadFile b fuel base args argKey pfx path includes anon = .ok (inst, a')) :
    ∃ d ports, Denote.denoteFile b fuel base args argKey pfx path includes anon = .ok (d, ports, a') ∧
      ∀ (tbl : CodeTable), (∀ x, allows tbl 'N' x) → ∀ a : Var → Base,
        (∃ a', (∀ v : Var, v.dom ∈ progDomains inst → a' v = a v) ∧ SatDes tbl (desDoc inst) a') ↔
        (∃ a'', (∀ v : Var, v.dom ∈ progDomains inst → a'' v = a v) ∧ Des.Sat tbl d a'') := by
  obtain ⟨d, ports, hd, hM2⟩ := designOf_sat_iff_of_load hb2 hload
  exact ⟨d, ports, hd, fun tbl hN a => des_equiv_of_load_partial hb hload tbl hN d (hM2 tbl) a⟩

/-- the same for a whole compilation unit, as the tool chain runs it (`entry` file, fuel 32, empty prefix): the
    design is `Denote.denoteTop` of the sources -/
theorem des_equiv_top {b : Bundle} (hb : DesNamesOk b) (hb2 : SysProofs.bundleNamesOk b = true) {entry : String}
    {args : Nat} {includes : List String} {anon : Nat} {inst : Inst} {a' : Nat}
    (hload : Sys.loadFile b 32 entry args "@" "" "." includes anon = .ok (inst, a')) :
    ∃ d, Denote.denoteTop b entry args includes anon = .ok d ∧
      ∀ (tbl : CodeTable), (∀ x, allows tbl 'N' x) → ∀ a : Var → Base,
        (∃ a', (∀ v : Var, v.dom ∈ progDomains inst → a' v = a v) ∧ SatDes tbl (desDoc inst) a') ↔
        (∃ a'', (∀ v : Var, v.dom ∈ progDomains inst → a'' v = a v) ∧ Des.Sat tbl d a'') := by
  obtain ⟨d, ports, hd, h⟩ := des_equiv_of_load hb hb2 hload
  refine ⟨d, ?_, h⟩
  simp [Denote.denoteTop, hd, Except.map]

theorem des_equiv_of_load_checked {b : Bundle} (hb : DesSys.desBundleOk b = true) {fuel : Nat}
    {base : String} {args : Nat} {argKey pfx path : String} {includes : List String} {anon : Nat} {inst : Inst}
    {a' : Nat} (hload : Sys.loadFile b fuel base args argKey pfx path includes anon = .ok (inst, a')) :
    ∃ d ports, Denote.denoteFile b fuel base args argKey pfx path includes anon = .ok (d, ports, a') ∧
      ∀ (tbl : CodeTable), (∀ x, allows tbl 'N' x) → ∀ a : Var → Base,
        (∃ a', (∀ v : Var, v.dom ∈ progDomains inst → a' v = a v) ∧ SatDes tbl (desDoc inst) a') ↔
        (∃ a'', (∀ v : Var, v.dom ∈ progDomains inst → a'' v = a v) ∧ Des.Sat tbl d a'') :=
  des_equiv_of_load (DesSys.desBundleOk_names hb) (DesSys.desBundleOk_bundle hb) hload

end of_load

/-- in the generated DNA table `N` allows every base (hypothesis `hN` above) -/
theorem dna_N_allows_all : ∀ b, allows Generated.dnaTable 'N' b := by
  intro b; cases b <;> decide

/-! ### non-vacuity: a two-instance system with one starred binding -/

/-- template: `sequence x = 2N`, `sequence y = 2N`, strands `s1 = x`, `s2 = y`, structure `d = s1 + s2 : ((+))`,
    the second instance with a no-opt structure -/
def exComp (pfx : String) (opt : Dec) : Comp.St :=
  { name := "T", pfx := pfx,
    seqs := [⟨"x", false, false, 2, ['N', 'N'], [], [⟨"x", false, 2⟩], true⟩,
             ⟨"y", false, false, 2, ['S', 'N'], [], [⟨"y", false, 2⟩], true⟩,
             ⟨"z", false, false, 0, [], [], [⟨"z", false, 0⟩], true⟩],
    strands := [⟨"s1", false, 2, [⟨"x", false, 2, false⟩], [⟨"x", false, 2⟩], true⟩,
                ⟨"s2", false, 2, [⟨"y", true, 2, false⟩, ⟨"z", false, 0, false⟩], [⟨"y", true, 2⟩, ⟨"z", false, 0⟩], true⟩],
    structs := [⟨"d", opt, ["s1", "s2"], "((+))".toList, [⟨"x", false, 2⟩, ⟨"y", true, 2⟩, ⟨"z", false, 0⟩]⟩],
    outputSeqs := [⟨"x", false, 2, false⟩], outputStructs := [none] }

/-- `a = T(...) -> q`, `b = T(...) -> q*`: signal `q` is `a-x` and the reverse complement of `b-x` -/
def exSys : Inst :=
  .sys (.mk "." "top" "" [("T", "T")]
    [("q", [⟨.seq ⟨"x", false, 2, false⟩ [⟨"x", false, 2⟩], "a", false⟩,
            ⟨.seq ⟨"x", false, 2, false⟩ [⟨"x", false, 2⟩], "b", true⟩])]
    [("q", 2)]
    [("a", .comp (exComp "a-" ⟨['1'], []⟩)), ("b", .comp (exComp "b-" ⟨['0'], []⟩))] [] [⟨"q", false⟩])

example : desDoc exSys = [
    .struct "a-d" "((+))".toList, .seq "a-x" "NN".toList, .seq "a-y" "SN".toList,
    .assign "a-d" [⟨"a-x", false⟩, ⟨"a-y", true⟩], .bound "a-d" "1.000000",
    .struct "b-d" "((+))".toList, .seq "b-x" "NN".toList, .seq "b-y" "SN".toList,
    .assign "b-d" [⟨"b-x", false⟩, ⟨"b-y", true⟩],
    .seq "q" "NN".toList, .seq "q-_WC" "NN".toList,
    .struct "q-_Self" "((+))".toList, .assign "q-_Self" [⟨"q-_WC", false⟩, ⟨"q", false⟩],
    .struct "q-a-x" "((+))".toList, .assign "q-a-x" [⟨"q-_WC", false⟩, ⟨"a-x", false⟩],
    .struct "q-b-x" "((+))".toList, .assign "q-b-x" [⟨"q", false⟩, ⟨"b-x", false⟩]] := by decide +kernel

example : (desDoc exSys).map Line.render = Sys.emitDesInst exSys := by decide +kernel

/-- the hypotheses of the theorems hold for it -/
example : BlocksOk (blocksInst exSys) := by decide +kernel
example : wellFormed (desDoc exSys) = true := by decide +kernel

/-- the name hypotheses of `blocksOk_of_load` are satisfiable: the sources of `exSys` -/
def exTopSrc : SSrc :=
  { name := "top", params := [], inputs := [], outputs := [⟨"q", false⟩],
    stmts := [.imports [("T", none)], .component "a" "T" 0 [] [⟨"q", false⟩], .component "b" "T" 0 [] [⟨"q", true⟩]] }
def exTSrc : Comp.Src :=
  { name := "T", params := [], inputs := [], outputs := [⟨"x", false, none⟩],
    stmts := [.seq "x" [.nuc "2N".toList] none, .seq "y" [.nuc "S N".toList] none, .seq "z" [.nuc "".toList] none,
              .strand false "s1" [.ref "x" false] none, .strand false "s2" [.ref "y" true, .ref "z" false] none,
              .struct .default "d" ["s1", "s2"] false "((+))".toList] }
example : LoadInv.SysNamesOk exTopSrc = true := by decide +kernel
example : LoadInv.StmtNamesOk exTSrc = true ∧ LoadInv.PortsDistinct exTSrc = true := by decide +kernel
/-- `des_equiv_component_of_load` applies to `exTSrc`: the compiler accepts it under prefix `a-`, its document is
    that of the first instance of `exSys`, and C01's hypotheses hold -/
example : (Comp.load exTSrc 0 "a-" 0).toOption.map (fun r => compDoc r.1) =
    some (compDoc (exComp "a-" ⟨['1'], []⟩)) := by decide +kernel
example : UserNamesOk exTSrc = true ∧ CodesOk Generated.dnaTable exTSrc = true := by decide +kernel
/-- the hypothesis of `des_equiv_of_load_checked` (hence both hypotheses of `des_equiv_of_load`) holds for the
    bundle of these sources -/
def exBundle : Bundle :=
  { files := [("top.sys@", .sys exTopSrc), ("T.comp@a", .comp exTSrc), ("T.comp@b", .comp exTSrc)],
    exists_ := ["top.sys", "T.comp"] }
example : DesSys.desBundleOk exBundle = true := by decide +kernel
example : LoadInv.DesNamesOk exBundle ∧ SysProofs.bundleNamesOk exBundle = true :=
  ⟨DesSys.desBundleOk_names (by decide +kernel), DesSys.desBundleOk_bundle (by decide +kernel)⟩
/-- … and they are needed: a dash in an instance name, a signal named like an instance -/
example : LoadInv.SysNamesOk { exTopSrc with stmts := [.component "a-b" "T" 0 [] []] } = false := by decide +kernel
example : LoadInv.SysNamesOk { exTopSrc with stmts := [.component "q" "T" 0 [] [⟨"q", false⟩]] } = false := by decide +kernel

/-- positions: the zero-length `z` contributes nothing, the reversed `y` is laid down as `rc` -/
example : desPositions (desDoc exSys) "a-d" =
    [⟨⟨"a-x", 0⟩, false⟩, ⟨⟨"a-x", 1⟩, false⟩, ⟨⟨"a-y", 1⟩, true⟩, ⟨⟨"a-y", 0⟩, true⟩] := by decide +kernel
example : designPositions (designOf exSys) "a-d" = desPositions (desDoc exSys) "a-d" := by decide +kernel

/-- the links of the connector: `q-_WC` against `q` and `a-x` (equal binding), `q` against `b-x` (starred) -/
example : desLinks (desDoc exSys) = [
    (⟨⟨"a-x", 1⟩, false⟩, ⟨⟨"a-y", 1⟩, true⟩), (⟨⟨"a-x", 0⟩, false⟩, ⟨⟨"a-y", 0⟩, true⟩),
    (⟨⟨"b-x", 1⟩, false⟩, ⟨⟨"b-y", 1⟩, true⟩), (⟨⟨"b-x", 0⟩, false⟩, ⟨⟨"b-y", 0⟩, true⟩),
    (⟨⟨"q-_WC", 1⟩, false⟩, ⟨⟨"q", 0⟩, false⟩), (⟨⟨"q-_WC", 0⟩, false⟩, ⟨⟨"q", 1⟩, false⟩),
    (⟨⟨"q-_WC", 1⟩, false⟩, ⟨⟨"a-x", 0⟩, false⟩), (⟨⟨"q-_WC", 0⟩, false⟩, ⟨⟨"a-x", 1⟩, false⟩),
    (⟨⟨"q", 1⟩, false⟩, ⟨⟨"b-x", 0⟩, false⟩), (⟨⟨"q", 0⟩, false⟩, ⟨⟨"b-x", 1⟩, false⟩)] := by decide +kernel

example : (designOf exSys).equals = [[fwd "q" 2, fwd "a-x" 2, rc (fwd "b-x" 2)]] := by decide +kernel

/-! ### non-vacuity of the `done` set: one port bound to a signal as an input and as an output -/

/-- `exSys` with `a = T(q) -> q`: port `x` of instance `a` is bound to `q` twice, in the same orientation (the
    situation of `examples/David_CRN/Oscillator.sys`) -/
def exDup : Inst :=
  .sys (.mk "." "top" "" [("T", "T")]
    [("q", [⟨.seq ⟨"x", false, 2, false⟩ [⟨"x", false, 2⟩], "a", false⟩,
            ⟨.seq ⟨"x", false, 2, false⟩ [⟨"x", false, 2⟩], "b", true⟩,
            ⟨.seq ⟨"x", false, 2, false⟩ [⟨"x", false, 2⟩], "a", false⟩])]
    [("q", 2)]
    [("a", .comp (exComp "a-" ⟨['1'], []⟩)), ("b", .comp (exComp "b-" ⟨['0'], []⟩))] [] [⟨"q", false⟩])

/-- the connector `q-a-x` is listed once -/
example : signalDoc "" "q" 2
    [⟨.seq ⟨"x", false, 2, false⟩ [⟨"x", false, 2⟩], "a", false⟩,
     ⟨.seq ⟨"x", false, 2, false⟩ [⟨"x", false, 2⟩], "b", true⟩,
     ⟨.seq ⟨"x", false, 2, false⟩ [⟨"x", false, 2⟩], "a", false⟩] = [
    .seq "q" "NN".toList, .seq "q-_WC" "NN".toList,
    .struct "q-_Self" "((+))".toList, .assign "q-_Self" [⟨"q-_WC", false⟩, ⟨"q", false⟩],
    .struct "q-a-x" "((+))".toList, .assign "q-a-x" [⟨"q-_WC", false⟩, ⟨"a-x", false⟩],
    .struct "q-b-x" "((+))".toList, .assign "q-b-x" [⟨"q", false⟩, ⟨"b-x", false⟩]] := by decide +kernel
/-- the document of `exDup` is that of `exSys`, the lines `Sys.emitDesInst` prints; the design keeps all three
    regions -/
example : desDoc exDup = desDoc exSys := by decide +kernel
example : (desDoc exDup).map Line.render = Sys.emitDesInst exDup := by decide +kernel
example : (designOf exDup).equals = [[fwd "q" 2, fwd "a-x" 2, rc (fwd "b-x" 2), fwd "a-x" 2]] := by decide +kernel
/-- the hypotheses of the theorems hold for it (the repeated entries are the same entry), the document is well
    formed, and the side condition of `connectors_written_once` holds -/
example : BlocksOk (blocksInst exDup) := by decide +kernel
example : wellFormed (desDoc exDup) = true := by decide +kernel
example : ((structLines (desDoc exDup)).map (·.1)).Nodup := by decide +kernel
/-- the second clause of `BlockOk` for signals is needed: two different ports under one connector name (a
    super-sequence `x = y` and a sequence `x` of instance `a`) satisfy every other clause of `BlocksOk`, but the
    document mentions only the first (`q-a-x : q-_WC a-y`) while the design equates `q` with both -/
def exClash : List Block :=
  [Block.comp { (exComp "a-" ⟨['1'], []⟩) with structs := [], strands := [] },
   Block.signal "" "q" 2 [⟨.seq ⟨"x", false, 2, true⟩ [⟨"y", false, 2⟩], "a", false⟩,
                          ⟨.seq ⟨"x", false, 2, false⟩ [⟨"x", false, 2⟩], "a", false⟩]]
example : ¬ BlocksOk exClash := by decide +kernel
example : ((seqLines (docOf exClash)).map (·.1)).Nodup ∧ ((assignLines (docOf exClash)).map (·.1)).Nodup ∧
    ((designOfBlocks exClash).strands.map (·.1)).Nodup ∧
    ∀ e ∈ [(⟨.seq ⟨"x", false, 2, true⟩ [⟨"y", false, 2⟩], "a", false⟩ : SigEntry),
           ⟨.seq ⟨"x", false, 2, false⟩ [⟨"x", false, 2⟩], "a", false⟩],
      EntryOk (designOfBlocks exClash).domains "" 2 e := by decide +kernel
example : assignLines (docOf exClash) =
    [("q-_Self", [⟨"q-_WC", false⟩, ⟨"q", false⟩]), ("q-a-x", [⟨"q-_WC", false⟩, ⟨"a-y", false⟩])] ∧
    (designOfBlocks exClash).equals = [[fwd "q" 2, fwd "a-y" 2, fwd "a-x" 2]] := by decide +kernel
/-! ### non-vacuity of the `-_rc` suffix: one port bound to a signal plainly and starred -/

/-- `exSys` with `a = T(q*) -> q`: port `x` of instance `a` is bound to `q` plainly and starred -/
def exBoth : Inst :=
  .sys (.mk "." "top" "" [("T", "T")]
    [("q", [⟨.seq ⟨"x", false, 2, false⟩ [⟨"x", false, 2⟩], "a", true⟩,
            ⟨.seq ⟨"x", false, 2, false⟩ [⟨"x", false, 2⟩], "a", false⟩])]
    [("q", 2)]
    [("a", .comp (exComp "a-" ⟨['1'], []⟩))] [] [⟨"q", false⟩])

/-- one port bound plainly and starred: both connectors are written, they are called `q-a-x` and `q-a-x-_rc`, and
    the structure names are pairwise distinct -/
example : (structLines (signalDoc "" "q" 2
    [⟨.seq ⟨"x", false, 2, false⟩ [⟨"x", false, 2⟩], "a", false⟩,
     ⟨.seq ⟨"x", false, 2, false⟩ [⟨"x", false, 2⟩], "a", true⟩])).map (·.1) = ["q-_Self", "q-a-x", "q-a-x-_rc"] ∧
  ((structLines (signalDoc "" "q" 2
    [⟨.seq ⟨"x", false, 2, false⟩ [⟨"x", false, 2⟩], "a", false⟩,
     ⟨.seq ⟨"x", false, 2, false⟩ [⟨"x", false, 2⟩], "a", true⟩])).map (·.1)).Nodup := by decide +kernel
/-- the document of `exBoth` renders to the expected lines (the starred binding comes first in the table and is the
    one renamed), which are the lines `Sys.emitDesInst` prints -/
example : (desDoc exBoth).map Line.render = [
    "structure a-d = ((+))", "sequence a-x = NN", "sequence a-y = SN", "a-d : a-x a-y*", "a-d < 1.000000",
    "sequence q = NN", "sequence q-_WC = NN",
    "structure q-_Self = ((+))", "q-_Self : q-_WC q",
    "structure q-a-x-_rc = ((+))", "q-a-x-_rc : q a-x",
    "structure q-a-x = ((+))", "q-a-x : q-_WC a-x"] := by decide +kernel
example : (desDoc exBoth).map Line.render = Sys.emitDesInst exBoth := by decide +kernel
/-- the hypotheses of the `BlocksOk`-relative theorems hold for it and the document is well formed -/
example : BlocksOk (blocksInst exBoth) := by decide +kernel
example : wellFormed (desDoc exBoth) = true := by decide +kernel
example : (designOf exBoth).equals = [[fwd "q" 2, rc (fwd "a-x" 2), fwd "a-x" 2]] := by decide +kernel
/-- the side condition of `connectors_written_once` is needed: a third port whose sequence is called `x-_rc` (a
    legal sequence name) takes the name of the renamed connector -/
def exRcClash : List SigEntry :=
  [⟨.seq ⟨"x", false, 2, false⟩ [⟨"x", false, 2⟩], "a", false⟩,
   ⟨.seq ⟨"x", false, 2, false⟩ [⟨"x", false, 2⟩], "a", true⟩,
   ⟨.seq ⟨"x-_rc", false, 2, false⟩ [⟨"x-_rc", false, 2⟩], "a", false⟩]
example : (structLines (signalDoc "" "q" 2 exRcClash)).map (·.1) = ["q-_Self", "q-a-x", "q-a-x-_rc", "q-a-x-_rc"] ∧
    ¬ ((structLines (signalDoc "" "q" 2 exRcClash)).map (·.1)).Nodup := by decide +kernel

/-- the equivalence applies to it, with the generated table -/
example (a : Var → Base) :
    (∃ a', (∀ v : Var, v.dom ∈ ["a-x", "a-y", "b-x", "b-y"] → a' v = a v) ∧ SatDes Generated.dnaTable (desDoc exSys) a') ↔
    (∃ a'', (∀ v : Var, v.dom ∈ ["a-x", "a-y", "b-x", "b-y"] → a'' v = a v) ∧ Des.Sat Generated.dnaTable (designOf exSys) a'') :=
  des_equiv_partial exSys (by decide +kernel) Generated.dnaTable dna_N_allows_all a

end Pepper.C03
