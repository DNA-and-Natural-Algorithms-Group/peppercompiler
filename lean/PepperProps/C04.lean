import PepperProofs.ConstraintGenTotalT
import PepperProofs.ConstraintGenComp
import PepperProofs.ConstraintGenLoad
/-!
# C04 — designer constraint arrays are the exact closure of the specification

Model: `PepperModel/ConstraintGen.lean` (`getConstraints` = `Convert.get_constraints`, both layouts), source
`design/constraint_load.py`.  Specification: `LinkSpec` over `Pil.denote spec` — `ParityReach` / `NucReach` (parity
reachability in the link graph of the design: even link per pair of positions identified by an `equal` line, odd
link per base pair, parity adjusted by the `comp` flags), `okVar` (a base is allowed by the template of a position).

Proved: exactness of the arrays with respect to the link graph the function seeds (`arrays_exact_graph`), the
identification of that graph with the semantic link graph in both directions (`arrays_sound`, `arrays_exact`,
`eq_iff_forced_equal`; `arrays_exact_strand` / `arrays_exact_struct` are `arrays_exact` with the seeds read off the
returned arrays, `getConstraintsT_ok`), both layouts in closed form (`layout_exact_strand`, `layout_exact_struct`).
Documents are those `Pil.load` accepts with the table of the PIL reader.  Not proved: equality with the executable
`specArrays` (`arrays_eq_specArrays_statement`).

From below: `exact_of_load` (ConstraintGenLoad) for the loaded document, then `Seeded.arrays_sound` (ConstraintGenSimT),
`Seeded.arrays_exact`, `eq_iff_forced_equal` (ConstraintGenComp), `Seeded.layout_strand/_struct` (ConstraintGenTotalT).
The statements use `okVar`, `flipB` (PepperProofs/ConstraintGen), `hasB` (ConstraintGenGraph), `SpecWF`, `Placed`, `denS`
(ConstraintGenSim), `denOf`, `offT`, `structNucsM` (ConstraintGenSimT), `SemMin` (ConstraintGenComp), `widthT`
(ConstraintGenTotalT).
-/
namespace Pepper.C04
open Pepper Pepper.Pil Pepper.ConstraintGen Pepper.LinkSpec Pepper.Closure

/-- **Exactness over the seeded graph (both layouts, every lawful table).**  When `get_constraints` returns
    arrays, then with respect to the link graph it seeded (`build s`): the arrays have one common length `n ≤ P`
    and the last index is a position; an index that is not a position holds `None` in all three arrays; for a
    position `i`, `eq[i]` is the lowest position at even parity distance from `i`, `wc[i]` the lowest position at
    odd parity distance (`None` if there is none), and `st[i]` is a code whose set of bases is exactly the set of
    bases allowed by every template at even distance and, complemented, by every template at odd distance; no
    node is at odd distance from itself. -/
theorem arrays_exact_graph {tbl : CodeTable} (hl : tbl.lawful = true) {mode : Layout} {spec : Spec}
    (ok : SpecCodes tbl spec) {s : Seeds} {c : Cons} (hs : seeds mode spec = .ok s) (hb : build s = .ok c)
    {a : Arrays} (ha : getConstraintsT tbl mode spec = .ok a) : GraphExact tbl c s.P a :=
  (arrays_spec hl ok hs hb ha).2

/-- **Soundness, both layouts.**  For a document accepted by the reader and arrays returned by `get_constraints`:
    every non-blank index `i` denotes a nucleotide `m` (`denOf`: the nucleotide of the strand that sits there, see
    `layout_exact_strand`), and
    * the position `eq[i]` carries a nucleotide the design forces *equal* to `m`,
    * the position `wc[i]` (if any) carries a nucleotide the design forces *complementary* to `m`,
    * `st[i]` allows every base that all templates linked to `m` in the design allow (complemented at odd parity).
    So the arrays never claim more than the link closure of the specification.  (The converse inclusions: `arrays_exact`.) -/
theorem arrays_sound {mode : Layout} {stmts : List Stmt} {spec : Spec}
    (hload : Pil.load Generated.nupackTable stmts {} = .ok spec)
    {s : Seeds} {c : Cons} (hs : seeds mode spec = .ok s) (hb : build s = .ok c)
    {a : Arrays} (ha : getConstraints mode spec = .ok a)
    {i : Nat} {ch : Char} (hi : a.2.2[i]? = some (some ch)) :
    ∃ m, denOf mode spec i = some m ∧
      (∀ r, a.1[i]? = some (some r) → ∃ n, denOf mode spec r = some n ∧ NucReach (Pil.denote spec) m false n) ∧
      (∀ w, a.2.1[i]? = some (some w) → ∃ n, denOf mode spec w = some n ∧ NucReach (Pil.denote spec) m true n) ∧
      (∀ b, (∀ v q, ParityReach (Pil.denote spec) m.var q v →
          okVar Generated.pilTable (Pil.denote spec) v (flipB (flipB b m.comp) q)) →
        hasB (Generated.pilTable.maskC ch) b) := by
  obtain ⟨S, _, G⟩ := exact_of_load hload hs hb ha
  obtain ⟨hlt, hk⟩ := key_of_letter G hi
  obtain ⟨m, hm, h1, h2, h3⟩ := Seeded.arrays_sound S pil_N.2 G hlt hk
  exact ⟨m, hm, h1, h2, fun b hb' => h3 ch hi b hb'⟩

/-- **`layout_exact`, strand layout.**  An index below the array length is non-blank exactly when it is
    `start k + x` for a strand `k` and an offset `x` inside it, where `start k` is the sum over the earlier strands
    of (length + `strandGap`) — `strandGap` being the number of blanks measured on the working tree; that index
    then denotes (`denS`, which is `denOf .strand`) the `x`-th nucleotide of strand `k` of the design; and the array
    length is the last such index + 1. -/
theorem layout_exact_strand {stmts : List Stmt} {spec : Spec}
    (hload : Pil.load Generated.nupackTable stmts {} = .ok spec)
    {s : Seeds} {c : Cons} (hs : seeds .strand spec = .ok s) (hb : build s = .ok c)
    {a : Arrays} (ha : getConstraints .strand spec = .ok a) :
    (∀ i, i < a.2.2.length →
      (a.2.2[i]? ≠ some none ↔ ∃ q ∈ enum spec.strands, ∃ x, x < q.2.len ∧
        i = ((spec.strands.take q.1).map (fun o => o.len + Generated.strandGap)).sum + x)) ∧
    (∀ q ∈ enum spec.strands, ∀ x, x < q.2.len →
      denS spec (((spec.strands.take q.1).map (fun o => o.len + Generated.strandGap)).sum + x)
        = (nucsOfBases q.2.bases)[x]? ∧
      ((spec.strands.take q.1).map (fun o => o.len + Generated.strandGap)).sum + x < a.2.2.length) ∧
    a.2.2[a.2.2.length - 1]? ≠ some none := by
  obtain ⟨S, _, G⟩ := exact_of_load hload hs hb ha
  obtain ⟨L1, L2⟩ := S.layout_strand G
  refine ⟨fun i hi => ?_, L2, ?_⟩
  · exact ((and_iff_right hi).symm.trans nbArr_iff.symm).trans (L1 i)
  · have klast : a.1.length - 1 < a.1.length := by have := G.n_pos; omega
    rw [G.len_st, ne_blank_iff_key G klast]
    exact G.last

/-- **C04: the arrays are the exact closure of the specification (both layouts).**  For a document accepted by
    the reader and arrays returned by `get_constraints`, at every non-blank index `i` (template `ch`), with `m` the
    nucleotide that sits at `i` (`denOf`):
    * `eq[i]` is the lowest non-blank index whose nucleotide the design forces *equal* to `m` (`SemMin … false`);
    * `wc[i]` is the lowest non-blank index whose nucleotide the design forces *complementary* to `m`, and `None`
      exactly when there is no such index (`SemMin … true`);
    * the bases of `st[i]` are exactly the bases allowed by every template linked to `m` in the design, complemented
      at odd parity (the intersection, complemented where the orientation is);
    and the three arrays have one length, blank in all three at the same indices.
    "Forces" is parity reachability in the link graph of `Pil.denote spec` (`NucReach`/`ParityReach`).
    `hs`/`hb` name the seeds and the graph; `ha` implies them (`getConstraintsT_ok`, used in `arrays_exact_strand`). -/
theorem arrays_exact {mode : Layout} {stmts : List Stmt} {spec : Spec}
    (hload : Pil.load Generated.nupackTable stmts {} = .ok spec)
    {s : Seeds} {c : Cons} (hs : seeds mode spec = .ok s) (hb : build s = .ok c)
    {a : Arrays} (ha : getConstraints mode spec = .ok a) :
    a.2.1.length = a.1.length ∧ a.2.2.length = a.1.length ∧
    (∀ i : Nat, a.2.2[i]? = some none → a.1[i]? = some none ∧ a.2.1[i]? = some none) ∧
    ∀ (i : Nat) (ch : Char), a.2.2[i]? = some (some ch) →
      ∃ m v w, denOf mode spec i = some m ∧ a.1[i]? = some v ∧ a.2.1[i]? = some w ∧
        SemMin mode spec a m false v ∧ SemMin mode spec a m true w ∧
        (∀ b, hasB (Generated.pilTable.maskC ch) b ↔
          ∀ u q, ParityReach (Pil.denote spec) m.var q u →
            okVar Generated.pilTable (Pil.denote spec) u (flipB (flipB b m.comp) q)) := by
  obtain ⟨S, _, G⟩ := exact_of_load hload hs hb ha
  refine ⟨G.len_wc, G.len_st, ?_, fun i ch hi => Seeded.arrays_exact S pil_N.2 G hi⟩
  intro i hi
  have hlt : i < a.1.length := by rw [← G.len_st]; exact getElem?_lt hi
  have hb := G.blank i hlt ((blank_iff_not_key G hlt).1 hi)
  exact ⟨hb.1, hb.2.1⟩

/-- **C04 for the strand layout, without side conditions**: `arrays_exact`, the seeds read off the returned arrays
    (`getConstraintsT_ok`). -/
theorem arrays_exact_strand {stmts : List Stmt} {spec : Spec}
    (hload : Pil.load Generated.nupackTable stmts {} = .ok spec)
    {a : Arrays} (ha : getConstraints .strand spec = .ok a) :
    a.2.1.length = a.1.length ∧ a.2.2.length = a.1.length ∧
    (∀ i : Nat, a.2.2[i]? = some none → a.1[i]? = some none ∧ a.2.1[i]? = some none) ∧
    ∀ (i : Nat) (ch : Char), a.2.2[i]? = some (some ch) →
      ∃ m v w, denOf .strand spec i = some m ∧ a.1[i]? = some v ∧ a.2.1[i]? = some w ∧
        SemMin .strand spec a m false v ∧ SemMin .strand spec a m true w ∧
        (∀ b, hasB (Generated.pilTable.maskC ch) b ↔
          ∀ u q, ParityReach (Pil.denote spec) m.var q u →
            okVar Generated.pilTable (Pil.denote spec) u (flipB (flipB b m.comp) q)) := by
  obtain ⟨s, c, hs, hb⟩ := getConstraintsT_ok ha
  exact arrays_exact hload hs hb ha

/-- **C04 for the structure layout**: `arrays_exact`, the seeds read off the returned arrays (`getConstraintsT_ok`);
    `hp` is not read. -/
theorem arrays_exact_struct {stmts : List Stmt} {spec : Spec}
    (hload : Pil.load Generated.nupackTable stmts {} = .ok spec) (hp : Placed spec)
    {a : Arrays} (ha : getConstraints .struct spec = .ok a) :
    a.2.1.length = a.1.length ∧ a.2.2.length = a.1.length ∧
    (∀ i : Nat, a.2.2[i]? = some none → a.1[i]? = some none ∧ a.2.1[i]? = some none) ∧
    ∀ (i : Nat) (ch : Char), a.2.2[i]? = some (some ch) →
      ∃ m v w, denOf .struct spec i = some m ∧ a.1[i]? = some v ∧ a.2.1[i]? = some w ∧
        SemMin .struct spec a m false v ∧ SemMin .struct spec a m true w ∧
        (∀ b, hasB (Generated.pilTable.maskC ch) b ↔
          ∀ u q, ParityReach (Pil.denote spec) m.var q u →
            okVar Generated.pilTable (Pil.denote spec) u (flipB (flipB b m.comp) q)) := by
  obtain ⟨s, c, hs, hb⟩ := getConstraintsT_ok ha
  exact arrays_exact hload hs hb ha

/-- **`layout_exact`, structure layout.**  An index below the array length is non-blank exactly when it is
    `start j + offT (strands of structure j) x` for a structure `j` and an offset `x` inside it, where `start j` is
    the sum over the earlier structures of (their strands' lengths + `structGapStrands` blank each +
    `structGapStructs - structGapStrands` more), and `offT` walks the strands of the structure (each followed by
    `structGapStrands` blanks); that index denotes the `x`-th nucleotide of the structure (its strands'
    nucleotides in order). -/
theorem layout_exact_struct {stmts : List Stmt} {spec : Spec}
    (hload : Pil.load Generated.nupackTable stmts {} = .ok spec)
    {s : Seeds} {c : Cons} (hs : seeds .struct spec = .ok s) (hb : build s = .ok c)
    {a : Arrays} (ha : getConstraints .struct spec = .ok a) :
    (∀ i, i < a.2.2.length →
      (a.2.2[i]? ≠ some none ↔ ∃ q ∈ enum spec.structs, ∃ x, x < q.2.len ∧
        i = ((spec.structs.take q.1).map (fun so => widthT (structStrands spec so) +
              (Generated.structGapStructs - Generated.structGapStrands))).sum + offT (structStrands spec q.2) x)) ∧
    (∀ q ∈ enum spec.structs, ∀ x, x < q.2.len →
      denOf .struct spec (((spec.structs.take q.1).map (fun so => widthT (structStrands spec so) +
              (Generated.structGapStructs - Generated.structGapStrands))).sum + offT (structStrands spec q.2) x)
        = (structNucsM spec q.2)[x]?) := by
  obtain ⟨S, _, G⟩ := exact_of_load hload hs hb ha
  obtain ⟨L1, L2⟩ := S.layout_struct G
  exact ⟨fun i hi => ((and_iff_right hi).symm.trans nbArr_iff.symm).trans (L1 i), L2⟩

/-- **Same representative ⟺ forced equal**: two non-blank indices receive the same entry of `eq` exactly when the
    specification forces their nucleotides equal. -/
theorem eq_iff_forced_equal {mode : Layout} {stmts : List Stmt} {spec : Spec}
    (hload : Pil.load Generated.nupackTable stmts {} = .ok spec)
    {s : Seeds} {c : Cons} (hs : seeds mode spec = .ok s) (hb : build s = .ok c)
    {a : Arrays} (ha : getConstraints mode spec = .ok a)
    {i j : Nat} {ci cj : Char} (hi : a.2.2[i]? = some (some ci)) (hj : a.2.2[j]? = some (some cj))
    {m n : Nuc} (hm : denOf mode spec i = some m) (hn : denOf mode spec j = some n) :
    a.1[i]? = a.1[j]? ↔ NucReach (Pil.denote spec) m false n := by
  obtain ⟨S, _, G⟩ := exact_of_load hload hs hb ha
  exact ConstraintGen.eq_iff_forced_equal S pil_N.2 G hi hj hm hn

/-- What is not a theorem: that the returned arrays coincide with the output of the *executable* naive procedure
    `LinkSpec.specArrays` (saturation over the semantic link graph + `lineOf`, the line of nucleotides with blank
    separators).  Missing for that: correctness of the saturation procedure `classOf` with respect to `ParityReach`,
    and the identification of `lineOf` with the two closed-form layouts (`layout_exact_strand`,
    `layout_exact_struct`) — `lineOf` writes 2 / 1 / 2 blanks, so the statement can only hold while the generated
    gap constants are `strandGap = 2`, `structGapStrands = 1`, `structGapStructs = 2`.  The equality itself is checked on every sampled small document
    (`pil-spec-arrays` = the independent Python oracle = the real arrays). -/
def arrays_eq_specArrays_statement : Prop :=
  ∀ (stmts : List Stmt) (spec : Spec) (mode : Layout) (a : Arrays),
    Pil.load Generated.nupackTable stmts {} = .ok spec →
    getConstraints mode spec = .ok a →
    a = specArrays Generated.pilTable (mode == .struct) (Pil.denote spec)

/-! ### non-vacuity: concrete small documents -/

/-- `get_constraints` on a statement list as the reader hands it over -/
def run (mode : Layout) (l : List Stmt) : Except ConstraintGen.Err Arrays :=
  match Pil.load Generated.nupackTable l {} with
  | .ok s => getConstraints mode s
  | .error _ => .error .assertion

/-- the hypotheses "the seeding succeeds" of the theorems hold on a document -/
def seeded (mode : Layout) (l : List Stmt) : Bool :=
  match Pil.load Generated.nupackTable l {} with
  | .ok s => (match seeds mode s with
    | .ok sd => (match build sd with | .ok _ => true | .error _ => false)
    | .error _ => false)
  | .error _ => false

/-- a duplex: `A = a`, `B = a*`, fully paired; the `S` of the template shows up complemented (`S`) on the other strand -/
def duplex : List Stmt := [
  .seq "a" "NNS".toList, .strand "A" false ["a"], .strand "B" false ["a*"],
  .struct "D" (some "1nt") ["A", "B"] "(((+)))".toList ]

/-- a hairpin pairing a domain of odd length with itself: the middle position is its own partner -/
def hairpin : List Stmt := [
  .seq "a" "NNNNN".toList, .strand "A" false ["a", "a"], .struct "H" (some "1nt") ["A"] "((((()))))".toList ]

/-- `D` (AGT) meets `V` (ACG) through an `equal` line: the common part is `R` (AG) -/
def dv : List Stmt := [
  .seq "a" "DDD".toList, .seq "b" "VVV".toList, .strand "A" false ["a", "b"],
  .struct "S" none ["A"] "......".toList, .equal ["a", "b"] ]

def okIs (r : Except ConstraintGen.Err Arrays) (a : Arrays) : Bool :=
  match r with | .ok b => b == a | .error _ => false

def errIs (r : Except ConstraintGen.Err Arrays) (e : ConstraintGen.Err) : Bool :=
  match r with | .ok _ => false | .error e' => e' == e

theorem seeded_of_run {mode : Layout} {l : List Stmt} {a : Arrays} (h : okIs (run mode l) a = true) :
    seeded mode l = true := by
  unfold okIs run at h
  unfold seeded
  cases hl : Pil.load Generated.nupackTable l {} with
  | error e => simp [hl] at h
  | ok s =>
    simp only [hl, getConstraints, getConstraintsT] at h ⊢
    cases hs : seeds mode s with
    | error e => simp [hs] at h
    | ok sd =>
      cases hb : build sd with
      | error e => simp [hs, hb] at h
      | ok c => simp only [hb]

/-- evaluated — strand layout: two blanks between the strands; every position is paired with its mirror image -/
theorem duplex_strand_arrays : okIs (run .strand duplex)
    ([some 0, some 1, some 2, none, none, some 5, some 6, some 7],
     [some 7, some 6, some 5, none, none, some 2, some 1, some 0],
     [some 'N', some 'N', some 'S', none, none, some 'S', some 'N', some 'N']) = true := by decide +kernel

/-- evaluated — structure layout: one blank between the strands of the complex -/
theorem duplex_struct_arrays : okIs (run .struct duplex)
    ([some 0, some 1, some 2, none, some 4, some 5, some 6],
     [some 6, some 5, some 4, none, some 2, some 1, some 0],
     [some 'N', some 'N', some 'S', none, some 'S', some 'N', some 'N']) = true := by decide +kernel

example : seeded .strand duplex = true ∧ seeded .struct duplex = true :=
  ⟨seeded_of_run duplex_strand_arrays, seeded_of_run duplex_struct_arrays⟩

example : okIs (run .strand duplex)
    ([some 0, some 1, some 2, none, none, some 5, some 6, some 7],
     [some 7, some 6, some 5, none, none, some 2, some 1, some 0],
     [some 'N', some 'N', some 'S', none, none, some 'S', some 'N', some 'N']) = true := duplex_strand_arrays

example : okIs (run .struct duplex)
    ([some 0, some 1, some 2, none, some 4, some 5, some 6],
     [some 6, some 5, some 4, none, some 2, some 1, some 0],
     [some 'N', some 'N', some 'S', none, some 'S', some 'N', some 'N']) = true := duplex_struct_arrays

/-- the specification side computes the same arrays on the duplex -/
example : (match Pil.load Generated.nupackTable duplex {} with
    | .ok s => specArrays Generated.pilTable false (Pil.denote s) ==
        ([some 0, some 1, some 2, none, none, some 5, some 6, some 7],
         [some 7, some 6, some 5, none, none, some 2, some 1, some 0],
         [some 'N', some 'N', some 'S', none, none, some 'S', some 'N', some 'N'])
    | .error _ => false) = true := by decide +kernel

/-- evaluated — `D` meeting `V`: the second domain shares the representatives of the first, every template becomes `R` -/
theorem dv_strand_arrays : okIs (run .strand dv)
    ([some 0, some 1, some 2, some 0, some 1, some 2], [none, none, none, none, none, none],
     [some 'R', some 'R', some 'R', some 'R', some 'R', some 'R']) = true := by decide +kernel

example : okIs (run .strand dv)
    ([some 0, some 1, some 2, some 0, some 1, some 2], [none, none, none, none, none, none],
     [some 'R', some 'R', some 'R', some 'R', some 'R', some 'R']) = true := dv_strand_arrays

end Pepper.C04
