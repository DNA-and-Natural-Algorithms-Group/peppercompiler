import PepperProps.C04
import PepperProofs.ConstraintGenSeps
import PepperProofs.ConstraintGenFiles
/-!
# C05 — the constraint files honour the documented spuriousSSM input contract

Model: `PepperModel/ConstraintGen.lean` — `getConstraints` (= `Convert.get_constraints`), `ssmFiles` (the `eq_map` /
`wc_map` / `st_map` / `print_list` lines of `design()`), `readTriple` (= `load_input_files` of `spuriousSSM.c` for
`template= wc= eq=`), `SsmContract` / `sepsOk` / `segsOf` (the contract with its separator clause, against the
strands the layout puts on the line), and `PepperModel/Ssm.lean` — `Contract` (the documented contract),
`constrain`, `testConsistency`.

Proved: `files_satisfy_contract` (+ `_strand`, `_struct`), the whole contract.  The separator clause ("at least one
blank between strands and two between complexes") is derived in two forms: over positions (`Seps` of
`PepperProofs/ConstraintGenSeps.lean`, from the closed forms of the starts, ConstraintGenSim / TotalT) and as the
executable check `sepsOk` of `SsmContract` on the maximal blank runs of the text (`seps_executable`).  The numeric input is `gap_constants_ok`, an
obligation over the generated gap constants (measured on the working tree by `extract_tables.py`).  The `_partial`
theorems are everything but the separator clause; the full one has them by `partial_of_contract`.
`contract_of_exact` (PepperProofs/ConstraintGenFiles) is where the arrays meet the contract; the proofs about the C
program (PepperProofs/Ssm, C19) take the same `Ssm.Contract` through `Contract.toF` (PepperProofs/Ssm) / `Bounds.of_contract` (PepperProofs/SsmChecked).
-/
namespace Pepper.C05
open Pepper Pepper.Pil Pepper.ConstraintGen

theorem contract_of_getConstraints {mode : Layout} {stmts : List Stmt} {spec : Spec}
    (hload : Pil.load Generated.nupackTable stmts {} = .ok spec)
    {s : Seeds} {c : Cons} (hs : seeds mode spec = .ok s) (hb : build s = .ok c)
    {a : Arrays} (ha : getConstraints mode spec = .ok a) : Ssm.Contract (tripleOf a) :=
  have E := exact_of_load hload hs hb ha
  contract_of_exact pil_ssmTable E.1.pre E.2.2

/-- what the contract of the triple `tripleOf a` gives of the files written from `a` -/
theorem partial_of_contract {a : Arrays} (ct : Ssm.Contract (tripleOf a)) :
    readTriple (ssmFiles a) = some (tripleOf a) ∧ (tripleOf a).eq.length = (tripleOf a).N ∧
      (tripleOf a).wc.length = (tripleOf a).N ∧ Ssm.contractB (tripleOf a) = true ∧
      ∀ pick : Nat → Nat,
        Ssm.testConsistency (tripleOf a) (Ssm.constrain (tripleOf a) (startOf (tripleOf a) pick)) = true :=
  ⟨readTriple_ssmFiles ct, ct.eqLen, ct.wcLen, decide_eq_true ct, fun pick => consistent_of_contract ct pick⟩

/-- **The written files satisfy the contract and are accepted.**  For every document the reader accepts: whenever `get_constraints` returns arrays (after
    a successful seeding), the three texts `design()` writes are read back by the model of `load_input_files` to a
    triple `t` of three arrays of one length which satisfies the documented contract `Ssm.Contract`: 1-based
    indices in range; template blank exactly where `eq = 0`, and there `wc = -1`; every template letter a code;
    `eq[eq[i]] = eq[i] ≤ i` (idempotent, lowest member); `wc` and the template constant on `eq` classes; `wc[i]`
    itself a representative, different from `eq[i]`, with `wc[wc[i]] = eq[i]`; paired positions carrying
    complementary codes; last position not blank.  And the C program's own acceptance test
    (`test_consistency` after `constrain`) passes on the start sequence it builds, for every outcome `pick` of its
    random draws.  Both layouts.

    Not covered by this theorem: the separator clause of `SsmContract` ("at least
    one blank between strands and two between complexes", `sepsOk` against the layout's strand list) — it is a
    statement about where the layout puts the strands (`Seeded.layout_strand` / `layout_struct`); see `files_satisfy_contract` below
    for the full statement. -/
theorem files_satisfy_contract_partial {mode : Layout} {stmts : List Stmt} {spec : Spec}
    (hload : Pil.load Generated.nupackTable stmts {} = .ok spec)
    {s : Seeds} {c : Cons} (hs : seeds mode spec = .ok s) (hb : build s = .ok c)
    {a : Arrays} (ha : getConstraints mode spec = .ok a) :
    ∃ t, readTriple (ssmFiles a) = some t ∧ t.eq.length = t.N ∧ t.wc.length = t.N ∧
      Ssm.contractB t = true ∧
      ∀ pick : Nat → Nat, Ssm.testConsistency t (Ssm.constrain t (startOf t pick)) = true := by
  exact ⟨tripleOf a, partial_of_contract (contract_of_getConstraints hload hs hb ha)⟩

/-- The same for the strand layout (the default), the seeds read off the returned arrays (`getConstraintsT_ok`). -/
theorem files_satisfy_contract_strand_partial {stmts : List Stmt} {spec : Spec}
    (hload : Pil.load Generated.nupackTable stmts {} = .ok spec)
    {a : Arrays} (ha : getConstraints .strand spec = .ok a) :
    ∃ t, readTriple (ssmFiles a) = some t ∧ t.eq.length = t.N ∧ t.wc.length = t.N ∧
      Ssm.contractB t = true ∧
      ∀ pick : Nat → Nat, Ssm.testConsistency t (Ssm.constrain t (startOf t pick)) = true := by
  obtain ⟨s, c, hs, hb⟩ := getConstraintsT_ok ha
  exact files_satisfy_contract_partial hload hs hb ha

/-- The same for the structure layout (`hp` is not read). -/
theorem files_satisfy_contract_struct_partial {stmts : List Stmt} {spec : Spec}
    (hload : Pil.load Generated.nupackTable stmts {} = .ok spec) (hp : Placed spec)
    {a : Arrays} (ha : getConstraints .struct spec = .ok a) :
    ∃ t, readTriple (ssmFiles a) = some t ∧ t.eq.length = t.N ∧ t.wc.length = t.N ∧
      Ssm.contractB t = true ∧
      ∀ pick : Nat → Nat, Ssm.testConsistency t (Ssm.constrain t (startOf t pick)) = true := by
  obtain ⟨s, c, hs, hb⟩ := getConstraintsT_ok ha
  exact files_satisfy_contract_partial hload hs hb ha

/-! ### the separator clause and the full statement -/

/-- **Obligation over the generated gap constants.**  The numbers of blanks the layouts write (measured on the
    working tree by `extract_tables.py`: after every strand in the strand layout; after every strand of a structure
    and between structures in the structure layout) meet the contract: at least two between complexes, at least one
    between strands.  If the source lowers a gap below the contract this stops being provable. -/
theorem gap_constants_ok :
    2 ≤ Generated.strandGap ∧ 1 ≤ Generated.structGapStrands ∧ 2 ≤ Generated.structGapStructs := by decide

/-- **The separator clause on the template array** `get_constraints` returns (`a.2.2`; `None` = blank), either
    layout.  `Seps` says: (`nuc`) every nucleotide of every strand sits at its closed-form position — strand
    layout: `startSC k + x`, the earlier strands each with `strandGap` blanks; structure layout: `posT q m y`, the
    earlier structures, the earlier strands of the structure each with `structGapStrands` blank(s) — and is not blank
    there; (`cover`) nothing else on the line is non-blank; (`strands`, structure layout) between two nucleotides of
    different strands of one structure there is a blank position; (`complexes`) between two nucleotides of different
    complexes — different strands in the strand layout, different structures in the structure layout — there are
    two consecutive blank positions.  Strands of length 0 have no nucleotides and are not constrained. -/
theorem seps_of_exact {tbl : CodeTable} {mode : Layout} {spec : Spec} {s : Seeds} {c : Cons}
    (S : Seeded tbl mode spec s c) {a : Arrays} (G : GraphExact tbl c s.P a) :
    Seps mode (nbArr a.2.2) (bArr a.2.2) spec := by
  cases mode with
  | strand => exact seps_strand_arr S G gap_constants_ok.1
  | struct => exact seps_struct_arr S G gap_constants_ok.2.1 gap_constants_ok.2.2

theorem template_array_separated {mode : Layout} {stmts : List Stmt} {spec : Spec}
    (hload : Pil.load Generated.nupackTable stmts {} = .ok spec)
    {s : Seeds} {c : Cons} (hs : seeds mode spec = .ok s) (hb : build s = .ok c)
    {a : Arrays} (ha : getConstraints mode spec = .ok a) :
    Seps mode (nbArr a.2.2) (bArr a.2.2) spec := by
  obtain ⟨S, _, G⟩ := exact_of_load hload hs hb ha
  exact seps_of_exact S G

/-- **The separator clause is the executable one.**  For any text: the clause over positions (`Seps`, read with
    "character other than `' '`" / "the character `' '`") implies the check `sepsOk` of `SsmContract` against the
    strands the layout puts on the line (`segsOf`): the maximal non-blank runs of the text are, in order, exactly
    the non-empty strands with their lengths, and the maximal run of blanks before a run has length at least 1,
    and at least 2 where the run starts a new complex. -/
theorem seps_executable {mode : Layout} {st : List Char} {spec : Spec}
    (h : Seps mode (nbText st) (bText st) spec) : sepsOk st (segsOf mode spec) = true := sepsOk_of_seps h

/-- **C05, full statement.**  For every document the reader accepts: whenever `get_constraints` returns arrays
    (after a successful seeding), the three texts `design()` writes are read back by the model of
    `load_input_files` to a triple `t` of three arrays of one length which satisfies the whole documented contract:
    `Ssm.Contract` (see `files_satisfy_contract_partial`), accepted by the C program's own `test_consistency` for
    every outcome of its random draws, **and the separator clause**: in the template text `t.st` the C reader
    holds, the strands' nucleotides sit at the closed-form positions of the layout, nothing else is non-blank,
    there is at least one `' '` between two nucleotides of different strands and at least two consecutive `' '`
    between two nucleotides of different complexes (`Seps`, see `template_array_separated`); and hence on the
    maximal blank runs: `SsmContract t (segsOf mode spec)`, i.e. `Ssm.contractB t` and `sepsOk t.st` against the
    layout's own strand list. -/
theorem files_satisfy_contract {mode : Layout} {stmts : List Stmt} {spec : Spec}
    (hload : Pil.load Generated.nupackTable stmts {} = .ok spec)
    {s : Seeds} {c : Cons} (hs : seeds mode spec = .ok s) (hb : build s = .ok c)
    {a : Arrays} (ha : getConstraints mode spec = .ok a) :
    ∃ t, (readTriple (ssmFiles a) = some t ∧ t.eq.length = t.N ∧ t.wc.length = t.N ∧
      Ssm.contractB t = true ∧
      ∀ pick : Nat → Nat, Ssm.testConsistency t (Ssm.constrain t (startOf t pick)) = true) ∧
      Seps mode (nbText t.st) (bText t.st) spec ∧
      SsmContract t (segsOf mode spec) = true := by
  obtain ⟨S, _, G⟩ := exact_of_load hload hs hb ha
  have P := partial_of_contract (contract_of_exact pil_ssmTable S.pre G)
  have hseps := seps_text (fun i ch hi => Ssm.isCode_ne_blank (st_code_of_exact pil_ssmTable G hi))
    (seps_of_exact S G)
  refine ⟨tripleOf a, P, hseps, ?_⟩
  unfold SsmContract
  rw [P.2.2.2.1, sepsOk_of_seps hseps]
  rfl

/-- The same for the strand layout (the default), the seeds read off the returned arrays: every strand is a
    complex of its own, two blanks between any two of them. -/
theorem files_satisfy_contract_strand {stmts : List Stmt} {spec : Spec}
    (hload : Pil.load Generated.nupackTable stmts {} = .ok spec)
    {a : Arrays} (ha : getConstraints .strand spec = .ok a) :
    ∃ t, (readTriple (ssmFiles a) = some t ∧ t.eq.length = t.N ∧ t.wc.length = t.N ∧
      Ssm.contractB t = true ∧
      ∀ pick : Nat → Nat, Ssm.testConsistency t (Ssm.constrain t (startOf t pick)) = true) ∧
      SepsStrand (nbText t.st) (bText t.st) spec ∧
      SsmContract t (segsOf .strand spec) = true := by
  obtain ⟨s, c, hs, hb⟩ := getConstraintsT_ok ha
  exact files_satisfy_contract hload hs hb ha

/-- The same for the structure layout (`hp` is not read): one complex per structure, one blank between its strands,
    two between structures. -/
theorem files_satisfy_contract_struct {stmts : List Stmt} {spec : Spec}
    (hload : Pil.load Generated.nupackTable stmts {} = .ok spec) (hp : Placed spec)
    {a : Arrays} (ha : getConstraints .struct spec = .ok a) :
    ∃ t, (readTriple (ssmFiles a) = some t ∧ t.eq.length = t.N ∧ t.wc.length = t.N ∧
      Ssm.contractB t = true ∧
      ∀ pick : Nat → Nat, Ssm.testConsistency t (Ssm.constrain t (startOf t pick)) = true) ∧
      SepsStruct (nbText t.st) (bText t.st) spec ∧
      SsmContract t (segsOf .struct spec) = true := by
  obtain ⟨s, c, hs, hb⟩ := getConstraintsT_ok ha
  exact files_satisfy_contract hload hs hb ha

/-- The documented contract implies acceptance by `test_consistency` on the constrained start sequence, for any
    triple (not only the generated ones) and any random draws. -/
theorem contract_accepted {t : Ssm.Triple} (h : Ssm.contractB t = true) (pick : Nat → Nat) :
    Ssm.testConsistency t (Ssm.constrain t (startOf t pick)) = true :=
  consistent_of_contract (of_decide_eq_true h) pick

/-- The written numbers are read back unchanged by the model of the `fscanf(" %lf")` loop, for every list. -/
theorem numbers_read_back (l : List Int) : readInts (printInts l) = l := readInts_printInts l

/-! ### non-vacuity: concrete small documents -/

/-- `get_constraints` on a statement list as the reader hands it over -/
def run (mode : Layout) (l : List Stmt) : Except ConstraintGen.Err Arrays :=
  match Pil.load Generated.nupackTable l {} with
  | .ok s => getConstraints mode s
  | .error _ => .error .assertion

/-- the hypotheses "the seeding succeeds" of the theorems hold on a document -/
def seeded (mode : Layout) (l : List Stmt) : Bool :=
  match Pil.load Generated.nupackTable l {} with
  | .ok s => (match seeds mode s with
    | .ok sd => (match build sd with | .ok _ => true | .error _ => false)
    | .error _ => false)
  | .error _ => false

/-- a duplex: `A = a`, `B = a*`, fully paired; the `S` of the template shows up complemented (`S`) on the other strand -/
def duplex : List Stmt := [
  .seq "a" "NNS".toList, .strand "A" false ["a"], .strand "B" false ["a*"],
  .struct "D" (some "1nt") ["A", "B"] "(((+)))".toList ]

/-- a hairpin pairing a domain of odd length with itself: the middle position is its own partner -/
def hairpin : List Stmt := [
  .seq "a" "NNNNN".toList, .strand "A" false ["a", "a"], .struct "H" (some "1nt") ["A"] "((((()))))".toList ]

/-- `D` (AGT) meets `V` (ACG) through an `equal` line: the common part is `R` (AG) -/
def dv : List Stmt := [
  .seq "a" "DDD".toList, .seq "b" "VVV".toList, .strand "A" false ["a", "b"],
  .struct "S" none ["A"] "......".toList, .equal ["a", "b"] ]

def okIs (r : Except ConstraintGen.Err Arrays) (a : Arrays) : Bool :=
  match r with | .ok b => b == a | .error _ => false

def errIs (r : Except ConstraintGen.Err Arrays) (e : ConstraintGen.Err) : Bool :=
  match r with | .ok _ => false | .error e' => e' == e

-- the same documents and runs as in C04: its evaluations serve here
example : seeded .strand duplex = true ∧ seeded .struct duplex = true := by
  rw [show seeded = C04.seeded from rfl, show duplex = C04.duplex from rfl]
  exact ⟨C04.seeded_of_run C04.duplex_strand_arrays, C04.seeded_of_run C04.duplex_struct_arrays⟩

theorem eq_ok_of_okIs {r : Except ConstraintGen.Err Arrays} {a : Arrays} (h : okIs r a = true) : r = .ok a := by
  cases r with
  | error e => cases h
  | ok b => exact congrArg Except.ok (eq_of_beq h)

/-- evaluated once, for the two examples that follow -/
theorem duplex_strand_arrays : run .strand duplex = .ok
    ([some 0, some 1, some 2, none, none, some 5, some 6, some 7],
     [some 7, some 6, some 5, none, none, some 2, some 1, some 0],
     [some 'N', some 'N', some 'S', none, none, some 'S', some 'N', some 'N']) := by
  have h := C04.duplex_strand_arrays
  rw [show C04.okIs = okIs from rfl, show C04.run = run from rfl, show C04.duplex = duplex from rfl] at h
  exact eq_ok_of_okIs h

/-- the three files written for the duplex in the strand layout, byte for byte -/
example : (match run .strand duplex with
    | .ok a => ssmFiles a == ⟨"NNS  SNN", "1 2 3 0 0 6 7 8 ", "8 7 6 -1 -1 3 2 1 "⟩
    | .error _ => false) = true := by
  rw [duplex_strand_arrays]
  decide +kernel

/-- they are read back to a triple that satisfies the whole contract, separators included, and the C program's
    acceptance test passes on a start sequence -/
example : (match run .strand duplex with
    | .ok a => (match readTriple (ssmFiles a) with
      | some t => SsmContract t [[3], [3]] && Ssm.testConsistency t (Ssm.constrain t (startOf t (fun i => i)))
      | none => false)
    | .error _ => false) = true := by
  rw [duplex_strand_arrays]
  decide +kernel

/-- two strands, two structures: the duplex `D = A + B` and the single strand `E = A` once more -/
def twoTwo : List Stmt := [
  .seq "a" "NNS".toList, .strand "A" false ["a"], .strand "B" false ["a*"],
  .struct "D" (some "1nt") ["A", "B"] "(((+)))".toList, .struct "E" (some "1nt") ["A"] "...".toList ]

/-- the hypotheses of the full theorems hold on it (seeding in both layouts; every strand placed), and the strands
    the layouts put on the line are: each strand a complex / the structures `[A, B]` and `[A]` -/
example : seeded .strand twoTwo = true ∧ seeded .struct twoTwo = true ∧
    (match Pil.load Generated.nupackTable twoTwo {} with
      | .ok s => segsOf .strand s == [[3], [3]] && segsOf .struct s == [[3, 3], [3]] &&
          s.strands.all (fun o => s.structs.any (fun so => so.strands.contains o.name))
      | .error _ => false) = true := by decide +kernel

/-- strand layout: two blanks between the two strands; structure layout: one blank between the strands of `D`, two
    between `D` and `E`; both texts satisfy the whole contract, separator clause included -/
example : (match run .strand twoTwo, run .struct twoTwo with
    | .ok a, .ok b => (match readTriple (ssmFiles a), readTriple (ssmFiles b) with
      | some t, some u => t.st == "NNS  SNN".toList && SsmContract t [[3], [3]] &&
          u.st == "NNS SNN  NNS".toList && SsmContract u [[3, 3], [3]]
      | _, _ => false)
    | _, _ => false) = true := by decide +kernel

/-- the clause over positions on the structure-layout text above, spelled out for the last nucleotide of `D`
    (position 6) and the first of `E` (position 9): the two blanks 7, 8 lie between; with a single blank there
    (`"NNS SNN NNS"`, positions 6 and 8) it fails -/
example : BlanksBetween (bText "NNS SNN  NNS".toList) 2 6 9 ∧ ¬ BlanksBetween (bText "NNS SNN NNS".toList) 2 6 8 := by
  refine ⟨⟨7, by decide, by decide, ?_⟩, ?_⟩
  · intro j h1 h2
    have : j = 7 ∨ j = 8 := by omega
    rcases this with rfl | rfl <;> (unfold bText; decide)
  · rintro ⟨e, h1, h2, _⟩
    omega

/-- the contract is not trivially true: `wc` pointing at a non-representative, or `eq` not lowest, is rejected -/
example : Ssm.contractB ⟨"NN".toList, [1, 1], [2, -1]⟩ = false ∧ Ssm.contractB ⟨"NN".toList, [2, 2], [-1, -1]⟩ = false := by
  decide +kernel

/-- the separator clause is not trivially true either: one blank between two complexes is too few, and so is a
    missing blank between two strands -/
example : sepsOk "NN N".toList [[2], [1]] = false ∧ sepsOk "NN  N".toList [[2], [1]] = true ∧
    sepsOk "NN N".toList [[2, 1]] = true ∧ sepsOk "NNN".toList [[2, 1]] = false ∧
    sepsOk "NNS SNN NNS".toList [[3, 3], [3]] = false := by
  -- characters first: the kernel is slow at decoding literals
  repeat rw [String.toList_ofList]
  decide +kernel

end Pepper.C05
