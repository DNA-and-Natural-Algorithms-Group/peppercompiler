import PepperModel.Generated.Tables
import PepperProofs.GcFloat
import PepperProps.C06Text
/-!
# C06, Part 4 — the GC-content field: the `.mfe` text with the token Python prints

`C06.text_level_partial` and `C06.Text.end_to_end_text*` are stated "for any token `g` over `[0-9.-]` that `float()`
accepts" in the GC-content field of a record, because the model's `Mfe.output` writes an opaque `GC` there.  Here the
field is the token Python prints.  `PepperModel/GcFloat.lean` models, in exact integer arithmetic (no `Float`), the two steps of

    gc_content = (seq.count("C") + seq.count("G")) / length
    f.write("%s %f %f %d\n" % (seq, 0, gc_content, 0))

— `k / n` is the binary64 number nearest to the rational `k/n` (ties to even), `%f` is that number's EXACT binary value
rounded to six decimals (ties to even) — and `Mfe.outputGc` is `Mfe.output` with that token in every record.
T1 `gcToken_shape`: the token is `d.dddddd`, a word the `.mfe` reader's float field accepts; T2 `gcToken_value`: its
distance to `k/n`; T3 `text_level`: finishing the whole text `Mfe.outputGc` writes is finishing the record list, no token left free;
`end_to_end_text_gc*` are `C06.Text.end_to_end_text*` for that text.

The correspondence of `gcToken` with the running interpreter is checked on every run of `harness/props/c06.py`
(all `0 ≤ k ≤ n ≤ 220`, random larger pairs, arbitrary doubles for `%f`, and the whole `.mfe` text byte for byte).
-/
namespace Pepper.C06Gc.Props
open Pepper Pepper.Pil Pepper.ConstraintGen Pepper.LinkSpec Pepper.EndToEnd Pepper.EndToEndText Pepper.GcFloat

/-- **`k / n` as a binary64.**  For ints `0 < k ≤ n`, the model's quotient `m / 2^s` (`(m, s) = divRne k n`) has a 53-bit
    significand, `2^52 ≤ m ≤ 2^53` (the scaled exact quotient `k·2^s / n` lies in `[2^52, 2^53)`; `m = 2^53` only when
    rounding carries), an exponent `s ≥ 52`, and is within half a unit in the last place of the exact quotient:
    `|m·n − k·2^s| ≤ n/2`.  (Ties go to the even significand: `roundHalfEven`; the exponent range of binary64 plays no
    role for lengths below `2^1022`.) -/
theorem division_is_binary64 {k n : Nat} (hk : 0 < k) (hkn : k ≤ n) :
    2 ^ 52 ≤ (divRne k n).1 ∧ (divRne k n).1 ≤ 2 ^ 53 ∧ 52 ≤ (divRne k n).2 ∧
    2 ^ 52 * n ≤ k * 2 ^ (divRne k n).2 ∧ k * 2 ^ (divRne k n).2 < 2 ^ 53 * n ∧
    2 * ((divRne k n).1 * n) ≤ 2 * (k * 2 ^ (divRne k n).2) + n ∧
    2 * (k * 2 ^ (divRne k n).2) ≤ 2 * ((divRne k n).1 * n) + n := by
  have hk0 : k ≠ 0 := by omega
  obtain ⟨h1, h2, h3, h4⟩ := divRne_normal hk0 hkn
  obtain ⟨h5, h6⟩ := divRne_err k n (by omega)
  exact ⟨h3, h4, divRne_exp k n hk0, h1, h2, h5, h6⟩

/-- **T1, the shape of the token.**  For `0 < n` and `k ≤ n`, `"%f" % (k / n)` is `d.dddddd`: a digit `d ∈ {0, 1}`, a
    point, and the six zero-padded digits of some `f < 10^6`; so it has 8 characters, all digits but the point; it is a
    non-empty word over the `.mfe` reader's float alphabet `nums + "-."` (`okWord isNumChar`), and Python's `float()`
    accepts it (`validFloat`) — the two hypotheses `hg1`, `hg2` of `C06.text_level_partial`. -/
theorem gcToken_shape {k n : Nat} (hn : 0 < n) (hkn : k ≤ n) :
    (∃ d f, d ≤ 1 ∧ f < 1000000 ∧ gcToken k n = digit d :: '.' :: pad6 f) ∧
    (gcToken k n).length = 8 ∧
    (∀ c ∈ gcToken k n, c.isDigit = true ∨ c = '.') ∧
    Finish.okWord Finish.isNumChar (gcToken k n) = true ∧ Finish.validFloat (gcToken k n) = true := by
  have hs := GcFloat.gcToken_shape hn hkn
  exact ⟨hs, (Shape.chars hs).1, (Shape.chars hs).2, Shape.numWord hs, Shape.validFloat hs⟩

/-- **T2, the value of the token.**  For `0 < n`, `k ≤ n` the token reads back (`tokVal6`: the decimal `d.dddddd` in units
    of `10^-6`) as a `V ≤ 10^6` with `|V/10^6 − k/n| ≤ 1/(2·10^6) + 2^-53`: half a unit of the sixth decimal from the
    printing, `2^-53` (half an ulp of a number `≤ 1`) from the division.  Stated without fractions, multiplied by
    `2^53·10^6·n`: `2^53·|V·n − k·10^6| ≤ n·(2^52 + 10^6)`, the two directions separately in `Nat`. -/
theorem gcToken_value {k n : Nat} (hn : 0 < n) (hkn : k ≤ n) :
    ∃ V, tokVal6 (gcToken k n) = some V ∧ V ≤ 1000000 ∧
      2 ^ 53 * (V * n) ≤ 2 ^ 53 * (k * 1000000) + n * (2 ^ 52 + 1000000) ∧
      2 ^ 53 * (k * 1000000) ≤ 2 ^ 53 * (V * n) + n * (2 ^ 52 + 1000000) :=
  ⟨microOf k n, tokVal6_gcToken hn hkn, (fmtF6_eq (divRne_le_one hn hkn)).2, gcToken_err hn hkn⟩

/-- **`%f` is correctly rounded**: the value `V` of the token is the double `m / 2^s` rounded to six decimals,
    `|V·2^s − m·10^6| ≤ 2^s / 2` (and ties went to the even `V`: `V = roundHalfEven (m·10^6) (2^s)`) -/
theorem gcToken_rounds_the_double {k n : Nat} (hn : 0 < n) (hkn : k ≤ n) :
    ∃ V, tokVal6 (gcToken k n) = some V ∧ V = roundHalfEven ((divRne k n).1 * 1000000) (2 ^ (divRne k n).2) ∧
      2 * (V * 2 ^ (divRne k n).2) ≤ 2 * ((divRne k n).1 * 1000000) + 2 ^ (divRne k n).2 ∧
      2 * ((divRne k n).1 * 1000000) ≤ 2 * (V * 2 ^ (divRne k n).2) + 2 ^ (divRne k n).2 :=
  ⟨microOf k n, tokVal6_gcToken hn hkn, rfl, roundHalfEven_err _ _ (Nat.two_pow_pos _)⟩

/-- no `C`, no `G`: `0.000000` -/
theorem gcToken_zero (n : Nat) : gcToken 0 n = "0.000000".toList := GcFloat.gcToken_zero n

/-- only `C` and `G`: `1.000000` -/
theorem gcToken_one {n : Nat} (hn : 0 < n) : gcToken n n = "1.000000".toList := by
  have hk : n ≠ 0 := by omega
  unfold gcToken
  rw [divRne_pos hk]
  simp only
  rw [Nat.mul_comm n, roundHalfEven_exact _ _ hn]
  obtain ⟨h1, _⟩ := fmtF6_eq (Nat.le_refl (2 ^ binade n n))
  rw [h1, Nat.mul_comm, roundHalfEven_exact _ _ (Nat.two_pow_pos _)]
  decide

/-- the other pieces of the record line `"%s %f %f %d"`: `"%f" % 0`, `"%d" % 0`, and the line in closed form -/
theorem zero_fields : fmtF0 = "0.000000".toList ∧ fmtD0 = "0".toList ∧
    ∀ (seq : List Char) (k n : Nat), recordLine seq k n = seq ++ " 0.000000 ".toList ++ gcToken k n ++ " 0".toList := by
  -- stated for arbitrary fields: with `fmtF0` in the goal the kernel evaluates the formatter
  have line : ∀ seq a b c : List Char,
      seq ++ ' ' :: a ++ ' ' :: b ++ ' ' :: c = seq ++ (' ' :: a ++ [' ']) ++ b ++ ' ' :: c := by
    intro seq a b c; simp [List.append_assoc]
  refine ⟨fmtF0_eq, fmtD0_eq, fun seq k n => ?_⟩
  have := line seq fmtF0 (gcToken k n) fmtD0
  rwa [fmtF0_eq, fmtD0_eq] at this

/-- **`output` with the GC-content field.**  For a loaded specification, after ANY run of `process_results` that
    succeeded and collected the strands' letters under an assignment `asg`, `Mfe.outputGc` — `Convert.output(findmfe=False)`
    with the GC-content printed as Python prints it — succeeds and writes exactly the lines `mfeLinesGc`: the rendering of
    the records `mfeRecsGc` (`mfeRecs` with `"%f %f %d" % (0, k / n, 0)` as numeric fields, `k` the number of `C`/`G`
    letters and `n` the object's length — strand lengths summed for a structure, the forward sequence's token on the
    starred record) and the trailer `Total n(s*) = 0.000000`. -/
theorem output_writes_gc {stmts : List Stmt} {spec : Spec}
    (hload : Pil.load Generated.nupackTable stmts {} = .ok spec) {start : StrandObj → Option Nat} {nts : List Char}
    {asg : Var → Base} {assigned : Mfe.Assigned}
    (hpr : Mfe.processResults Generated.pilTable spec start nts = .ok (assigned, strandSeqs spec asg)) :
    Mfe.outputGc Generated.pilTable spec assigned (strandSeqs spec asg) =
      some (mfeLinesGc Generated.pilTable spec asg) :=
  outputGc_of_processResults pil_lawful pil_complBases (load_wf hload) (load_specCodes hload) hpr

/-- the records `mfeRecsGc` are `mfeRecs` but for the numeric fields: the reader extracts the same `name ↦ sequence` list, and
    every record carries the token of a quotient `k / n` with `0 < n`, `k ≤ n` -/
theorem records_differ_in_gc_only {stmts : List Stmt} {spec : Spec}
    (hload : Pil.load Generated.nupackTable stmts {} = .ok spec) (hr : specReadable spec = true) (asg : Var → Base) :
    (mfeRecsGc Generated.pilTable spec asg).map (fun x => (x.2.name, x.2.seq)) = mfeDesign Generated.pilTable spec asg ∧
    ∀ x ∈ mfeRecsGc Generated.pilTable spec asg, ∃ y ∈ mfeRecs Generated.pilTable spec asg, ∃ k n, 0 < n ∧ k ≤ n ∧
      x = (y.1, { y.2 with fields := ["0.000000".toList, gcToken k n, "0".toList] }) := by
  refine ⟨mfeRecsGc_design _ _ _, fun x hx => ?_⟩
  exact mem_mfeRecsGc (load_wf hload) (specReadable_iff.1 hr) hx

/-- **T3 — the text level, with no free token.**  For a loaded specification that is readable (`specReadable`: names over
    `[A-Za-z0-9_-]`, no sequence or strand of length 0, structures with a strand and a text over `.()+` — what
    `C06.Text.spec_readable_of_compile` derives for compiled programs) and EVERY assignment of bases: finishing the TEXT of
    the `.mfe` file `Convert.output` writes — every character of it, the GC-content field being the token Python's
    `"%f" % (count / length)` prints — is finishing the record list.  Compared with `C06.text_level_partial`: no free
    token `g`, no hypotheses `hg1`, `hg2`, `hwf`. -/
theorem text_level {stmts : List Stmt} {spec : Spec}
    (hload : Pil.load Generated.nupackTable stmts {} = .ok spec) (hr : specReadable spec = true)
    (asg : Var → Base) (inst : Sys.Inst) (out : Finish.Out) :
    Finish.finishText Generated.dnaTable Generated.alphaMfeSeq inst
        (Finish.unlines ((mfeLinesGc Generated.pilTable spec asg).map String.toList)) = .ok out ↔
      Finish.apply Generated.dnaTable inst (mfeDesign Generated.pilTable spec asg) = .ok out := by
  rw [← render_mfeLinesGc]
  exact finish_text_gc (load_wf hload) (load_specCodes hload) (specReadable_iff.1 hr) asg inst out

/-- **C06, end to end, through the REAL `.mfe` text (systems to any depth; strand layout).**  Hypotheses of
    `C06.Text.end_to_end_text`.  Conclusion: the source denotes a design `d`; `process_results nts` succeeds; `output`,
    GC-content field included, writes the lines `L = mfeLinesGc …` — the whole file; finishing the saved tree against the
    TEXT `"\n".join(L)` (`Finish.finishText`: `nupack_out_grammar.document` + `read_design` + `apply_design`) succeeds
    with `out`; and `out` satisfies the source.  No token is left free. -/
theorem end_to_end_text_gc {b : Sys.Bundle} {fuel : Nat} {base : String} {args : Nat} {argKey pfx path : String}
    {includes : List String} {anon : Nat} {inst : Sys.Inst} {a' : Nat}
    (hfile : Sys.loadFile b fuel base args argKey pfx path includes anon = .ok (inst, a'))
    (hb : SysProofs.bundleOk Generated.nupackTable b = true)
    (hchars : ParsePil.bundleCharsOk b = true) (hpfx : ParsePil.charsOk pfx = true)
    {spec : Spec} (hload : Pil.load Generated.nupackTable (Emit.instStmts inst) {} = .ok spec)
    (hn : MfeNamesDistinct spec) {a : Arrays} (ha : getConstraints .strand spec = .ok a) {nts : List Char}
    (hg : ArraysGood a nts) :
    ∃ (d : Design) (ports : List (List Nuc × Bool)) (asg : Var → Base) (assigned : Mfe.Assigned)
      (L : List String) (out : Finish.Out),
      Denote.denoteFile b fuel base args argKey pfx path includes anon = .ok (d, ports, a') ∧
      Mfe.processResults Generated.pilTable spec (startOf .strand spec) nts = .ok (assigned, strandSeqs spec asg) ∧
      Mfe.outputGc Generated.pilTable spec assigned (strandSeqs spec asg) = some L ∧
      L = mfeLinesGc Generated.pilTable spec asg ∧
      Finish.finishText Generated.dnaTable Generated.alphaMfeSeq inst (Finish.unlines (L.map String.toList)) = .ok out ∧
      Sat Generated.pilTable d asg ∧ Entries Generated.pilTable d asg out ∧ SatSrc Generated.pilTable d out := by
  obtain ⟨d, ports, asg, assigned, out, hden, hpr, hgood, _, hap, hsat, hent⟩ :=
    end_to_end_tree hfile hb hload hn ha hg (fun _ hq => started_strand hq)
  have hnames := ParsePil.instNamesOk_of_bundle (fun _ _ hl => (SysProofs.bundleOk_comp hb hl).1) hchars hfile hpfx
  have hr := Pepper.C06.Text.spec_readable_of_compile hfile hb hnames hload
  exact ⟨d, ports, asg, assigned, _, out, hden, hpr, outputGc_ok pil_lawful pil_complBases (load_wf hload) (load_specCodes hload) hgood, rfl,
    (text_level hload hr asg inst out).2 hap, hsat, hent, ⟨asg, hsat, hent⟩⟩

/-- **the same, one component (strand layout)** -/
theorem end_to_end_text_gc_component {src : Comp.Src} {n : Nat} {pfx : String} {anon : Nat} {st : Comp.St} {a' : Nat}
    (hcomp : Comp.load src n pfx anon = .ok (st, a'))
    (hnames : Comp.UserNamesOk src = true) (hcodes : Comp.CodesOk Generated.nupackTable src = true)
    (hpfx : ParsePil.charsOk pfx = true) (hsrc : ParsePil.srcCharsOk src = true)
    {spec : Spec} (hload : Pil.load Generated.nupackTable (Emit.compStmts st) {} = .ok spec)
    (hn : MfeNamesDistinct spec) {a : Arrays} (ha : getConstraints .strand spec = .ok a) {nts : List Char}
    (hg : ArraysGood a nts) :
    ∃ (o : Denote.Out) (ports : List (List Nuc × Bool)) (asg : Var → Base) (assigned : Mfe.Assigned)
      (L : List String) (out : Finish.Out),
      Denote.denoteComp src pfx anon = .ok (o, ports, a') ∧
      Mfe.processResults Generated.pilTable spec (startOf .strand spec) nts = .ok (assigned, strandSeqs spec asg) ∧
      Mfe.outputGc Generated.pilTable spec assigned (strandSeqs spec asg) = some L ∧
      L = mfeLinesGc Generated.pilTable spec asg ∧
      Finish.finishText Generated.dnaTable Generated.alphaMfeSeq (.comp st) (Finish.unlines (L.map String.toList)) = .ok out ∧
      Sat Generated.pilTable (o.design []) asg ∧ Entries Generated.pilTable (o.design []) asg out ∧
      SatSrc Generated.pilTable (o.design []) out := by
  obtain ⟨o, ports, asg, assigned, out, hden, hpr, hgood, _, hap, hsat, hent⟩ :=
    end_to_end_comp hcomp hnames hcodes hload hn ha hg (fun _ hq => started_strand hq)
  have hchars := (ParsePil.compNamesOk_of_load hcomp hnames hpfx hsrc).1
  have hr := Pepper.C06.Text.spec_readable_of_compile_component hcomp hnames hchars hload
  exact ⟨o, ports, asg, assigned, _, out, hden, hpr, outputGc_ok pil_lawful pil_complBases (load_wf hload) (load_specCodes hload) hgood, rfl,
    (text_level hload hr asg (.comp st) out).2 hap, hsat, hent, ⟨asg, hsat, hent⟩⟩

/-- **the same, structure layout** (`--struct-orient`; `Placed spec`: every non-empty strand occurs in some structure) -/
theorem end_to_end_text_gc_struct {b : Sys.Bundle} {fuel : Nat} {base : String} {args : Nat} {argKey pfx path : String}
    {includes : List String} {anon : Nat} {inst : Sys.Inst} {a' : Nat}
    (hfile : Sys.loadFile b fuel base args argKey pfx path includes anon = .ok (inst, a'))
    (hb : SysProofs.bundleOk Generated.nupackTable b = true)
    (hchars : ParsePil.bundleCharsOk b = true) (hpfx : ParsePil.charsOk pfx = true)
    {spec : Spec} (hload : Pil.load Generated.nupackTable (Emit.instStmts inst) {} = .ok spec)
    (hp : Placed spec)
    (hn : MfeNamesDistinct spec) {a : Arrays} (ha : getConstraints .struct spec = .ok a) {nts : List Char}
    (hg : ArraysGood a nts) :
    ∃ (d : Design) (ports : List (List Nuc × Bool)) (asg : Var → Base) (assigned : Mfe.Assigned)
      (L : List String) (out : Finish.Out),
      Denote.denoteFile b fuel base args argKey pfx path includes anon = .ok (d, ports, a') ∧
      Mfe.processResults Generated.pilTable spec (startOf .struct spec) nts = .ok (assigned, strandSeqs spec asg) ∧
      Mfe.outputGc Generated.pilTable spec assigned (strandSeqs spec asg) = some L ∧
      L = mfeLinesGc Generated.pilTable spec asg ∧
      Finish.finishText Generated.dnaTable Generated.alphaMfeSeq inst (Finish.unlines (L.map String.toList)) = .ok out ∧
      Sat Generated.pilTable d asg ∧ Entries Generated.pilTable d asg out ∧ SatSrc Generated.pilTable d out := by
  have hnames := ParsePil.instNamesOk_of_bundle (fun _ _ hl => (SysProofs.bundleOk_comp hb hl).1) hchars hfile hpfx
  have hne := (Pepper.C06.Text.lengths_nonzero_of_compile hfile hb hnames hload).2
  have wf := load_wf hload
  obtain ⟨d, ports, asg, assigned, out, hden, hpr, hgood, _, hap, hsat, hent⟩ :=
    end_to_end_tree hfile hb hload hn ha hg
      (fun q hq => laid_struct wf hp q hq (Nat.pos_of_ne_zero (hne q.2 (mem_enum hq).1)))
  have hr := Pepper.C06.Text.spec_readable_of_compile hfile hb hnames hload
  exact ⟨d, ports, asg, assigned, _, out, hden, hpr, outputGc_ok pil_lawful pil_complBases (load_wf hload) (load_specCodes hload) hgood, rfl,
    (text_level hload hr asg inst out).2 hap, hsat, hent, ⟨asg, hsat, hent⟩⟩

open Pepper.C06 Pepper.C06.Text

/-- the division: `2/3` is the double `0x1.5555555555555p-1` = `6004799503160661 / 2^53`, `1/3` has one more binade -/
example : divRne 2 3 = (6004799503160661, 53) ∧ divRne 1 3 = (6004799503160661, 54) ∧ divRne 1 1 = (2 ^ 52, 52) ∧
    divRne 1 10 = (7205759403792794, 56) := by decide +kernel

/-- tokens, evaluated: thirds round, `1/128 = 0.0078125` and `3/128 = 0.0234375` are exact ties of the sixth decimal and go
    to the EVEN digit (`…12`, `…38`), `0.0000005 > 1/2097152 = 0.000000476…` prints as zero, `999999/1000000` is not `1` -/
example : gcToken 2 3 = "0.666667".toList ∧ gcToken 1 3 = "0.333333".toList ∧ gcToken 4 6 = "0.666667".toList ∧
    gcToken 1 128 = "0.007812".toList ∧ gcToken 3 128 = "0.023438".toList ∧ gcToken 1 2097152 = "0.000000".toList ∧
    gcToken 999999 1000000 = "0.999999".toList ∧ gcToken 1999999 2000000 = "1.000000".toList ∧
    gcToken 7 7 = "1.000000".toList ∧ gcToken 0 5 = "0.000000".toList := by
  -- a literal is `String.ofList` of its characters: rewritten, the kernel need not decode the literals' UTF-8
  repeat rw [String.toList_ofList]
  decide +kernel

/-- T1 and T2 apply (`k = 4`, `n = 6`): the token reads back as `666667` millionths, `|0.666667 − 2/3| = 3.3·10^-7` -/
example : tokVal6 (gcToken 4 6) = some 666667 ∧ Finish.validFloat (gcToken 4 6) = true := by
  obtain ⟨_, _, _, _, h⟩ := gcToken_shape (k := 4) (n := 6) (by omega) (by omega)
  exact ⟨by decide +kernel, h⟩

/-- the bound of T2 is meant: a token one unit of the sixth decimal off (`0.666668` for `2/3`) violates it -/
example : ¬ (2 ^ 53 * (666668 * 3) ≤ 2 ^ 53 * (2 * 1000000) + 3 * (2 ^ 52 + 1000000)) := by decide

/-- outside the domain the shape fails: `k > n` prints an integer part above `1` -/
example : gcToken 5 2 = "2.500000".toList := by decide +kernel

/-- the record line of the duplex's structure, as `"%s %f %f %d" % ("ACG+CGT", 0, 4 / 6, 0)` prints it -/
example : recordLine "ACG+CGT".toList 4 6 = "ACG+CGT 0.000000 0.666667 0".toList := by
  repeat rw [String.toList_ofList]
  decide +kernel

/-- the whole file of the duplex of `C06.lean`, every character, GC-content computed by the model: `4/6` for the structure
    (the `+` is not counted in the length), `2/3` for `a` and the same token again on `a*` -/
example : Finish.unlines ((mfeLinesGc Generated.pilTable dupSpec dupAsg).map String.toList) =
    ("0:d-D\nACG+CGT 0.000000 0.666667 0\n(((+)))\n(((+)))\n" ++
     "1:d-a\nACG 0.000000 0.666667 0\n...\n...\n" ++
     "0:d-a*\nCGT 0.000000 0.666667 0\n...\n...\n" ++
     "Total n(s*) = 0.000000").toList := by
  rw [← render_mfeLinesGc]
  simp only [String.toList_append]
  repeat rw [String.toList_ofList]
  decide +kernel

/-- `Mfe.outputGc`, evaluated on the state `process_results` leaves for the duplex -/
example : Mfe.outputGc Generated.pilTable dupSpec [("d-a", "ACG".toList)] [("d-A", "ACG".toList), ("d-B", "CGT".toList)] =
    some ["0:d-D", "ACG+CGT 0.000000 0.666667 0", "(((+)))", "(((+)))", "1:d-a", "ACG 0.000000 0.666667 0", "...", "...",
          "0:d-a*", "CGT 0.000000 0.666667 0", "...", "...", "Total n(s*) = 0.000000"] := by decide +kernel

/-- a template letter is not counted: an undesigned `NNS` has GC-content `0/3` although `S` means `C` or `G`; a structure of
    two strands of `G` and `C` only has `1.000000` -/
example : gcCount "NNS".toList = 0 ∧ gcToken (gcCount "NNS".toList) 3 = "0.000000".toList ∧
    gcCount "GGC+GCC".toList = 6 ∧ gcToken (gcCount "GGC+GCC".toList) 6 = "1.000000".toList := by decide +kernel

/-- the end-to-end theorem applies to the duplex: the real text is written, finishing it succeeds, the result satisfies the
    source -/
example : ∃ (o : Denote.Out) (ports : List (List Nuc × Bool)) (asg : Var → Base) (L : List String) (out : Finish.Out),
    Denote.denoteComp dupSrc "d-" 0 = .ok (o, ports, 0) ∧ L = mfeLinesGc Generated.pilTable dupSpec asg ∧
    Finish.finishText Generated.dnaTable Generated.alphaMfeSeq (.comp dupSt) (Finish.unlines (L.map String.toList)) = .ok out ∧
    SatSrc Generated.pilTable (o.design []) out := by
  obtain ⟨o, ports, asg, _, L, out, h1, _, _, h4, h5, _, _, h8⟩ :=
    end_to_end_text_gc_component dup_load dup_hyps.1 dup_hyps.2 dup_chars.2 dup_chars.1 dup_spec dup_distinct
      dup_arrays dup_good
  exact ⟨o, ports, asg, L, out, h1, h4, h5, h8⟩

/-- finishing the evaluated text of the duplex, evaluated -/
example : Finish.finishText Generated.dnaTable Generated.alphaMfeSeq (.comp dupSt)
    (Finish.unlines ((mfeLinesGc Generated.pilTable dupSpec dupAsg).map String.toList)) =
    .ok ⟨[("d-a", "ACG".toList)], [("d-A", false, "ACG".toList), ("d-B", false, "CGT".toList)],
         [("d-D", "ACG+CGT".toList)]⟩ := by
  rw [← render_mfeLinesGc]
  repeat rw [String.toList_ofList]
  decide +kernel

end Pepper.C06Gc.Props
