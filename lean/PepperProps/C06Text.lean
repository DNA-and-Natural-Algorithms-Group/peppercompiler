import PepperModel.Generated.Tables
import PepperProofs.EndToEndText
import PepperProps.C06
import PepperProofs.ParsePilNames
/-!
# C06, Part 3 — end to end at the level of the `.mfe` TEXT

`C06.end_to_end` ends with `Finish.apply … (mfeDesign …) = .ok out`: `finish` applied to the LIST of records.  The real
`finish` reads the `.mfe` FILE.  `C06.text_level_partial` bridges the two GIVEN that the records are readable by the
`.mfe` reader (`Finish.wfRec`: header number over digits, name over `alphanums+"_-*"`, a NON-EMPTY sequence over
the reader's alphabet `Generated.alphaMfeSeq`, valid numeric fields, non-empty structure lines over `.()+`).  This file discharges that
hypothesis for compiled programs: a sufficient decidable condition on a loaded specification (`readable_condition`,
necessary in its zero-length clause: `zero_length_unreadable`), that it holds after a compile
(`spec_readable_of_compile`), and `C06.end_to_end*` with the finish step on the rendered text (`end_to_end_text*`).
The letters need no hypothesis: designed positions carry a base `ACGT` (`asg : Var → Base`), undesigned sequences keep
their template (`spellT`), whose codes are in the reader's alphabet.

In this file the GC-content field is an ARBITRARY token accepted by the reader's float alphabet (`[0-9.-]`, valid for
`float()`), because the model's `Mfe.output` writes the opaque token `GC` there (`mfeLines`).  That Python's
`"%f" % gc_content` prints such a token — and which one — is `PepperProps/C06Gc.lean`.
-/
namespace Pepper.C06.Text
open Pepper Pepper.Pil Pepper.ConstraintGen Pepper.LinkSpec Pepper.EndToEnd Pepper.EndToEndText

/-- **A sufficient decidable condition, on a loaded specification** (necessary in its zero-length clause).  If the (decidable) predicate `specReadable spec` holds — every
    sequence name and structure name is non-empty over `[A-Za-z0-9_-]`, no sequence and no strand has length 0, every
    structure has a strand and a non-empty text over `.()+` — then for EVERY assignment of bases and every valid float
    token `g`, every record `Convert.output` writes is one the `.mfe` reader reads back (`wfRec` over the reader's
    sequence alphabet `alphaMfeSeq`): header numbers are digit strings; a sequence name, plain or starred, is over the
    reader's `alphanums+"_-*"`; a structure's sequence is non-empty over `ACGT+`; a sequence's letters are bases on
    designed positions and template codes elsewhere, all in the reader's alphabet, and there are `len ≠ 0` of them;
    the dummy structures are `len` dots. -/
theorem readable_condition {stmts : List Stmt} {spec : Spec}
    (hload : Pil.load Generated.nupackTable stmts {} = .ok spec) (hr : specReadable spec = true)
    (asg : Var → Base) {g : List Char}
    (hg1 : Finish.okWord Finish.isNumChar g = true) (hg2 : Finish.validFloat g = true) :
    ∀ x ∈ mfeRecsGC Generated.pilTable spec asg g, Finish.wfRec Generated.alphaMfeSeq x = true := by
  rw [mfeRecsGC_eq]
  exact recs_readable (load_wf hload) (load_specCodes hload) (specReadable_iff.1 hr) asg (fun _ => ⟨hg1, hg2⟩)

/-- **The zero-length clause is necessary**: a specification with a sequence of length 0 has an unreadable record (its
    sequence field is empty; pyparsing's `Word` needs one character — and the real `Convert.output` raises
    `ZeroDivisionError` computing its GC-content). -/
theorem zero_length_unreadable {stmts : List Stmt} {spec : Spec}
    (hload : Pil.load Generated.nupackTable stmts {} = .ok spec) {o : SeqObj} (ho : o ∈ spec.seqs) (hz : o.len = 0)
    (asg : Var → Base) (g : List Char) :
    ∃ x ∈ mfeRecsGC Generated.pilTable spec asg g, Finish.wfRec Generated.alphaMfeSeq x = false :=
  unreadable_of_zero (load_wf hload) ho hz _ asg g

/-- **The specification of a compiled tree is readable.**  For every instance tree `load_file` returns (bundle
    hypotheses of C02) whose emitted names are over `[A-Za-z0-9_-]` (`instNamesOk`), the specification its PIL loads to
    satisfies `specReadable`.  In particular NO sequence and NO strand of the specification has length 0: zero-length
    sequences are not written into the PIL, zero-length strands and zero-length signals are refused by the compiler. -/
theorem spec_readable_of_compile {b : Sys.Bundle} {fuel : Nat} {base : String} {args : Nat} {argKey pfx path : String}
    {includes : List String} {anon : Nat} {inst : Sys.Inst} {a' : Nat}
    (hfile : Sys.loadFile b fuel base args argKey pfx path includes anon = .ok (inst, a'))
    (hb : SysProofs.bundleOk Generated.nupackTable b = true) (hchars : ParsePil.instNamesOk inst = true)
    {spec : Spec} (hload : Pil.load Generated.nupackTable (Emit.instStmts inst) {} = .ok spec) :
    specReadable spec = true := by
  exact specReadable_iff.2
    (specReadable_of_tree ((loaded_of_file hfile hb).mono (fun _ h => h.1) (fun _ _ => trivial)) hchars hload)

/-- the same for one component (`compNamesOk`) -/
theorem spec_readable_of_compile_component {src : Comp.Src} {n : Nat} {pfx : String} {anon : Nat} {st : Comp.St}
    {a' : Nat} (hcomp : Comp.load src n pfx anon = .ok (st, a')) (hnames : Comp.UserNamesOk src = true)
    (hchars : ParsePil.compNamesOk st = true)
    {spec : Spec} (hload : Pil.load Generated.nupackTable (Emit.compStmts st) {} = .ok spec) :
    specReadable spec = true := by
  have hL : LoadInv.Loaded (fun c => LoadInv.StmtNamesOk c = true) (fun _ => True) pfx (.comp st) :=
    LoadInv.Loaded.comp (LoadInv.stmtNamesOk_of_user hnames) hcomp
  have hload' : Pil.load Generated.nupackTable (Emit.instStmts (.comp st)) {} = .ok spec := by
    rw [Emit.instStmts_comp]; exact hload
  exact specReadable_iff.2 (specReadable_of_tree hL (by simpa [ParsePil.instNamesOk] using hchars) hload')

/-- **(1) The records of a compiled tree are readable.**  For the specification a compiled tree loads to (bundle
    hypotheses of C02, names over `[A-Za-z0-9_-]`: `instNamesOk`), EVERY assignment of bases to the domain positions
    and every valid float token `g`: every record of the `.mfe` file (`mfeRecs`, with `g` in the GC-content field)
    satisfies `wfRec alphaMfeSeq` — this is the hypothesis `hwf` of `C06.text_level_partial`. -/
theorem mfeRecs_readable {b : Sys.Bundle} {fuel : Nat} {base : String} {args : Nat} {argKey pfx path : String}
    {includes : List String} {anon : Nat} {inst : Sys.Inst} {a' : Nat}
    (hfile : Sys.loadFile b fuel base args argKey pfx path includes anon = .ok (inst, a'))
    (hb : SysProofs.bundleOk Generated.nupackTable b = true) (hchars : ParsePil.instNamesOk inst = true)
    {spec : Spec} (hload : Pil.load Generated.nupackTable (Emit.instStmts inst) {} = .ok spec)
    (asg : Var → Base) {g : List Char}
    (hg1 : Finish.okWord Finish.isNumChar g = true) (hg2 : Finish.validFloat g = true) :
    ∀ x ∈ mfeRecsGC Generated.pilTable spec asg g, Finish.wfRec Generated.alphaMfeSeq x = true :=
  readable_condition hload (spec_readable_of_compile hfile hb hchars hload) asg hg1 hg2

/-- **(1), one component** (`compNamesOk`) -/
theorem mfeRecs_readable_component {src : Comp.Src} {n : Nat} {pfx : String} {anon : Nat} {st : Comp.St} {a' : Nat}
    (hcomp : Comp.load src n pfx anon = .ok (st, a')) (hnames : Comp.UserNamesOk src = true)
    (hchars : ParsePil.compNamesOk st = true)
    {spec : Spec} (hload : Pil.load Generated.nupackTable (Emit.compStmts st) {} = .ok spec)
    (asg : Var → Base) {g : List Char}
    (hg1 : Finish.okWord Finish.isNumChar g = true) (hg2 : Finish.validFloat g = true) :
    ∀ x ∈ mfeRecsGC Generated.pilTable spec asg g, Finish.wfRec Generated.alphaMfeSeq x = true :=
  readable_condition hload (spec_readable_of_compile_component hcomp hnames hchars hload) asg hg1 hg2

/-- **(2) C06, end to end, at the level of the `.mfe` TEXT (systems to any depth; strand layout).**  Hypotheses of
    `C06.end_to_end`, plus the decidable character predicates on the SOURCES: every name a component source declares and
    every instance / signal name of a system source is non-empty over `[A-Za-z0-9_-]` (`bundleCharsOk`), the prefix is
    over that alphabet (`charsOk`).  Conclusion of `C06.end_to_end` with the finish step at the text level: for EVERY
    token `gc` over the reader's float alphabet that `float()` accepts, finishing the saved tree against the rendered
    TEXT of the records `output` writes — `gc` in the GC-content field — succeeds with `out`
    (`Finish.finishText`: `nupack_out_grammar.document` + `read_design` + `apply_design`); and `out` satisfies the source. -/
theorem end_to_end_text {b : Sys.Bundle} {fuel : Nat} {base : String} {args : Nat} {argKey pfx path : String}
    {includes : List String} {anon : Nat} {inst : Sys.Inst} {a' : Nat}
    (hfile : Sys.loadFile b fuel base args argKey pfx path includes anon = .ok (inst, a'))
    (hb : SysProofs.bundleOk Generated.nupackTable b = true)
    (hchars : ParsePil.bundleCharsOk b = true) (hpfx : ParsePil.charsOk pfx = true)
    {spec : Spec} (hload : Pil.load Generated.nupackTable (Emit.instStmts inst) {} = .ok spec)
    (hn : MfeNamesDistinct spec) {a : Arrays} (ha : getConstraints .strand spec = .ok a) {nts : List Char}
    (hg : ArraysGood a nts) :
    ∃ (d : Design) (ports : List (List Nuc × Bool)) (asg : Var → Base) (assigned : Mfe.Assigned) (out : Finish.Out),
      Denote.denoteFile b fuel base args argKey pfx path includes anon = .ok (d, ports, a') ∧
      Mfe.processResults Generated.pilTable spec (startOf .strand spec) nts = .ok (assigned, strandSeqs spec asg) ∧
      Mfe.output Generated.pilTable spec assigned (strandSeqs spec asg) = some (mfeLines Generated.pilTable spec asg) ∧
      (∀ gc : List Char, Finish.okWord Finish.isNumChar gc = true → Finish.validFloat gc = true →
        Finish.finishText Generated.dnaTable Generated.alphaMfeSeq inst
          (Finish.render (mfeRecsGC Generated.pilTable spec asg gc) "0.000000".toList) = .ok out) ∧
      Sat Generated.pilTable d asg ∧ Entries Generated.pilTable d asg out ∧ SatSrc Generated.pilTable d out ∧
      out.seqs.map (·.1) = (Finish.compsOf 64 inst).flatMap (fun s => s.seqs.map (fun e => s.pfx ++ e.name)) ∧
      out.strands.map (·.1) = (Finish.compsOf 64 inst).flatMap (fun s => s.strands.map (fun e => s.pfx ++ e.name)) ∧
      out.structs.map (·.1) = (Finish.compsOf 64 inst).flatMap (fun s => s.structs.map (fun e => s.pfx ++ e.name)) ∧
      (out.strands.filter (fun x => !x.2.1)).map (·.1) =
        (Finish.compsOf 64 inst).flatMap (fun s => (s.strands.filter (fun e => !e.dummy)).map (fun e => s.pfx ++ e.name)) := by
  obtain ⟨d, ports, asg, assigned, out, hden, hpr, hout, hap, hsat, hent, h1, h2, h3, h4⟩ :=
    Pepper.C06.end_to_end hfile hb hload hn ha hg
  have hnames := ParsePil.instNamesOk_of_bundle (fun _ _ hl => (SysProofs.bundleOk_comp hb hl).1) hchars hfile hpfx
  refine ⟨d, ports, asg, assigned, out, hden, hpr, hout, ?_, hsat, hent, ⟨asg, hsat, hent⟩, h1, h2, h3, h4⟩
  intro gc hg1 hg2
  exact (Pepper.C06.text_level_partial hg1 hg2 (mfeRecs_readable hfile hb hnames hload asg hg1 hg2) inst out).2 hap

/-- **(2), one float token per record.**  The real file carries a different GC-content in every record: the same
    conclusion for the text in which the `i`-th record (in file order: structures, then each sequence followed by its
    starred view) carries the token `gc i`, for ANY family of valid float tokens. -/
theorem end_to_end_text_tokens {b : Sys.Bundle} {fuel : Nat} {base : String} {args : Nat} {argKey pfx path : String}
    {includes : List String} {anon : Nat} {inst : Sys.Inst} {a' : Nat}
    (hfile : Sys.loadFile b fuel base args argKey pfx path includes anon = .ok (inst, a'))
    (hb : SysProofs.bundleOk Generated.nupackTable b = true)
    (hchars : ParsePil.bundleCharsOk b = true) (hpfx : ParsePil.charsOk pfx = true)
    {spec : Spec} (hload : Pil.load Generated.nupackTable (Emit.instStmts inst) {} = .ok spec)
    (hn : MfeNamesDistinct spec) {a : Arrays} (ha : getConstraints .strand spec = .ok a) {nts : List Char}
    (hg : ArraysGood a nts) :
    ∃ (d : Design) (ports : List (List Nuc × Bool)) (asg : Var → Base) (assigned : Mfe.Assigned) (out : Finish.Out),
      Denote.denoteFile b fuel base args argKey pfx path includes anon = .ok (d, ports, a') ∧
      Mfe.processResults Generated.pilTable spec (startOf .strand spec) nts = .ok (assigned, strandSeqs spec asg) ∧
      Mfe.output Generated.pilTable spec assigned (strandSeqs spec asg) = some (mfeLines Generated.pilTable spec asg) ∧
      (∀ gc : Nat → List Char,
        (∀ i, Finish.okWord Finish.isNumChar (gc i) = true ∧ Finish.validFloat (gc i) = true) →
        Finish.finishText Generated.dnaTable Generated.alphaMfeSeq inst
          (Finish.render (mfeRecsTok Generated.pilTable spec asg gc) "0.000000".toList) = .ok out) ∧
      Sat Generated.pilTable d asg ∧ Entries Generated.pilTable d asg out ∧ SatSrc Generated.pilTable d out := by
  obtain ⟨d, ports, asg, assigned, out, hden, hpr, hout, hap, hsat, hent, _⟩ :=
    Pepper.C06.end_to_end hfile hb hload hn ha hg
  have hnames := ParsePil.instNamesOk_of_bundle (fun _ _ hl => (SysProofs.bundleOk_comp hb hl).1) hchars hfile hpfx
  have hr := specReadable_iff.1 (spec_readable_of_compile hfile hb hnames hload)
  refine ⟨d, ports, asg, assigned, out, hden, hpr, hout, ?_, hsat, hent, ⟨asg, hsat, hent⟩⟩
  intro gc hgc
  exact (finish_text_tokens (load_wf hload) (load_specCodes hload) hr asg hgc inst out).2 hap

/-- **(2), one component (strand layout)**: `C06.end_to_end_component` at the text level; the names hypotheses are
    `charsOk pfx` and `srcCharsOk src` (every name the source declares is non-empty over `[A-Za-z0-9_-]`). -/
theorem end_to_end_text_component {src : Comp.Src} {n : Nat} {pfx : String} {anon : Nat} {st : Comp.St} {a' : Nat}
    (hcomp : Comp.load src n pfx anon = .ok (st, a'))
    (hnames : Comp.UserNamesOk src = true) (hcodes : Comp.CodesOk Generated.nupackTable src = true)
    (hpfx : ParsePil.charsOk pfx = true) (hsrc : ParsePil.srcCharsOk src = true)
    {spec : Spec} (hload : Pil.load Generated.nupackTable (Emit.compStmts st) {} = .ok spec)
    (hn : MfeNamesDistinct spec) {a : Arrays} (ha : getConstraints .strand spec = .ok a) {nts : List Char}
    (hg : ArraysGood a nts) :
    ∃ (o : Denote.Out) (ports : List (List Nuc × Bool)) (asg : Var → Base) (assigned : Mfe.Assigned) (out : Finish.Out),
      Denote.denoteComp src pfx anon = .ok (o, ports, a') ∧
      Mfe.processResults Generated.pilTable spec (startOf .strand spec) nts = .ok (assigned, strandSeqs spec asg) ∧
      Mfe.output Generated.pilTable spec assigned (strandSeqs spec asg) = some (mfeLines Generated.pilTable spec asg) ∧
      (∀ gc : List Char, Finish.okWord Finish.isNumChar gc = true → Finish.validFloat gc = true →
        Finish.finishText Generated.dnaTable Generated.alphaMfeSeq (.comp st)
          (Finish.render (mfeRecsGC Generated.pilTable spec asg gc) "0.000000".toList) = .ok out) ∧
      Sat Generated.pilTable (o.design []) asg ∧ Entries Generated.pilTable (o.design []) asg out ∧
      SatSrc Generated.pilTable (o.design []) out := by
  obtain ⟨o, ports, asg, assigned, out, hden, hpr, hout, hap, hsat, hent, hss⟩ :=
    Pepper.C06.end_to_end_component hcomp hnames hcodes hload hn ha hg
  have hchars := (ParsePil.compNamesOk_of_load hcomp hnames hpfx hsrc).1
  refine ⟨o, ports, asg, assigned, out, hden, hpr, hout, ?_, hsat, hent, hss⟩
  intro gc hg1 hg2
  exact (Pepper.C06.text_level_partial hg1 hg2
    (mfeRecs_readable_component hcomp hnames hchars hload asg hg1 hg2) (.comp st) out).2 hap

/-- the strand clause (and the sequence clause) of `specReadable`, on their own: in the specification of a compiled
    tree no sequence and no strand has length 0 -/
theorem lengths_nonzero_of_compile {b : Sys.Bundle} {fuel : Nat} {base : String} {args : Nat}
    {argKey pfx path : String} {includes : List String} {anon : Nat} {inst : Sys.Inst} {a' : Nat}
    (hfile : Sys.loadFile b fuel base args argKey pfx path includes anon = .ok (inst, a'))
    (hb : SysProofs.bundleOk Generated.nupackTable b = true) (hchars : ParsePil.instNamesOk inst = true)
    {spec : Spec} (hload : Pil.load Generated.nupackTable (Emit.instStmts inst) {} = .ok spec) :
    (∀ o ∈ spec.seqs, o.len ≠ 0) ∧ (∀ o ∈ spec.strands, o.len ≠ 0) := by
  have hr := specReadable_iff.1 (spec_readable_of_compile hfile hb hchars hload)
  exact ⟨fun o ho => (hr.seqs o ho).2, hr.strands⟩

/-- **(2), structure layout** (`--struct-orient`): `C06.end_to_end_struct` at the text level.  Its hypothesis "every
    strand is non-empty" does not appear here: it is the strand clause of `specReadable` (`lengths_nonzero_of_compile`);
    `Placed spec` (every non-empty strand occurs in some structure) stays. -/
theorem end_to_end_text_struct {b : Sys.Bundle} {fuel : Nat} {base : String} {args : Nat} {argKey pfx path : String}
    {includes : List String} {anon : Nat} {inst : Sys.Inst} {a' : Nat}
    (hfile : Sys.loadFile b fuel base args argKey pfx path includes anon = .ok (inst, a'))
    (hb : SysProofs.bundleOk Generated.nupackTable b = true)
    (hchars : ParsePil.bundleCharsOk b = true) (hpfx : ParsePil.charsOk pfx = true)
    {spec : Spec} (hload : Pil.load Generated.nupackTable (Emit.instStmts inst) {} = .ok spec)
    (hp : Placed spec)
    (hn : MfeNamesDistinct spec) {a : Arrays} (ha : getConstraints .struct spec = .ok a) {nts : List Char}
    (hg : ArraysGood a nts) :
    ∃ (d : Design) (ports : List (List Nuc × Bool)) (asg : Var → Base) (assigned : Mfe.Assigned) (out : Finish.Out),
      Denote.denoteFile b fuel base args argKey pfx path includes anon = .ok (d, ports, a') ∧
      Mfe.processResults Generated.pilTable spec (startOf .struct spec) nts = .ok (assigned, strandSeqs spec asg) ∧
      Mfe.output Generated.pilTable spec assigned (strandSeqs spec asg) = some (mfeLines Generated.pilTable spec asg) ∧
      (∀ gc : List Char, Finish.okWord Finish.isNumChar gc = true → Finish.validFloat gc = true →
        Finish.finishText Generated.dnaTable Generated.alphaMfeSeq inst
          (Finish.render (mfeRecsGC Generated.pilTable spec asg gc) "0.000000".toList) = .ok out) ∧
      Sat Generated.pilTable d asg ∧ Entries Generated.pilTable d asg out ∧ SatSrc Generated.pilTable d out := by
  have hnames := ParsePil.instNamesOk_of_bundle (fun _ _ hl => (SysProofs.bundleOk_comp hb hl).1) hchars hfile hpfx
  have hne := (lengths_nonzero_of_compile hfile hb hnames hload).2
  obtain ⟨d, ports, asg, assigned, out, hden, hpr, hout, hap, hsat, hent, hss⟩ :=
    Pepper.C06.end_to_end_struct hfile hb hload hp hne hn ha hg
  refine ⟨d, ports, asg, assigned, out, hden, hpr, hout, ?_, hsat, hent, hss⟩
  intro gc hg1 hg2
  exact (Pepper.C06.text_level_partial hg1 hg2 (mfeRecs_readable hfile hb hnames hload asg hg1 hg2) inst out).2 hap

/-! ### non-vacuity: the duplex of `C06.lean`, through the text -/

open Pepper.C06

/-- the source predicates of the duplex hold -/
theorem dup_chars : ParsePil.srcCharsOk dupSrc = true ∧ ParsePil.charsOk "d-" = true := by decide +kernel

/-- the condition holds for the specification of the duplex (evaluated), as `spec_readable_of_compile_component` says -/
example : specReadable dupSpec = true := by decide +kernel

/-- the theorem applies to the duplex with the token `0.500000`: finishing the TEXT succeeds and the finished output
    satisfies the source -/
example : ∃ (o : Denote.Out) (ports : List (List Nuc × Bool)) (asg : Var → Base) (out : Finish.Out),
    Denote.denoteComp dupSrc "d-" 0 = .ok (o, ports, 0) ∧
    Finish.finishText Generated.dnaTable Generated.alphaMfeSeq (.comp dupSt)
      (Finish.render (mfeRecsGC Generated.pilTable dupSpec asg "0.500000".toList) "0.000000".toList) = .ok out ∧
    SatSrc Generated.pilTable (o.design []) out := by
  obtain ⟨o, ports, asg, _, out, h1, _, _, h4, _, _, h7⟩ :=
    end_to_end_text_component dup_load dup_hyps.1 dup_hyps.2 dup_chars.2 dup_chars.1 dup_spec dup_distinct
      dup_arrays dup_good
  exact ⟨o, ports, asg, out, h1, h4 _ (by decide) (by decide), h7⟩

/-- the assignment that reads `dupNts`: `a ↦ A, C, G` -/
def dupAsg : Var → Base := fun v => match v.idx with | 0 => .A | 1 => .C | _ => .G

/-- the text of the theorem for that assignment, evaluated: with the GC-contents the real writer prints
    (`(count C + count G) / length`: 4/6 for the structure, 2/3 for `a`, the same variable again for `a*`) it is, byte for
    byte, the file `Convert.output(findmfe=False)` writes for the duplex -/
example : Finish.render (mfeRecsGC Generated.pilTable dupSpec dupAsg "0.666667".toList) "0.000000".toList =
    ("0:d-D\nACG+CGT 0.000000 0.666667 0\n(((+)))\n(((+)))\n" ++
     "1:d-a\nACG 0.000000 0.666667 0\n...\n...\n" ++
     "0:d-a*\nCGT 0.000000 0.666667 0\n...\n...\n" ++
     "Total n(s*) = 0.000000").toList := by
  -- a literal is `String.ofList` of its characters: rewritten, the kernel need not decode the literals' UTF-8
  simp only [String.toList_append]
  repeat rw [String.toList_ofList]
  decide +kernel

/-- … and finishing that text, evaluated -/
example : Finish.finishText Generated.dnaTable Generated.alphaMfeSeq (.comp dupSt)
    (Finish.render (mfeRecsGC Generated.pilTable dupSpec dupAsg "0.666667".toList) "0.000000".toList) =
    .ok ⟨[("d-a", "ACG".toList)], [("d-A", false, "ACG".toList), ("d-B", false, "CGT".toList)],
         [("d-D", "ACG+CGT".toList)]⟩ := by
  repeat rw [String.toList_ofList]
  decide +kernel

/-- one token per record: the `i`-th record carries its own float -/
example : Finish.render (mfeRecsTok Generated.pilTable dupSpec dupAsg
      (fun i => match i with | 0 => "0.666667".toList | 1 => "0.5".toList | _ => "1".toList)) "0.000000".toList =
    ("0:d-D\nACG+CGT 0.000000 0.666667 0\n(((+)))\n(((+)))\n" ++
     "1:d-a\nACG 0.000000 0.5 0\n...\n...\n" ++
     "0:d-a*\nCGT 0.000000 1 0\n...\n...\n" ++
     "Total n(s*) = 0.000000").toList := by
  simp only [String.toList_append]
  repeat rw [String.toList_ofList]
  decide +kernel

/-- a zero-length domain is NOT written: the component of `C06.lean` Part 1 with the zero-length sequence `z` emits no
    statement for it (so the `.mfe` has no record `c-z`; `finish` writes `sequence c-z = ` on its own) … -/
example : (Emit.compStmts exComp).filterMap seqNameOf = ["c-a", "c-b", "c-ab"] := by decide +kernel

/-- … and a specification that did contain a zero-length sequence is outside the condition -/
example : specReadable { dupSpec with seqs := dupSpec.seqs ++ [⟨"d-z", false, 0, [], [], [⟨"d-z", false, 0⟩]⟩] } = false := by
  decide +kernel

/-- a name outside the reader's alphabet is outside the source predicate -/
example : ParsePil.srcCharsOk { dupSrc with stmts := [.seq "a.b" [.nuc "2N".toList] none] } = false := by decide +kernel

end Pepper.C06.Text
