import PepperProofs.ClosureStaged
/-!
# C07 — `propagate_constraints` computes exactly the parity-labelled connected classes

Model: `PepperModel/Closure.lean` (`propagate`), source `design/constraints.py`.
Specification: `Reach eq wc x p y` — there is a path from `x` to `y` along `eq`/`wc` edges whose number
of `wc` edges has parity `p`.  Under the documented precondition `Pre` (same duplicate-free keys, every
neighbour is a key, both relations symmetric) the function returns without an assertion failure, has
exactly the keys of `eq` as keys, and maps every item to (its even-parity class, its odd-parity class).
The proofs are in `PepperProofs/ClosureClass` (inner `while` loop, fuel sufficiency) and
`PepperProofs/Closure` (outer `for` loop).

Staged use (`design/constraint_load.py : Constraints.propagate` stores the result back as the link
collections, and the store is then extended and propagated again): `propagate_idempotent` and
`propagate_staged`, proofs in `PepperProofs/ClosureStaged`.
-/
namespace Pepper.C07
open Pepper.Closure

/-- Under the documented precondition neither the key assert nor the per-item asserts fire, and for
    every item `x` the stored pair `(E, W)` is exact: `E` is the set of items at even parity distance
    from `x` (`x` included), `W` the set of items at odd parity distance. -/
theorem propagate_exact {eq wc : Adj} (h : Pre eq wc) :
    ∃ r, propagate eq wc = .ok r ∧
      ∀ x ∈ keys eq, ∃ E W, r.get x = some (E, W) ∧
        (∀ y, y ∈ E ↔ Reach eq wc x false y) ∧ (∀ y, y ∈ W ↔ Reach eq wc x true y) := by
  obtain ⟨r, e, i, hx, _⟩ := propagate_closed h
  exact ⟨r, e, fun x xk => i.get (hx x xk)⟩

/-- No junk entries: every key of the result is one of the items being constrained (so with
    `propagate_exact` the result's key set is exactly `keys eq`). -/
theorem propagate_keys {eq wc : Adj} (h : Pre eq wc) :
    ∃ r, propagate eq wc = .ok r ∧ ∀ x, r.has x = true → x ∈ keys eq := by
  obtain ⟨r, e, i, _⟩ := propagate_closed h
  exact ⟨r, e, i.isKey⟩

/-- The result does not depend on the order of the keys or of the adjacency lists (Python: on dict
    insertion order or set iteration order): two inputs with the same keys and the same neighbour
    *sets* yield, for every item, the same two sets. -/
theorem order_independent {eq wc eq' wc' : Adj} (h : Pre eq wc) (h' : Pre eq' wc')
    (hk : ∀ x, x ∈ keys eq ↔ x ∈ keys eq')
    (he : ∀ x y, y ∈ nb eq x ↔ y ∈ nb eq' x) (hw : ∀ x y, y ∈ nb wc x ↔ y ∈ nb wc' x) :
    ∃ r r', propagate eq wc = .ok r ∧ propagate eq' wc' = .ok r' ∧
      ∀ x ∈ keys eq, ∃ E W E' W', r.get x = some (E, W) ∧ r'.get x = some (E', W') ∧
        (∀ y, y ∈ E ↔ y ∈ E') ∧ (∀ y, y ∈ W ↔ y ∈ W') := by
  obtain ⟨r, e, hr⟩ := propagate_exact h
  obtain ⟨r', e', hr'⟩ := propagate_exact h'
  refine ⟨r, r', e, e', fun x xk => ?_⟩
  obtain ⟨E, W, g, hE, hW⟩ := hr x xk
  obtain ⟨E', W', g', hE', hW'⟩ := hr' x ((hk x).1 xk)
  have same : ∀ p y, Reach eq wc x p y ↔ Reach eq' wc' x p y := fun p y =>
    ⟨Reach.mono (fun x y => (he x y).1) (fun x y => (hw x y).1),
      Reach.mono (fun x y => (he x y).2) (fun x y => (hw x y).2)⟩
  exact ⟨E, W, E', W', g, g', fun y => by rw [hE, hE', same], fun y => by rw [hW, hW', same]⟩

/-- `Constraints.propagate()` twice in a row is sound.  Read the result `r` of a successful call back
    as link lists (`r.eqAdj`: every item ↦ all its equals, itself included; `r.wcAdj`: every item ↦ all
    its complements).  These satisfy the documented precondition again, the second call succeeds,
    has no keys but the items, and maps every item to the same two classes (as sets) as the first. -/
theorem propagate_idempotent {eq wc : Adj} {r : Res} (h : Pre eq wc) (e : propagate eq wc = .ok r) :
    Pre r.eqAdj r.wcAdj ∧
    ∃ r', propagate r.eqAdj r.wcAdj = .ok r' ∧
      (∀ x, r'.has x = true → x ∈ keys eq) ∧
      ∀ x ∈ keys eq, ∃ E' W', r'.get x = some (E', W') ∧
        (∀ y, y ∈ E' ↔ Reach eq wc x false y) ∧ (∀ y, y ∈ W' ↔ Reach eq wc x true y) :=
  Pepper.Closure.propagate_idempotent h e

/-- Staged use of the store is sound.  After a successful propagation the result `r` is kept as the
    basis, fresh items are added (`eq2`/`wc2`: keys disjoint from the old ones, documented
    precondition among themselves, hence linked only among themselves) and the whole is propagated
    again.  Then the extended store satisfies the documented precondition, the second call succeeds,
    its keys are exactly the old and the fresh items, and every item is mapped to exactly its
    even-parity / odd-parity class in the combined *original* basis `(eq ++ eq2, wc ++ wc2)` — which
    for an old item are its classes in `(eq, wc)` and for a fresh item its classes in `(eq2, wc2)`.
    Nothing is assumed about `r` except that it is what the first call returned. -/
theorem propagate_staged {eq wc eq2 wc2 : Adj} {r : Res} (h : Pre eq wc)
    (e : propagate eq wc = .ok r) (h2 : Pre eq2 wc2) (hd : ∀ x, x ∈ keys eq → x ∉ keys eq2) :
    Pre (r.eqAdj ++ eq2) (r.wcAdj ++ wc2) ∧
    ∃ r', propagate (r.eqAdj ++ eq2) (r.wcAdj ++ wc2) = .ok r' ∧
      (∀ x, r'.has x = true → x ∈ keys eq ++ keys eq2) ∧
      (∀ x ∈ keys eq ++ keys eq2, ∃ E W, r'.get x = some (E, W) ∧
        (∀ y, y ∈ E ↔ Reach (eq ++ eq2) (wc ++ wc2) x false y) ∧
        (∀ y, y ∈ W ↔ Reach (eq ++ eq2) (wc ++ wc2) x true y)) ∧
      (∀ x ∈ keys eq, ∃ E W, r'.get x = some (E, W) ∧
        (∀ y, y ∈ E ↔ Reach eq wc x false y) ∧ (∀ y, y ∈ W ↔ Reach eq wc x true y)) ∧
      (∀ x ∈ keys eq2, ∃ E W, r'.get x = some (E, W) ∧
        (∀ y, y ∈ E ↔ Reach eq2 wc2 x false y) ∧ (∀ y, y ∈ W ↔ Reach eq2 wc2 x true y)) :=
  Pepper.Closure.propagate_staged h e h2 hd

/-- The stored classes are coherent (what `constraint_load` relies on when it reads ONE member's record
    for the whole class): the record of every member `y` of `x`'s even class is `x`'s record (as sets),
    and the record of every member of `x`'s odd class is `x`'s record with the two sets swapped. -/
theorem result_classes_coherent {eq wc : Adj} (h : Pre eq wc) :
    ∃ r, propagate eq wc = .ok r ∧
      ∀ x ∈ keys eq, ∀ Ex Wx, r.get x = some (Ex, Wx) →
        (∀ y ∈ Ex, ∃ Ey Wy, r.get y = some (Ey, Wy) ∧
            (∀ z, z ∈ Ey ↔ z ∈ Ex) ∧ (∀ z, z ∈ Wy ↔ z ∈ Wx)) ∧
        (∀ y ∈ Wx, ∃ Ey Wy, r.get y = some (Ey, Wy) ∧
            (∀ z, z ∈ Ey ↔ z ∈ Wx) ∧ (∀ z, z ∈ Wy ↔ z ∈ Ex)) := by
  obtain ⟨r, e, i, all, _⟩ := propagate_closed h
  refine ⟨r, e, fun x xk Ex Wx g => ?_⟩
  obtain ⟨hE, hW⟩ := i.exact x Ex Wx g
  have member : ∀ p y, Reach eq wc x p y → ∃ Ey Wy, r.get y = some (Ey, Wy) ∧
      (∀ z, z ∈ Ey ↔ Reach eq wc x p z) ∧ (∀ z, z ∈ Wy ↔ Reach eq wc x (!p) z) := by
    intro p y ry
    obtain ⟨Ey, Wy, gy, hEy, hWy⟩ := i.get (all y (ry.mem_keys h.keyClosed xk))
    have sh := h.reach_shift_both ry
    exact ⟨Ey, Wy, gy, fun z => (hEy z).trans (sh z).1, fun z => (hWy z).trans (sh z).2⟩
  constructor
  · intro y hy
    obtain ⟨Ey, Wy, gy, hEy, hWy⟩ := member false y ((hE y).1 hy)
    exact ⟨Ey, Wy, gy, fun z => by rw [hEy, hE], fun z => by rw [hWy, hW]; rfl⟩
  · intro y hy
    obtain ⟨Ey, Wy, gy, hEy, hWy⟩ := member true y ((hW y).1 hy)
    exact ⟨Ey, Wy, gy, fun z => by rw [hEy, hW], fun z => by rw [hWy, hE]; rfl⟩

/-- The result is a symmetric relation: `y` is among `x`'s equals iff `x` is among `y`'s, and the same
    for complements. -/
theorem result_symmetric {eq wc : Adj} (h : Pre eq wc) :
    ∃ r, propagate eq wc = .ok r ∧
      ∀ x ∈ keys eq, ∀ y ∈ keys eq, ∀ Ex Wx Ey Wy,
        r.get x = some (Ex, Wx) → r.get y = some (Ey, Wy) →
        (y ∈ Ex ↔ x ∈ Ey) ∧ (y ∈ Wx ↔ x ∈ Wy) := by
  obtain ⟨r, e, i, _⟩ := propagate_closed h
  refine ⟨r, e, fun x _ y _ Ex Wx Ey Wy gx gy => ?_⟩
  obtain ⟨hE, hW⟩ := i.exact x Ex Wx gx
  obtain ⟨hE', hW'⟩ := i.exact y Ey Wy gy
  have symm : ∀ p, Reach eq wc x p y ↔ Reach eq wc y p x := fun p =>
    ⟨h.reach_symm, h.reach_symm⟩
  exact ⟨by rw [hE, hE', symm], by rw [hW, hW', symm]⟩

/-- `x` lies in its own complement class iff some item is both an equal and a complement of `x` (an odd cycle: the
    condition C15 reports as unsatisfiable). -/
theorem self_complementary_iff_overlap {eq wc : Adj} (h : Pre eq wc) :
    ∃ r, propagate eq wc = .ok r ∧
      ∀ x ∈ keys eq, ∀ Ex Wx, r.get x = some (Ex, Wx) →
        (x ∈ Wx ↔ ∃ y, y ∈ Ex ∧ y ∈ Wx) := by
  obtain ⟨r, e, i, _⟩ := propagate_closed h
  refine ⟨r, e, fun x _ Ex Wx g => ?_⟩
  obtain ⟨hE, hW⟩ := i.exact x Ex Wx g
  constructor
  · intro hx; exact ⟨x, (hE x).2 Reach.refl, hx⟩
  · rintro ⟨y, yE, yW⟩
    -- out to `y` at even parity and back at odd parity
    exact (hW x).2 (((hE y).1 yE).trans (h.reach_symm ((hW y).1 yW)))

/-- The executable precondition check used by the driver and the harness generators is sound. -/
theorem pre_of_preB {eq wc : Adj} (h : preB eq wc = true) : Pre eq wc := Pre.of_preB h

/-- The naive saturation oracle (a different algorithm, used by the failing-input search) only ever
    reports parity-reachable items; no precondition needed. -/
theorem naive_sound (eq wc : Adj) (x y : Item) :
    (y ∈ (naiveClass eq wc x).1 → Reach eq wc x false y) ∧
    (y ∈ (naiveClass eq wc x).2 → Reach eq wc x true y) := by
  have h : NSound eq wc x (naiveIter eq wc (2 * (keys eq).length + 2) [(x, false)]) :=
    nsound_iter _ fun q hq => by rw [List.mem_singleton.1 hq]; exact Reach.refl
  have pick : ∀ (b : Bool) (f : Item × Bool → Bool), (∀ q, f q = true → q.2 = b) →
      y ∈ ((naiveIter eq wc (2 * (keys eq).length + 2) [(x, false)]).filter f).map (·.1) →
      Reach eq wc x b y := by
    intro b f hf hy
    obtain ⟨q, hq, rfl⟩ := List.mem_map.1 hy
    obtain ⟨hm, hp⟩ := List.mem_filter.1 hq
    exact hf q hp ▸ h q hm
  exact ⟨pick false _ (fun q hq => by simpa using hq), pick true _ (fun q hq => hq)⟩

/-! ### non-vacuity

One input with an odd cycle (`0 ~ 1 ~ 2 ~ 0`: each of the three is both equal and complementary to
each, itself included), an isolated item (`3`), and a mixed chain (`4 = 5 ~ 6 = 7`). -/

abbrev exEq : Adj := [(0, []), (1, []), (2, []), (3, []), (4, [5]), (5, [4]), (6, [7]), (7, [6])]
abbrev exWc : Adj := [(0, [1, 2]), (1, [0, 2]), (2, [1, 0]), (3, []), (4, []), (5, [6]), (6, [5]), (7, [])]

/-- the precondition is satisfiable by a graph with all three features -/
example : Pre exEq exWc := pre_of_preB (by decide +kernel)

/-- and the model evaluates on it to the expected classes -/
example : propagate exEq exWc = .ok
    [(2, [0, 2, 1], [2, 1, 0]), (1, [0, 2, 1], [2, 1, 0]), (0, [0, 2, 1], [2, 1, 0]),
     (3, [3], []),
     (4, [4, 5], [7, 6]), (5, [4, 5], [7, 6]), (7, [7, 6], [4, 5]), (6, [7, 6], [4, 5])] := by decide +kernel

/-- the specification is not trivially true or false on it: `4` reaches `7` with odd parity only via
    the chain, and the odd cycle makes `0` its own complement -/
example : Reach exEq exWc 4 true 7 ∧ Reach exEq exWc 0 true 0 := by
  refine ⟨?_, ?_⟩
  · have a : Reach exEq exWc 4 false 5 := Reach.eqStep Reach.refl (by decide)
    have b : Reach exEq exWc 4 true 6 := Reach.wcStep a (by decide)
    exact Reach.eqStep b (by decide)
  · have a : Reach exEq exWc 0 true 1 := Reach.wcStep Reach.refl (by decide)
    have b : Reach exEq exWc 0 false 2 := Reach.wcStep a (by decide)
    exact Reach.wcStep b (by decide)

/-- without the symmetry precondition the Python's own assert fires (the precondition is needed):
    `1 ∈ eq[0]` but `0 ∉ eq[1]`; resolving `1` first and then `0` finds `1` already resolved -/
example : propagate [(1, []), (0, [1])] [(1, []), (0, [])] = .error .assertion := by decide +kernel

/-! ### non-vacuity of the staged theorems

The first stage is the example above; the second stage adds two fresh items linked to each other
(`8 ~ 9`) and a fresh isolated item (`10`). -/

/-- the result of the first stage (see the evaluation above) -/
abbrev exRes : Res :=
  [(2, [0, 2, 1], [2, 1, 0]), (1, [0, 2, 1], [2, 1, 0]), (0, [0, 2, 1], [2, 1, 0]),
   (3, [3], []),
   (4, [4, 5], [7, 6]), (5, [4, 5], [7, 6]), (7, [7, 6], [4, 5]), (6, [7, 6], [4, 5])]
/-- second stage: `eq` basis of the fresh items -/
abbrev exEq2 : Adj := [(8, []), (9, []), (10, [])]
/-- second stage: `wc` basis of the fresh items -/
abbrev exWc2 : Adj := [(8, [9]), (9, [8]), (10, [])]

/-- the hypotheses of `propagate_staged` (and of `propagate_idempotent`) are satisfiable -/
example : Pre exEq exWc ∧ propagate exEq exWc = .ok exRes ∧ Pre exEq2 exWc2 ∧
    ∀ x, x ∈ keys exEq → x ∉ keys exEq2 :=
  ⟨pre_of_preB (by decide +kernel), by decide +kernel, pre_of_preB (by decide +kernel), by decide +kernel⟩

/-- propagating the stored result again returns the same classes (as sets; the order differs) -/
example : propagate exRes.eqAdj exRes.wcAdj = .ok
    [(1, [0, 1, 2], [1, 2, 0]), (2, [0, 1, 2], [1, 2, 0]), (0, [0, 1, 2], [1, 2, 0]),
     (3, [3], []),
     (5, [5, 4], [6, 7]), (4, [5, 4], [6, 7]), (6, [6, 7], [5, 4]), (7, [6, 7], [5, 4])] := by decide +kernel

/-- after adding the fresh items the old classes are unchanged and the fresh ones are exact -/
example : propagate (exRes.eqAdj ++ exEq2) (exRes.wcAdj ++ exWc2) = .ok
    [(1, [0, 1, 2], [1, 2, 0]), (2, [0, 1, 2], [1, 2, 0]), (0, [0, 1, 2], [1, 2, 0]),
     (3, [3], []),
     (5, [5, 4], [6, 7]), (4, [5, 4], [6, 7]), (6, [6, 7], [5, 4]), (7, [6, 7], [5, 4]),
     (8, [8], [9]), (9, [9], [8]), (10, [10], [])] := by decide +kernel

end Pepper.C07
