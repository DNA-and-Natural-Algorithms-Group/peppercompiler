import PepperProofs.Notation
/-!
# C08 — the secondary-structure notations agree

"Helix/unpaired (HU) notation, run-length dot-paren, plain dot-paren and domain-level dot-paren
descriptions of one structure always compile to the identical nucleotide-level dot-paren string, whose
per-strand lengths match the strands and whose parentheses balance; converting any balanced dot-paren
string to HU notation and back returns the original string.  Unbalanced or wrongly sized descriptions
are rejected."

Model: `PepperModel/Notation.lean`; proofs: `PepperProofs/Notation.lean`.  A structure is an abstract
tree `ts : List T` (dots, strand breaks, pairs around sub-structures); `flatL ts` is its plain dot-paren
string.  Every balanced string is `flatL ts` for exactly one `ts` (`parseDP_flat`, `flat_of_parseDP`,
`balanced_iff`), so quantifying over `ts` is quantifying over all balanced strings.
-/
namespace Pepper.C08
open Pepper.Notation

/-- the dot-paren parser accepts the printed form of every structure tree and returns that tree -/
theorem parseDP_flat (ts : List T) : parseDP (flatL ts) = some ts :=
  Notation.parseDP_flat ts

/-- whatever the dot-paren parser accepts, it accepts as the printed form of the tree it returns -/
theorem flat_of_parseDP {s : List Char} {ts : List T} (h : parseDP s = some ts) : flatL ts = s :=
  Notation.flat_of_parseDP h

/-- a string is balanced (depth counter never negative, ends at 0, only `.()+`) iff the dot-paren grammar
    accepts it -/
theorem balanced_iff (s : List Char) : balanced s = true ↔ (parseDP s).isSome = true :=
  Notation.balanced_iff s

/-- converting a structure tree to HU terms and expanding them gives back the tree's dot-paren string
    (with the fuel `dotParen2HU` uses) -/
theorem expand_toHU (ts : List T) : expandL (toHU (sizeL ts + 1) ts) = flatL ts :=
  Notation.expand_toHU ts

/-- the same for every sufficient fuel -/
theorem expand_toHU_fuel (fuel : Nat) (ts : List T) (h : sizeL ts < fuel) : expandL (toHU fuel ts) = flatL ts :=
  Notation.expand_toHU_fuel fuel ts h

/-- every HU expression expands to a balanced dot-paren string -/
theorem hu_balanced (h : List HU) : balanced (expandL h) = true :=
  Notation.hu_balanced h

/-- plain dot-paren: the string of a structure compiles to itself -/
theorem plain_compiles (ts : List T) : compileToks false ((flatL ts).map Tok.ch) = some (flatL ts) :=
  Notation.plain_compiles ts

/-- run-length dot-paren: any run-length description whose expansion is the structure's string compiles
    to that string -/
theorem runlength_compiles (rl : List (Nat × Char)) (ts : List T) (hs : ∀ p ∈ rl, isDPSym p.2 = true)
    (he : expandExt rl = flatL ts) :
    compileToks false (rl.flatMap (fun p => [Tok.num p.1, Tok.ch p.2])) = some (flatL ts) :=
  Notation.runlength_compiles rl ts hs he

/-- HU: the canonical tokens of an HU expression compile to its expansion -/
theorem hu_compiles (h : List HU) : compileToks true (toksOfHU h) = some (expandL h) :=
  Notation.hu_compiles h

/-- the three nucleotide-level notations of one structure `ts` (HU as produced by `dotParen2HU`, any
    run-length description of it, plain) compile to the identical string `flatL ts`, which is balanced -/
theorem notations_agree (ts : List T) (rl : List (Nat × Char)) (hs : ∀ p ∈ rl, isDPSym p.2 = true)
    (he : expandExt rl = flatL ts) :
    compileToks true (toksOfHU (toHU (sizeL ts + 1) ts)) = some (flatL ts) ∧
    compileToks false (rl.flatMap (fun p => [Tok.num p.1, Tok.ch p.2])) = some (flatL ts) ∧
    compileToks false ((flatL ts).map Tok.ch) = some (flatL ts) ∧
    balanced (flatL ts) = true :=
  ⟨by rw [Notation.hu_compiles, Notation.expand_toHU], Notation.runlength_compiles rl ts hs he,
   Notation.plain_compiles ts, Notation.balanced_flatL ts⟩

/-- rejection: a run-length description whose expansion is unbalanced does not compile -/
theorem unbalanced_rejected (rl : List (Nat × Char)) (hs : ∀ p ∈ rl, isDPSym p.2 = true)
    (h : balanced (expandExt rl) = false) :
    compileToks false (rl.flatMap (fun p => [Tok.num p.1, Tok.ch p.2])) = none :=
  Notation.unbalanced_rejected rl hs h

/-- printing a token stream (every token followed by a blank) and tokenizing it returns the stream,
    provided no character token is a digit or white space -/
theorem tokenize_renderToks (ts : List Tok)
    (h : ∀ t ∈ ts, match t with | Tok.ch c => !c.isDigit && !isWs c | _ => true) :
    tokenize (renderToks ts) = ts :=
  Notation.tokenize_renderToks ts h

/-- the text `dotParen2HU` prints for an HU expression tokenizes to the expression's canonical tokens -/
theorem tokenize_render (h : List HU) : tokenize (stripWs (renderL h)) = toksOfHU h := by
  rw [Notation.tokenize_stripWs, Notation.tokenize_renderL]

/-- converting any balanced dot-paren string to HU text and back returns the original string -/
theorem hu_roundtrip (s : List Char) (h : balanced s = true) : (dotParen2HU s).bind HU2dotParen = some s :=
  Notation.hu_roundtrip s h

/-- an accepted domain-level expansion is balanced and has one segment per strand, each as long as the sum
    of that strand's domain lengths -/
theorem domainExpand_sound {struct : List Char} {doms : List (List Nat)} {full : List Char}
    (h : domainExpand struct doms = some full) :
    balanced full = true ∧ sizesOk full (doms.map List.sum) = true :=
  Notation.domainExpand_sound h

/-! ### non-vacuity
(`rw [String.toList_ofList]` first: see the head of `PepperProofs/ParsePil.lean`) -/

/-- HU text and run-length text of one structure compile to the same plain string -/
example : compileStruct "U3 H2(U1 +) U2".toList = some "...((.+))..".toList := by
  repeat rw [String.toList_ofList]
  decide +kernel
example : compileStruct "3. 2( . + 2) ..".toList = some "...((.+))..".toList := by
  repeat rw [String.toList_ofList]
  decide +kernel
example : compileStruct "...((.+))..".toList = some "...((.+))..".toList := by
  repeat rw [String.toList_ofList]
  decide +kernel
/-- and back -/
example : dotParen2HU "...((.+))..".toList = some "U3 H2(U1 +) U2".toList := by
  repeat rw [String.toList_ofList]
  decide +kernel
/-- rejections: unbalanced run-length text, unbalanced plain text, unclosed helix -/
example : compileStruct "3( 2)".toList = none := by
  repeat rw [String.toList_ofList]
  decide +kernel
example : compileStruct "(()".toList = none := by
  repeat rw [String.toList_ofList]
  decide +kernel
example : compileStruct "H2(U3".toList = none := by
  repeat rw [String.toList_ofList]
  decide +kernel
/-- the hypotheses of `runlength_compiles` and `unbalanced_rejected` are satisfiable -/
example : (∀ p ∈ [(2, '('), (3, '.'), (2, ')')], isDPSym p.2 = true) ∧
    expandExt [(2, '('), (3, '.'), (2, ')')] = flatL [T.pair [T.pair [T.dot, T.dot, T.dot]]] := by decide
example : (∀ p ∈ [(3, '('), (2, ')')], isDPSym p.2 = true) ∧ balanced (expandExt [(3, '('), (2, ')')]) = false := by
  decide
/-- domain level: wrongly sized and unbalanced descriptions are rejected, a good one is expanded -/
example : domainExpand "()".toList [[3, 5]] = none := by
  repeat rw [String.toList_ofList]
  decide +kernel
example : domainExpand "(.)".toList [[2, 1]] = none := by
  repeat rw [String.toList_ofList]
  decide +kernel
example : domainExpand "(+)".toList [[2]] = none := by
  repeat rw [String.toList_ofList]
  decide +kernel
example : domainExpand "(.)".toList [[2, 1, 2]] = some "((.))".toList := by
  repeat rw [String.toList_ofList]
  decide +kernel
example : domainExpand "(.+)".toList [[2, 1], [2]] = some "((.+))".toList ∧
    sizesOk "((.+))".toList [3, 2] = true := by
  repeat rw [String.toList_ofList]
  decide +kernel

end Pepper.C08
