import PepperProofs.WellFormed
import PepperProofs.SysPil
import PepperProps.C02
/-!
# C09 — accepted programs are well formed; malformed ones never compile silently

"Whenever the compiler produces output, every emitted structure is balanced and has one segment per strand whose
length equals that strand's length, every strand's length equals the sum of its domains and any declared length,
every name refers to a unique earlier definition, and instance arguments match template parameters in number.  A
program that violates one of these, including any single-token corruption of a valid program, is either rejected
or compiles to a specification that still satisfies all of them."

Model: `PepperModel/Comp.lean` (`Comp.load` = `load_component` from the statement loop on), `PepperModel/Emit.lean`
(`compStmts` / `instStmts`: the emitted PIL as the statement list a PIL reader obtains), `PepperModel/Sys.lean`
(`loadFile`).  Proofs: `PepperProofs/WellFormed.lean` (the predicate `WellFormedPil` and its relation to `Pil.load`),
`PepperProofs/CompWF.lean` / `CompStep.lean` (the table invariant `WF`, preserved by every accepted statement),
`PepperProofs/SysPil.lean` (systems).  Both theorems are read off the read-back theorems of C01 / C02 (`emit_sound`,
`tree_full`) through `wellFormed_of_load`: the output is well formed because `Pil.load` accepts it and its structures
are balanced.

The theorems quantify over EVERY source AST: there is no well-formedness hypothesis on the program, so a corrupted
program is just another `src`.  (The map from bytes to an AST-or-reject is `PepperModel/ParseComp.lean` / `ParseSys.lean`; from TEXT the theorems
are `ParseComp.Props.text_output_wellformed` and `ParseSys.Props.output_wellformed_system_text`, which discharge the name
hypotheses from what the parsers accept; the implementation's is explored by token-level mutation in `harness/props/c09.py`.)  The only hypothesis is `UserNamesOk src`: no sequence
name the source defines or mentions has the compiler's reserved form `_Anon<digits>`, contains `*` or is empty.  It
is necessary: the compiler looks its own anonymous sequences up by name, so a user sequence called `_Anon7` is taken
for the anonymous region number 7 and the output can refer to a sequence of the wrong length; and the PIL reader
splits a trailing `*` off item names.
-/
namespace Pepper.C09
open Pepper.Comp Pepper.WellFormed

/-! ### the predicate -/

/-- unfolding of the definition.  What `step` checks (it returns the table extended by the statement, or `none` when a
    clause fails): names are new in their namespace; items (one trailing `*` stripped) and strands are
    defined EARLIER; a super-sequence's / strand's length is the sum of its items' lengths; a structure text uses only
    `.()+`, is balanced and its `+`-separated segments have exactly the lengths of its strands, in order; the members
    of an `equal` line have one length -/
theorem wellFormedPil_def (stmts : List Pil.Stmt) : WellFormedPil stmts = check stmts {} := rfl

theorem check_cons (st : Pil.Stmt) (r : List Pil.Stmt) (t : Tab) :
    check (st :: r) t = match step t st with | some t' => check r t' | none => false := rfl

/-- the structure clause in closed form -/
theorem structOk_iff (s : List Char) (lens : List Nat) :
    structOk s lens = true ↔
      (∀ c ∈ s, c = '.' ∨ c = '(' ∨ c = ')' ∨ c = '+') ∧ Notation.balanced s = true ∧
      (segments s).map List.length = lens := by
  simp only [structOk, Bool.and_eq_true, List.all_eq_true, Bool.or_eq_true, beq_iff_eq, and_assoc, or_assoc]

/-! ### components -/

/-- **C09, components.**  For every component source, every argument count, prefix and anonymous counter: if the
    compiler produces output, the emitted specification is well formed — every name is defined once and before use,
    every super-sequence and strand has the length of its items, every structure is balanced with one segment per
    strand of that strand's length. -/
theorem output_wellformed (src : Comp.Src) (n : Nat) (pfx : String) (a : Nat) (st : Comp.St) (a' : Nat)
    (hload : Comp.load src n pfx a = .ok (st, a')) (hnames : UserNamesOk src = true) :
    WellFormedPil (Emit.compStmts st) = true :=
  compStmts_wellFormed (Comp.load_WF hload (userNamesOk_stmts hnames))

/-- **declared lengths.**  In the tables the text is printed from (`Comp.emitPil`): the length of an atomic
    sequence's entry is the length of its constraint string; the length of a super-sequence / strand entry is
    the sum of the lengths of the items printed on that line (the non-dummy ones), and every item carries the length
    of the sequence it names.  (A declared length in the source different from that sum is rejected:
    `declared_length_enforced`.) -/
theorem declared_lengths_consistent (src : Comp.Src) (n : Nat) (pfx : String) (a : Nat) (st : Comp.St) (a' : Nat)
    (hload : Comp.load src n pfx a = .ok (st, a')) (hnames : UserNamesOk src = true) :
    (∀ e ∈ st.baseSeqs, e.len = e.const.length) ∧
    (∀ e ∈ st.supSeqs, e.len = ((e.items.filter (!·.dummy)).map (·.len)).sum ∧
        ∀ i ∈ e.items, ∃ ie, st.findSeq i.name = some ie ∧ i.len = ie.len) ∧
    (∀ t ∈ st.strands, t.len = ((t.items.filter (!·.dummy)).map (·.len)).sum ∧
        ∀ i ∈ t.items, ∃ ie, st.findSeq i.name = some ie ∧ i.len = ie.len) := by
  have hw := Comp.load_WF hload (userNamesOk_stmts hnames)
  refine ⟨?_, ?_, ?_⟩
  · intro e he
    simp only [St.baseSeqs, List.mem_filter, Bool.not_eq_true'] at he
    exact ((hw.seqs.entries e he.1).base he.2).2.1.symm
  · intro e he
    simp only [St.supSeqs, List.mem_filter] at he
    obtain ⟨h1, _, h3, _⟩ := (hw.seqs.entries e he.1).sup he.2
    exact ⟨by rw [sum_filter_nondummy]; exact h3, h1⟩
  · intro t ht
    have := hw.strands t ht
    exact ⟨by rw [sum_filter_nondummy]; exact this.len, this.items⟩

/-- the lines in question, as printed -/
theorem declared_length_lines (st : Comp.St) :
    (∀ e ∈ st.supSeqs, e.len ≠ 0 →
      "sup-sequence " ++ st.pfx ++ e.name ++ " = " ++ itemNames st.pfx e.items ++ " : " ++ toString e.len ∈ Comp.emitPil st) ∧
    (∀ t ∈ st.strands,
      "strand " ++ (if t.dummy then "[dummy] " else "") ++ st.pfx ++ t.name ++ " = " ++ itemNames st.pfx t.items ++ " : " ++
        toString t.len ∈ Comp.emitPil st) := by
  refine ⟨?_, ?_⟩
  · intro e he hz
    simp only [Comp.emitPil, List.mem_append, List.mem_map, List.mem_filter]
    exact Or.inl (Or.inl (Or.inl (Or.inr ⟨e, ⟨he, by simpa using hz⟩, rfl⟩)))
  · intro t ht
    simp only [Comp.emitPil, List.mem_append, List.mem_map]
    exact Or.inl (Or.inl (Or.inr ⟨t, ht, rfl⟩))

/-- an accepted object has the declared length (so a declared length that the items cannot make up is rejected) -/
theorem declared_length_enforced (anon : Nat) (items : List CItem) (l : Nat) (b : Built)
    (h : buildSuper anon items (some l) = .ok b) : b.len = l := by
  rcases buildSuper_ok_cases h with ⟨_, hl, rfl⟩ | ⟨_, _, _, _, _, _, _, _, hl, _, rfl⟩
  · simpa [eq_comm] using hl
  · cases hl; rfl

/-- **names.**  In every output the sequence names (atomic and super-sequences together), the strand names and the
    structure names are each free of repetitions (`hnames` is not needed for this: `C18.names_unique`) -/
theorem names_unique (src : Comp.Src) (n : Nat) (pfx : String) (a : Nat) (st : Comp.St) (a' : Nat)
    (hload : Comp.load src n pfx a = .ok (st, a')) (hnames : UserNamesOk src = true) :
    (st.seqs.map (·.name)).Nodup ∧ (st.strands.map (·.name)).Nodup ∧ (st.structs.map (·.name)).Nodup :=
  let hw := Comp.load_WF hload (userNamesOk_stmts hnames)
  ⟨hw.seqs.nodup, hw.strandNames, hw.structNames⟩

/-- **structures.**  Every structure of every output is balanced and has one segment per strand, of that strand's
    length, whichever notation (HU, run-length, plain, domain-level) the source used -/
theorem structures_balanced_and_sized (src : Comp.Src) (n : Nat) (pfx : String) (a : Nat) (st : Comp.St) (a' : Nat)
    (hload : Comp.load src n pfx a = .ok (st, a')) (hnames : UserNamesOk src = true) :
    ∀ e ∈ st.structs, Notation.balanced e.struct = true ∧
      (∀ s ∈ e.strands, (st.findStrand s).isSome = true) ∧
      Notation.sizesOk e.struct (e.strands.map (fun s => ((st.findStrand s).map (·.len)).getD 0)) = true := by
  intro e he
  have := (Comp.load_WF hload (userNamesOk_stmts hnames)).structs e he
  exact ⟨this.bal, this.found, this.sizes⟩

/-- **the property's wording.**  Every program — valid, or any corruption of a valid one — is either rejected or
    compiles to a specification satisfying all the clauses -/
theorem rejects_or_wellformed (src : Comp.Src) (n : Nat) (pfx : String) (a : Nat) (hnames : UserNamesOk src = true) :
    (∃ e, Comp.load src n pfx a = .error e) ∨
    (∃ st a', Comp.load src n pfx a = .ok (st, a') ∧ WellFormedPil (Emit.compStmts st) = true) :=
  error_or_ok_pair _ fun st a' h => output_wellformed src n pfx a st a' h hnames

/-- **arity.**  A component instantiated with a number of arguments different from its number of parameters is
    rejected, whatever its body -/
theorem arity_checked (src : Comp.Src) (n : Nat) (pfx : String) (a : Nat) (h : src.params.length ≠ n) :
    Comp.load src n pfx a = .error .arity := by
  have : (src.params.length != n) = true := by simpa using h
  rw [Comp.load_eq, if_pos this]

/-- the relation to the reader's object model: what `Pil.load` accepts (any code table) is well formed as soon as
    its structure texts are balanced -/
theorem wellFormed_of_load (tbl : CodeTable) (stmts : List Pil.Stmt) (spec : Pil.Spec)
    (h : Pil.load tbl stmts {} = .ok spec)
    (hbal : ∀ n p ss x, Pil.Stmt.struct n p ss x ∈ stmts → Notation.balanced x = true) :
    WellFormedPil stmts = true :=
  WellFormed.wellFormed_of_load tbl stmts spec h hbal

/-! ### systems -/

open Pepper.Sys Pepper.SysProofs in
/-- **C09, systems.**  For every bundle of sources and every instance tree `load_file` returns (a component, a
    system, systems of systems to any depth), the emitted specification — the statements of all instances under
    their instance-path prefixes, followed by one `sequence` and one `equal` line per signal — is well formed: names
    defined once and before use across the whole file, lengths consistent, structures balanced and sized, and the
    members of every `equal` line of one length.  No hypothesis on the programs other than on the spelling of names
    (`bundleNamesOk`: `UserNamesOk` for component sources; in system sources instance names without `-`, signal names
    non-empty, not ending in `*`, without `-`) — a system whose signal is called `c-a` and whose instance `c` has a
    sequence `a` genuinely emits one name twice. -/
theorem output_wellformed_system (b : Bundle) (fuel : Nat) (base : String) (args : Nat) (argKey pfx path : String)
    (includes : List String) (anon : Nat) (inst : Inst) (a' : Nat)
    (h : Sys.loadFile b fuel base args argKey pfx path includes anon = .ok (inst, a'))
    (hnames : bundleNamesOk b = true) : WellFormedPil (Emit.instStmts inst) = true := by
  obtain ⟨d, ports, _, _, hI⟩ := tree_full (tableOfBundle b) b (bundleOk_tableOfBundle hnames) fuel base args argKey pfx
    path includes anon inst a' h
  obtain ⟨spec, hl, _, _⟩ := hI.load
  exact WellFormed.wellFormed_of_load _ _ spec hl hI.bal

open Pepper.Sys Pepper.SysProofs in
/-- the property's wording, for systems -/
theorem rejects_or_wellformed_system (b : Bundle) (fuel : Nat) (base : String) (args : Nat) (argKey pfx path : String)
    (includes : List String) (anon : Nat) (hnames : bundleNamesOk b = true) :
    (∃ e, Sys.loadFile b fuel base args argKey pfx path includes anon = .error e) ∨
    (∃ inst a', Sys.loadFile b fuel base args argKey pfx path includes anon = .ok (inst, a') ∧
      WellFormedPil (Emit.instStmts inst) = true) :=
  error_or_ok_pair _ fun inst a' h =>
    output_wellformed_system b fuel base args argKey pfx path includes anon inst a' h hnames

open Pepper.Sys Pepper.SysProofs in
/-- **arity, through `load_file`** (= `Pepper.C02.arity_checked`): whatever `load_file` accepts was instantiated with
    as many arguments as the resolved file declares parameters, be it a component or a system -/
theorem arity_checked_file (b : Bundle) (fuel : Nat) (base : String) (args : Nat) (argKey pfx path : String)
    (includes : List String) (anon : Nat) (inst : Inst) (a' : Nat)
    (h : Sys.loadFile b fuel base args argKey pfx path includes anon = .ok (inst, a')) :
    ∃ fname issys newPath,
      resolveImport (fun p => b.exists_.contains (normPath p)) base path includes = .ok (fname, issys, newPath) ∧
      ((∃ c, b.files.lookup (normPath fname ++ argKey) = some (.comp c) ∧ c.params.length = args) ∨
       (∃ s, b.files.lookup (normPath fname ++ argKey) = some (.sys s) ∧ s.params.length = args)) := by
  obtain ⟨_, fname, issys, newPath, _, hr, hc⟩ := Pepper.C02.arity_checked b fuel base args argKey pfx path includes anon inst a' h
  refine ⟨fname, issys, newPath, hr, ?_⟩
  rcases hc with ⟨c, _, hl, _, hp, _⟩ | ⟨s, _, hl, _, hp, _⟩
  · exact Or.inl ⟨c, hl, hp⟩
  · exact Or.inr ⟨s, hl, hp⟩

/-! ### non-vacuity -/

/-- two atomic sequences (one with a wildcard), two strands (one with a declared length), a DOMAIN-LEVEL structure -/
def exSrc : Comp.Src :=
  { name := "c", params := [], inputs := [⟨"a", false, none⟩], outputs := [],
    stmts := [
      .seq "a" [.nuc "3N".toList] none,
      .seq "b" [.nuc "2S ?W".toList] (some 4),
      .strand false "X" [.ref "a" false, .ref "b" false] none,
      .strand false "Y" [.ref "b" true, .nuc "?N".toList, .ref "a" true] (some 9),
      .struct .default "T" ["X", "Y"] true "((+).)".toList ] }

example : UserNamesOk exSrc = true := by decide +kernel

/-- accepted; this is the output (the wildcard region `?N` became `_Anon0` of length 2) -/
example : (Comp.load exSrc 0 "c-" 0).toOption.map (fun r => Emit.compStmts r.1) =
    some [.seq "c-a" "NNN".toList, .seq "c-b" "SSWW".toList, .seq "c-_Anon0" "NN".toList,
          .strand "c-X" false ["c-a", "c-b"], .strand "c-Y" false ["c-b*", "c-_Anon0", "c-a*"],
          .struct "c-T" (some "1nt") ["c-X", "c-Y"] "(((((((+))))..)))".toList] := by
  unfold exSrc
  repeat rw [String.toList_ofList]
  decide +kernel

/-- and it is well formed -/
example : ((Comp.load exSrc 0 "c-" 0).toOption.map (fun r => WellFormedPil (Emit.compStmts r.1))) = some true := by
  unfold exSrc
  repeat rw [String.toList_ofList]
  decide +kernel

/-- the predicate is not trivially true: a structure with a wrongly sized segment, an unbalanced one, a forward
    reference, a duplicate definition are all refused -/
example : WellFormedPil [.seq "a" "NNN".toList, .strand "X" false ["a"], .struct "T" none ["X"] "....".toList] = false := by
  decide +kernel
example : WellFormedPil [.seq "a" "NNN".toList, .strand "X" false ["a"], .struct "T" none ["X"] "(()".toList] = false := by
  decide +kernel
example : WellFormedPil [.strand "X" false ["a"], .seq "a" "NNN".toList] = false := by decide +kernel
example : WellFormedPil [.seq "a" "NNN".toList, .sup "a" ["a"]] = false := by decide +kernel
example : WellFormedPil [.seq "a" "NNN".toList, .seq "b" "NN".toList, .equal ["a", "b*"]] = false := by decide +kernel
example : WellFormedPil [.seq "a" "NNN".toList, .strand "X" false ["a", "a*"], .struct "T" none ["X"] "(((.))".toList] = false := by
  decide +kernel
example : WellFormedPil [.seq "a" "NNN".toList, .strand "X" false ["a", "a*"], .struct "T" none ["X"] "((()))".toList] = true := by
  decide +kernel

/-- single-token corruptions of `exSrc` are rejected: the structure loses a parenthesis; the domain-level structure is
    balanced at domain level but not after expansion; the declared length is wrong; a name is misspelt; an argument is
    supplied to a template without parameters -/
example : (match Comp.load { exSrc with stmts := exSrc.stmts.take 4 ++ [.struct .default "T" ["X", "Y"] true "((+.)".toList] } 0 "c-" 0 with
    | .error .structNotation => true | _ => false) = true := by decide +kernel
example : (match Comp.load { exSrc with stmts := exSrc.stmts.take 4 ++ [.struct .default "T" ["X", "Y"] true "(.+.).".toList] } 0 "c-" 0 with
    | .error .structDomains => true | _ => false) = true := by decide +kernel
example : (match Comp.load { exSrc with stmts := exSrc.stmts.take 2 ++ [.strand false "X" [.ref "a" false, .ref "b" false] (some 8)] } 0 "c-" 0 with
    | .error .lengthMismatch => true | _ => false) = true := by decide +kernel
example : (match Comp.load { exSrc with stmts := exSrc.stmts.take 2 ++ [.strand false "X" [.ref "a" false, .ref "bb" false] none] } 0 "c-" 0 with
    | .error .undefinedSeq => true | _ => false) = true := by decide +kernel
example : (match Comp.load exSrc 1 "c-" 0 with | .error .arity => true | _ => false) = true := by decide +kernel

/-- the hypothesis `UserNamesOk` is necessary: with a user sequence named like the compiler's first anonymous
    sequence, the quoted region `"3N"` of strand `X` is looked up under that name, found (the user's, of length 5) and
    not registered; the output is accepted and is NOT well formed — strand `X` has length 5, its structure 3 -/
def reservedNameSrc : Comp.Src :=
  { name := "c", params := [], inputs := [], outputs := [],
    stmts := [.seq "_Anon0" [.nuc "5N".toList] none, .strand false "X" [.nuc "3N".toList] none,
              .struct .default "T" ["X"] false "...".toList] }
example : UserNamesOk reservedNameSrc = false := by decide +kernel
example : (Comp.load reservedNameSrc 0 "" 0).toOption.map (fun r => Emit.compStmts r.1) =
    some [.seq "_Anon0" "NNNNN".toList, .strand "X" false ["_Anon0"], .struct "T" (some "1nt") ["X"] "...".toList] := by
  unfold reservedNameSrc
  repeat rw [String.toList_ofList]
  decide +kernel
example : (Comp.load reservedNameSrc 0 "" 0).toOption.map (fun r => WellFormedPil (Emit.compStmts r.1)) = some false := by
  unfold reservedNameSrc
  repeat rw [String.toList_ofList]
  decide +kernel

/-- systems: the hypothesis holds for the example bundle of C02, and the emitted statements of its instance tree
    (instances `g1-…`, `g2-…`, signals `s0 s1 s2` with their `equal` lines) are well formed -/
example : Pepper.SysProofs.bundleNamesOk Pepper.C02.exBundle = true := by decide +kernel
example : Pepper.C02.exTree.map (fun i => WellFormedPil (Emit.instStmts i)) = some true := by decide +kernel
/-- … and a signal name containing the path separator is excluded by the hypothesis -/
example : Pepper.SysProofs.sysNamesOk { Pepper.C02.exSys with
    stmts := [.component "g1" "gate" 0 [⟨"g2-a", false⟩] [⟨"s1", false⟩]] } = false := by decide +kernel

end Pepper.C09
