import PepperProofs.CompConstraint
import PepperProofs.CompBuild
/-!
# C10 — wildcards and declared lengths resolve exactly

"In a sequence, super-sequence or strand with a declared length, a single '?' multiplier expands to
exactly the number of nucleotides that makes the total equal the declared length, all other parts keep
their written multiplicity and order, and the result is identical to writing that number explicitly.
More than one wildcard, a wildcard without a declared length, a negative remainder, or a declared
length that disagrees with the parts is rejected."

Model: `PepperModel/Constraint.lean` (`resolve` = `Sequence._get_length_const` on the parts a quoted region
parses to; `explicit w parts` = the same parts with `?` written as the number `w`) and
`PepperModel/Comp.lean` (`buildSuper` = `SuperSequence.__init__`/`Strand.__init__` on resolved items).
Proofs: `PepperProofs/CompConstraint.lean`, `PepperProofs/CompBuild.lean`.
-/
namespace Pepper.C10
open Pepper.Constraint Pepper.Comp

/-! ### 1. a single wildcard is exact -/

/-- with one wildcard and a declared length `L` not smaller than the fixed parts, the region resolves to
    length `L` with the wildcard expanded to the remainder `L - fixedSum parts`; writing that number
    explicitly instead of `?` resolves to the identical result; the long-form constraint has exactly `L`
    letters -/
theorem wildcard_exact (parts : List (Mult × Char)) (L : Nat) (h1 : wildCount parts = 1)
    (hle : fixedSum parts ≤ L) :
    resolve parts (some L) = .ok (L, expand (L - fixedSum parts) parts) ∧
    resolve (explicit (L - fixedSum parts) parts) (some L) = resolve parts (some L) ∧
    (expand (L - fixedSum parts) parts).length = L := by
  refine ⟨resolve_some_of_one h1 hle, ?_, ?_⟩
  · rw [resolve_some_of_one h1 hle]
    have hs : fixedSum (explicit (L - fixedSum parts) parts) = L := by
      rw [fixedSum_explicit, h1]; omega
    simp [resolve, wildCount_explicit, hs, expand_explicit]
  · rw [expand_length, h1]; omega

/-- the explicit form keeps every other part: same number of parts, each numbered part unchanged at its
    index, the wildcard part replaced by the number (same letter) -/
theorem explicit_keeps (w : Nat) (parts : List (Mult × Char)) :
    (explicit w parts).length = parts.length ∧
    (∀ (i : Nat) n c, parts[i]? = some (Mult.num n, c) → (explicit w parts)[i]? = some (Mult.num n, c)) ∧
    (∀ (i : Nat) c, parts[i]? = some (Mult.wild, c) → (explicit w parts)[i]? = some (Mult.num w, c)) := by
  refine ⟨length_explicit w parts, ?_, ?_⟩
  · intro i n c h; simp [explicit_getElem?, h]
  · intro i c h; simp [explicit_getElem?, h]

/-- the expansion is the parts in order: numbered parts with their multiplicity, the wildcard with `w` -/
theorem expand_in_order (w : Nat) (m : Mult) (c : Char) (r : List (Mult × Char)) :
    expand w ((m, c) :: r) = List.replicate (match m with | .num n => n | .wild => w) c ++ expand w r := by
  cases m <;> simp [expand]

/-! ### 2. rejections, and exactly these -/

/-- more than one wildcard is rejected whatever the declared length -/
theorem rejects_many (parts : List (Mult × Char)) (l : Option Nat) (h : wildCount parts ≥ 2) :
    resolve parts l = .error .tooManyWild := resolve_of_two h l

/-- a wildcard without a declared length is rejected -/
theorem rejects_no_length (parts : List (Mult × Char)) (h : wildCount parts = 1) :
    resolve parts none = .error .wildNoLength := resolve_none_of_one h

/-- a negative remainder is rejected -/
theorem rejects_short (parts : List (Mult × Char)) (L : Nat) (h : wildCount parts = 1)
    (hlt : L < fixedSum parts) : resolve parts (some L) = .error .tooShort := by
  simp [resolve, h, hlt]

/-- a declared length that disagrees with wildcard-free parts is rejected -/
theorem rejects_mismatch (parts : List (Mult × Char)) (L : Nat) (h : wildCount parts = 0)
    (hne : L ≠ fixedSum parts) : resolve parts (some L) = .error .mismatch := by
  simp [resolve, h, hne]

/-- acceptance, exactly: no wildcard and either no declared length or the matching one, or one wildcard and
    a declared length (any, including 0) not smaller than the fixed parts -/
theorem accepts_iff (parts : List (Mult × Char)) (l : Option Nat) :
    (∃ r, resolve parts l = .ok r) ↔
      (wildCount parts = 0 ∧ (l = none ∨ l = some (fixedSum parts))) ∨
      (wildCount parts = 1 ∧ ∃ L, l = some L ∧ fixedSum parts ≤ L) := by
  constructor
  · rintro ⟨r, hr⟩
    rcases resolve_ok_iff.mp hr with ⟨h0, hl, _⟩ | ⟨h1, L, hl, hle, _⟩
    · exact Or.inl ⟨h0, hl⟩
    · exact Or.inr ⟨h1, L, hl, hle⟩
  · rintro (⟨h0, hl⟩ | ⟨h1, L, hl, hle⟩)
    · exact ⟨_, resolve_ok_iff.mpr (Or.inl ⟨h0, hl, rfl⟩)⟩
    · exact ⟨_, resolve_ok_iff.mpr (Or.inr ⟨h1, L, hl, hle, rfl⟩)⟩

/-! ### 3. super-sequences and strands

An item list with exactly one wildcard region is `pre ++ nuc w :: post` with `wildCount w = 1` and
`pre`, `post` wildcard-free (`wildFree`, i.e. `resolve p none` succeeds for each of their quoted
regions — `wildFree_iff_resolves`).  `lenSum` adds the lengths of the items, `refsFrom k` / `basesFrom k`
are the `seqs` / `base_seqs` the items contribute when anonymous regions are numbered from `k`.  Of the four
rejections, three are stated at this level (negative remainder in `buildSuper_wildcard`, no declared length, mismatch);
that two wildcard regions are rejected is inside `Comp.buildSuper_ok_cases` only. -/

/-- `wildFree` says: every other quoted region resolves without a declared length -/
theorem wildFree_iff_resolves (cs : List CItem) :
    wildFree cs = true ↔ ∀ p, CItem.nuc p ∈ cs → ∃ r, resolve p none = .ok r := by
  simp only [wildFree_iff_wildCount, resolve_none_ok_iff]

/-- Lifted to super-sequences / strands.  With one wildcard region `w` at position `pre.length` and declared
    length `L`: the object is built iff the other items plus the fixed part of `w` fit into `L`; then its
    length is `L`, the wildcard region is an anonymous sequence of the remaining length inserted at the
    item's position (in `seqs` and at the matching place of `base_seqs`), created last (highest number);
    writing the number explicitly builds an object with the same length, the same counter afterwards, the
    same items up to the numbering of anonymous names — identical orientation/length/kind at every
    position, identical entries wherever the source item is a named object, the same long-form
    constraint for the region — stated by giving both results in closed form. -/
theorem buildSuper_wildcard (pre post : List CItem) (w : List (Mult × Char)) (anon L : Nat)
    (hpre : wildFree pre = true) (hw : wildCount w = 1) (hpost : wildFree post = true) :
    ((∃ b, buildSuper anon (pre ++ .nuc w :: post) (some L) = .ok b) ↔
        lenSum pre + lenSum post + fixedSum w ≤ L) ∧
    (lenSum pre + lenSum post + fixedSum w ≤ L →
      let rest := lenSum pre + lenSum post
      let x := L - rest - fixedSum w           -- what `?` stands for
      let m := nucCount pre
      let n := nucCount post
      ∃ b b', buildSuper anon (pre ++ .nuc w :: post) (some L) = .ok b ∧
        buildSuper anon (pre ++ .nuc (explicit x w) :: post) (some L) = .ok b' ∧
        b.len = L ∧ b'.len = L ∧ b.anon = b'.anon ∧
        b.items = refsFrom anon pre ++ ⟨anonName (anon + m + n), false, L - rest, false⟩ :: refsFrom (anon + m) post ∧
        b'.items = refsFrom anon pre ++ ⟨anonName (anon + m), false, L - rest, false⟩ :: refsFrom (anon + m + 1) post ∧
        b.bases = basesFrom anon pre ++ ⟨anonName (anon + m + n), false, L - rest⟩ :: basesFrom (anon + m) post ∧
        b'.bases = basesFrom anon pre ++ ⟨anonName (anon + m), false, L - rest⟩ :: basesFrom (anon + m + 1) post ∧
        b.items.map ItemRef.shape = b'.items.map ItemRef.shape ∧
        b.bases.map BaseRef.shape = b'.bases.map BaseRef.shape ∧
        (∀ (idx : Nat) i bs, (pre ++ .nuc w :: post)[idx]? = some (CItem.obj i bs) →
            b.items[idx]? = some i ∧ b'.items[idx]? = some i) ∧
        b.items[pre.length]? = some ⟨anonName (anon + m + n), false, L - rest, false⟩ ∧
        mkAnon (anon + m + n) (L - rest) (expand x w) ∈ b.newAnon ∧
        mkAnon (anon + m) (L - rest) (expand x w) ∈ b'.newAnon) := by
  constructor
  · rw [buildSuper_wild hpre hw hpost]
    by_cases h1 : L < lenSum pre + lenSum post
    · simp [h1]; omega
    · by_cases h2 : L - (lenSum pre + lenSum post) < fixedSum w
      · simp [h1, h2]; omega
      · simp [h1, h2]; omega
  · intro hle
    have h1 : ¬ L < lenSum pre + lenSum post := by omega
    have h2 : ¬ L - (lenSum pre + lenSum post) < fixedSum w := by omega
    obtain ⟨hfs, hfree, -, -, -, -, -⟩ := explicit_region hw (R := L - (lenSum pre + lenSum post)) (by omega) 0
    have hx : wildFree (pre ++ .nuc (explicit (L - (lenSum pre + lenSum post) - fixedSum w) w) :: post) = true := by
      rw [← List.singleton_append, wildFree_append, wildFree_append, hpre, hfree, hpost]; rfl
    have hlen : lenSum (pre ++ .nuc (explicit (L - (lenSum pre + lenSum post) - fixedSum w) w) :: post) = L := by
      rw [lenSum_append, lenSum, hfs]; omega
    have hb := buildSuper_wild hpre hw hpost anon L
    simp only [h1, h2, if_false] at hb
    have hb' := buildSuper_wildFree hx anon (some L)
    simp only [hlen, or_true, if_true] at hb'
    refine ⟨_, _, hb, hb', ?_⟩
    · simp only [refsFrom_append, basesFrom_append, anonsFrom_append, refsFrom, basesFrom, anonsFrom,
        nucCount_append, nucCount, hfs, expand_explicit]
      refine ⟨trivial, trivial, by omega, trivial, ?_, trivial, ?_, ?_, ?_, ?_, ?_, ?_, ?_⟩
      · simp
      · simp
      · simp only [List.map_append, List.map_cons, ItemRef.shape]
        rw [refsFrom_shape (anon + nucCount pre) (anon + nucCount pre + 1) post]
      · simp only [List.map_append, List.map_cons, BaseRef.shape]
        rw [basesFrom_shape (anon + nucCount pre) (anon + nucCount pre + 1) post]
      · intro idx i bs h
        exact ⟨refsFrom_around_getElem?_obj _ _ pre post (.nuc w) _ idx i bs h (fun _ _ => by simp),
               refsFrom_around_getElem?_obj _ _ pre post (.nuc w) _ idx i bs h (fun _ _ => by simp)⟩
      · rw [List.getElem?_append_right (by simp)]; simp
      · simp
      · simp

/-- a wildcard region without a declared length is rejected for super-sequences and strands too -/
theorem buildSuper_rejects_no_length (pre post : List CItem) (w : List (Mult × Char)) (anon : Nat)
    (hpre : wildFree pre = true) (hw : wildCount w = 1) (hpost : wildFree post = true) :
    buildSuper anon (pre ++ .nuc w :: post) none = .error .wildNoLength :=
  buildSuper_wild_none hpre hw hpost anon

/-- without a wildcard a declared length must equal the sum of the item lengths -/
theorem buildSuper_declared (cs : List CItem) (anon L : Nat) (hf : wildFree cs = true) :
    ((∃ b, buildSuper anon cs (some L) = .ok b) ↔ L = lenSum cs) ∧
    (L ≠ lenSum cs → buildSuper anon cs (some L) = .error .lengthMismatch) := by
  rw [buildSuper_wildFree hf]
  by_cases h : L = lenSum cs
  · simp [h]
  · simp [h]

/-! ### 4. non-vacuity -/

/-- `"3N ?S 2W"` with declared length 9: the wildcard is 4 -/
example : parseQuoted "3N ?S 2W".toList = [(Mult.num 3, 'N'), (Mult.wild, 'S'), (Mult.num 2, 'W')] := by decide +kernel
example : resolve [(Mult.num 3, 'N'), (Mult.wild, 'S'), (Mult.num 2, 'W')] (some 9) = .ok (9, "NNNSSSSWW".toList) := by decide
example : resolve (explicit 4 [(Mult.num 3, 'N'), (Mult.wild, 'S'), (Mult.num 2, 'W')]) (some 9) = .ok (9, "NNNSSSSWW".toList) := by
  decide
/-- the hypotheses of `wildcard_exact` hold for it; declared length equal to the fixed parts gives `?` = 0 -/
example : wildCount [(Mult.num 3, 'N'), (Mult.wild, 'S'), (Mult.num 2, 'W')] = 1 ∧ fixedSum [(Mult.num 3, 'N'), (Mult.wild, 'S'), (Mult.num 2, 'W')] ≤ 9 := by
  decide
example : resolve [(Mult.num 3, 'N'), (Mult.wild, 'S'), (Mult.num 2, 'W')] (some 5) = .ok (5, "NNNWW".toList) := by decide
/-- rejections -/
example : resolve [(Mult.wild, 'N'), (Mult.wild, 'S')] (some 9) = .error .tooManyWild := by decide
example : resolve [(Mult.num 3, 'N'), (Mult.wild, 'S')] none = .error .wildNoLength := by decide
example : resolve [(Mult.num 3, 'N'), (Mult.wild, 'S')] (some 2) = .error .tooShort := by decide
example : resolve [(Mult.num 3, 'N'), (Mult.num 1, 'S')] (some 5) = .error .mismatch := by decide
example : resolve [(Mult.wild, 'N')] (some 0) = .ok (0, []) := by decide
/-- a strand `a "2N ?S" b*` of declared length 12 with `a`, `b` of lengths 4 and 3: the region gets 5
    nucleotides (2 N + 3 S) and is inserted between `a` and `b*` -/
example :
    (buildSuper 7 [CItem.obj ⟨"a", false, 4, false⟩ [⟨"a", false, 4⟩], CItem.nuc [(Mult.num 2, 'N'), (Mult.wild, 'S')],
                   CItem.obj ⟨"b", true, 3, false⟩ [⟨"b", true, 3⟩]] (some 12)).toOption.map (·.items)
    = some [⟨"a", false, 4, false⟩, ⟨"_Anon7", false, 5, false⟩, ⟨"b", true, 3, false⟩] := by
  decide +kernel
example :
    (buildSuper 7 [CItem.obj ⟨"a", false, 4, false⟩ [⟨"a", false, 4⟩], CItem.nuc [(Mult.num 2, 'N'), (Mult.wild, 'S')],
                   CItem.obj ⟨"b", true, 3, false⟩ [⟨"b", true, 3⟩]] (some 12)).toOption.map (·.bases)
    = some [⟨"a", false, 4⟩, ⟨"_Anon7", false, 5⟩, ⟨"b", true, 3⟩] := by
  decide +kernel
example :
    (buildSuper 7 [CItem.obj ⟨"a", false, 4, false⟩ [⟨"a", false, 4⟩], CItem.nuc [(Mult.num 2, 'N'), (Mult.wild, 'S')],
                   CItem.obj ⟨"b", true, 3, false⟩ [⟨"b", true, 3⟩]] (some 12)).toOption.map
      (fun b => (b.len, b.newAnon.map (·.const), b.anon))
    = some (12, ["NNSSS".toList], 8) := by
  decide +kernel
/-- too short: the other items and the fixed part need 9 -/
example :
    (buildSuper 7 [CItem.obj ⟨"a", false, 4, false⟩ [⟨"a", false, 4⟩], CItem.nuc [(Mult.num 2, 'N'), (Mult.wild, 'S')],
                   CItem.obj ⟨"b", true, 3, false⟩ [⟨"b", true, 3⟩]] (some 8)).toOption.map (·.len) = none := by
  decide +kernel
example : wildFree [CItem.obj ⟨"a", false, 4, false⟩ [⟨"a", false, 4⟩]] = true ∧
    wildFree [CItem.obj ⟨"b", true, 3, false⟩ [⟨"b", true, 3⟩]] = true := by decide

end Pepper.C10
