import PepperModel.Generated.Tables
import PepperProofs.Codes
import PepperProofs.GenTables
/-!
# C11 — degenerate-base tables form a consistent, complement-closed algebra

The quantifier of C11 is a finite table; the table is the one *extracted from /repo on this run*
(`Generated/Tables.lean`), so these `decide` proofs are proofs about the code's current tables.
What holds of every lawful table is proved in `PepperProofs/Codes` and instantiated here: `wc_wc` (all strings)
and the laws of `intersect`.
-/
namespace Pepper.C11
open Pepper Pepper.Generated

/-- compiler table: complement denotes the complement set, is an involution, intersections are closed,
    `rev_group` inverts `group` -/
theorem dna_lawful : dnaTable.lawful = true := by decide +kernel
/-- designer front-end table -/
theorem pil_lawful : pilTable.lawful = true := ConstraintGen.pil_lawful
/-- PIL parser's alphabet table -/
theorem nupack_lawful : nupackTable.lawful = true := by decide +kernel

/-- the three Python copies agree on every code -/
theorem python_copies_agree : dnaTable.sameAs pilTable = true ∧ dnaTable.sameAs nupackTable = true := by decide +kernel

/-- the bundled spuriousSSM agrees with them on every code (`WC`, `randbasec`, `degenerates`) -/
theorem c_copy_agrees : cAgrees dnaTable cWC cDegenerates cRandbase = true := by decide +kernel

/-- every code (hence every non-empty intersection of two codes) is accepted by the PIL reader and by
    the design-file reader -/
theorem tools_accept_codes :
    dnaTable.codes.all (fun c => alphaPilParseSeq.contains c && alphaMfeSeq.contains c) = true := by decide +kernel

/-- complementing twice is the identity, for every code of the live table -/
theorem compl_involutive (c d : Char) (h : dnaTable.complOf c = some d) : dnaTable.complOf d = some c :=
  CodeTable.complOf_involutive dna_lawful h

/-- reverse-complementing any string over the code alphabet twice returns it -/
theorem wc_wc (s : List Char) (h : ∀ c ∈ s, dnaTable.isCode c = true) :
    (dnaTable.wcStr s).bind dnaTable.wcStr = some s :=
  CodeTable.wcStr_wcStr dna_lawful s h

/-- the intersection of two codes that share a base is again a code, and it denotes the intersection -/
theorem intersection_closed (c d : Char) (hc : dnaTable.isCode c = true) (hd : dnaTable.isCode d = true)
    (hne : dnaTable.maskC c &&& dnaTable.maskC d ≠ 0) :
    ∃ e, dnaTable.intersect c d = .ok e ∧ dnaTable.maskC e = dnaTable.maskC c &&& dnaTable.maskC d :=
  CodeTable.intersect_ok dna_lawful hc hd hne

/-- Boolean equality of intersection results -/
def resEq : Except CodeTable.Err Char → Except CodeTable.Err Char → Bool
  | .ok a, .ok b => a == b
  | .error a, .error b => decide (a = b)
  | _, _ => false

theorem resEq_eq {a b : Except CodeTable.Err Char} (h : resEq a b = true) : a = b := by
  cases a <;> cases b <;> simp_all [resEq]

/-- intersection does not depend on the order of its operands — for every pair of codes of the live table,
    error outcomes (no common base) included -/
theorem intersect_comm (c d : Char) (hc : c ∈ dnaTable.codes) (hd : d ∈ dnaTable.codes) :
    dnaTable.intersect c d = dnaTable.intersect d c :=
  CodeTable.intersect_comm dna_lawful (CodeTable.isCode_of_mem_codes dna_lawful hc)
    (CodeTable.isCode_of_mem_codes dna_lawful hd)

theorem intersect_idem (c : Char) (hc : c ∈ dnaTable.codes) : dnaTable.intersect c c = .ok c :=
  CodeTable.intersect_self dna_lawful (CodeTable.isCode_of_mem_codes dna_lawful hc)

/-- complementing commutes with intersection: whenever `c ∩ d = e`, the complements of `c` and `d` intersect in
    the complement of `e` (what lets the designer front-end merge the template of a position with the
    complemented template of its partner in either order) -/
theorem compl_intersect (c d e : Char) (hc : c ∈ dnaTable.codes) (hd : d ∈ dnaTable.codes)
    (h : dnaTable.intersect c d = .ok e) :
    ∃ c' d' e', dnaTable.complOf c = some c' ∧ dnaTable.complOf d = some d' ∧ dnaTable.complOf e = some e' ∧
      dnaTable.intersect c' d' = .ok e' :=
  CodeTable.intersect_compl dna_lawful (CodeTable.isCode_of_mem_codes dna_lawful hc)
    (CodeTable.isCode_of_mem_codes dna_lawful hd) h

/-- non-vacuity of the three laws: `B ∩ H = Y` and, complemented, `V ∩ D = R` -/
example : resEq (dnaTable.intersect 'B' 'H') (.ok 'Y') = true ∧ resEq (dnaTable.intersect 'V' 'D') (.ok 'R') = true ∧
    dnaTable.complOf 'B' = some 'V' ∧ dnaTable.complOf 'H' = some 'D' ∧ dnaTable.complOf 'Y' = some 'R' ∧
    'B' ∈ dnaTable.codes ∧ 'H' ∈ dnaTable.codes := by decide +kernel

/-- non-vacuity: the live table has the 15 IUPAC codes and `D ∩ V` exists -/
example : dnaTable.codes.length = 15 ∧
    (match dnaTable.intersect 'D' 'V' with | .ok e => e == 'R' | _ => false) = true := by decide +kernel

end Pepper.C11
