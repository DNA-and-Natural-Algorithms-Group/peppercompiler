import PepperProofs.Fix
import PepperProofs.LoadInvSys
import PepperProps.C11
/-!
# C12 — fixing sequences only ever narrows constraints, at the right positions

"Fixing a sequence, signal, strand or structure to a given string replaces each affected position's allowed
bases by the intersection of its previous set and the fixed code, mapped through reverse complement for
starred domains and through the correct offsets for composite objects, and changes nothing else; an empty
intersection or a wrong length is an error, and a name that does not exist only produces a warning."

Code path (mirrors `compiler.py` / `DNA_classes.*.fix_seq`): `PepperModel/Fix.lean` — `fixItem` / `fixList`
recurse through `seqs`, slice the string, reverse-complement it for starred atomic sequences.
Specification: `PepperModel/FixSpec.lean` — the *positions* of an object are read off its `base_seqs` list
(`posOfView`: `(base sequence, index, complemented?)`, the starred view being the reversed list with flipped
flags), `narrow` intersects one position with one letter, `specFix` = length check + one `narrow` per letter.

All theorems hold for **every lawful code table** `t` and **every well-formed component** `st`
(`wfB t st = true`: names distinct; every item reference resolves to an entry of the recorded length and
kind, super-sequences only refer to earlier super-sequences; `base_seqs` of a composite object is the
concatenation of its items' views; constraint strings consist of codes and have the recorded length).
`wfB` is an executable check.  **It is established by `Comp.load` by theorem** (`wf_of_load`, from
`PepperProofs/LoadInv.lean`: `Comp.WF` + kinds of item references + alphabet of the constraint strings are
preserved by every statement), for every source whose statements satisfy `StmtNamesOk` (no user sequence name
of the reserved form `_Anon<digits>`, containing `*`, or empty — the statement part of C01's `UserNamesOk`) and
`CodesOk t` (quoted regions use codes of the table); for instance trees `wfInst_of_loadFile`
(`PepperProofs/LoadInvSys.lean`).  The `_of_load` theorems restate the others
with the hypothesis `Comp.load … = .ok (st, _)` (resp. `Sys.loadFile … = .ok (.sys st, _)`) in place of `wfB`
/ `wfInst`; nothing about well-formedness remains a per-run obligation for sources satisfying the two
hypotheses.  For sources outside `StmtNamesOk`/`CodesOk` the only evidence is the driver evaluating `wfB` on
the generated program.
Strings are assumed to consist of codes (`parse_fixed` only admits `ATCGNS` and `+`: for the entries of an accepted
fixed file `ParseFixed.Props.entries_over_codes` discharges this, PepperProps/ParseFixed.lean).  The vocabulary of the
statements that is not in the model files — `charAt`, `maskAt` (`0` where there is no such position), `hits`,
`specFixAll` — is defined in `PepperProofs/Fix.lean`.
-/
namespace Pepper.C12
open Pepper Pepper.Comp Pepper.Fix Pepper.FixSpec Pepper.Sys

variable {t : CodeTable}

/-- **exactness**: `x.fix_seq(str)` on any view of any sequence / super-sequence, with any sufficient
    fuel (the compile driver's `seqs.length + 1` is sufficient), is the specification applied to the
    positions of that view: same error class, same resulting component -/
theorem fix_exact (hl : t.lawful = true) {st : St} (hw : wfB t st = true) {name : String} {e : SeqE}
    (he : st.findSeq name = some e) (fuel : Nat) (hfuel : st.seqs.length < fuel) (rev : Bool) (str : List Char)
    (hs : ∀ c ∈ str, t.isCode c = true) :
    fixItem t fuel st name rev str = specFix t st (posOfView st name rev) str :=
  fixItem_top hl hw he fuel hfuel rev str hs

/-- the view has exactly as many positions as the object's recorded length, so "wrong length" is about the
    object's length -/
theorem positions_length (hw : wfB t st = true) {name : String} {e : SeqE} (he : st.findSeq name = some e)
    (rev : Bool) : (posOfView st name rev).length = e.len :=
  posOfView_length hw he rev

theorem fix_length_error_iff (hl : t.lawful = true) {st : St} (hw : wfB t st = true) {name : String} {e : SeqE}
    (he : st.findSeq name = some e) (rev : Bool) (str : List Char) (hs : ∀ c ∈ str, t.isCode c = true) :
    fixItem t (st.seqs.length + 1) st name rev str = .error .length ↔ str.length ≠ e.len := by
  rw [fix_exact hl hw he _ (Nat.lt_succ_self _) rev str hs]
  have hpl := positions_length hw he rev
  constructor
  · intro h hlen
    rw [specFix_of_length_eq (hpl.trans hlen.symm)] at h
    cases hf : specFold t st ((posOfView st name rev).zip str) <;> rw [hf] at h <;> cases h
  · intro h
    exact specFix_of_length_ne (by rw [hpl]; exact Ne.symm h)

/-- with the right length the only possible error is `empty`, raised exactly when the sequence of
    narrowings runs into an empty intersection -/
theorem fix_empty_error_iff (hl : t.lawful = true) {st : St} (hw : wfB t st = true) {name : String} {e : SeqE}
    (he : st.findSeq name = some e) (rev : Bool) (str : List Char) (hs : ∀ c ∈ str, t.isCode c = true)
    (hlen : str.length = e.len) :
    (∃ err, fixItem t (st.seqs.length + 1) st name rev str = .error err) ↔
      fixItem t (st.seqs.length + 1) st name rev str = .error .empty ∧
      specFold t st ((posOfView st name rev).zip str) = none := by
  rw [fix_exact hl hw he _ (Nat.lt_succ_self _) rev str hs,
    specFix_of_length_eq ((positions_length hw he rev).trans hlen.symm)]
  cases specFold t st ((posOfView st name rev).zip str) with
  | none => exact ⟨fun _ => ⟨rfl, rfl⟩, fun _ => ⟨_, rfl⟩⟩
  | some s => exact ⟨fun ⟨_, h⟩ => (nomatch h), fun ⟨h, _⟩ => (nomatch h)⟩

/-- one narrowing step fails exactly when the position's set and the (possibly complemented) letter's set
    are disjoint -/
theorem narrow_fails_iff_disjoint (hl : t.lawful = true) {st : St} (hw : wfB t st = true) {p : Pos} {c x : Char}
    (hc : t.isCode c = true) (hx : charAt st p.1 p.2.1 = some x) :
    narrow t st p c = none ↔ t.maskC x &&& (if p.2.2 then complMask (t.maskC c) else t.maskC c) = 0 := by
  unfold charAt at hx
  obtain ⟨e, he, hx⟩ := Option.bind_eq_some_iff.1 hx
  have hxc : t.isCode x = true := (wfB_constOK hw (findE_some he).1).1 x (List.mem_of_getElem? hx)
  have hcc : t.isCode (codeFor t p c) = true := by
    unfold codeFor; split
    · rw [complC_eq]
      exact CodeTable.complD_isCode hl hc
    · exact hc
  rw [← maskC_codeFor hl p hc, ← interO_eq_none_iff hl hxc hcc]
  unfold narrow narrowC
  rw [he, Option.bind_some, hx, Option.bind_some]
  cases interO t x (codeFor t p c) <;> simp

/-- **frame**: a successful fix changes nothing but constraint strings (`skel`: names, lengths, items,
    `base_seqs`, strands, structures, kinetics, ports are all untouched), and no code outside the positions
    of the view; the result is again well-formed (so constraint strings keep their lengths) -/
theorem fix_frame (hl : t.lawful = true) {st st' : St} (hw : wfB t st = true) {name : String} {e : SeqE}
    (he : st.findSeq name = some e) (rev : Bool) (str : List Char) (hs : ∀ c ∈ str, t.isCode c = true)
    (h : fixItem t (st.seqs.length + 1) st name rev str = .ok st') :
    skel st' = skel st ∧ wfB t st' = true ∧
    ∀ n i, (∀ f, (n, i, f) ∉ posOfView st name rev) → charAt st' n i = charAt st n i := by
  rw [fix_exact hl hw he _ (Nat.lt_succ_self _) rev str hs] at h
  obtain ⟨_, h⟩ := specFix_ok h
  refine ⟨specFold_skel h, specFold_wf hl hw h, fun n i hni => specFold_frame h n i ?_⟩
  rintro ⟨⟨m, j, f⟩, c⟩ hpc ⟨h1, h2⟩
  simp only at h1 h2
  subst h1; subst h2
  exact hni f (List.of_mem_zip hpc).1

/-- **narrowing**: after a successful fix the base set at every position `(n, i)` is the old set intersected
    with the sets of all letters that landed on it, complemented where the position is read in the
    complementary orientation (`hits`); positions hit by no letter keep their set -/
theorem fix_narrows (hl : t.lawful = true) {st st' : St} (hw : wfB t st = true) {name : String} {e : SeqE}
    (he : st.findSeq name = some e) (rev : Bool) (str : List Char) (hs : ∀ c ∈ str, t.isCode c = true)
    (h : fixItem t (st.seqs.length + 1) st name rev str = .ok st') (n : String) (i : Nat) :
    maskAt t st' n i = (hits t ((posOfView st name rev).zip str) n i).foldl (· &&& ·) (maskAt t st n i) := by
  rw [fix_exact hl hw he _ (Nat.lt_succ_self _) rev str hs] at h
  obtain ⟨_, h⟩ := specFix_ok h
  exact specFold_masks hl h (fun pc hpc => hs pc.2 (List.of_mem_zip hpc).2) n i

/-- **reverse complement for starred views**: fixing `x*` to `str` is fixing `x` to the reverse complement -/
theorem fix_star_is_reverse_complement (hl : t.lawful = true) {st : St} (hw : wfB t st = true) {name : String}
    {e : SeqE} (he : st.findSeq name = some e) (str : List Char) (hs : ∀ c ∈ str, t.isCode c = true) :
    fixItem t (st.seqs.length + 1) st name true str = fixItem t (st.seqs.length + 1) st name false (wc t str) := by
  rw [fix_exact hl hw he _ (Nat.lt_succ_self _) true str hs,
    fix_exact hl hw he _ (Nat.lt_succ_self _) false _ (wc_codes hl hs)]
  exact specFix_star hl hw he str hs

/-- **offsets for composite objects**: the positions of a super-sequence view are the positions of its items'
    views, concatenated in the order of the view -/
theorem positions_of_composite (hw : wfB t st = true) {name : String} {e : SeqE} (he : st.findSeq name = some e)
    (hsup : e.isSup = true) (rev : Bool) :
    posOfView st name rev = (itemsOfView e rev).flatMap (posOfItem st) :=
  posOfView_sup he (seqOK_sup_bases hsup (wfB_seqOK hw (findE_some he).1)) rev

/-- the specification over any positions keeps the component well-formed (in particular constraint strings
    still consist of codes of the table): fixes can be chained -/
theorem fix_preserves_wf (hl : t.lawful = true) {st st' : St} (hw : wfB t st = true) {pos : List Pos}
    {str : List Char} (h : specFix t st pos str = .ok st') : wfB t st' = true :=
  specFold_wf hl hw (specFix_ok h).2

/-- **any order**: the outcome of a whole list of fixes (as position lists + strings) is the same for every
    permutation of the list — same final component, or failure in every order -/
theorem fix_order_independent_all (hl : t.lawful = true) (st : St) {l1 l2 : List (List Pos × List Char)}
    (h : l1.Perm l2) : (specFixAll t st l1).toOption = (specFixAll t st l2).toOption := by
  rw [specFixAll_toOption, specFixAll_toOption, h.all_eq, specFold_perm hl (h.flatMap_right _) st]

/-- **two fixes commute**: in either order the compile ends in the same component, or fails in both orders
    (overlapping views included) -/
theorem fix_order_independent (hl : t.lawful = true) {st : St} (hw : wfB t st = true) {n1 n2 : String}
    {e1 e2 : SeqE} (he1 : st.findSeq n1 = some e1) (he2 : st.findSeq n2 = some e2) (r1 r2 : Bool)
    (s1 s2 : List Char) (hs1 : ∀ c ∈ s1, t.isCode c = true) (hs2 : ∀ c ∈ s2, t.isCode c = true) :
    ((fixItem t (st.seqs.length + 1) st n1 r1 s1).bind
        (fun st' => fixItem t (st'.seqs.length + 1) st' n2 r2 s2)).toOption =
    ((fixItem t (st.seqs.length + 1) st n2 r2 s2).bind
        (fun st' => fixItem t (st'.seqs.length + 1) st' n1 r1 s1)).toOption := by
  have h12 := fixItem_all hl hw [(n1, r1, s1), (n2, r2, s2)] (by simp [he1, he2]) (by simpa using ⟨hs1, hs2⟩)
  have h21 := fixItem_all hl hw [(n2, r2, s2), (n1, r1, s1)] (by simp [he1, he2]) (by simpa using ⟨hs2, hs1⟩)
  simp only [List.foldlM_cons, List.foldlM_nil, bind_pure, List.map_cons, List.map_nil] at h12 h21
  exact (congrArg Except.toOption h12).trans
    ((fix_order_independent_all hl st (List.Perm.swap _ _ [])).trans (congrArg Except.toOption h21).symm)

/-- `Strand.fix_seq` is the specification over the strand's positions (those of its items, concatenated) -/
theorem fix_strand (hl : t.lawful = true) {st : St} (hw : wfB t st = true) {s : StrandE} (hmem : s ∈ st.strands)
    (str : List Char) (hs : ∀ c ∈ str, t.isCode c = true) :
    fixStrand t st s str = specFix t st (posOfBases s.bases) str ∧
    posOfBases s.bases = s.items.flatMap (posOfItem st) :=
  ⟨fixStrand_spec hl hw hmem str hs, posOfBases_items (strandOK_bases (wfB_strandOK hw hmem))⟩

/-- `Structure.fix_seq`, wrong number of `+`-separated parts: error `strandCount` -/
theorem fix_struct_count (st : St) (x : StructE) (str : List Char)
    (h : (Notation.splitOn '+' str).length ≠ x.strands.length) :
    fixStruct t st x str = .error .strandCount ∧ specFixStruct t st x str = .error .strandCount := by
  constructor
  · unfold fixStruct
    simp only [bne_iff_ne.2 h, if_true]
  · unfold specFixStruct
    simp only [bne_iff_ne.2 h, if_true]

/-- `Structure.fix_seq`, one part per strand and every part as long as its strand: the specification over the
    positions of all strands in order, fixed to the letters of all parts in order -/
theorem fix_struct_exact (hl : t.lawful = true) {st : St} (hw : wfB t st = true) {x : StructE}
    (hx : x ∈ st.structs) (str : List Char) (hs : ∀ c ∈ str, c = '+' ∨ t.isCode c = true)
    (hcount : (Notation.splitOn '+' str).length = x.strands.length)
    (hlens : ∀ np ∈ x.strands.zip (Notation.splitOn '+' str), (posOfStrandName st np.1).length = np.2.length) :
    fixStruct t st x str = specFixStruct t st x str ∧
    specFixStruct t st x str =
      specFix t st ((x.strands.zip (Notation.splitOn '+' str)).flatMap (fun np => posOfStrandName st np.1))
        (Notation.splitOn '+' str).flatten := by
  refine ⟨?_, specFixStruct_of_lengths t st x str hcount hlens⟩
  rw [specFixStruct_of_lengths t st x str hcount hlens, fixStruct_fold hl hw hx str hs hcount,
    specFixAll_eq_specFix t _ st (fun y hy => by
      obtain ⟨np, hnp, rfl⟩ := List.mem_map.1 hy
      exact hlens np hnp),
    List.flatMap_map, List.flatMap_map, flatMap_snd_zip _ _ (Nat.le_of_eq hcount)]

/-- `Structure.fix_seq`, some part of the wrong length: an error (the specification says `length`; the code
    may have met an empty intersection in an earlier strand first) -/
theorem fix_struct_length (hl : t.lawful = true) {st : St} (hw : wfB t st = true) {x : StructE}
    (hx : x ∈ st.structs) (str : List Char) (hs : ∀ c ∈ str, c = '+' ∨ t.isCode c = true)
    (hcount : (Notation.splitOn '+' str).length = x.strands.length)
    (hbad : ∃ np ∈ x.strands.zip (Notation.splitOn '+' str), (posOfStrandName st np.1).length ≠ np.2.length) :
    (∃ err, fixStruct t st x str = .error err) ∧ specFixStruct t st x str = .error .length := by
  obtain ⟨np, hnp, hne⟩ := hbad
  refine ⟨?_, by rw [specFixStruct_of_count_eq t st x str hcount,
    if_neg fun h => hne (beq_iff_eq.1 (List.all_eq_true.1 h np hnp))]⟩
  rw [fixStruct_fold hl hw hx str hs hcount]
  exact specFixAll_of_bad_length t _ st ⟨_, List.mem_map.2 ⟨np, hnp, rfl⟩, hne⟩

/-- **one binding of a signal** (`fix_signal`, leaf case `seq.fix_seq` / `seq.wc.fix_seq`): the port's
    sequence is fixed to `str` when the parity flag of the binding is false and to the reverse complement
    of `str` when it is true -/
theorem fix_port (hl : t.lawful = true) {cs : St} (hw : wfB t cs = true) {n : String} {e : SeqE}
    (he : cs.findSeq n = some e) (parity : Bool) (str : List Char) (hs : ∀ c ∈ str, t.isCode c = true) :
    fixItem t (cs.seqs.length + 1) cs n parity str =
      specFix t cs (posOfView cs n false) (if parity then wc t str else str) :=
  FixSpec.fix_port hl hw he parity str hs

/-- parities compose through nesting: reverse-complementing twice is the identity, so a port reached through
    two bindings with flags `p`, `q` is fixed to `str` or its reverse complement according to the xor (iterate for more) -/
theorem parity_composes (hl : t.lawful = true) (str : List Char) (hs : ∀ c ∈ str, t.isCode c = true) (p q : Bool) :
    (let s1 := if p then wc t str else str; if q then wc t s1 else s1) = if (p != q) then wc t str else str := by
  cases p <;> cases q <;> simp [wc_wc hl str hs]

/-- **signals, through nested systems**: `fix_signal` walks the bindings of the signal in order; a binding to a
    component's port fixes that port's sequence to `str` (parity false) or its reverse complement (parity
    true) — by `fix_port` this is `specFix` over the port's positions —, a binding to a sub-system's signal
    fixes that signal, one level down, to `str` / its reverse complement; a failure anywhere aborts -/
theorem fixSignal_spec (hl : t.lawful = true) (fuel : Nat) (st : SysSt) (name : String) (str : List Char)
    (hs : ∀ c ∈ str, t.isCode c = true) (hw : wfInst t (fuel + 1) (.sys st) = true) :
    fixSignal t (fuel + 1) st name str =
      match st.signals.lookup name with
      | none => .ok none
      | some entries => (entries.foldlM (sigStepSpec t fuel str) st).map some :=
  FixSpec.fixSignal_spec hl fuel st name str hs hw

section of_load
open Pepper.LoadInv
variable {src : Comp.Src} {nargs : Nat} {pfx : String} {a0 a1 : Nat} {st : St}

/-- **`load` establishes the invariant**: the tables of every component the compiler accepts — from a source
    whose statement names are user names and whose quoted regions use codes of the table — are well-formed -/
theorem wf_of_load (hload : Comp.load src nargs pfx a0 = .ok (st, a1)) (hn : StmtNamesOk src = true)
    (hc : CodesOk t src = true) : wfB t st = true :=
  load_wfB hload hn hc

/-- … and so are all components of every instance tree `loadFile` returns, to any depth -/
theorem wfInst_of_loadFile {b : Bundle} (hb : CompNamesCodesOk t b) {fuel : Nat} {base : String} {args : Nat}
    {argKey pfx path : String} {includes : List String} {anon : Nat} {inst : Inst} {a' : Nat}
    (h : Sys.loadFile b fuel base args argKey pfx path includes anon = .ok (inst, a')) (n : Nat) :
    wfInst t n inst = true :=
  loadFile_wfInst hb h n

theorem fix_exact_of_load (hl : t.lawful = true) (hload : Comp.load src nargs pfx a0 = .ok (st, a1))
    (hn : StmtNamesOk src = true) (hc : CodesOk t src = true) {name : String} {e : SeqE}
    (he : st.findSeq name = some e) (fuel : Nat) (hfuel : st.seqs.length < fuel) (rev : Bool) (str : List Char)
    (hs : ∀ c ∈ str, t.isCode c = true) :
    fixItem t fuel st name rev str = specFix t st (posOfView st name rev) str :=
  fix_exact hl (wf_of_load hload hn hc) he fuel hfuel rev str hs

theorem fix_length_error_iff_of_load (hl : t.lawful = true) (hload : Comp.load src nargs pfx a0 = .ok (st, a1))
    (hn : StmtNamesOk src = true) (hc : CodesOk t src = true) {name : String} {e : SeqE}
    (he : st.findSeq name = some e) (rev : Bool) (str : List Char) (hs : ∀ c ∈ str, t.isCode c = true) :
    fixItem t (st.seqs.length + 1) st name rev str = .error .length ↔ str.length ≠ e.len :=
  fix_length_error_iff hl (wf_of_load hload hn hc) he rev str hs

theorem fix_frame_of_load (hl : t.lawful = true) {st' : St} (hload : Comp.load src nargs pfx a0 = .ok (st, a1))
    (hn : StmtNamesOk src = true) (hc : CodesOk t src = true) {name : String} {e : SeqE}
    (he : st.findSeq name = some e) (rev : Bool) (str : List Char) (hs : ∀ c ∈ str, t.isCode c = true)
    (h : fixItem t (st.seqs.length + 1) st name rev str = .ok st') :
    skel st' = skel st ∧ wfB t st' = true ∧
    ∀ n i, (∀ f, (n, i, f) ∉ posOfView st name rev) → charAt st' n i = charAt st n i :=
  fix_frame hl (wf_of_load hload hn hc) he rev str hs h

theorem fix_narrows_of_load (hl : t.lawful = true) {st' : St} (hload : Comp.load src nargs pfx a0 = .ok (st, a1))
    (hn : StmtNamesOk src = true) (hc : CodesOk t src = true) {name : String} {e : SeqE}
    (he : st.findSeq name = some e) (rev : Bool) (str : List Char) (hs : ∀ c ∈ str, t.isCode c = true)
    (h : fixItem t (st.seqs.length + 1) st name rev str = .ok st') (n : String) (i : Nat) :
    maskAt t st' n i = (hits t ((posOfView st name rev).zip str) n i).foldl (· &&& ·) (maskAt t st n i) :=
  fix_narrows hl (wf_of_load hload hn hc) he rev str hs h n i

theorem fix_star_is_reverse_complement_of_load (hl : t.lawful = true)
    (hload : Comp.load src nargs pfx a0 = .ok (st, a1)) (hn : StmtNamesOk src = true) (hc : CodesOk t src = true)
    {name : String} {e : SeqE} (he : st.findSeq name = some e) (str : List Char)
    (hs : ∀ c ∈ str, t.isCode c = true) :
    fixItem t (st.seqs.length + 1) st name true str = fixItem t (st.seqs.length + 1) st name false (wc t str) :=
  fix_star_is_reverse_complement hl (wf_of_load hload hn hc) he str hs

theorem fix_order_independent_of_load (hl : t.lawful = true) (hload : Comp.load src nargs pfx a0 = .ok (st, a1))
    (hn : StmtNamesOk src = true) (hc : CodesOk t src = true) {n1 n2 : String}
    {e1 e2 : SeqE} (he1 : st.findSeq n1 = some e1) (he2 : st.findSeq n2 = some e2) (r1 r2 : Bool)
    (s1 s2 : List Char) (hs1 : ∀ c ∈ s1, t.isCode c = true) (hs2 : ∀ c ∈ s2, t.isCode c = true) :
    ((fixItem t (st.seqs.length + 1) st n1 r1 s1).bind
        (fun st' => fixItem t (st'.seqs.length + 1) st' n2 r2 s2)).toOption =
    ((fixItem t (st.seqs.length + 1) st n2 r2 s2).bind
        (fun st' => fixItem t (st'.seqs.length + 1) st' n1 r1 s1)).toOption :=
  fix_order_independent hl (wf_of_load hload hn hc) he1 he2 r1 r2 s1 s2 hs1 hs2

theorem fix_strand_of_load (hl : t.lawful = true) (hload : Comp.load src nargs pfx a0 = .ok (st, a1))
    (hn : StmtNamesOk src = true) (hc : CodesOk t src = true) {s : StrandE} (hmem : s ∈ st.strands)
    (str : List Char) (hs : ∀ c ∈ str, t.isCode c = true) :
    fixStrand t st s str = specFix t st (posOfBases s.bases) str ∧
    posOfBases s.bases = s.items.flatMap (posOfItem st) :=
  fix_strand hl (wf_of_load hload hn hc) hmem str hs

theorem fix_struct_exact_of_load (hl : t.lawful = true) (hload : Comp.load src nargs pfx a0 = .ok (st, a1))
    (hn : StmtNamesOk src = true) (hc : CodesOk t src = true) {x : StructE}
    (hx : x ∈ st.structs) (str : List Char) (hs : ∀ c ∈ str, c = '+' ∨ t.isCode c = true)
    (hcount : (Notation.splitOn '+' str).length = x.strands.length)
    (hlens : ∀ np ∈ x.strands.zip (Notation.splitOn '+' str), (posOfStrandName st np.1).length = np.2.length) :
    fixStruct t st x str = specFixStruct t st x str ∧
    specFixStruct t st x str =
      specFix t st ((x.strands.zip (Notation.splitOn '+' str)).flatMap (fun np => posOfStrandName st np.1))
        (Notation.splitOn '+' str).flatten :=
  fix_struct_exact hl (wf_of_load hload hn hc) hx str hs hcount hlens

theorem fix_struct_length_of_load (hl : t.lawful = true) (hload : Comp.load src nargs pfx a0 = .ok (st, a1))
    (hn : StmtNamesOk src = true) (hc : CodesOk t src = true) {x : StructE}
    (hx : x ∈ st.structs) (str : List Char) (hs : ∀ c ∈ str, c = '+' ∨ t.isCode c = true)
    (hcount : (Notation.splitOn '+' str).length = x.strands.length)
    (hbad : ∃ np ∈ x.strands.zip (Notation.splitOn '+' str), (posOfStrandName st np.1).length ≠ np.2.length) :
    (∃ err, fixStruct t st x str = .error err) ∧ specFixStruct t st x str = .error .length :=
  fix_struct_length hl (wf_of_load hload hn hc) hx str hs hcount hbad

theorem fix_port_of_load (hl : t.lawful = true) (hload : Comp.load src nargs pfx a0 = .ok (st, a1))
    (hn : StmtNamesOk src = true) (hc : CodesOk t src = true) {n : String} {e : SeqE}
    (he : st.findSeq n = some e) (parity : Bool) (str : List Char) (hs : ∀ c ∈ str, t.isCode c = true) :
    fixItem t (st.seqs.length + 1) st n parity str =
      specFix t st (posOfView st n false) (if parity then wc t str else str) :=
  fix_port hl (wf_of_load hload hn hc) he parity str hs

/-- `fixSignal_spec` for a loaded system: for every system `loadFile` returns (from a bundle whose component
    files satisfy `StmtNamesOk` and `CodesOk t`), with no well-formedness hypothesis -/
theorem fixSignal_spec_of_load (hl : t.lawful = true) {b : Bundle} (hb : CompNamesCodesOk t b) {lfuel : Nat}
    {base : String} {args : Nat} {argKey pfx path : String} {includes : List String} {anon : Nat} {sst : SysSt}
    {a' : Nat} (hload : Sys.loadFile b lfuel base args argKey pfx path includes anon = .ok (.sys sst, a'))
    (fuel : Nat) (name : String) (str : List Char) (hs : ∀ c ∈ str, t.isCode c = true) :
    fixSignal t (fuel + 1) sst name str =
      match sst.signals.lookup name with
      | none => .ok none
      | some entries => (entries.foldlM (sigStepSpec t fuel str) sst).map some :=
  fixSignal_spec hl fuel sst name str hs (wfInst_of_loadFile hb hload (fuel + 1))

end of_load

/-- a sequence / strand / structure name the component does not have: nothing happens (warning) -/
theorem unknown_name_comp (fuel : Nat) (s : St) (name : String) (str : List Char) :
    (s.findSeq name = none → fixNamed t .sequence (fuel + 1) (.comp s) name str = .ok none) ∧
    (s.findStrand name = none → fixNamed t .strand (fuel + 1) (.comp s) name str = .ok none) ∧
    (s.findStruct name = none → fixNamed t .structure (fuel + 1) (.comp s) name str = .ok none) :=
  ⟨fun h => by rw [fixNamed_comp_sequence, h], fun h => by simp [fixNamed, h], fun h => by simp [fixNamed, h]⟩

/-- in a system: a name without instance prefix, with an unknown instance, or unknown below the instance -/
theorem unknown_name_sys (k : Kind) (fuel : Nat) (st : SysSt) (name : String) (str : List Char) :
    (splitFirstDash name = none → fixNamed t k (fuel + 1) (.sys st) name str = .ok none) ∧
    (∀ cn rest, splitFirstDash name = some (cn, rest) → st.components.lookup cn = none →
      fixNamed t k (fuel + 1) (.sys st) name str = .ok none) ∧
    (∀ cn rest sub, splitFirstDash name = some (cn, rest) → st.components.lookup cn = some sub →
      fixNamed t k fuel sub rest str = .ok none → fixNamed t k (fuel + 1) (.sys st) name str = .ok none) := by
  cases st
  refine ⟨fun h => by simp [fixNamed, h], fun cn rest h h2 => ?_, fun cn rest sub h h2 h3 => ?_⟩
  · simp only [SysSt.components] at h2
    simp [fixNamed, h, h2]
  · simp only [SysSt.components] at h2
    simp [fixNamed, h, h2, h3]

theorem unknown_signal (fuel : Nat) (st : SysSt) (name : String) (str : List Char)
    (h : st.signals.lookup name = none) : fixSignal t (fuel + 1) st name str = .ok none := by
  simp [fixSignal, h]

open Pepper.Generated in
/-- `a = "4N"`, `b = "2S"`, `x = a b*`, strand `S = x a*`, structure `G = S` (what `Comp.load` builds) -/
def exSt : St :=
  { name := "T", pfx := "",
    seqs := [ ⟨"a", false, false, 4, "NNNN".toList, [], [⟨"a", false, 4⟩], true⟩,
              ⟨"b", false, false, 2, "SS".toList, [], [⟨"b", false, 2⟩], true⟩,
              ⟨"x", true, false, 6, [], [⟨"a", false, 4, false⟩, ⟨"b", true, 2, false⟩],
                [⟨"a", false, 4⟩, ⟨"b", true, 2⟩], false⟩ ],
    strands := [ ⟨"S", false, 10, [⟨"x", false, 6, true⟩, ⟨"a", true, 4, false⟩],
                  [⟨"a", false, 4⟩, ⟨"b", true, 2⟩, ⟨"a", true, 4⟩], true⟩ ],
    structs := [ ⟨"G", ⟨['1'], []⟩, ["S"], "..........".toList, [⟨"a", false, 4⟩, ⟨"b", true, 2⟩, ⟨"a", true, 4⟩]⟩ ] }

theorem dna_lawful : Generated.dnaTable.lawful = true := C11.dna_lawful

example : wfB Generated.dnaTable exSt = true := by decide +kernel

/-- non-vacuity of the `_of_load` theorems: a source the compiler accepts, satisfying both hypotheses -/
def exSrc : Comp.Src :=
  { name := "T", params := [], inputs := [], outputs := [],
    stmts := [ .seq "a" [.nuc "4N".toList] none, .seq "b" [.nuc "2S".toList] none,
               .seq "x" [.ref "a" false, .ref "b" true] none,
               .strand false "S" [.ref "x" false, .ref "a" true] none,
               .struct .default "G" ["S"] false "..........".toList ] }

example : LoadInv.StmtNamesOk exSrc = true ∧ CodesOk Generated.dnaTable exSrc = true := by decide +kernel
/-- `load` accepts it and builds `exSt` (up to the `anon`/`params` fields the theorems do not read) -/
example : (Comp.load exSrc 0 "" 0).toOption.map (fun r => (r.1.seqs, r.1.strands, r.1.structs)) =
    some (exSt.seqs, exSt.strands, exSt.structs) := by decide +kernel

example : posOfView exSt "x" false =
    [("a", 0, false), ("a", 1, false), ("a", 2, false), ("a", 3, false), ("b", 1, true), ("b", 0, true)] := by decide +kernel
example : posOfView exSt "x" true =
    [("b", 0, false), ("b", 1, false), ("a", 3, true), ("a", 2, true), ("a", 1, true), ("a", 0, true)] := by decide +kernel

/-- fixing `x` to `ACGTCG` makes `a = ACGT` and `b = CG` (the last two letters land on `b` complemented and
    reversed) — through the *code path*, by `fix_exact` -/
example : (fixItem Generated.dnaTable 4 exSt "x" false "ACGTCG".toList).toOption.map (fun s => s.seqs.map (·.const))
    = some ["ACGT".toList, "CG".toList, []] := by
  rw [fix_exact dna_lawful (by decide +kernel) (e := exSt.seqs[2]) (by decide +kernel) 4 (by decide +kernel) false _ (by decide +kernel)]
  decide +kernel

/-- overlapping positions: strand `S = a b* a*` fixed to `ANNNNNNNNT`… the first letter `A` and the last
    letter `T` (complemented: `A`) both land on `a[0]`: consistent, `a = ANNN` -/
example : (specFix Generated.dnaTable exSt (posOfBases exSt.strands[0].bases) "ANNNNNNNNT".toList).toOption.map
    (fun s => s.seqs.map (·.const)) = some ["ANNN".toList, "SS".toList, []] := by decide +kernel

/-- … and conflicting letters on the same nucleotide are an error -/
example : (match specFix Generated.dnaTable exSt (posOfBases exSt.strands[0].bases) "ANNNNNNNNA".toList with
    | .error .empty => true | _ => false) = true := by decide +kernel

example : (match specFix Generated.dnaTable exSt (posOfView exSt "x" false) "ACG".toList with
    | .error .length => true | _ => false) = true := by decide +kernel

/-- `S` against `SS`: `A` is outside the constraint -/
example : (match specFix Generated.dnaTable exSt (posOfView exSt "b" false) "AC".toList with
    | .error .empty => true | _ => false) = true := by decide +kernel

end Pepper.C12
