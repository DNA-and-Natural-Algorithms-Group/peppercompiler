import PepperProofs.Subst
/-!
# C13 — parameterised templates compile like their hand-expanded form

Model: `PepperModel/Subst.lean` (`processList`, `bindArgs`), source `var_substitute.process_list` and the
arity binding of `component_parser.load_component` / `system_parser.load_system`.

Specification: `handExpand` — the file one would write by hand: comments removed, `length` lines evaluated
into the environment and removed, every `<e>` replaced by its value, every line replaced by one
newline-terminated line per element of the cartesian product of the alternatives of its brace groups in
lexicographic order with the leftmost group slowest (`choices` over the decomposition `segs`), all-white
results omitted, everything else untouched.

Python's `eval` and `str` are parameters (`evalExpr`, `str`) of model and specification alike: the theorems
hold for every evaluator, so nothing about `eval` is assumed beyond its being a function of the environment
and the expression text that either returns a value or raises.

The theorems speak about lines whose braces are flat after expression substitution (`FlatBraces`: groups
not nested, no stray brace).  On other lines the model still follows the Python (`duplicate_recursion`) but
there is no hand-expanded form to compare with.
-/
namespace Pepper.C13
open Pepper.Subst

/-- **Main theorem.**  For every evaluator, every template (list of lines, the last one with or without a
    final newline) and every environment: if every text that reaches brace expansion (the source line after
    comment stripping, expression substitution and newline termination; computed by `substituted`, up to the
    first evaluation error) has flat braces, then `process_list` returns exactly the hand-expanded file, or
    fails with exactly the same evaluation error. -/
theorem subst_is_expansion {E Val : Type} (evalExpr : Env Val → Str → Except E Val) (str : Val → Str)
    (lines : List Str) (env : Env Val)
    (h : ∀ l ∈ substituted evalExpr str lines env, FlatBraces l) :
    processList evalExpr str lines env = handExpand evalExpr str lines env := by
  fun_induction processList evalExpr str lines env with
  | case1 => rfl
  | case2 line rest env l1 name src hm e he =>
    simp only [l1] at hm
    simp only [handExpand, hm, he]
  | case3 line rest env l1 name src hm v hv ih =>
    simp only [l1] at hm
    simp only [handExpand, substituted, hm, hv] at h ⊢
    exact ih h
  | case4 line rest env l1 hm e he =>
    simp only [l1] at hm he
    simp only [handExpand, hm, he]
  | case5 line rest env l1 hm l2 hs ih =>
    simp only [l1] at hm hs
    simp only [handExpand, substituted, hm, hs] at h ⊢
    rw [duplicate_eq_expandLine (h _ List.mem_cons_self), ih fun l hl => h l (List.mem_cons_of_mem _ hl)]

/-- The core of it, free of any parsing: for every well-formed sequence of literal texts and brace groups,
    the recursion of `duplicate` ("substitute each alternative of the first group and start again from the
    beginning of the line") applied to the way the sequence is written in a template yields the
    concatenation of the lexicographic product of the groups, leftmost group slowest. -/
theorem duplicate_is_product (S : List Seg) (hw : wfSegs S = true) :
    duplicate (render S) = (choices S).flatten :=
  duplicate_render S hw

/-- A line with flat braces has a well-formed decomposition into texts and groups which, written out again,
    is the line itself, character for character — and `segs` computes one. -/
theorem segs_decomposes {l : Str} (h : FlatBraces l) :
    wfSegs (segs false l) = true ∧ render (segs false l) = l :=
  segs_spec false l h

/-- Single line: on a line with flat braces `duplicate` returns the hand expansion of that line. -/
theorem duplicate_is_expansion {l : Str} (h : FlatBraces l) : duplicate l = expandLine l :=
  duplicate_eq_expandLine h

/-- "Leftmost group varying slowest", explicitly: there are exactly `total S` (the product of the numbers
    of alternatives) instances, and instance number `j` takes, in the leftmost group, alternative number
    `j / (product of the sizes of the groups to its right)` and is instance `j % (that product)` in the
    rest of the line. -/
theorem product_order (S : List Seg) :
    (choices S).length = total S ∧ ∀ j, j < total S → (choices S)[j]? = some (pickAt S j) :=
  ⟨choices_length S, choices_index S⟩

/-- With or without a final newline: whatever the line handed to `terminate` ends with, every line of its
    expansion ends with a newline, so instances are never glued together. -/
theorem instances_newline_terminated {l : Str} (h : FlatBraces (terminate l)) :
    ∀ x ∈ choices (segs false (terminate l)), x.getLast? = some '\n' := by
  obtain ⟨_, e⟩ := segs_decomposes h
  exact choices_last _ '\n' (by rw [e]; exact terminate_last l) (by decide)

/-- The model's `duplicate` (recursion on a fuel argument) satisfies the recursion equation of the Python
    function on every line, flat or not: the fuel never runs out. -/
theorem duplicate_recursion (l : Str) :
    duplicate l = match findGroup l with
      | none => l
      | some (start, inner, stop) =>
        ((splitOn ',' inner).map (fun op => duplicate (start ++ op ++ stop))).flatten :=
  duplicate_unfold l

/-- Arity binding: with as many arguments as declared parameters the environment is exactly
    `zip params args` (most recent binding first, the representation of `Env`); otherwise, and only
    otherwise, the call is rejected. -/
theorem arity_binding {Val : Type} (ps : List Str) (as : List Val) :
    (ps.length = as.length → bindArgs ps as = .ok (ps.zip as).reverse) ∧
    (ps.length ≠ as.length → bindArgs ps as = .error .arity) :=
  ⟨bindArgs_ok ps as, bindArgs_err ps as⟩

/-- … read through `Env.get`: with distinct parameter names the i-th parameter is bound to the i-th argument
    and nothing else is bound. -/
theorem arity_lookup {Val : Type} (ps : List Str) (as : List Val) (hl : ps.length = as.length) (hn : ps.Nodup) :
    ∃ env, bindArgs ps as = .ok env ∧
      (∀ i (h : i < ps.length), env.get ps[i] = some (as[i]'(hl ▸ h))) ∧
      (∀ x, x ∉ ps → env.get x = none) := by
  have keys : (ps.zip as).reverse.map (·.1) = ps.reverse := by rw [List.map_reverse, List.map_fst_zip (by omega)]
  refine ⟨_, bindArgs_ok ps as hl, fun i h => ?_, fun x hx => ?_⟩
  · rw [Env.get_eq_lookup]
    refine lookup_of_mem_nodup (keys ▸ nodup_reverse hn) (List.mem_reverse.2 ?_)
    have hz : i < (ps.zip as).length := by simp [List.length_zip]; omega
    have := List.getElem_mem hz
    rwa [List.getElem_zip] at this
  · rw [Env.get_eq_lookup, lookup_eq_none_iff_not_mem_keys, keys]
    simpa using hx

/-! ### non-vacuity
(`rw [String.toList_ofList]` first: see the head of `PepperProofs/ParsePil.lean`; `decide +kernel` adds no axiom) -/

/-- a template with a `length` chain, several expressions per line, a comment, a blank line, two brace groups
    on one line (one with an empty alternative), and no final newline -/
abbrev exTemplate : List Str := [
  "length k = n * 2 + 1   # derived\n",
  "length j = k - m // 2\n",
  "sequence a<n> = \"<k>N\" : <k+1>\n",
  "   # nothing here\n",
  "\n",
  "strand {X,Y}{1,2,} = a<n> b* : <j>"].map String.toList

abbrev exEnv : Env Int := [("m".toList, 5), ("n".toList, 3)]

theorem exTemplate_flat : ∀ l ∈ substituted evalInt pyStrInt exTemplate exEnv, FlatBraces l := by
  simp only [exTemplate, exEnv, List.map]
  repeat rw [String.toList_ofList]
  decide +kernel

/-- the hypothesis of the main theorem holds on it … -/
example : ∀ l ∈ substituted evalInt pyStrInt exTemplate exEnv, FlatBraces l := exTemplate_flat

/-- … the model computes this (`k = 7`, `j = 7 - 5 // 2 = 5`; six instances, `X` before `Y`, and for each of
    them `1`, `2`, empty) … -/
example : processList evalInt pyStrInt exTemplate exEnv = .ok
    ("sequence a3 = \"7N\" : 8\n" ++
     "strand X1 = a3 b* : 5\nstrand X2 = a3 b* : 5\nstrand X = a3 b* : 5\n" ++
     "strand Y1 = a3 b* : 5\nstrand Y2 = a3 b* : 5\nstrand Y = a3 b* : 5\n").toList := by
  simp only [exTemplate, exEnv, List.map, String.toList_append]
  repeat rw [String.toList_ofList]
  decide +kernel

/-- … so does the specification -/
example : handExpand evalInt pyStrInt exTemplate exEnv = processList evalInt pyStrInt exTemplate exEnv :=
  (subst_is_expansion evalInt pyStrInt exTemplate exEnv exTemplate_flat).symm

/-- the environment comes from the argument tuple -/
example : bindArgs ["n".toList, "m".toList] [(3 : Int), 5] = .ok exEnv := by
  repeat rw [String.toList_ofList]
  decide +kernel
example : bindArgs ["n".toList, "m".toList] [(3 : Int)] = .error .arity := by
  repeat rw [String.toList_ofList]
  decide +kernel
example : bindArgs ["n".toList] [(3 : Int), 5] = .error .arity := by
  repeat rw [String.toList_ofList]
  decide +kernel

/-- the order matters (the specification is not symmetric in the groups): leftmost slowest -/
example : expandLine "{a,b}{1,2}\n".toList = "a1\na2\nb1\nb2\n".toList ∧
    expandLine "{a,b}{1,2}\n".toList ≠ "a1\nb1\na2\nb2\n".toList := by
  repeat rw [String.toList_ofList]
  decide +kernel

/-- floor division and modulus on negative numbers as in Python; an unbound name and a division by zero
    are errors of the whole call, the syntax error wins over the run-time error -/
example : processList evalInt pyStrInt ["<-7//2> <-7%3> <7%-3> <-(2--3)*+4>".toList] [] = .ok "-4 2 -2 -20\n".toList := by
  repeat rw [String.toList_ofList]
  decide +kernel
example : processList evalInt pyStrInt ["a\n".toList, "<q>\n".toList] exEnv = .error .name := by
  repeat rw [String.toList_ofList]
  decide +kernel
example : processList evalInt pyStrInt ["<1//0> <q>\n".toList] exEnv = .error .zerodiv := by
  repeat rw [String.toList_ofList]
  decide +kernel
example : processList evalInt pyStrInt ["<1//0> <(>\n".toList] exEnv = .error .zerodiv := by
  repeat rw [String.toList_ofList]
  decide +kernel
example : processList evalInt pyStrInt ["<1//0 + (>\n".toList] exEnv = .error .syntax := by
  repeat rw [String.toList_ofList]
  decide +kernel

/-- outside the hypothesis the model still follows the Python: nested groups are expanded innermost first -/
example : ¬ FlatBraces "{a{b,c}d}\n".toList ∧ duplicate "{a{b,c}d}\n".toList = "abd\nacd\n".toList := by
  repeat rw [String.toList_ofList]
  decide +kernel

end Pepper.C13
