import PepperProofs.DenoteZero
import PepperProofs.CompEmit
import PepperProofs.CompShift
import PepperProofs.CompStep
/-!
# C14 — zero-length domains are inert

Specification side (`PepperModel/Denote.lean`: what a source denotes) and model side (`PepperModel/Comp.lean`,
`Emit.lean`: what the compiler emits).  The two sides are proved separately and no theorem here composes them: the
specification side is `PepperProofs/DenoteRegion.lean` and `DenoteZero.lean` (about `denoteComp` only), the model side
is `Comp.load_WF0` with `mem_compStmts_*` (about `Comp.load` only); `Comp.load_refines` (C01, under `Comp.UserNamesOk`,
which is stronger than the `CompShift.UserNamesOk` asked here) is what a reader would compose them with.  The pipeline part of the property
("… the designer front-end or the finisher can process") is validated on the real tool chain by `harness/props/c14.py`,
not proved.

(a) regions: `denoteRegion_insert_zero`, `_nucs`, `_quoted`; (b) statements: `stmt_insert_zero`, `_env`, `_quoted`,
`zero_definition_adds_nothing`, `zero_definition_last`; (c) what is emitted: `emitted_has_no_zero_length`.
Top level: `inert` (named reference) and `inert_quoted` (quoted region, up to the renumbering `shiftFull`, see
`shiftFull_spec`; `inert_quoted_general` for any renaming with the needed properties).  Both need that no *later*
structure statement is domain-level: a domain-level structure counts the segments of its strands, its notation
has to change with them (`domain_level_counterexample`).
-/
namespace Pepper.C14
open Pepper Pepper.Constraint Pepper.Denote Pepper.DenoteZero Pepper.CompShift
open Pepper.Comp hiding UserNamesOk

/-- (a) For every prefix, environment, item list `items`, position `i`, star flag and declared length: if `z` is
    bound to no nucleotides (a zero-length sequence, atomic or super), then
    `denoteRegion` of `items` with `z` / `z*` inserted at position `i` is `denoteRegion` of `items` with one
    empty segment inserted at position `blkCount env (items.take i)` (the number of segments the first `i`
    items contribute) — same error otherwise; new anonymous domains and counter are untouched. -/
theorem denoteRegion_insert_zero (pfx : String) (env : Env) (items : List SrcItem) (i : Nat) (z : String)
    (star : Bool) (length : Option Nat) {b : Denote.Bind} (hz : env.seqs.lookup z = some b) (hb : b.nucs = []) :
    denoteRegion pfx env (items.take i ++ [.ref z star] ++ items.drop i) length =
      (denoteRegion pfx env items length).map
        (fun r => (insertAt r.1 (blkCount env (items.take i)) [], r.2.1, r.2.2)) :=
  denoteRegion_insert_ref pfx env items i z star length hz hb

/-- (a) hence the flattened nucleotides, the new domains and the counter are literally the same -/
theorem denoteRegion_insert_zero_nucs (pfx : String) (env : Env) (items : List SrcItem) (i : Nat) (z : String)
    (star : Bool) (length : Option Nat) {b : Denote.Bind} (hz : env.seqs.lookup z = some b) (hb : b.nucs = []) :
    (denoteRegion pfx env (items.take i ++ [.ref z star] ++ items.drop i) length).map
        (fun r => (r.1.flatten, r.2.1, r.2.2)) =
      (denoteRegion pfx env items length).map (fun r => (r.1.flatten, r.2.1, r.2.2)) := by
  rw [denoteRegion_insert_zero pfx env items i z star length hz hb]
  cases denoteRegion pfx env items length with
  | error e => rfl
  | ok r => simp [Except.map, insertAt_flatten_nil]

/-- (a) Quoted region.  If `text` resolves to length 0, inserting `"text"` at position `i` gives: the same error,
    or the same nucleotides, the same new domains once the zero-length ones are dropped, and the counter one
    higher — all up to the renaming `ρ` of the anonymous names created after the insertion point.  `ρ` is any
    renaming that fixes what the environment binds, fixes `_Anon m` for `m` below the counter at the insertion
    point `n1 = env.anon + fixedNucs (items.take i)` and maps `_Anon m ↦ _Anon (m+1)` for `m ≥ n1`. -/
theorem denoteRegion_insert_zero_quoted (pfx : String) (env : Env) (items : List SrcItem) (i : Nat)
    (text : List Char) (length : Option Nat) (hq : resolve (parseQuoted text) none = .ok (0, []))
    {ρ : String → String} (hs : SeqsRel ρ env.seqs env.seqs)
    (hlt : ∀ m, m < env.anon + fixedNucs (items.take i) → ρ (pfx ++ "_Anon" ++ toString m) = pfx ++ "_Anon" ++ toString m)
    (hr : ∀ m, env.anon + fixedNucs (items.take i) ≤ m →
      ρ (pfx ++ "_Anon" ++ toString m) = pfx ++ "_Anon" ++ toString (m + 1)) :
    (denoteRegion pfx env (items.take i ++ [.nuc text] ++ items.drop i) length).map
        (fun r => (r.1.flatten, r.2.1.filter (fun d => d.2.length != 0), r.2.2)) =
      (denoteRegion pfx env items length).map
        (fun r => (rnSeg ρ r.1.flatten, (r.2.1.map (fun d => (ρ d.1, d.2))).filter (fun d => d.2.length != 0), r.2.2 + 1)) :=
  exRel_iff_map_eq.1 ((denoteRegion_insert_quoted pfx env items i text length hq hs hlt hr).mono
    fun _ _ _ h => Prod.ext h.nucs (Prod.ext h.doms h.anon))

/-- (b) Statement level, named reference: for a `sequence` (super-sequence) or `strand` statement `st` and the
    statement `st'` with `z` / `z*` inserted at position `i` (`InsStmt`), in any environment binding `z` to no
    nucleotides and for any `Out` so far: same error, or the same `Out` and the same counter. -/
theorem stmt_insert_zero (pfx : String) (env : Env) (o : Out) {i : Nat} {z : String} {star : Bool} {st st' : Stmt}
    (hins : InsStmt i (.ref z star) st st') {b : Denote.Bind} (hz : env.seqs.lookup z = some b) (hb : b.nucs = []) :
    (denoteStmt pfx env o st').map (fun p => (p.2, p.1.anon)) = (denoteStmt pfx env o st).map (fun p => (p.2, p.1.anon)) := by
  refine exRel_iff_map_eq.1 ((stmt_ref_rel pfx env o hins hz hb).mono fun p q _ h => ?_)
  show (q.2, q.1.anon) = (p.2, p.1.anon)
  rw [h.1.2, rnOut_id, h.1.1.anon]
  rfl

/-- (b) and the environments after the two statements are related by `EnvRel id 0`: the same names bound to the
    same nucleotides (only the segmentation of the defined name differs) -/
theorem stmt_insert_zero_env (pfx : String) (env : Env) (o : Out) {i : Nat} {z : String} {star : Bool} {st st' : Stmt}
    (hins : InsStmt i (.ref z star) st st') {b : Denote.Bind} (hz : env.seqs.lookup z = some b) (hb : b.nucs = []) :
    ExRel (fun p q => EnvRel id 0 p.1 q.1 ∧ q.2 = p.2) (denoteStmt pfx env o st) (denoteStmt pfx env o st') := by
  refine (stmt_ref_rel pfx env o hins hz hb).mono fun p q _ h => ⟨h.1.1, ?_⟩
  rw [h.1.2, rnOut_id]

/-- (b) Statement level, quoted region: same error, or environment and `Out` related by the renaming `ρ` with the
    counter one higher (`StRel ρ 1`).  Hypotheses on `ρ`: it fixes what `env` binds and what `o` holds, the full
    name of the sequence the statement defines, `_Anon m` below the insertion point `n1`, and renumbers from
    `n1` on. -/
theorem stmt_insert_zero_quoted (pfx : String) (env : Env) (o : Out) {i : Nat} {text : List Char} {st st' : Stmt}
    (hins : InsStmt i (.nuc text) st st') (hq : resolve (parseQuoted text) none = .ok (0, []))
    {ρ : String → String} {n1 : Nat}
    (hs : SeqsRel ρ env.seqs env.seqs) (hstr : StrandsRel ρ env.strands env.strands) (ho : rnOut ρ o = o)
    (hfix : stmtOk ρ pfx st)
    (hn1 : ∀ name items len, (st = .seq name items len ∨ ∃ d, st = .strand d name items len) →
      n1 = env.anon + fixedNucs (items.take i))
    (hlt : ∀ m, m < n1 → ρ (pfx ++ "_Anon" ++ toString m) = pfx ++ "_Anon" ++ toString m)
    (hr : RenumP ρ pfx n1 1) :
    ExRel (fun p q => StRel ρ 1 p q ∧ n1 ≤ p.1.anon) (denoteStmt pfx env o st) (denoteStmt pfx env o st') :=
  stmt_quoted_rel pfx env o hins hq hs hstr ho hfix hn1 hlt hr

/-- (b) Defining a zero-length atomic sequence (`sequence z = "0N"`, or any text / declared length that resolves
    to length 0) only binds the name: `Out` and the counter are returned unchanged — in any environment, hence
    at any position of the statement list including the last. -/
theorem zero_definition_adds_nothing (pfx : String) (env : Env) (o : Out) (z : String) (text : List Char)
    (len : Option Nat) {c : List Char} (hq : resolve (parseQuoted text) len = .ok (0, c))
    (hnew : env.seqs.lookup z = none) :
    denoteStmt pfx env o (.seq z [.nuc text] len) =
      .ok ({ env with seqs := env.seqs ++ [(z, ⟨[], [[]], false⟩)] }, o) :=
  denoteStmt_zero_atom pfx env o z text len hq hnew

/-- (b) As the last definition of a component (new name, not a port) it changes nothing the component denotes. -/
theorem zero_definition_last (src : Src) (pfx : String) (a : Nat) (z : String) (text : List Char) (len : Option Nat)
    {c : List Char} (hq : resolve (parseQuoted text) len = .ok (0, c))
    (hnew : ∀ env o, denoteStmts pfx src.stmts { anon := a } {} = .ok (env, o) → env.seqs.lookup z = none)
    (hport : ∀ p ∈ src.inputs ++ src.outputs, p.seq ≠ z) :
    denoteComp { src with stmts := src.stmts ++ [.seq z [.nuc text] len] } pfx a = denoteComp src pfx a :=
  DenoteZero.zero_definition_last src pfx a z text len hq hnew hport

/-- (c) Model side.  For every successfully loaded component whose sequence names are not of the reserved form:
    1. no emitted `sequence` statement has an empty template;
    2. no table entry of length zero (atomic or super-sequence) is declared by any emitted `sequence` /
       `sup-sequence` statement,
    3. and every entry of non-zero length is;
    4. every item name of an emitted `sup-sequence` statement is `pfx ++ e.name` or `pfx ++ e.name ++ "*"` for a table
       entry `e` of non-zero length (so, by 3, a declared one),
    5. and so is every item name of an emitted `strand` statement.
    Nothing of length zero reaches the designer front-end (whose `Convert.output` divides by the length). -/
theorem emitted_has_no_zero_length {src : Src} (hu : UserNamesOk src) {n : Nat} {pfx : String} {a : Nat}
    {st : St} {a' : Nat} (h : Comp.load src n pfx a = .ok (st, a')) :
    (∀ name tmpl, Pil.Stmt.seq name tmpl ∈ Emit.compStmts st → tmpl ≠ []) ∧
    (∀ e ∈ st.seqs, e.len = 0 → st.pfx ++ e.name ∉ seqDeclNames (Emit.compStmts st)) ∧
    (∀ e ∈ st.seqs, e.len ≠ 0 → st.pfx ++ e.name ∈ seqDeclNames (Emit.compStmts st)) ∧
    (∀ name items, Pil.Stmt.sup name items ∈ Emit.compStmts st → ∀ raw ∈ items,
      ∃ e ∈ st.seqs, e.len ≠ 0 ∧ (raw = st.pfx ++ e.name ∨ raw = st.pfx ++ e.name ++ "*")) ∧
    (∀ name d items, Pil.Stmt.strand name d items ∈ Emit.compStmts st → ∀ raw ∈ items,
      ∃ e ∈ st.seqs, e.len ≠ 0 ∧ (raw = st.pfx ++ e.name ∨ raw = st.pfx ++ e.name ++ "*")) := by
  have hw : WF0 st a' := load_WF0 h fun stmt hm => by
    cases stmt with
    | seq name items len =>
      refine userNamesOk_iff.1 hu name ?_
      simp only [srcSeqNames, List.mem_append, List.mem_flatMap]
      exact Or.inl ⟨_, hm, by simp [stmtSeqNames]⟩
    | _ => trivial
  refine ⟨?_, ?_, ?_, ?_, ?_⟩
  · intro name tmpl hm hnil
    obtain ⟨e, he, hsup, hlen, -, rfl⟩ := mem_compStmts_seq hm
    have hc := ((hw.seqs.entries e he).base hsup).2.1
    rw [hnil] at hc
    exact hlen hc.symm
  · intro e he hlen hm
    rw [seqDeclNames_compStmts] at hm
    obtain ⟨e', he', hn⟩ := List.mem_map.1 hm
    have hn' : e'.name = e.name := (String.append_right_inj st.pfx).1 hn
    have he'm : e' ∈ st.seqs ∧ e'.len ≠ 0 := by
      rcases List.mem_append.1 he' with h | h <;> obtain ⟨h1, h2⟩ := List.mem_filter.1 h <;>
        exact ⟨h1, by simp at h2; exact h2.1⟩
    have := nodup_map_inj hw.seqs.nodup he'm.1 he hn'
    rw [this] at he'm
    exact he'm.2 hlen
  · intro e he hlen
    rw [seqDeclNames_compStmts]
    apply List.mem_map.2
    refine ⟨e, ?_, rfl⟩
    apply List.mem_append.2
    cases hsup : e.isSup
    · left; exact List.mem_filter.2 ⟨he, by simp [hlen, hsup]⟩
    · right; exact List.mem_filter.2 ⟨he, by simp [hlen, hsup]⟩
  · intro name items hm
    obtain ⟨e, he, rfl⟩ := mem_compStmts_sup hm
    exact raw_items_ok (hw.seqs.entries e he).itemsOk
  · intro name d items hm
    obtain ⟨e, he, rfl⟩ := mem_compStmts_strand hm
    exact raw_items_ok (hw.strands e he).items

/-- **Inert, named reference.**  `src'` is `src` with a reference `z` / `z*` inserted at position `i` of the item
    list of statement number `t`, a super-sequence or strand statement (`InsertZero`); `z` is bound to no
    nucleotides when statement `t` is reached (`hz`); no later structure statement is domain-level.  Then
    `denoteComp src' = denoteComp src`: it fails iff the other does, with the same error, and otherwise every
    field of `Out` (domains, atomic and super-sequences, strands, structures, kinetics), the ports and the
    anonymous counter are identical. -/
theorem inert (pfx : String) (a : Nat) (src src' : Src) (t i : Nat) (z : String) (star : Bool)
    (h : InsertZero src src' t i (.ref z star))
    (hz : ∀ env o, denoteStmts pfx (src.stmts.take t) { anon := a } {} = .ok (env, o) →
      ∃ b, env.seqs.lookup z = some b ∧ b.nucs = [])
    (hplain : ∀ s ∈ src.stmts.drop (t + 1), ∀ opt name strands domain text,
      s = .struct opt name strands domain text → domain = false) :
    denoteComp src' pfx a = denoteComp src pfx a := by
  obtain ⟨pre, st, st', post, h1, h2, hins, htake, hdrop0, -⟩ := h.split
  have hdrop : src.stmts.drop (t + 1) = post := by rw [← List.drop_drop, hdrop0]; rfl
  apply CompRel_id_eq
  refine comp_rel pfx (ρ := id) (n0 := 0) (k := 0) (fun m _ => rfl) src src' pre post st st' a h1 h2
    h.inputs h.outputs ?_ ?_
  · intro s hs
    cases s with
    | seq name items len => rfl
    | strand d name items len => trivial
    | struct opt name strands domain text =>
      exact hplain _ (hdrop ▸ hs) opt name strands domain text rfl
    | kinetic lo hi ins outs => trivial
  · intro env o hpre
    obtain ⟨b, hzb, hb⟩ := hz env o (htake ▸ hpre)
    exact stmt_ref_rel pfx env o hins hzb hb

/-- **Inert, quoted region, general form.**  `src'` is `src` with a zero-length quoted region inserted.  Then
    `denoteComp src'` fails iff `denoteComp src` does, with the same error, and otherwise `Out` and the ports are
    those of `src` with the anonymous domains renamed by `ρ` and the counter one higher (`CompRel ρ 1`), for any
    renaming `ρ` that fixes everything the statements before `t` produced (`hpre`), `_Anon m` below the insertion
    point `n1`, the full names of the sequences defined from `t` on (`hok`, which also says that no structure from
    `t` on is domain-level), and maps `_Anon m ↦ _Anon (m+1)` from `n1` on. -/
theorem inert_quoted_general (pfx : String) (a : Nat) (src src' : Src) (t i : Nat) (text : List Char)
    (h : InsertZero src src' t i (.nuc text)) (hq : resolve (parseQuoted text) none = .ok (0, []))
    (ρ : String → String) (n1 : Nat)
    (hpre : ∀ env o, denoteStmts pfx (src.stmts.take t) { anon := a } {} = .ok (env, o) →
      SeqsRel ρ env.seqs env.seqs ∧ StrandsRel ρ env.strands env.strands ∧ rnOut ρ o = o ∧
      ∀ name items len, (src.stmts[t]? = some (.seq name items len) ∨ ∃ d, src.stmts[t]? = some (.strand d name items len)) →
        n1 = env.anon + fixedNucs (items.take i))
    (hlt : ∀ m, m < n1 → ρ (pfx ++ "_Anon" ++ toString m) = pfx ++ "_Anon" ++ toString m)
    (hr : RenumP ρ pfx n1 1)
    (hok : ∀ s ∈ src.stmts.drop t, stmtOk ρ pfx s) :
    ExRel (CompRel ρ 1) (denoteComp src pfx a) (denoteComp src' pfx a) :=
  DenoteZero.inert_quoted pfx a src src' t i text h hq ρ n1 hpre hlt hr hok

/-- the renumbering of full names used in `inert_quoted`: `pfx ++ _Anon m ↦ pfx ++ _Anon (m+k)` for `m ≥ n`;
    `pfx ++ _Anon m` for `m < n`, `pfx ++ x` for every `x` not of the reserved form, and (by definition) every name
    that does not start with `pfx` are left alone; it is injective -/
theorem shiftFull_spec (pfx : String) (n k : Nat) :
    (∀ m, n ≤ m → shiftFull pfx n k (pfx ++ "_Anon" ++ toString m) = pfx ++ "_Anon" ++ toString (m + k)) ∧
    (∀ m, m < n → shiftFull pfx n k (pfx ++ "_Anon" ++ toString m) = pfx ++ "_Anon" ++ toString m) ∧
    (∀ x, isAnon x = false → shiftFull pfx n k (pfx ++ x) = pfx ++ x) ∧
    (∀ s t, shiftFull pfx n k s = shiftFull pfx n k t → s = t) :=
  ⟨shiftFull_renum pfx n k, fun _ hm => shiftFull_lt pfx n k hm, fun _ hx => shiftFull_user pfx n k hx,
   fun _ _ h => shiftFull_injective pfx n k h⟩

/-- **Inert, quoted region.**  `src'` is `src` with a quoted region that resolves to length 0 inserted at position
    `i` of the item list of statement number `t` (a super-sequence or strand statement; for a `sequence` statement
    neither item list may be the single-quoted-region notation of an atomic sequence: `InsStmt`).  If no
    sequence name defined in `src` has the reserved form and no structure statement after `t` is domain-level,
    then for some counter value `n1` (the counter at the insertion point): `denoteComp src'` fails iff
    `denoteComp src` does, with the same error, and otherwise its `Out` is that of `src` with every domain name
    renamed by `shiftFull pfx n1 1` (the anonymous domains from `n1` on are renumbered by one, nothing else moves),
    its ports are the renamed ports, and its counter is one higher. -/
theorem inert_quoted (pfx : String) (a : Nat) (src src' : Src) (t i : Nat) (text : List Char)
    (h : InsertZero src src' t i (.nuc text)) (hq : resolve (parseQuoted text) none = .ok (0, []))
    (hnames : ∀ name items len, Stmt.seq name items len ∈ src.stmts → isAnon name = false)
    (hplain : ∀ s ∈ src.stmts.drop (t + 1), ∀ opt name strands domain text,
      s = .struct opt name strands domain text → domain = false) :
    ∃ n1, ExRel (CompRel (shiftFull pfx n1 1) 1) (denoteComp src pfx a) (denoteComp src' pfx a) := by
  obtain ⟨pre, st, st', post, h1, h2, hins, htake, hdrop, hget⟩ := h.split
  have hdrop1 : src.stmts.drop (t + 1) = post := by rw [← List.drop_drop, hdrop]; rfl
  -- any `shiftFull` fixes the names the statements define
  have hname : ∀ n1, ∀ s ∈ src.stmts, stmtNameFixed (shiftFull pfx n1 1) pfx s := by
    intro n1 s hs
    cases s with
    | seq name items len => exact shiftFull_user pfx n1 1 (hnames name items len hs)
    | _ => trivial
  have hokAll : ∀ n1, ∀ s ∈ src.stmts.drop t, stmtOk (shiftFull pfx n1 1) pfx s := by
    intro n1 s hs
    cases s with
    | seq name items len => exact hname n1 _ (List.mem_of_mem_drop hs)
    | strand d name items len => trivial
    | struct opt name strands domain text =>
      rw [hdrop] at hs
      rcases List.mem_cons.1 hs with hs | hs
      · cases hs
        cases hins
      · exact hplain _ (hdrop1 ▸ hs) opt name strands domain text rfl
    | kinetic lo hi ins outs => trivial
  -- the counter at the insertion point: what the statements before it and the items before position `i` consume
  let n1 := a + stmtsAnon pre + fixedNucs ((stmtItems st).take i)
  refine ⟨n1, DenoteZero.inert_quoted pfx a src src' t i text h hq _ n1 ?_ (fun m hm => shiftFull_lt pfx n1 1 hm)
    (shiftFull_renum pfx n1 1) (hokAll n1)⟩
  intro env o hpre
  rw [htake] at hpre
  have hfx := denoteStmts_fixed (ρ := shiftFull pfx n1 1) pre ⟨fun x => trivial, fun x => trivial, rfl⟩
    (fun s hs => hname n1 s (by rw [h1]; exact List.mem_append_left _ hs)) hpre
    (fun m _ h2 => shiftFull_lt pfx n1 1 (Nat.lt_of_lt_of_le h2 (Nat.le_add_right _ _)))
  refine ⟨hfx.1.seqs, hfx.1.strands, hfx.1.out, ?_⟩
  intro name items len hst
  rw [hget] at hst
  rcases hst with hst | ⟨d, hst⟩ <;> cases hst <;> exact congrArg (· + _) hfx.2.symm

/-- what `ExRel (CompRel ρ k)` says, spelled out -/
theorem compRel_spec (ρ : String → String) (k : Nat)
    (x y : Except Denote.Err (Out × List (List Nuc × Bool) × Nat)) :
    ExRel (CompRel ρ k) x y ↔
      (∃ e, x = .error e ∧ y = .error e) ∨
      (∃ o ports n, x = .ok (o, ports, n) ∧ y = .ok (rnOut ρ o, ports.map (fun p => (rnSeg ρ p.1, p.2)), n + k)) := by
  constructor
  · intro h
    rcases h.elim with ⟨e, rfl, rfl⟩ | ⟨⟨o, ports, n⟩, ⟨o', ports', n'⟩, rfl, rfl, h1, h2, h3⟩
    · exact Or.inl ⟨e, rfl, rfl⟩
    · exact Or.inr ⟨o, ports, n, rfl, by rw [show o' = _ from h1, show ports' = _ from h2, show n' = _ from h3]⟩
  · rintro (⟨e, rfl, rfl⟩ | ⟨o, ports, n, rfl, rfl⟩)
    · exact rfl
    · exact ⟨rfl, rfl, rfl⟩

/-! ### non-vacuity -/

/-- `sequence z = "0N"`, `sequence x = "4N"`, `strand s = x "2A" x*`, a structure on it -/
def exSrc : Src :=
  { name := "T", params := [], inputs := [⟨"x", false, none⟩], outputs := [],
    stmts := [.seq "z" [.nuc "0N".toList] none,
              .seq "x" [.nuc "4N".toList] none,
              .strand false "s" [.ref "x" false, .nuc "2A".toList, .ref "x" true] none,
              .struct .default "S" ["s"] false "((((..))))".toList] }

/-- the same with `z*` inserted in the middle of the strand -/
def exSrcRef : Src :=
  { exSrc with stmts := [.seq "z" [.nuc "0N".toList] none,
              .seq "x" [.nuc "4N".toList] none,
              .strand false "s" [.ref "x" false, .ref "z" true, .nuc "2A".toList, .ref "x" true] none,
              .struct .default "S" ["s"] false "((((..))))".toList] }

/-- the same with a zero-length quoted region inserted at the front of the strand -/
def exSrcQuoted : Src :=
  { exSrc with stmts := [.seq "z" [.nuc "0N".toList] none,
              .seq "x" [.nuc "4N".toList] none,
              .strand false "s" [.nuc "0N".toList, .ref "x" false, .nuc "2A".toList, .ref "x" true] none,
              .struct .default "S" ["s"] false "((((..))))".toList] }

example : resolve (parseQuoted "0N".toList) none = .ok (0, []) := by decide +kernel

example : InsertZero exSrc exSrcQuoted 2 0 (.nuc "0N".toList) :=
  ⟨rfl, rfl, [.seq "z" [.nuc "0N".toList] none, .seq "x" [.nuc "4N".toList] none], _, _,
    [.struct .default "S" ["s"] false "((((..))))".toList], rfl, rfl, rfl,
    InsStmt.strand false "s" [.ref "x" false, .nuc "2A".toList, .ref "x" true] none⟩

example : InsertZero exSrc exSrcRef 2 1 (.ref "z" true) :=
  ⟨rfl, rfl, [.seq "z" [.nuc "0N".toList] none, .seq "x" [.nuc "4N".toList] none], _, _,
    [.struct .default "S" ["s"] false "((((..))))".toList], rfl, rfl, rfl,
    InsStmt.strand false "s" [.ref "x" false, .nuc "2A".toList, .ref "x" true] none⟩

/-- the program denotes something (one anonymous domain `_Anon0 = AA`, the strand has 10 nucleotides) … -/
example : (obsComp (denoteComp exSrc "c-" 0)).map (fun r => (r.domains, r.anon)) =
    some ([("c-x", "NNNN".toList), ("c-_Anon0", "AA".toList)], 1) := by decide +kernel

/-- … and the variant with `z*` inserted denotes exactly the same -/
example : obsComp (denoteComp exSrcRef "c-" 0) = obsComp (denoteComp exSrc "c-" 0) := by decide +kernel

/-- the hypotheses of `inert` are satisfiable: the theorem applied to the concrete pair -/
example : denoteComp exSrcRef "c-" 0 = denoteComp exSrc "c-" 0 := by
  refine inert "c-" 0 exSrc exSrcRef 2 1 "z" true
    ⟨rfl, rfl, [.seq "z" [.nuc "0N".toList] none, .seq "x" [.nuc "4N".toList] none], _, _,
      [.struct .default "S" ["s"] false "((((..))))".toList], rfl, rfl, rfl,
      InsStmt.strand false "s" [.ref "x" false, .nuc "2A".toList, .ref "x" true] none⟩ ?_ ?_
  · intro env o h
    have h1 : exSrc.stmts.take 2 = [.seq "z" [.nuc "0N".toList] none, .seq "x" [.nuc "4N".toList] none] := rfl
    have r0 : resolve (parseQuoted "0N".toList) none = .ok (0, []) := by decide +kernel
    have r4 : resolve (parseQuoted "4N".toList) none = .ok (4, "NNNN".toList) := by decide +kernel
    rw [h1, denoteStmts_cons, zero_definition_adds_nothing "c-" _ _ "z" _ none r0 rfl, ok_bind, denoteStmts_cons] at h
    simp only [denoteStmt_atom, r4] at h
    simp only [List.nil_append, List.lookup] at h
    have hx : ("x" == "z") = false := by decide
    simp only [hx, Option.isSome_none, Bool.false_eq_true, if_false] at h
    obtain ⟨rfl, _⟩ := h
    exact ⟨⟨[], [[]], false⟩, by simp [atomResult], rfl⟩
  · intro s hs opt name strands domain text he
    have : exSrc.stmts.drop 3 = [.struct .default "S" ["s"] false "((((..))))".toList] := rfl
    rw [this] at hs
    simp only [List.mem_singleton] at hs
    subst hs
    injection he with _ _ _ h4 _
    exact h4.symm

/-- the variant with `"0N"` inserted consumes `_Anon0` for it: the real region becomes `_Anon1`, the counter 2;
    the domains that remain are the same up to that renumbering -/
example : (obsComp (denoteComp exSrcQuoted "c-" 0)).map (fun r => (r.domains, r.anon)) =
    some ([("c-x", "NNNN".toList), ("c-_Anon1", "AA".toList)], 2) := by decide +kernel

/-- the hypothesis on structures is needed: with a domain-level structure over the strand the original
    denotes something, the variant with a zero-length item inserted is rejected (the notation now has one
    symbol too few) -/
def dSrc : Src :=
  { exSrc with stmts := [.seq "z" [.nuc "0N".toList] none,
              .seq "x" [.nuc "4N".toList] none,
              .strand false "s" [.ref "x" false, .nuc "2A".toList, .ref "x" true] none,
              .struct .default "S" ["s"] true "(.)".toList] }
def dSrcRef : Src :=
  { exSrc with stmts := [.seq "z" [.nuc "0N".toList] none,
              .seq "x" [.nuc "4N".toList] none,
              .strand false "s" [.ref "x" false, .ref "z" true, .nuc "2A".toList, .ref "x" true] none,
              .struct .default "S" ["s"] true "(.)".toList] }

theorem domain_level_counterexample :
    (obsComp (denoteComp dSrc "" 0)).isSome = true ∧ (obsComp (denoteComp dSrcRef "" 0)).isSome = false := by
  decide +kernel

/-- (c) on the compile side: the zero-length `z` is not emitted, `x` and the anonymous region are -/
example : (match Comp.load exSrcRef 0 "c-" 0 with
           | .ok (st, _) => emitPil st
           | .error _ => []) =
    ["sequence c-x = NNNN : 4", "sequence c-_Anon0 = AA : 2", "strand c-s = c-x c-_Anon0 c-x* : 10",
     "structure [1nt] c-S = c-s : ((((..))))"] := by decide +kernel

end Pepper.C14
