import PepperProps.C04
/-!
# C15 — over-constrained specifications are reported, not passed on

Model: `PepperModel/ConstraintGen.lean` (`getConstraints` = `Convert.get_constraints`), source
`design/constraint_load.py`.  Specification: `LinkSpec.Satisfiable tbl (Pil.denote spec)` — an assignment of a
base to every domain position with every position inside its template's set, every `equal` entry position-wise
equal and every base pair complementary (`LinkSpec.Sat`).  The tie between the seeded graph and the specification
is `Seeded.graphSat_iff` (PepperProofs/ConstraintGenComp); the outcomes of `get_constraints` are
`getConstraintsT_spec` (ConstraintGenSeeds).
-/
namespace Pepper.C15
open Pepper Pepper.Pil Pepper.ConstraintGen Pepper.LinkSpec Pepper.Closure

/-- **Abstract core.**  For any equivalence-with-parity `R` (classes with partner classes) and any per-item
    constraint `ok`: a satisfying assignment exists iff no item is its own partner and every class has a base
    that suits all of its members (flipped on the partner side).  Direction ⇐ picks a base per class
    representative and its complement on the partner class — which needs the class to differ from its partner;
    direction ⇒ uses `compl b ≠ b`. -/
theorem core_partition {α : Type} {R : α → Bool → α → Prop} {ok : α → Base → Prop} (E : ParityEquiv R) :
    (∃ a, ASat R ok a) ↔ (∀ x, ¬ R x true x) ∧ ∀ x, ∃ b, ∀ y p, R x p y → ok y (flipB b p) :=
  core E

/-- **Specification side.**  A design is satisfiable iff no domain position is linked to itself with odd
    parity and, for every position, some base is allowed by every template linked to it (complemented at odd
    parity) — for every design and every code table. -/
theorem satisfiable_iff_classes (tbl : CodeTable) (d : Design) :
    Satisfiable tbl d ↔
      (∀ v, ¬ ParityReach d v true v) ∧
      ∀ v, ∃ b, ∀ w p, ParityReach d v p w → okVar tbl d w (flipB b p) :=
  satisfiable_iff tbl d

/-- **Model side, over the seeded graph.**  Once the seeding of `get_constraints` has succeeded (`seeds`,
    `build`: the `init` calls and the links in the Python's order), the call fails with the `ValueError` of
    `propagate_templates` exactly when the seeded link graph is over-constrained: some node is linked to
    itself with odd parity, or some class of linked nodes has no base allowed by all of its templates.
    For every lawful table, both layouts. -/
theorem error_iff_graph_unsat {tbl : CodeTable} (hl : tbl.lawful = true) {mode : Layout} {spec : Spec}
    (ok : SpecCodes tbl spec) {s : Seeds} {c : Cons} (hs : seeds mode spec = .ok s) (hb : build s = .ok c) :
    getConstraintsT tbl mode spec = .error .overconstrained ↔ ¬ GraphSat tbl c := by
  obtain h | h | ⟨a, h⟩ := getConstraintsT_spec hl ok hs hb
  · exact ⟨fun _ => h.2, fun _ => h.1⟩
  · exact ⟨fun e => absurd (h.1.symm.trans e) (by simp), fun n => absurd h.2.1 n⟩
  · exact ⟨fun e => absurd (h.1.symm.trans e) (by simp), fun n => absurd h.2.1 n⟩

/-- After a successful seeding no other exception of the constraint stage is possible: no `KeyError` (every
    intersection of codes has a code: lawful table), none of the `assert`s of `propagate_constraints` /
    `propagate_templates`; the only other failure is `dump` having no position to number. -/
theorem no_other_error {tbl : CodeTable} (hl : tbl.lawful = true) {mode : Layout} {spec : Spec}
    (ok : SpecCodes tbl spec) {s : Seeds} {c : Cons} (hs : seeds mode spec = .ok s) (hb : build s = .ok c) :
    getConstraintsT tbl mode spec ≠ .error .keyError ∧ getConstraintsT tbl mode spec ≠ .error .assertion ∧
    getConstraintsT tbl mode spec ≠ .error .layout := by
  obtain h | h | ⟨a, h⟩ := getConstraintsT_spec hl ok hs hb
  · rw [h.1]; exact ⟨nofun, nofun, nofun⟩
  · rw [h.1]; exact ⟨nofun, nofun, nofun⟩
  · rw [h.1]; exact ⟨nofun, nofun, nofun⟩

/-- Every document the reader accepts is well formed (`SpecWF`: names resolve to the objects that were defined,
    lengths and nucleotides of super-sequences and strands are those of their items, structures refer to defined
    strands and carry the bonds of their dot-paren string) and only uses codes of the table. -/
theorem loaded_wellformed {stmts : List Stmt} {spec : Spec}
    (hload : Pil.load Generated.nupackTable stmts {} = .ok spec) :
    SpecWF spec ∧ SpecCodes Generated.pilTable spec := ⟨load_wf hload, load_specCodes hload⟩

/-- **C15: an over-constrained specification is reported, and only an over-constrained one.**  For every document
    the reader accepts and both layouts, once the seeding of `get_constraints` has run (`seeds`, `build`: the `init`
    calls and the links in the Python's order):

      `get_constraints` fails with the `ValueError` of `propagate_templates`
        ⟺  no assignment of bases satisfies the specification
            (every domain position inside its template's set, every `equal` entry position-wise equal, every base
             pair complementary).

    By `error_iff_graph_unsat` and `Seeded.graphSat_iff` (ConstraintGenComp).  The hypotheses `hs`/`hb` say that the seeding itself raised nothing.  They are theorems for the strand layout
    (`error_iff_unsat_strand`) and, when every non-empty strand occurs in some structure, for the structure layout
    (`error_iff_unsat_struct`). -/
theorem error_iff_unsat {mode : Layout} {stmts : List Stmt} {spec : Spec}
    (hload : Pil.load Generated.nupackTable stmts {} = .ok spec) {s : Seeds} {c : Cons}
    (hs : seeds mode spec = .ok s) (hb : build s = .ok c) :
    getConstraints mode spec = .error .overconstrained ↔ ¬ Satisfiable Generated.pilTable (Pil.denote spec) := by
  have S := seeded_of_load hload hs hb
  rw [show getConstraints mode spec = getConstraintsT Generated.pilTable mode spec from rfl,
    error_iff_graph_unsat pil_lawful S.ok hs hb, S.graphSat_iff pil_N.2]

/-- **Second sentence of C15: a satisfiable specification is never rejected for being
    over-constrained.**  For every document the reader accepts: if a satisfying assignment of `Pil.denote spec`
    exists, then (after the seeding) `get_constraints` does not fail with the `ValueError` of
    `propagate_templates`: `error_iff_unsat` read from left to right (the direction that rests on
    `graphSat_of_satisfiable`, ConstraintGenSimT: every seeded link joins nodes whose nucleotides the design forces
    equal / complementary, and every node's template allows what the design allows for its nucleotide). -/
theorem satisfiable_not_rejected {mode : Layout} {stmts : List Stmt} {spec : Spec}
    (hload : Pil.load Generated.nupackTable stmts {} = .ok spec) {s : Seeds} {c : Cons}
    (hs : seeds mode spec = .ok s) (hb : build s = .ok c)
    (hsat : Satisfiable Generated.pilTable (Pil.denote spec)) :
    getConstraints mode spec ≠ .error .overconstrained :=
  fun e => (error_iff_unsat hload hs hb).1 e hsat

/-- **C15 for the strand layout (the default of `pepper-design-spurious`), without side conditions.**  For every
    document the reader accepts, `get_constraints` in the strand layout fails with the `ValueError` of
    `propagate_templates` exactly when the specification is unsatisfiable; the seeding itself never raises
    (`seeding_total_strand`: no index initialised twice, every link joins initialised indices, every loop body
    returns). -/
theorem error_iff_unsat_strand {stmts : List Stmt} {spec : Spec}
    (hload : Pil.load Generated.nupackTable stmts {} = .ok spec) :
    getConstraints .strand spec = .error .overconstrained ↔ ¬ Satisfiable Generated.pilTable (Pil.denote spec) := by
  obtain ⟨s, c, hs, hb⟩ := seeding_total_strand (load_wf hload)
  exact error_iff_unsat hload hs hb

/-- **C15 for the structure layout**, for documents in which every non-empty strand occurs in some structure
    (`Placed`; otherwise `get_index_strand` adds `None` to an integer): there too the seeding never raises
    (`seeding_total_struct`) and the call fails with the `ValueError` of `propagate_templates` exactly when the
    specification is unsatisfiable. -/
theorem error_iff_unsat_struct {stmts : List Stmt} {spec : Spec}
    (hload : Pil.load Generated.nupackTable stmts {} = .ok spec) (hp : Placed spec) :
    getConstraints .struct spec = .error .overconstrained ↔ ¬ Satisfiable Generated.pilTable (Pil.denote spec) := by
  obtain ⟨s, c, hs, hb⟩ := seeding_total_struct (load_wf hload) hp
  exact error_iff_unsat hload hs hb

/-- In the strand layout the only outcomes are: arrays, the over-constrained error, or (a document without any
    nucleotide on a strand) `dump` having nothing to number. -/
theorem strand_outcomes {stmts : List Stmt} {spec : Spec}
    (hload : Pil.load Generated.nupackTable stmts {} = .ok spec) :
    (∃ a, getConstraints .strand spec = .ok a) ∨ getConstraints .strand spec = .error .overconstrained ∨
    getConstraints .strand spec = .error .noPositions := by
  obtain ⟨s, c, hs, hb⟩ := seeding_total_strand (load_wf hload)
  obtain h | h | ⟨a, h⟩ := getConstraintsT_spec pil_lawful (load_specCodes hload) hs hb
  · exact Or.inr (Or.inl h.1)
  · exact Or.inr (Or.inr h.1)
  · exact Or.inl ⟨a, h.1⟩

/-- Corollary: when arrays are returned, the specification is satisfiable (nothing over-constrained is passed on). -/
theorem arrays_imply_satisfiable {mode : Layout} {stmts : List Stmt} {spec : Spec}
    (hload : Pil.load Generated.nupackTable stmts {} = .ok spec) {s : Seeds} {c : Cons}
    (hs : seeds mode spec = .ok s) (hb : build s = .ok c) {a : Arrays} (ha : getConstraints mode spec = .ok a) :
    Satisfiable Generated.pilTable (Pil.denote spec) :=
  have E := exact_of_load hload hs hb ha
  (E.1.graphSat_iff pil_N.2).1 E.2.1

/-! ### non-vacuity: concrete small documents -/

/-- `get_constraints` on a statement list as the reader hands it over -/
def run (mode : Layout) (l : List Stmt) : Except ConstraintGen.Err Arrays :=
  match Pil.load Generated.nupackTable l {} with
  | .ok s => getConstraints mode s
  | .error _ => .error .assertion

/-- the hypotheses "the seeding succeeds" of the theorems hold on a document -/
def seeded (mode : Layout) (l : List Stmt) : Bool :=
  match Pil.load Generated.nupackTable l {} with
  | .ok s => (match seeds mode s with
    | .ok sd => (match build sd with | .ok _ => true | .error _ => false)
    | .error _ => false)
  | .error _ => false

/-- a duplex: `A = a`, `B = a*`, fully paired; the `S` of the template shows up complemented (`S`) on the other strand -/
def duplex : List Stmt := [
  .seq "a" "NNS".toList, .strand "A" false ["a"], .strand "B" false ["a*"],
  .struct "D" (some "1nt") ["A", "B"] "(((+)))".toList ]

/-- a hairpin pairing a domain of odd length with itself: the middle position is its own partner -/
def hairpin : List Stmt := [
  .seq "a" "NNNNN".toList, .strand "A" false ["a", "a"], .struct "H" (some "1nt") ["A"] "((((()))))".toList ]

/-- `D` (AGT) meets `V` (ACG) through an `equal` line: the common part is `R` (AG) -/
def dv : List Stmt := [
  .seq "a" "DDD".toList, .seq "b" "VVV".toList, .strand "A" false ["a", "b"],
  .struct "S" none ["A"] "......".toList, .equal ["a", "b"] ]

def okIs (r : Except ConstraintGen.Err Arrays) (a : Arrays) : Bool :=
  match r with | .ok b => b == a | .error _ => false

def errIs (r : Except ConstraintGen.Err Arrays) (e : ConstraintGen.Err) : Bool :=
  match r with | .ok _ => false | .error e' => e' == e

example : seeded .strand hairpin = true ∧ seeded .strand duplex = true ∧ seeded .strand dv = true := by
  rw [show seeded = C04.seeded from rfl, show duplex = C04.duplex from rfl, show dv = C04.dv from rfl]
  exact ⟨by decide +kernel, C04.seeded_of_run C04.duplex_strand_arrays, C04.seeded_of_run C04.dv_strand_arrays⟩

/-- the self-pairing hairpin is reported in both layouts -/
example : errIs (run .strand hairpin) .overconstrained = true ∧ errIs (run .struct hairpin) .overconstrained = true := by
  decide +kernel

/-- and the naive decision procedure `satisfiableB` (an oracle of the specification side, run here, not proved equal to
    `Satisfiable`) agrees: the hairpin unsatisfiable, the duplex and the `D`/`V` meeting satisfiable -/
example : (match Pil.load Generated.nupackTable hairpin {} with
      | .ok s => satisfiableB Generated.pilTable (Pil.denote s) | .error _ => true) = false ∧
    (match Pil.load Generated.nupackTable duplex {} with
      | .ok s => satisfiableB Generated.pilTable (Pil.denote s) | .error _ => false) = true ∧
    (match Pil.load Generated.nupackTable dv {} with
      | .ok s => satisfiableB Generated.pilTable (Pil.denote s) | .error _ => false) = true := by decide +kernel

/-- a satisfiable meeting of `D` and `V` is not an error: the class gets the code `R` -/
example : okIs (run .strand dv)
    ([some 0, some 1, some 2, some 0, some 1, some 2], [none, none, none, none, none, none],
     [some 'R', some 'R', some 'R', some 'R', some 'R', some 'R']) = true := by
  rw [show okIs = C04.okIs from rfl, show run = C04.run from rfl, show dv = C04.dv from rfl]
  exact C04.dv_strand_arrays

/-- a direct template conflict over one `equal` link is reported -/
example : errIs (run .strand [.seq "a" "A".toList, .seq "b" "C".toList, .strand "X" false ["a", "b"],
    .struct "S" none ["X"] "..".toList, .equal ["a", "b"]]) .overconstrained = true := by decide +kernel

end Pepper.C15
