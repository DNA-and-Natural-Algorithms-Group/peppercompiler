import PepperProofs.Finish
import PepperProofs.FinishText
import PepperProofs.FinishDecls
import PepperProofs.LoadInvFinish
/-!
# C16 — saved compiler state reloads to the same system and matches its `.pil`  (PARTIAL)

PARTIAL.  The `pickle` round trip itself — its model, what is proved of it (`canon_iso`, `roundtrip` for `Supported`
heaps) and what stays validated per run or trusted — is the subject of `PepperProps/C16Pickle.lean`.  Proved nowhere: that
`snapshotOfHeap` of the heap decoded from the real bytes equals the snapshot the driver computes from the loaded tree
(`Driver/Ops/Finish.lean: instSnap`, JSON; not the `Finish.snapshot` of (b)); the harness compares the two, and the snapshot of
the graph reloaded in a fresh process, on every run.

Proved in this file, over the model of the saved state (`Comp.St` tables, the `Inst`/`SysSt` tree of
`PepperModel/Comp.lean`, `Sys.lean`), the emitted statements (`PepperModel/Emit.lean`) and `finish`
(`PepperModel/Finish.lean`):

(a) `state_matches_pil*`: the object names and lengths of the saved state are exactly those of the
    specification written by the same compile, kind by kind and in order;
(b) `finish_depends_on_snapshot`: finishing reads a saved tree only through its `snapshot` — per component
    (in `System.components` order) the prefix and, per table, names, the sequences' lengths, is-super / dummy flags, `base_seqs`
    lists and the structures' strand lists.  Two states with equal snapshots finish identically, whatever the
    design.  The harness compares the snapshot of the pickled-and-reloaded real object graph (loaded in a
    subprocess) with that of the in-memory one and with the model's; equality of those is the validated,
    not proved, part.

Definitions: `pilSeqDecls` …, `stSeqDecls` …, `treeSeqDecls`, `allComps`, `depth`, `constLenB`, `allConstLen` are in
`PepperProofs/FinishDecls.lean`; `snapshot`, `SnapComp` in `PepperProofs/Finish.lean`, `finishText` in `PepperProofs/FinishText.lean`.

Hypotheses: `state_matches_pil` / `state_matches_pil_tree` carry the decidable `constLenB` / `allConstLen`
(every recorded length is the length of the recorded constraint string).  **Discharged by theorem** for
whatever the compiler builds: `state_matches_pil_of_load` / `state_matches_pil_tree_of_load` replace it by
`Comp.load … = .ok (s, _)` / `Sys.loadFile … = .ok (inst, _)` (`PepperProofs/LoadInvFinish.lean`: `load_constLen`,
`loadFile_constLen`; needs only that the component sources' statement names are user names,
`StmtNamesOk` — the statement part of C01's `UserNamesOk`).  The
well-formedness `Finish.wfB` that C06/C17 assume is discharged the same way (`finish_wf_of_load`).
-/
namespace Pepper.C16
open Pepper Pepper.Finish Pepper.Comp Pepper.Sys

/-- (a), one component.  For every saved component state `s`:
    the (full name, length) list of its non-dummy atomic sequences equals the (name, template length) list of
    the `sequence` statements of `Emit.compStmts s` (given that every recorded length is the length of the
    recorded constraint string, `constLenB` — what `Constraint.resolve` guarantees, `resolve_length`);
    its non-dummy super-sequences are the `sup-sequence` statements (names, item names); its strands are the
    `strand` statements (names, dummy flags, item names); its structures are the `structure` statements
    (names, strand name lists, structure strings) — all in order, nothing else. -/
theorem state_matches_pil (s : Comp.St) :
    (constLenB s = true → pilSeqDecls (Emit.compStmts s) = stSeqDecls s) ∧
    pilSupDecls (Emit.compStmts s) = stSupDecls s ∧
    pilStrandDecls (Emit.compStmts s) = stStrandDecls s ∧
    pilStructDecls (Emit.compStmts s) = stStructDecls s :=
  compStmts_decls s

/-- (a), whole tree.  The statements of `Emit.instStmts inst` declare, kind by kind, exactly the objects of
    the tree's components concatenated in component order; the only additional declarations are one
    `sequence` per signal of each system (`treeSeqDecls`: after the system's components, name
    `pfx ++ signal`, length the signal's length). -/
theorem state_matches_pil_tree (inst : Inst) :
    (allConstLen inst = true → pilSeqDecls (Emit.instStmts inst) = treeSeqDecls inst) ∧
    pilSupDecls (Emit.instStmts inst) = (allComps inst).flatMap stSupDecls ∧
    pilStrandDecls (Emit.instStmts inst) = (allComps inst).flatMap stStrandDecls ∧
    pilStructDecls (Emit.instStmts inst) = (allComps inst).flatMap stStructDecls :=
  instStmts_decls inst

/-- (a), one component, **for whatever `load` returns** (no `constLenB` hypothesis): the object names and
    lengths of the component the compiler builds from `src` are exactly the declarations of the statements it
    emits, kind by kind and in order -/
theorem state_matches_pil_of_load {src : Comp.Src} {n : Nat} {pfx : String} {a a' : Nat} {s : Comp.St}
    (hload : Comp.load src n pfx a = .ok (s, a')) (hn : LoadInv.StmtNamesOk src = true) :
    pilSeqDecls (Emit.compStmts s) = stSeqDecls s ∧
    pilSupDecls (Emit.compStmts s) = stSupDecls s ∧
    pilStrandDecls (Emit.compStmts s) = stStrandDecls s ∧
    pilStructDecls (Emit.compStmts s) = stStructDecls s :=
  ⟨(state_matches_pil s).1 (LoadInv.load_constLen hload hn), (state_matches_pil s).2⟩

/-- (a), whole tree, **for whatever `loadFile` returns** (no `allConstLen` hypothesis) -/
theorem state_matches_pil_tree_of_load {b : Bundle} (hb : LoadInv.CompNamesOk b) {fuel : Nat} {base : String}
    {args : Nat} {argKey pfx path : String} {includes : List String} {anon : Nat} {inst : Inst} {a' : Nat}
    (hload : Sys.loadFile b fuel base args argKey pfx path includes anon = .ok (inst, a')) :
    pilSeqDecls (Emit.instStmts inst) = treeSeqDecls inst ∧
    pilSupDecls (Emit.instStmts inst) = (allComps inst).flatMap stSupDecls ∧
    pilStrandDecls (Emit.instStmts inst) = (allComps inst).flatMap stStrandDecls ∧
    pilStructDecls (Emit.instStmts inst) = (allComps inst).flatMap stStructDecls :=
  ⟨(state_matches_pil_tree inst).1 (LoadInv.loadFile_constLen hb hload), (state_matches_pil_tree inst).2⟩

/-- the well-formedness `finish` needs to read its relations record by record (`Finish.wfB`: atomic names
    distinct within a component, an atomic sequence is its own single base sequence, strand names distinct)
    holds for whatever `loadFile` returns -/
theorem finish_wf_of_load {b : Bundle} (hb : LoadInv.CompNamesOk b) {fuel : Nat} {base : String}
    {args : Nat} {argKey pfx path : String} {includes : List String} {anon : Nat} {inst : Inst} {a' : Nat}
    (hload : Sys.loadFile b fuel base args argKey pfx path includes anon = .ok (inst, a')) :
    Finish.wfB inst = true :=
  LoadInv.loadFile_finish_wf hb hload

/-- the component order of the `.pil` is the component order `finish` walks (trees nested less than 64 deep:
    `compsOf 64` is the fuelled `System.components` recursion of the finish model) -/
theorem finish_walks_pil_order (inst : Inst) (h : depth inst < 64) : compsOf 64 inst = allComps inst :=
  compsOf_allComps inst 64 h

/-- so the strands `finish` writes are, name for name and flag for flag, the `strand` statements of the
    `.pil`, and the structures it checks are the `structure` statements -/
theorem finished_names_are_pil_names {t : CodeTable} {inst : Inst} (hd : depth inst < 64)
    {d : List (List Char × List Char)} {out : Out} (h : apply t inst d = .ok out) :
    out.strands.map (fun x => (x.1, x.2.1)) = (pilStrandDecls (Emit.instStmts inst)).map (fun x => (x.1, x.2.1)) ∧
    out.structs.map (·.1) = (pilStructDecls (Emit.instStmts inst)).map (·.1) := by
  obtain ⟨outs, ho, rfl⟩ := apply_ok_iff_relations.1 h
  rw [(instStmts_decls inst).2.2.1, (instStmts_decls inst).2.2.2, ← compsOf_allComps inst 64 hd]
  simp only [catOuts, List.map_flatMap]
  constructor
  · refine flatMap_map_eq ho (fun s o hr => ?_)
    simp only [stStrandDecls, List.map_map]
    exact hr.strands.map_eq (fun e x hx => by simp [hx.1, hx.2.1])
  · refine flatMap_map_eq ho (fun s o hr => ?_)
    simp only [stStructDecls, List.map_map]
    exact hr.structs.map_eq (fun e x hx => by simp [hx.1])

/-- (b) `Finish.apply` reads an instance tree only through its snapshot: equal snapshots ⇒ the same result
    (the same outputs or the same error) for every table and every design.  In particular finishing from a
    reloaded state whose snapshot equals that of the in-memory state gives the same result as finishing from
    memory. -/
theorem finish_depends_on_snapshot {t : CodeTable} {i1 i2 : Inst} {d : List (List Char × List Char)}
    (h : snapshot i1 = snapshot i2) : apply t i1 d = apply t i2 d :=
  apply_congr h (fun _ _ => rfl)

theorem finishText_depends_on_snapshot {t : CodeTable} {α : List Char} {i1 i2 : Inst} {text : List Char}
    (h : snapshot i1 = snapshot i2) : finishText t α i1 text = finishText t α i2 text := by
  simp only [finishText, apply_congr h (fun _ _ => rfl)]

def exComp : Comp.St :=
  { name := "c", pfx := "c-",
    seqs := [⟨"a", false, false, 3, "NNN".toList, [], [⟨"a", false, 3⟩], true⟩,
             ⟨"z", false, false, 0, [], [], [⟨"z", false, 0⟩], true⟩,
             ⟨"b", false, false, 2, "NS".toList, [], [⟨"b", false, 2⟩], true⟩,
             ⟨"ab", true, false, 5, [], [⟨"a", false, 3, false⟩, ⟨"z", false, 0, false⟩, ⟨"b", true, 2, false⟩],
               [⟨"a", false, 3⟩, ⟨"z", false, 0⟩, ⟨"b", true, 2⟩], false⟩],
    strands := [⟨"S", false, 5, [⟨"ab", false, 5, true⟩], [⟨"a", false, 3⟩, ⟨"z", false, 0⟩, ⟨"b", true, 2⟩], true⟩,
                ⟨"D", true, 3, [⟨"a", true, 3, false⟩], [⟨"a", true, 3⟩], true⟩],
    structs := [⟨"T", ⟨['1'], []⟩, ["S", "D"], ".....+...".toList, []⟩] }

def exInst : Inst :=
  .sys (.mk "" "top" "" [] [("sig", [⟨.seq ⟨"a", false, 3, false⟩ [⟨"a", false, 3⟩], "c", false⟩])] [("sig", 3)]
    [("c", .comp exComp)] [] [])

example : allConstLen exInst = true := by decide +kernel
example : depth exInst < 64 := by decide +kernel

example : pilSeqDecls (Emit.instStmts exInst) = [("c-a", 3), ("c-b", 2), ("sig", 3)] := by decide +kernel
example : treeSeqDecls exInst = [("c-a", 3), ("c-b", 2), ("sig", 3)] := by decide +kernel
example : pilSupDecls (Emit.instStmts exInst) = [("c-ab", ["c-a", "c-b*"])] := by decide +kernel
example : pilStrandDecls (Emit.instStmts exInst) = [("c-S", false, ["c-ab"]), ("c-D", true, ["c-a*"])] := by decide +kernel
example : pilStructDecls (Emit.instStmts exInst) = [("c-T", ["c-S", "c-D"], ".....+...".toList)] := by decide +kernel

/-- a state that differs in everything `finish` does not read (constraint strings, item lists, the `inStrand` / `anon` /
    `inStructure` flags, the strands' lengths, optimisation parameter, structure string, kinetics, the system's signal tables) has the same snapshot … -/
def exInst' : Inst :=
  .sys (.mk "elsewhere" "other" "" [("T", "x")] [] []
    [("renamed", .comp { exComp with
        name := "c2",
        seqs := exComp.seqs.map (fun e => { e with const := [], items := [], inStrand := false, anon := true }),
        strands := exComp.strands.map (fun e => { e with items := [], len := 0, inStructure := false }),
        structs := exComp.structs.map (fun e => { e with opt := ⟨['0'], []⟩, struct := [], bases := [] }) })] [] [])

example : snapshot exInst' = snapshot exInst := by decide +kernel
/-- … and one that differs in a `base_seqs` orientation does not -/
example : snapshot (.comp { exComp with strands := exComp.strands.map (fun e => { e with bases := e.bases.map BaseRef.inv }) })
    ≠ snapshot (.comp exComp) := by decide +kernel

end Pepper.C16
