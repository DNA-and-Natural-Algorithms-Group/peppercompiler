import PepperProofs.Pickle
/-!
# C16Pickle — `pickle` inside the model (supports C16)

Model: `PepperModel/Pickle.lean` — a heap of cells with references, the unpickler `run` (mirror of `pickle._Unpickler`), the
abstract pickler `dump` (mirror of `_pickle.c: save` at protocol 4 with CPython's memo discipline and batching) and the
canonical form `canon` of a rooted heap.  Tied to the running CPython on every run of the C16 check
(`harness/pickleio.py`, section `[pickle model]` of `harness/props/c16.py`): for every compiled program the REAL bytes of
`out.save` are run through `run`, the in-memory object graph and the graph reloaded in a fresh process are walked by
`id()` and canonised by the Lean `canon`, and `dump` of the walked heap is compared opcode by opcode with the real pickle.

`snapshotOfHeap` (model) reads the C16 snapshot (`harness/snapshot.py`, the model's `snapshot` op) off a decoded heap; the
driver op `pickle-snapshot` applies it to the heap decoded from the real bytes and the harness compares the result with the
model's own snapshot of the compile on every run (validated, no theorem about it here).

What is proved here, strongest first:

* **T1 `canon_iso`**: two rooted heaps with the same canonical form have isomorphic reachable parts — a relation `R`
  between references that is a bijection between the reachable non-atomic cells, maps root to root, and under which
  related cells have the same tag (kind + payload) and pointwise related kids; atoms (`None`, bools, ints, floats, `()`)
  are related by value.  Sharing and cycles are part of this: `R` is one-to-one on cells, not on paths.  The converse
  (isomorphic ⇒ equal canonical forms) is `iso_canon`; together `canon_eq_iff_iso`.
* **T2 `roundtrip`** (under the well-formedness hypothesis `Supported`): for every heap made of atoms, strings,
  bytes, tuples, lists, string-keyed dicts, classes and instances (`NEWOBJ` / `REDUCE`, dict items, state + `BUILD`) in which
  an instance's state dict belongs to that instance alone — with arbitrary sharing and arbitrary cycles, in particular
  cycles through instances — if `dump h r = ok ops` (the pickler's fuel `dumpFuel` is not proved sufficient) and `h, r` has a
  canonical form, then `run ops = ok (h', r')` and `canon h' r' = canon h r`.  These are the shapes of the real
  `.save` heaps: the hypothesis has a decidable form `supportedB` (`supportedB_sound`) which the driver evaluates on every
  in-memory heap of every run (op `pickle-supported`), so for those heaps the round trip is a THEOREM, not only an evaluated
  check.  Size limits in `Supported` (one batch: lists ≤ 1000 elements, dicts < 1000 pairs), no sets / frozensets, no list
  items or constructor arguments on instances, string keys only.  The unconditional statement `RoundtripStatement` is FALSE
  (`roundtripStatement_false`).  Beside it: `roundtrip_of_check` (any heap on which the evaluated check `roundtripB` is
  true) and `roundtrip_partial` (atoms / strings in ANY heap, no hypothesis).
* **T3**: `run` is a total function of the opcode list; `BINGET` pushes the memoised reference itself; `MEMOIZE`
  leaves heap and stack alone; one opcode rewrites no old cell outside its `targets` (`APPEND(S)` / `SETITEM(S)` /
  `ADDITEMS`: the one container under the items; `BUILD`: the instance and its attribute dict), never shrinks the heap,
  and the value-creating opcodes (the table `created`, `PepperProofs/PickleFrame.lean`) push the first unused reference.

Not modelled (stays validated by the harness or trusted): the C implementation `_pickle` versus `pickle.py`; `find_class`
(that the fresh process finds the same classes by module path); calling `cls.__new__` / the reduce callable (modelled as
"a new object that remembers how it was made"); `sys.intern` of attribute names; the interpreter's singleton strings (`""`
and 1-character strings are handed out as singletons by the real unpickler, so their identity in a live graph is not
preserved — found by the harness, which compares graphs modulo the identity of such strings); `__setstate__` (explicit `unsupported` — no
pickled class of peppercompiler defines one, the harness reports it if one appears); `BINFLOAT` payload opaque (8 bytes).
-/
namespace Pepper.C16Pickle.Props
open Pepper.Pickle

/-! ### T1 -/

/-- **T1.** If two rooted heaps have the same canonical form, their reachable parts are isomorphic: there is a relation `R`
    with `Iso h r h' r' R` — root related to root; `R` relates exactly reachable non-atomic cells, is total on both sides,
    functional and injective; related cells have equal tags and pointwise related kids (atoms related by value). -/
theorem canon_iso {h h' : Heap} {r r' : Ref} {c : Canon} (hc : canon h r = some c) (hc' : canon h' r' = some c) :
    ∃ R, Iso h r h' r' R :=
  Pepper.Pickle.canon_iso hc hc'

/-- **T1, converse.**  Isomorphic rooted heaps have the same canonical form: if `R` is an isomorphism between the parts
    reachable from `r` in `h` and from `r'` in `h'`, and `h, r` has a canonical form, then `h', r'` has the same one
    (in particular it has one: the fuel of `reach` suffices, no reference dangles). -/
theorem iso_canon {h h' : Heap} {r r' : Ref} {R : Ref → Ref → Prop} (iso : Iso h r h' r' R) {c : Canon}
    (hc : canon h r = some c) : canon h' r' = some c :=
  Pepper.Pickle.iso_canon iso hc

/-- so: two rooted heaps that both have a canonical form have THE SAME one iff their reachable parts are isomorphic -/
theorem canon_eq_iff_iso {h h' : Heap} {r r' : Ref} {c c' : Canon} (hc : canon h r = some c) (hc' : canon h' r' = some c') :
    c = c' ↔ ∃ R, Iso h r h' r' R := by
  constructor
  · intro e; subst e; exact Pepper.Pickle.canon_iso hc hc'
  · rintro ⟨R, iso⟩
    have := Pepper.Pickle.iso_canon iso hc
    rw [hc'] at this; cases this; rfl

/-- the list `reach` returns is duplicate-free and consists of cells reachable from the root … -/
theorem reach_sound {h : Heap} {r : Ref} {o : List Ref} (ho : reach h r = some o) : o.Nodup ∧ ∀ x ∈ o, Reach h r x :=
  Pepper.Pickle.reach_sound ho

/-- … and when the canonical form exists, it lists ALL of them (nothing reachable is lost) -/
theorem canon_complete {h : Heap} {r : Ref} {c : Canon} (hc : canon h r = some c) :
    ∃ o, reach h r = some o ∧ o.length = c.cells.length ∧ ∀ x, Reach h r x → x ∈ o := by
  obtain ⟨o, ho, hroot, hcells⟩ := canon_some hc
  exact ⟨o, ho, (mapOpt_length hcells).symm, reach_complete hroot hcells⟩

/-! ### T2 -/

/-- the round-trip statement WITHOUT a well-formedness hypothesis.  It is FALSE (`roundtripStatement_false` below: a dict with
    two key cells of the same text is merged by the unpickler; an instance state dict that is also referenced from
    elsewhere is copied by `BUILD`, exactly as in Python) — the theorem is `roundtrip`, with the hypothesis `Supported`. -/
def RoundtripStatement : Prop :=
  ∀ (h : Heap) (r : Ref) (ops : List Op), dump h r = .ok ops → (canon h r).isSome → Roundtrip h r

/-- **T2, per instance.**  If the evaluated check says `true` for a rooted heap, then pickling succeeds, unpickling the
    opcodes succeeds, and the decoded graph is isomorphic to the original one — sharing and cycles preserved, nothing
    added or lost among the reachable cells. -/
theorem roundtrip_of_check {h : Heap} {r : Ref} (hb : roundtripB h r = true) :
    ∃ ops h' r', dump h r = .ok ops ∧ run ops = .ok (h', r') ∧ canon h' r' = canon h r ∧ ∃ R, Iso h r h' r' R := by
  obtain ⟨ops, h', r', c, hd, hr, hc, hc'⟩ := (roundtripB_iff h r).mp hb
  exact ⟨ops, h', r', hd, hr, by rw [hc, hc'], Pepper.Pickle.canon_iso hc hc'⟩

/-- **T2 `roundtrip`.**  For every heap that is `Supported` — cell by cell: atoms; strings and bytes; tuples; lists of at most
    1000 elements; dicts of fewer than 1000 pairs whose keys are strings with pairwise different texts; classes; instances
    `obj` made by `NEWOBJ` or `REDUCE` with the empty argument tuple, no list items, dict items like a dict, and as state
    nothing or a non-empty string-keyed dict; and (`Owned`) an instance's state dict is referenced by that one instance
    only and is not the root — with ARBITRARY SHARING AND ARBITRARY CYCLES otherwise (instances pointing at each other,
    `a.wc = b`, `b.wc = a`; containers containing themselves; recursive tuples): if the abstract pickler succeeds on the root
    and the root has a canonical form, then `run (dump h r) = ok (h', r')` and `canon h' r' = canon h r`.
    These are exactly the shapes of the heaps of real `.save` files; the harness evaluates the decidable form `supportedB` of
    the hypothesis on every one of them (`roundtrip_of_supportedB`).
    NOT covered (the unconditional `RoundtripStatement` is FALSE, see the counter-examples below, so hypotheses are needed):
    sets and frozensets, lists / dicts of more than one batch, non-string dict
    keys, instances with list items or non-empty argument tuples. -/
theorem roundtrip {h : Heap} {r : Ref} (hS : Supported h r) {ops : List Op} (hd : dump h r = .ok ops)
    {c : Canon} (hc : canon h r = some c) : Roundtrip h r :=
  let ⟨h', r', hr, hc'⟩ := roundtrip_supported hS hd hc
  ⟨ops, h', r', c, hd, hr, hc, hc'⟩

/-- the same with the hypothesis in its decidable form (what the driver op `pickle-supported` evaluates) -/
theorem roundtrip_of_supportedB {h : Heap} {r : Ref} (hb : supportedB h r = true) {ops : List Op} (hd : dump h r = .ok ops)
    {c : Canon} (hc : canon h r = some c) : Roundtrip h r :=
  roundtrip (supportedB_sound hb) hd hc

/-- … and concluding the isomorphism (T1) -/
theorem roundtrip_iso {h : Heap} {r : Ref} (hS : Supported h r) {ops : List Op} (hd : dump h r = .ok ops)
    {c : Canon} (hc : canon h r = some c) :
    ∃ h' r', run ops = .ok (h', r') ∧ canon h' r' = canon h r ∧ ∃ R, Iso h r h' r' R := by
  obtain ⟨h', r', hr, hc'⟩ := roundtrip_supported hS hd hc
  exact ⟨h', r', hr, by rw [hc, hc'], Pepper.Pickle.canon_iso hc hc'⟩

/-- **T2, fragment "atoms; strings"** — for every heap: a root that is `None`, a bool, an int, a float, the empty tuple,
    a string or a bytes object round-trips, whatever else the heap holds (no `Supported` hypothesis). -/
theorem roundtrip_partial {h : Heap} {r : Ref} {c : Cell} (hc : h[r]? = some c)
    (hk : c.isAtom = true ∨ (∃ s, c = ⟨.str s, []⟩) ∨ (∃ s, c = ⟨.bytes s, []⟩)) : Roundtrip h r :=
  hk.elim (roundtrip_atom hc) (roundtrip_leaf hc)

/-! ### T3 -/

/-- `run` is a function of the opcode list (a fact of typing: it holds of every Lean function): total (always an
    answer: a heap with a root, or an explicit error) and deterministic -/
theorem run_total_deterministic (ops : List Op) : ∃ res, run ops = res ∧ ∀ res', run ops = res' → res' = res :=
  ⟨run ops, rfl, fun _ h => h.symm⟩

/-- `BINGET i` pushes the very reference that was memoised at `i` (sharing = identity), and changes nothing else -/
theorem binget_identity (cfg : Cfg) (v : VM) (i : Nat) (r : Ref) (hm : v.memo[i]? = some r) :
    v.step cfg (.get i) = .ok { v with stack := .ref r :: v.stack } := by
  simp [VM.step, hm, pure, Except.pure]

/-- `MEMOIZE` records the top of the stack at the next index and changes neither heap nor stack -/
theorem memoize_frame (cfg : Cfg) (v v' : VM) (h : v.step cfg .memoize = .ok v') :
    v'.heap = v.heap ∧ v'.stack = v.stack ∧ ∃ r rest, v.stack = .ref r :: rest ∧ v'.memo = v.memo.push r := by
  obtain ⟨r, rest, hs, h⟩ := topRef_bind h
  cases h
  exact ⟨rfl, rfl, r, rest, hs, rfl⟩

/-- **frame lemma.**  One opcode never shrinks the heap and rewrites no existing cell outside `targets v op`: nothing for
    most opcodes; the container under the items for `APPEND(S)`, `SETITEM(S)`, `ADDITEMS`; the instance and its attribute
    dict for `BUILD`. -/
theorem step_changes_only_targets {cfg : Cfg} {v v' : VM} {op : Op} (h : v.step cfg op = .ok v') :
    v.heap.size ≤ v'.heap.size ∧ ∀ i, i < v.heap.size → i ∉ targets v op → v'.heap[i]? = v.heap[i]? :=
  step_frame h

theorem appends_frame {cfg : Cfg} {v v' : VM} (h : v.step cfg .appends = .ok v') {items : List Ref} {t : Ref} {rest : List Item}
    (hs : splitMark v.stack [] = some (items, .ref t :: rest)) (i : Nat) (hi : i < v.heap.size) (hne : i ≠ t) :
    v'.heap[i]? = v.heap[i]? :=
  (step_frame h).2 i hi (by simp [targets, hs, hne])

theorem setitems_frame {cfg : Cfg} {v v' : VM} (h : v.step cfg .setitems = .ok v') {items : List Ref} {t : Ref} {rest : List Item}
    (hs : splitMark v.stack [] = some (items, .ref t :: rest)) (i : Nat) (hi : i < v.heap.size) (hne : i ≠ t) :
    v'.heap[i]? = v.heap[i]? :=
  (step_frame h).2 i hi (by simp [targets, hs, hne])

/-- `BUILD` pops the state, keeps the instance on the stack, leaves the memo alone and changes only the instance cell and
    its attribute dict -/
theorem build_frame {cfg : Cfg} {v v' : VM} (h : v.step cfg .build = .ok v') :
    (∀ i, i < v.heap.size → i ∉ buildTargets v → v'.heap[i]? = v.heap[i]?) ∧ v'.memo = v.memo ∧
    ∃ st inst rest, v.stack = .ref st :: .ref inst :: rest ∧ v'.stack = .ref inst :: rest := by
  have hb := build_ok (show v.build cfg = .ok v' from h)
  exact ⟨hb.1.2, hb.2⟩

/-- **fresh references.**  A value-creating opcode always succeeds, pushes the first unused reference (no cell was there
    before), puts exactly the new cell there, and leaves every old cell and the memo alone. -/
theorem created_is_fresh (cfg : Cfg) (v : VM) (op : Op) (c : Cell) (hc : created op = some c) :
    ∃ v', v.step cfg op = .ok v' ∧ v'.stack = .ref v.heap.size :: v.stack ∧ v.heap[v.heap.size]? = none ∧
      v'.heap[v.heap.size]? = some c ∧ v'.memo = v.memo ∧ ∀ i, i < v.heap.size → v'.heap[i]? = v.heap[i]? :=
  ⟨v.alloc c, step_created hc v, rfl, by simp, by simp [VM.alloc], rfl, fun i hi => (Frame.push v.heap c []).2 i hi (by simp)⟩

/-! ### non-vacuity -/

/-- two instances of class `m.Seq` linked into a cycle (`a.wc = b`, `b.wc = a`) that share the string `"x"` under the
    attribute `name`; cells: 0,1 the class's name strings, 2 the class, 3 `()`, 4 = `a` (state 5), 7 = `b` (state 10) -/
def exCycle : Heap := #[⟨.str "m", []⟩, ⟨.str "Seq", []⟩, ⟨.global, [0, 1]⟩, ⟨.tuple, []⟩,
  ⟨.obj true true 0, [2, 3, 5]⟩, ⟨.dict, [6, 7, 8, 9]⟩, ⟨.str "wc", []⟩, ⟨.obj true true 0, [2, 3, 10]⟩, ⟨.str "name", []⟩,
  ⟨.str "x", []⟩, ⟨.dict, [6, 4, 8, 9]⟩]

/-- the cycle round-trips (evaluated by the kernel), hence — `roundtrip_of_check` — decodes to an isomorphic graph -/
theorem exCycle_check : roundtripB exCycle 4 = true := by decide +kernel
example : roundtripB exCycle 4 = true := exCycle_check
example : ∃ ops h' r', dump exCycle 4 = .ok ops ∧ run ops = .ok (h', r') ∧ canon h' r' = canon exCycle 4 ∧
    ∃ R, Iso exCycle 4 h' r' R := roundtrip_of_check exCycle_check
/-- its canonical form has 10 cells: the shared string and the shared class occur once -/
example : (canon exCycle 4).map (·.cells.length) = some 10 := by decide +kernel
/-- breaking the sharing of `"x"` (b gets its own copy, cell 11) changes the canonical form … -/
def exUnshared : Heap := (exCycle.push ⟨.str "x", []⟩).setIfInBounds 10 ⟨.dict, [6, 4, 8, 11]⟩
example : canon exUnshared 4 ≠ canon exCycle 4 := by decide +kernel
/-- … and so does cutting the back link (`b.wc = None`, cell 11) -/
def exCut : Heap := (exCycle.push ⟨.none, []⟩).setIfInBounds 10 ⟨.dict, [6, 11, 8, 9]⟩
example : canon exCut 4 ≠ canon exCycle 4 := by decide +kernel
/-- but renumbering the cells does not (T1's hypothesis is satisfiable by two different heaps) -/
def exRenumbered : Heap := #[⟨.obj true true 0, [3, 4, 1]⟩, ⟨.dict, [5, 6, 7, 8]⟩, ⟨.str "Seq", []⟩, ⟨.global, [9, 2]⟩,
  ⟨.tuple, []⟩, ⟨.str "wc", []⟩, ⟨.obj true true 0, [3, 4, 10]⟩, ⟨.str "name", []⟩, ⟨.str "x", []⟩, ⟨.str "m", []⟩,
  ⟨.dict, [5, 0, 7, 8]⟩]
theorem exRenumbered_canon : canon exRenumbered 0 = canon exCycle 4 := by decide +kernel
example : canon exRenumbered 0 = canon exCycle 4 := exRenumbered_canon
example : ∃ R, Iso exRenumbered 0 exCycle 4 R := by
  obtain ⟨_, _, _, c, _, _, hc, _⟩ := (roundtripB_iff _ _).mp exCycle_check
  exact canon_iso (exRenumbered_canon.trans hc) hc

/-- a recursive tuple `t = ([t], "s", "s")` with a string that occurs twice: memo re-check, `POP`s and `BINGET` -/
def exRecTuple : Heap := #[⟨.tuple, [1, 2, 2]⟩, ⟨.list, [0]⟩, ⟨.str "s", []⟩]
example : (dump exRecTuple 0).toOption = some [.emptyList, .memoize, .get 0, .str "s", .memoize, .get 1, .tuple3, .memoize,
    .append, .get 1, .get 1, .pop, .pop, .pop, .get 2, .stop] := by decide +kernel
example : roundtripB exRecTuple 0 = true := by decide +kernel
/-- a list that contains itself and one shared inner list twice -/
def exList : Heap := #[⟨.list, [0, 1, 1, 2]⟩, ⟨.list, [2]⟩, ⟨.int 7, []⟩]
example : roundtripB exList 0 = true := by decide +kernel

/-- `roundtrip` applies to the cyclic examples: their heaps are `Supported` (evaluated by the kernel), so the universally
    quantified theorem — not an evaluation of the round trip — gives the conclusion; in particular for the two-cycle of
    instances `a.wc = b`, `b.wc = a` with a shared string -/
theorem exCycle_supported : supportedB exCycle 4 = true := by decide +kernel
example : supportedB exCycle 4 = true := exCycle_supported
example : supportedB exRecTuple 0 = true := by decide +kernel
example : supportedB exList 0 = true := by decide +kernel
theorem exCycle_roundtrip : Roundtrip exCycle 4 := by
  -- the evaluated check only supplies the side conditions `hd`, `hc`
  obtain ⟨ops, _, _, c, hd, _, hc, _⟩ := (roundtripB_iff _ _).mp exCycle_check
  exact roundtrip_of_supportedB exCycle_supported hd hc

/-- why a hypothesis is needed — (1) a dict whose two keys are different cells with the same text: the unpickler's
    `d[k] = v` merges them … -/
def exDupKeys : Heap := #[⟨.dict, [1, 3, 2, 3]⟩, ⟨.str "k", []⟩, ⟨.str "k", []⟩, ⟨.int 0, []⟩]
theorem exDupKeys_check : roundtripB exDupKeys 0 = false := by decide +kernel
example : roundtripB exDupKeys 0 = false := exDupKeys_check
example : supportedB exDupKeys 0 = false := by decide +kernel
/-- … (2) an instance whose state dict (cell 5) is also an element of the root list: `BUILD` copies the state into the
    instance's own attribute dict, so the decoded list element and the decoded instance no longer share one dict — as in
    Python, where `pickle.loads(pickle.dumps([x, x.__dict__]))` gives `[y, d]` with `d is not y.__dict__` -/
def exSharedState : Heap := #[⟨.str "m", []⟩, ⟨.str "C", []⟩, ⟨.global, [0, 1]⟩, ⟨.tuple, []⟩,
  ⟨.obj true true 0, [2, 3, 5]⟩, ⟨.dict, [6, 7]⟩, ⟨.str "a", []⟩, ⟨.int 1, []⟩, ⟨.list, [4, 5]⟩]
example : roundtripB exSharedState 8 = false := by decide +kernel
example : supportedB exSharedState 8 = false := by decide +kernel
theorem roundtripStatement_false : ¬ RoundtripStatement := by
  intro hR
  have hd : (dump exDupKeys 0).toOption.isSome = true := by decide +kernel
  cases hd' : dump exDupKeys 0 with
  | error e => rw [hd'] at hd; cases hd
  | ok ops =>
    have := (roundtripB_iff exDupKeys 0).mpr (hR exDupKeys 0 ops hd' (by decide +kernel))
    rw [exDupKeys_check] at this
    cases this

/-- T2 fragment: atoms and strings in an arbitrary heap -/
example : Roundtrip exCycle 3 := roundtrip_partial (c := ⟨.tuple, []⟩) (by decide +kernel) (Or.inl rfl)
example : Roundtrip exCycle 9 := roundtrip_partial (c := ⟨.str "x", []⟩) (by decide +kernel) (Or.inr (Or.inl ⟨"x", rfl⟩))

/-- T3: on a concrete machine state — memo `[2]`, stack `[MARK-frame: 1 above the list 0]` -/
def exVM : VM := { heap := #[⟨.list, []⟩, ⟨.int 1, []⟩, ⟨.str "k", []⟩], stack := [.ref 1, .mark, .ref 0], memo := #[2] }
example : (exVM.step {} (.get 0)).toOption.map (·.stack) = some [.ref 2, .ref 1, .mark, .ref 0] := by decide +kernel
example : (exVM.step {} .appends).toOption.map (·.heap) = some #[⟨.list, [1]⟩, ⟨.int 1, []⟩, ⟨.str "k", []⟩] := by decide +kernel
example : targets exVM .appends = [0] := by decide +kernel
example : (exVM.step {} .emptyDict).toOption.map (·.stack) = some [.ref 3, .ref 1, .mark, .ref 0] := by decide +kernel
/-- errors are explicit: `BINGET` of an unknown index, `APPENDS` without a MARK -/
example : (match exVM.step {} (.get 1) with | .error .memo => true | _ => false) = true := by decide +kernel
example : (match ({ exVM with stack := [.ref 1, .ref 0] } : VM).step {} .appends with | .error .noMark => true | _ => false) = true := by
  decide +kernel

end Pepper.C16Pickle.Props
