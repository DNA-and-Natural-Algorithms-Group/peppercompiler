import PepperProps.C11
import PepperProofs.Finish
import PepperProofs.FinishText
/-!
# C17 — finish refuses designs that are inconsistent with the saved system

Model: `PepperModel/Finish.lean` — `readDesign` (the `.mfe` reader: `nupack_out_grammar.document` +
`kinetics.read_design`), `apply` (`finish.apply_design` on the saved tree).  The vocabulary of the statements
(`Relations`, `CompRel`, `AtomOk`, `IsConcat`, `IsJoin`, `relevant`) is defined in `PepperProofs/Finish.lean`, its text
half (`finishText`, `render`, `wfRec`, `okAlpha`) in `PepperProofs/FinishText.lean`.

A design is the map `name ↦ sequence` the reader produces (`lookupLast`: the last record of a name wins, as
in the Python dict).  Every theorem is for an arbitrary lawful code table and an arbitrary saved tree; no
well-formedness of the tree is needed for (i)–(iii) (`wfB` is only used to read `Relations` record by record,
`atomic_entry_is_record`).
-/
namespace Pepper.C17
open Pepper Pepper.Finish Pepper.Comp Pepper.Sys

/-- The hypothesis `t.lawful` of the detection theorems below holds for the finisher's own table, generated from
    `DNA_classes.py`: no duplicated key, complementing is an involution (so no two
    letters share a complement) and denotes the complements of the bases. -/
theorem finisher_table_lawful : Generated.dnaTable.lawful = true := C11.dna_lawful

/-- (i) Finish never writes a broken relation — for ARBITRARY design maps, not only single corruptions.
    If `apply` succeeds on `d'` then (`Relations`): the output is one share per component, in order; in each
    share every non-dummy atomic sequence has a record of its declared length whose starred record is its
    reverse complement (`AtomOk`), every sequence / strand entry is the concatenation of the values of its
    base sequences, reverse-complemented for reversed references (`IsConcat`), and every structure entry is
    the `+`-join of its strands' entries and equals the structure's own record (`IsJoin`). -/
theorem never_writes_broken {t : CodeTable} {inst : Inst} {d' : List (List Char × List Char)} {out : Out}
    (h : apply t inst d' = .ok out) : Relations t inst d' out :=
  apply_ok_iff_relations.1 h

/-- `Relations` read record by record on a well-formed tree (`wfB`: atomic names distinct within a
    component, an atomic sequence is its own base sequence): for every component `s` and every non-dummy
    atomic sequence `e` the written entry of `s.pfx ++ e.name` is the design's record of that name, it has
    length `e.len`, and its reverse complement is the record of the starred name. -/
theorem atomic_entry_is_record {t : CodeTable} {inst : Inst} {d' : List (List Char × List Char)} {out : Out}
    (hw : wfB inst = true) (h : apply t inst d' = .ok out) :
    ∀ s ∈ compsOf 64 inst, ∀ e ∈ s.baseSeqs, e.len ≠ 0 →
      ∃ v, (s.pfx ++ e.name, v) ∈ out.seqs ∧ lookupLast d' (s.pfx ++ e.name).toList = some v ∧
        v.length = e.len ∧ t.wcStr v = lookupLast d' (s.pfx ++ e.name ++ "*").toList := by
  intro s hs e he h0
  obtain ⟨outs, ho, rfl⟩ := apply_ok_iff_relations.1 h
  obtain ⟨o, hoo, hr⟩ := ho.of_mem_left hs
  have hws : wfCompB s = true := List.all_eq_true.1 hw s hs
  obtain ⟨v, w, hv, hlen, hw', hstar⟩ := hr.atoms e he h0
  refine ⟨v, ?_, hv, hlen, by rw [hw', hstar]⟩
  have hm := hr.atomic_entry hws he
  have hval : atomVal d' s e = v := by
    have : (e.len == 0) = false := by simpa using h0
    simp only [atomVal, this, hv, Bool.false_eq_true, if_false, Option.getD_some]
  rw [hval] at hm
  exact List.mem_flatMap.2 ⟨o, hoo, hm⟩

/-- (i) is sharp: finishing succeeds with output `out` exactly when the design satisfies the relations with
    `out` — nothing else is checked, nothing less. -/
theorem accepts_exactly_consistent {t : CodeTable} {inst : Inst} {d' : List (List Char × List Char)} {out : Out} :
    apply t inst d' = .ok out ↔ Relations t inst d' out :=
  apply_ok_iff_relations

/-- (ii) Records that do not influence the results are ignored: if `d'` agrees with `d` on the relevant names
    (full names of the non-dummy atomic sequences, those names with `*`, structure full names) then finishing
    gives the identical result — the same outputs or the same error. -/
theorem irrelevant_records_ignored {t : CodeTable} {inst : Inst} {d d' : List (List Char × List Char)}
    (h : ∀ n ∈ relevant inst, lookupLast d' n = lookupLast d n) : apply t inst d' = apply t inst d :=
  apply_congr rfl h

/-- (iii) A single corruption is detected: if the design `d` is valid and `d'` differs from it on exactly one
    relevant name (changed, missing or replaced record), finishing `d'` stops with an error.  Uses that
    `wcStr` is injective where defined (`CodeTable.wcStr_inj`, from `CodeTable.complOf_involutive` of a lawful table) and that a structure's strands do not
    change when no atomic record changes. -/
theorem single_corruption_detected {t : CodeTable} (hl : t.lawful = true) {inst : Inst}
    {d d' : List (List Char × List Char)} {out : Out} (hd : apply t inst d = .ok out)
    (h : ∃ n ∈ relevant inst, lookupLast d' n ≠ lookupLast d n ∧
      ∀ m ∈ relevant inst, m ≠ n → lookupLast d' m = lookupLast d m) :
    ∃ e, apply t inst d' = .error e := by
  obtain ⟨n, hn, hne, hsame⟩ := h
  cases hd' : apply t inst d' with
  | error e => exact ⟨e, rfl⟩
  | ok out' =>
    obtain ⟨outs, ho, _⟩ := apply_ok_iff.1 hd
    obtain ⟨outs', ho', _⟩ := apply_ok_iff.1 hd'
    obtain ⟨s, hs, hns⟩ := List.mem_flatMap.1 hn
    obtain ⟨o, _, hso⟩ := ho.of_mem_left hs
    obtain ⟨o', _, hso'⟩ := ho'.of_mem_left hs
    exact absurd (applyComp_single hl hso hso' hns (fun m hm => hsame m (List.mem_flatMap.2 ⟨s, hs, hm⟩))) hne

/-- (ii)+(iii) as the property words it: against a valid design, a map that differs in at most one relevant
    name either is refused or gives outputs identical to those of the uncorrupted design. -/
theorem corruption_dichotomy {t : CodeTable} (hl : t.lawful = true) {inst : Inst}
    {d d' : List (List Char × List Char)} {out : Out} (hd : apply t inst d = .ok out)
    (hone : ∀ n ∈ relevant inst, ∀ m ∈ relevant inst,
      lookupLast d' n ≠ lookupLast d n → lookupLast d' m ≠ lookupLast d m → m = n) :
    (∃ e, apply t inst d' = .error e) ∨ apply t inst d' = .ok out := by
  by_cases hex : ∃ n ∈ relevant inst, lookupLast d' n ≠ lookupLast d n
  · obtain ⟨n, hn, hne⟩ := hex
    refine Or.inl (single_corruption_detected hl hd ⟨n, hn, hne, fun m hm hmn => ?_⟩)
    exact Decidable.byContradiction (fun hc => hmn (hone n hn m hm hne hc))
  · refine Or.inr ((irrelevant_records_ignored (fun n hn => ?_)).trans hd)
    exact Decidable.byContradiction (fun hc => hex ⟨n, hn, hc⟩)

/-- a design text the reader rejects (damaged header, missing line, bad numeric field, missing trailer, …)
    makes finishing fail -/
theorem unreadable_fails {t : CodeTable} {α : List Char} {inst : Inst} {x' : List Char}
    (h : readDesign α x' = none) : finishText t α inst x' = .error .unreadable := by
  simp [finishText, h]

theorem text_never_writes_broken {t : CodeTable} {α : List Char} {inst : Inst} {x' : List Char} {out : Out}
    (h : finishText t α inst x' = .ok out) : ∃ d', readDesign α x' = some d' ∧ Relations t inst d' out := by
  obtain ⟨d', hr, ha⟩ := finishText_ok_iff.1 h
  exact ⟨d', hr, apply_ok_iff_relations.1 ha⟩

theorem text_irrelevant_ignored {t : CodeTable} {α : List Char} {inst : Inst} {x x' : List Char}
    {d d' : List (List Char × List Char)} (hx : readDesign α x = some d) (hx' : readDesign α x' = some d')
    (h : ∀ n ∈ relevant inst, lookupLast d' n = lookupLast d n) :
    finishText t α inst x' = finishText t α inst x := by
  simp only [finishText, hx, hx', apply_congr rfl h]

theorem text_single_corruption_detected {t : CodeTable} (hl : t.lawful = true) {α : List Char} {inst : Inst}
    {x x' : List Char} {d d' : List (List Char × List Char)} {out : Out}
    (hx : readDesign α x = some d) (hx' : readDesign α x' = some d') (hok : finishText t α inst x = .ok out)
    (h : ∃ n ∈ relevant inst, lookupLast d' n ≠ lookupLast d n ∧
      ∀ m ∈ relevant inst, m ≠ n → lookupLast d' m = lookupLast d m) :
    ∃ e, finishText t α inst x' = .error (.inconsistent e) := by
  obtain ⟨d0, hr0, ha0⟩ := finishText_ok_iff.1 hok
  rw [hx] at hr0
  cases hr0
  obtain ⟨e, he⟩ := single_corruption_detected hl ha0 h
  exact ⟨e, by simp [finishText, hx', he]⟩

/-- The property at record level: `x` is a valid design text, `x'` any text.  Either `x'` does not parse and
    finishing fails, or it parses to a map; if that map differs from the one of `x` in at most one relevant
    name, finishing either fails or produces exactly the outputs of the uncorrupted design. -/
theorem read_then_guard {t : CodeTable} (hl : t.lawful = true) {α : List Char} {inst : Inst}
    {x x' : List Char} {out : Out} (hok : finishText t α inst x = .ok out)
    (hone : ∀ d d', readDesign α x = some d → readDesign α x' = some d' →
      ∀ n ∈ relevant inst, ∀ m ∈ relevant inst,
        lookupLast d' n ≠ lookupLast d n → lookupLast d' m ≠ lookupLast d m → m = n) :
    (∃ f, finishText t α inst x' = .error f) ∨ finishText t α inst x' = .ok out := by
  obtain ⟨d, hr, ha⟩ := finishText_ok_iff.1 hok
  cases hr' : readDesign α x' with
  | none => exact Or.inl ⟨_, unreadable_fails hr'⟩
  | some d' =>
    rcases corruption_dichotomy hl ha (hone d d' hr hr') with ⟨e, he⟩ | hsame
    · exact Or.inl ⟨.inconsistent e, by simp [finishText, hr', he]⟩
    · exact Or.inr (by simp [finishText, hr', hsame])

/-- The reader inverts the writer.  `render` (defined in `PepperProofs/FinishText.lean`) prints a list of records
    the way `Convert.output` does — per record `<int>:<name>`, `<seq> <float> <float> <int>`, the target and
    the mfe structure, then the trailer `Total n(s*) = <float>`.  For every list of well-formed records
    (`wfRec`: header number over digits, name over `isVarChar`, sequence over the reader's alphabet `α`,
    valid numeric fields, structure lines over `.()+`, none of them empty) the reader returns exactly the
    list `name ↦ sequence`, in order.  `okAlpha α`: no blank or newline in the sequence alphabet. -/
theorem reader_roundtrip {α : List Char} (hα : okAlpha α = true) {total : List Char}
    (ht : okWord isNumChar total = true) (hv : validFloat total = true)
    (rs : List (List Char × Rec)) (hrs : ∀ x ∈ rs, wfRec α x = true) :
    readDesign α (render rs total) = some (rs.map (fun x => (x.2.name, x.2.seq))) :=
  readDesign_render hα ht hv rs hrs

theorem finish_rendered {t : CodeTable} {α : List Char} (hα : okAlpha α = true) {total : List Char}
    (ht : okWord isNumChar total = true) (hv : validFloat total = true)
    (rs : List (List Char × Rec)) (hrs : ∀ x ∈ rs, wfRec α x = true) (inst : Inst) (out : Out) :
    finishText t α inst (render rs total) = .ok out ↔
      apply t inst (rs.map (fun x => (x.2.name, x.2.seq))) = .ok out :=
  finishText_render hα ht hv rs hrs

/-!
One system with one component `c` (prefix `c-`): atomic sequences `a` (3 nt) and `b` (2 nt), the
super-sequence `ab = a b*` (a reversed reference), the strand `S = ab`, the structure `T` on `S`. -/

def exComp : Comp.St :=
  { name := "c", pfx := "c-",
    seqs := [⟨"a", false, false, 3, "NNN".toList, [], [⟨"a", false, 3⟩], true⟩,
             ⟨"b", false, false, 2, "NN".toList, [], [⟨"b", false, 2⟩], true⟩,
             ⟨"ab", true, false, 5, [], [⟨"a", false, 3, false⟩, ⟨"b", true, 2, false⟩],
               [⟨"a", false, 3⟩, ⟨"b", true, 2⟩], false⟩],
    strands := [⟨"S", false, 5, [⟨"ab", false, 5, true⟩], [⟨"a", false, 3⟩, ⟨"b", true, 2⟩], true⟩],
    structs := [⟨"T", ⟨['1'], []⟩, ["S"], ".....".toList, [⟨"a", false, 3⟩, ⟨"b", true, 2⟩]⟩] }

def exInst : Inst := .sys (.mk "" "top" "" [] [] [] [("c", .comp exComp)] [] [])

/-- a valid design (with one record nobody reads) -/
def exD : List (List Char × List Char) :=
  [("c-T".toList, "ACGAA".toList), ("c-a".toList, "ACG".toList), ("c-a*".toList, "CGT".toList),
   ("c-b".toList, "TT".toList), ("c-b*".toList, "AA".toList), ("junk".toList, "GGG".toList)]

example : wfB exInst = true := by decide +kernel

example : relevant exInst = ["c-a".toList, "c-a*".toList, "c-b".toList, "c-b*".toList, "c-T".toList] := by decide +kernel

/-- the valid design is accepted -/
example : apply Generated.dnaTable exInst exD =
    .ok ⟨[("c-a", "ACG".toList), ("c-b", "TT".toList), ("c-ab", "ACGAA".toList)],
         [("c-S", false, "ACGAA".toList)], [("c-T", "ACGAA".toList)]⟩ := by decide +kernel

/-- a changed base is refused -/
example : apply Generated.dnaTable exInst
    [("c-T".toList, "ACGAA".toList), ("c-a".toList, "ACC".toList), ("c-a*".toList, "CGT".toList),
     ("c-b".toList, "TT".toList), ("c-b*".toList, "AA".toList)] = .error .complement := by decide +kernel

/-- a renamed record is refused -/
example : apply Generated.dnaTable exInst
    [("c-T".toList, "ACGAA".toList), ("c-a".toList, "ACG".toList), ("c-a*".toList, "CGT".toList),
     ("c-bx".toList, "TT".toList), ("c-b*".toList, "AA".toList)] = .error .missing := by decide +kernel

/-- a deleted starred record is refused -/
example : apply Generated.dnaTable exInst
    [("c-T".toList, "ACGAA".toList), ("c-a".toList, "ACG".toList),
     ("c-b".toList, "TT".toList), ("c-b*".toList, "AA".toList)] = .error .missing := by decide +kernel

/-- a changed structure record is refused; a changed irrelevant record is not noticed -/
example : apply Generated.dnaTable exInst
    [("c-T".toList, "ACGAT".toList), ("c-a".toList, "ACG".toList), ("c-a*".toList, "CGT".toList),
     ("c-b".toList, "TT".toList), ("c-b*".toList, "AA".toList)] = .error .structure := by decide +kernel

example : apply Generated.dnaTable exInst (exD ++ [("junk".toList, "T".toList)]) =
    apply Generated.dnaTable exInst exD := by decide +kernel

/-- the live reader alphabet has no blank or newline -/
example : okAlpha Generated.alphaMfeSeq = true := by decide +kernel

/-- the valid design as the records `Convert.output` writes (structures first, then each sequence and its
    starred view), the text they render to, and what the reader returns -/
def exRecs : List (List Char × Rec) :=
  [("0".toList, ⟨"c-T".toList, "ACGAA".toList, ["0.000000".toList, "0.400000".toList, "0".toList], ".....".toList, ".....".toList⟩),
   ("1".toList, ⟨"c-a".toList, "ACG".toList, ["0.000000".toList, "0.666667".toList, "0".toList], "...".toList, "...".toList⟩),
   ("0".toList, ⟨"c-a*".toList, "CGT".toList, ["0.000000".toList, "0.666667".toList, "0".toList], "...".toList, "...".toList⟩),
   ("2".toList, ⟨"c-b".toList, "TT".toList, ["0.000000".toList, "0.000000".toList, "0".toList], "..".toList, "..".toList⟩),
   ("0".toList, ⟨"c-b*".toList, "AA".toList, ["0.000000".toList, "0.000000".toList, "0".toList], "..".toList, "..".toList⟩)]

example : exRecs.all (wfRec Generated.alphaMfeSeq) = true := by decide +kernel

example : render exRecs "0.000000".toList =
    ("0:c-T\nACGAA 0.000000 0.400000 0\n.....\n.....\n" ++
     "1:c-a\nACG 0.000000 0.666667 0\n...\n...\n" ++
     "0:c-a*\nCGT 0.000000 0.666667 0\n...\n...\n" ++
     "2:c-b\nTT 0.000000 0.000000 0\n..\n..\n" ++
     "0:c-b*\nAA 0.000000 0.000000 0\n..\n..\n" ++
     "Total n(s*) = 0.000000").toList := by
  -- a literal is `String.ofList` of its characters; without the rewriting the kernel decodes its UTF-8 bytes
  simp only [String.toList_append]
  repeat rw [String.toList_ofList]
  decide +kernel

example : finishText Generated.dnaTable Generated.alphaMfeSeq exInst (render exRecs "0.000000".toList) =
    .ok ⟨[("c-a", "ACG".toList), ("c-b", "TT".toList), ("c-ab", "ACGAA".toList)],
         [("c-S", false, "ACGAA".toList)], [("c-T", "ACGAA".toList)]⟩ := by decide +kernel

/-- damaged texts: a header without its colon does not parse; a changed base parses and is refused -/
example : finishText Generated.dnaTable Generated.alphaMfeSeq exInst
    "0 c-T\nACGAA 0.0 0.4 0\n.....\n.....\nTotal n(s*) = 0.0".toList = .error .unreadable := by
  rw [String.toList_ofList]
  decide +kernel

example : finishText Generated.dnaTable Generated.alphaMfeSeq exInst
    ("0:c-T\nACGAA 0.0 0.4 0\n.....\n.....\n1:c-a\nACC 0.0 0.6 0\n...\n...\n0:c-a*\nCGT 0.0 0.6 0\n...\n...\n" ++
     "2:c-b\nTT 0.0 0.0 0\n..\n..\n0:c-b*\nAA 0.0 0.0 0\n..\n..\nTotal n(s*) = 0.0").toList
    = .error (.inconsistent .complement) := by
  rw [String.toList_append, String.toList_ofList, String.toList_ofList]
  decide +kernel

end Pepper.C17
