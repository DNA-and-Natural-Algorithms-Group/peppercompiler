import PepperProofs.SysShift
/-!
# C18 — compilation is a pure function of its inputs  (PARTIAL)

PARTIAL by nature.  Python's hash seed, pyparsing's import-time global white-space setting and the in-place
mutation of Python dicts are facts about the runtime; no Lean model expresses them.  They are covered by the
differential runs of `harness/props/c18.py` only (fresh subprocesses under several `PYTHONHASHSEED`s, 0–4
earlier compiles in the process, three invocation directories, both back-ends).

What IS proved, over the model of the compile path (`PepperModel/Comp.lean`, `Sys.lean`, `Emit.lean`):

(a) `anon_equivariant`: the only process state the model has — the counter of `AnonymousSequence`, threaded
    through as `anon` — acts as a consistent renumbering.  Loading at counter `a + k` fails exactly when loading
    at `a` fails, with the same error, and otherwise yields the same tables with `_Anon n` written `_Anon (n+k)`
    (`rename (shift a k)`) and the counter shifted by `k`; hence the emitted `.pil` statements / lines and `.des`
    lines are those of the other run with that renaming (`emitted_equivariant`), every run is the run from
    counter 0 renamed (`from_zero`), and the number of names consumed does not depend on the counter
    (`anon_consumption_independent`).  Hypothesis `UserNamesOk src` (decidable): no sequence name the source
    defines or mentions is of the reserved form `_Anon<decimal>` — without it the statement is false (a
    reference to `_Anon3` resolves or not depending on what was compiled before).
    `anon_equivariant_general` is the same for every injective renaming that fixes the source's names.
(b) `names_unique`: after a successful load the names of `seqs`, of `strands` and of `structs` are pairwise
    distinct (three name spaces, as the compiler keeps them) — unconditionally, the compiler checks before it
    inserts —, hence (`emitted_names_unique`) so are the names declared by the `sequence`/`sup-sequence`
    statements, by the `strand` statements and by the `structure` statements of the emitted specification.
    `prefix_disjoint`: full names under two instance prefixes `pfx ++ c1 ++ "-"`, `pfx ++ c2 ++ "-"` coincide only
    if `c1 = c2` (instance names contain no `-`: the system grammar's `var = Word(alphas, alphanums+"_")`).
    `names_unique_tree`: uniqueness over the whole instance tree of a successfully loaded system, signal
    sequences included.  `anon_equivariant_tree`: (a) for whole systems (`Sys.loadFile`).
(c) `path_independent`: `Sys.loadFile` reads the bundle's file-existence information only through the
    probes it hands to `resolveImport`, and `resolveImport` consults the probe only at
    `<d>/<base>.sys`, `<d>/<base>.comp` for `d` in the search list (`import_probes_only`).

Definitions: `anonIdx?`, `isAnon`, `shift` in `PepperProofs/AnonName.lean`; `rename`, `UserNamesOk`, `compStmtsWith`,
`emitPilWith`, `emitDesWith`, `NamesNodup`, `seqDeclNames` … in `PepperProofs/CompShift.lean`; what speaks of instance
trees (`renameInst`, `instStmtsWith`, `TreeOk`, `BundleDashFree`) in `PepperProofs/SysShift.lean`.  All three files
declare into the namespace `Pepper.CompShift`.  `UserNamesOk` here is `CompShift.UserNamesOk` (a `Prop`: reserved form
only), weaker than C01's `Comp.UserNamesOk` (a `Bool`: also no `*`, not empty); `BundleDashFree` asks of the system
sources the no-`-` part of C02's `sysNamesOk` (instance and signal names).
-/
namespace Pepper.C18
open Pepper Pepper.Sys Pepper.CompShift
open Pepper.Comp hiding UserNamesOk

/-- the reserved names are pairwise distinct: `_Anon m = _Anon n` only if `m = n` -/
theorem anonName_injective {m n : Nat} (h : anonName m = anonName n) : m = n := anonName_inj h

/-- what the renumbering `shift a k` does: `_Anon n ↦ _Anon (n + k)` for `n ≥ a`; `_Anon n` for `n < a` and
    every name not of the reserved form are left alone; it is injective (so it is a renaming) and
    `shift a 0` is the identity -/
theorem shift_spec (a k : Nat) :
    (∀ n, a ≤ n → shift a k (anonName n) = anonName (n + k)) ∧
    (∀ n, n < a → shift a k (anonName n) = anonName n) ∧
    (∀ s, (∀ n, s ≠ anonName n) → shift a k s = s) ∧
    (∀ s t, shift a k s = shift a k t → s = t) ∧
    (∀ s, shift a 0 s = s) :=
  ⟨fun _ h => shift_anonName h, fun _ h => shift_anonName_lt h, fun _ hs => shift_user (isAnon_eq_false_iff.2 hs),
    fun _ _ h => shift_injective a k h, shift_zero a⟩

/-- `UserNamesOk` says what it should: no sequence name the source defines or mentions (sequence statements,
    item lists of sequences and strands, port declarations) equals `_Anon n` for any `n` -/
theorem userNamesOk_spec (src : Src) : UserNamesOk src ↔ ∀ x ∈ srcSeqNames src, ∀ n, x ≠ anonName n :=
  userNamesOk_iff

/-- (a), general form.  For every injective renaming `ρ` of local sequence names that fixes every sequence
    name the source defines or mentions and maps `_Anon n ↦ _Anon (n + k)` for all `n ≥ a`: loading at counter
    `a + k` is loading at counter `a` — same success or failure, same error —, with every sequence name in the
    resulting tables (entries of `seqs`, item and base references of sequences, strands, structures and
    ports) renamed by `ρ` and the final counter shifted by `k`. -/
theorem anon_equivariant_general {ρ : String → String} (hinj : ∀ x y, ρ x = ρ y → x = y) {a k : Nat}
    (hren : ∀ n, a ≤ n → ρ (anonName n) = anonName (n + k)) (src : Src) (n : Nat) (pfx : String)
    (hfix : ∀ x ∈ srcSeqNames src, ρ x = x) :
    Comp.load src n pfx (a + k) = (Comp.load src n pfx a).map (fun r => (rename ρ r.1, r.2 + k)) :=
  load_rename hinj hren src n pfx hfix

/-- (a) The anonymous counter acts as a consistent renumbering: for every source whose names are not of the
    reserved form, every argument count, prefix and counters `a`, `k`,
    `load src n pfx (a + k) = (load src n pfx a).map (rename by shift a k, counter + k)`. -/
theorem anon_equivariant (src : Src) (hu : UserNamesOk src) (n : Nat) (pfx : String) (a k : Nat) :
    Comp.load src n pfx (a + k) =
      (Comp.load src n pfx a).map (fun r => (rename (shift a k) r.1, r.2 + k)) :=
  load_rename (shift_injective a k) (shift_renum a k) src n pfx (shift_fixes hu a k)

/-- every run is the run from counter 0, renumbered: whatever was compiled earlier in the process (counter
    `a`), the result is the result of a fresh process with `_Anon n` written `_Anon (n + a)` -/
theorem from_zero (src : Src) (hu : UserNamesOk src) (n : Nat) (pfx : String) (a : Nat) :
    Comp.load src n pfx a = (Comp.load src n pfx 0).map (fun r => (rename (shift 0 a) r.1, r.2 + a)) := by
  have := anon_equivariant src hu n pfx 0 a
  rwa [Nat.zero_add] at this

/-- success, failure and the reported error do not depend on the counter -/
theorem outcome_independent (src : Src) (hu : UserNamesOk src) (n : Nat) (pfx : String) (a b : Nat) :
    (Comp.load src n pfx a).map (fun _ => ()) = (Comp.load src n pfx b).map (fun _ => ()) := by
  have forget : ∀ (x : Except Comp.Err (St × Nat)) (f : St × Nat → St × Nat),
      (x.map f).map (fun _ => ()) = x.map (fun _ => ()) := fun x _ => by cases x <;> rfl
  rw [from_zero src hu n pfx a, from_zero src hu n pfx b, forget, forget]

/-- the emitted specification of the shifted run is that of the original run with every local sequence
    name `x` written `shift a k x`: statement list (`Emit.compStmts`), `.pil` lines and `.des` lines.
    (`compStmtsWith ρ`, `emitPilWith ρ`, `emitDesWith ρ` are the emitters with `ρ` applied where a sequence name
    is printed; with `ρ = id` they are the emitters themselves, `emitters_with_id`.) -/
theorem emitted_equivariant (src : Src) (hu : UserNamesOk src) (n : Nat) (pfx : String) (a k : Nat)
    {st : St} {a' : Nat} (h : Comp.load src n pfx a = .ok (st, a')) :
    ∃ st', Comp.load src n pfx (a + k) = .ok (st', a' + k) ∧
      Emit.compStmts st' = compStmtsWith (shift a k) st ∧
      emitPil st' = emitPilWith (shift a k) st ∧
      emitDes st' = emitDesWith (shift a k) st := by
  refine ⟨rename (shift a k) st, ?_, compStmts_rename _ _, emitPil_rename _ _, emitDes_rename _ _⟩
  rw [anon_equivariant src hu n pfx a k, h]
  rfl

theorem emitters_with_id (s : St) :
    compStmtsWith id s = Emit.compStmts s ∧ emitPilWith id s = emitPil s ∧ emitDesWith id s = emitDes s :=
  ⟨compStmtsWith_id s, emitPilWith_id s, emitDesWith_id s⟩

/-- the number of anonymous names a compilation consumes does not depend on the counter it starts from -/
theorem anon_consumption_independent (src : Src) (hu : UserNamesOk src) (n : Nat) (pfx : String) (a k : Nat) :
    (Comp.load src n pfx (a + k)).map (fun r => r.2 - (a + k)) = (Comp.load src n pfx a).map (fun r => r.2 - a) := by
  rw [anon_equivariant src hu n pfx a k]
  cases Comp.load src n pfx a with
  | error e => rfl
  | ok r =>
    simp only [Except.map]
    congr 1
    omega

/-- (b) After a successful load the names in `seqs` are pairwise distinct, likewise those in `strands` and
    those in `structs`. -/
theorem names_unique {src : Src} {n : Nat} {pfx : String} {a : Nat} {st : St} {a' : Nat}
    (h : Comp.load src n pfx a = .ok (st, a')) :
    (st.seqs.map (·.name)).Nodup ∧ (st.strands.map (·.name)).Nodup ∧ (st.structs.map (·.name)).Nodup :=
  let r := load_namesNodup h
  ⟨r.seqs, r.strands, r.structs⟩

/-- (b) Hence in the emitted specification of a loaded component no name is declared twice: not by the
    `sequence` / `sup-sequence` statements (one name space), not by the `strand` statements, not by the
    `structure` statements. -/
theorem emitted_names_unique {src : Src} {n : Nat} {pfx : String} {a : Nat} {st : St} {a' : Nat}
    (h : Comp.load src n pfx a = .ok (st, a')) :
    (seqDeclNames (Emit.compStmts st)).Nodup ∧ (strandDeclNames (Emit.compStmts st)).Nodup ∧
      (structDeclNames (Emit.compStmts st)).Nodup :=
  have hn := load_namesNodup h
  ⟨(seqDeclNames_nodup hn).1, (strandDeclNames_nodup hn).1, (structDeclNames_nodup hn).1⟩

/-- (b) Distinct instance names give disjoint prefixes: if neither `c1` nor `c2` contains `-`, a full name
    `pfx ++ c1 ++ "-" ++ x` equals `pfx ++ c2 ++ "-" ++ y` only if `c1 = c2` (and then `x = y`). -/
theorem prefix_disjoint (pfx c1 c2 x y : String) (h1 : '-' ∉ c1.toList) (h2 : '-' ∉ c2.toList)
    (h : pfx ++ c1 ++ "-" ++ x = pfx ++ c2 ++ "-" ++ y) : c1 = c2 ∧ x = y :=
  CompShift.prefix_disjoint pfx c1 c2 x y h1 h2 h

/-- (c) Loading depends on the bundle's file-existence list only through the probes: two bundles with the
    same sources that answer every existence question alike load identically (any fuel, any entry, any
    search path, any counter). -/
theorem path_independent (b1 b2 : Bundle) (hf : b1.files = b2.files)
    (he : ∀ p, b1.exists_.contains (normPath p) = b2.exists_.contains (normPath p))
    (fuel : Nat) (base : String) (args : Nat) (key pfx path : String) (includes : List String) (a : Nat) :
    loadFile b1 fuel base args key pfx path includes a = loadFile b2 fuel base args key pfx path includes a :=
  loadFile_congr b1 b2 hf he fuel includes base args key pfx path a

/-- (c) The import search asks the file system only about `<d>/<base>.sys` and `<d>/<base>.comp` for the
    directories `d` of the search list `dir :: includes`: any two probes that agree there resolve alike. -/
theorem import_probes_only (probe probe' : String → Bool) (base dir : String) (includes : List String)
    (h : ∀ d ∈ dir :: includes, probe (pathJoin d base ++ ".sys") = probe' (pathJoin d base ++ ".sys") ∧
                   probe (pathJoin d base ++ ".comp") = probe' (pathJoin d base ++ ".comp")) :
    resolveImport probe base dir includes = resolveImport probe' base dir includes :=
  resolveImport_go_congr probe probe' base (dir :: includes) h

/-- (a) for an instance tree.  If every component source of the bundle has names not of the reserved form, then
    loading any entry (any fuel, arguments, prefix, search path) at counter `a + k` is loading it at `a` with
    `_Anon n ↦ _Anon (n + k)` applied to every local sequence name in every component of the tree and in the
    signal tables of every system (`renameInst`), same failure otherwise, and the final counter shifted by `k`. -/
theorem anon_equivariant_tree (b : Bundle)
    (hu : ∀ key c, b.files.lookup key = some (.comp c) → UserNamesOk c)
    (fuel : Nat) (base : String) (args : Nat) (key pfx path : String) (includes : List String) (a k : Nat) :
    loadFile b fuel base args key pfx path includes (a + k) =
      (loadFile b fuel base args key pfx path includes a).map (fun r => (renameInst (shift a k) r.1, r.2 + k)) :=
  loadFile_rename (shift_injective a k) b (fun key c h => shift_fixes (hu key c h) a k)
    fuel includes base args key pfx path a (shift_renum a k)

/-- the statements emitted for the renamed tree are those of the original tree with every local sequence name
    `x` written `ρ x` (`instStmtsWith ρ`; `instStmtsWith id` is `Emit.instStmts`) -/
theorem emitted_equivariant_tree (ρ : String → String) (inst : Inst) :
    Emit.instStmts (renameInst ρ inst) = instStmtsWith ρ inst ∧ instStmtsWith id inst = Emit.instStmts inst :=
  ⟨instStmts_rename ρ inst, instStmtsWith_id inst⟩

/-- the anonymous counter only grows -/
theorem counter_monotone (b : Bundle) (fuel : Nat) (base : String) (args : Nat) (key pfx path : String)
    (includes : List String) (a : Nat) {inst : Inst} {a' : Nat}
    (h : loadFile b fuel base args key pfx path includes a = .ok (inst, a')) : a ≤ a' :=
  loadFile_anon_le h

/-- (b) for an instance tree.  If the instance names and signal names written in the system sources of the
    bundle contain no `-` (`BundleDashFree`; the system grammar's identifiers are `Word(alphas, alphanums+"_")`),
    then in the specification emitted for any successfully loaded entry no name is declared twice: not by the
    `sequence` / `sup-sequence` statements (including the signal sequences of the systems), not by the `strand`
    statements, not by the `structure` statements — over the whole tree. -/
theorem names_unique_tree (b : Bundle) (hb : BundleDashFree b)
    (fuel : Nat) (base : String) (args : Nat) (key pfx path : String) (includes : List String) (a : Nat)
    {inst : Inst} {a' : Nat} (h : loadFile b fuel base args key pfx path includes a = .ok (inst, a')) :
    (seqDeclNames (Emit.instStmts inst)).Nodup ∧ (strandDeclNames (Emit.instStmts inst)).Nodup ∧
      (structDeclNames (Emit.instStmts inst)).Nodup :=
  tree_names_nodup inst (loadFile_treeOk hb h).1

/-- a component with a named sequence and a strand with two anonymous regions -/
def exSrc : Src :=
  { name := "T", params := [], inputs := [⟨"x", false, none⟩], outputs := [],
    stmts := [.seq "x" [.nuc "4N".toList] none,
              .strand false "s" [.nuc "2A".toList, .ref "x" true, .nuc "3N".toList] none] }

example : UserNamesOk exSrc := by decide

/-- a fresh process: the anonymous regions are `_Anon0`, `_Anon1`, the counter ends at 2 -/
example : (match Comp.load exSrc 0 "c-" 0 with
           | .ok (st, a') => (emitPil st, a')
           | .error _ => ([], 0)) =
    (["sequence c-x = NNNN : 4", "sequence c-_Anon0 = AA : 2", "sequence c-_Anon1 = NNN : 3",
      "strand c-s = c-_Anon0 c-x* c-_Anon1 : 9"], 2) := by decide +kernel

/-- after seven earlier anonymous regions: `_Anon7`, `_Anon8`, the counter ends at 9 — the same lines otherwise -/
example : (match Comp.load exSrc 0 "c-" 7 with
           | .ok (st, a') => (emitPil st, a')
           | .error _ => ([], 0)) =
    (["sequence c-x = NNNN : 4", "sequence c-_Anon7 = AA : 2", "sequence c-_Anon8 = NNN : 3",
      "strand c-s = c-_Anon7 c-x* c-_Anon8 : 9"], 9) := by decide +kernel

/-- the renumbering on concrete names -/
example : shift 0 7 "_Anon1" = "_Anon8" ∧ shift 0 7 "x" = "x" ∧ shift 5 7 "_Anon1" = "_Anon1" ∧
    shift 0 7 "_Anon01" = "_Anon01" := by decide +kernel

/-- the hypothesis is needed: a source that mentions `_Anon0` loads or not depending on the counter -/
def badSrc : Src :=
  { name := "T", params := [], inputs := [], outputs := [],
    stmts := [.strand false "s" [.nuc "2A".toList] none, .strand false "t" [.ref "_Anon0" false] none] }

example : ¬ UserNamesOk badSrc := by decide
example : (match Comp.load badSrc 0 "" 0 with | .ok _ => true | .error _ => false) = true := by decide +kernel
example : (match Comp.load badSrc 0 "" 7 with | .ok _ => true | .error _ => false) = false := by decide +kernel

/-- a system with two instances of the component above -/
def topSrc : SSrc :=
  { name := "top", params := [], inputs := [], outputs := [⟨"sig", false⟩],
    stmts := [.imports [("T", none)],
              .component "a" "T" 0 [⟨"sig", false⟩] [],
              .component "b" "T" 0 [⟨"sig", true⟩] []] }

def exBundle : Bundle :=
  { files := [("top.sys@", .sys topSrc), ("T.comp@a", .comp exSrc), ("T.comp@b", .comp exSrc)],
    exists_ := ["top.sys", "T.comp"] }

/-- the hypotheses of the tree-level theorems hold for it: the component source has no reserved names … -/
example : ∀ key c, exBundle.files.lookup key = some (.comp c) → UserNamesOk c := by
  intro key c h
  have hm := lookup_mem h
  simp only [exBundle, List.mem_cons, List.not_mem_nil, or_false, Prod.mk.injEq] at hm
  rcases hm with ⟨_, hc⟩ | ⟨_, hc⟩ | ⟨_, hc⟩
  · cases hc
  · cases hc; decide
  · cases hc; decide

/-- … and the instance names `a`, `b` and the signal name `sig` contain no `-` -/
example : BundleDashFree exBundle := by
  intro key s h st hst
  have hm := lookup_mem h
  simp only [exBundle, List.mem_cons, List.not_mem_nil, or_false, Prod.mk.injEq] at hm
  rcases hm with ⟨_, hs⟩ | ⟨_, hs⟩ | ⟨_, hs⟩
  · cases hs
    simp only [topSrc, List.mem_cons, List.not_mem_nil, or_false] at hst
    rcases hst with rfl | rfl | rfl
    · trivial
    · exact ⟨by unfold dashFree; decide, by simp [dashFree]⟩
    · exact ⟨by unfold dashFree; decide, by simp [dashFree]⟩
  · cases hs
  · cases hs

end Pepper.C18
