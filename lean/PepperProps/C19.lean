import PepperProofs.Ssm
/-!
# C19 — bundled spuriousSSM returns a sequence obeying its constraints, and stops

Model: `PepperModel/Ssm.lean` (`constrain`, `constrainSingleFast`, `mutate`, `testConsistency`,
`freeLocs`, `effectiveBmax`, the search loop `run`/`runList`, the whole of `main` after the loader as
`program`), source `SpuriousDesign/spuriousSSM.c`.  The random draws of an iteration (mutated index,
new base) and the outcome of the floating-point score comparison are *inputs* (`Event`); the score
function is a parameter.

Specification: `Good t S` — `S` has the input length, its blanks are the template's, every base lies
in the set of its template code, every `eq` and every `wc` entry is obeyed.  `Contract t`
(`contractB t = true`) is the documented input contract.

Memory safety of the modelled C text (every index it computes is in range under the contract) is
`PepperProps/C19Safe.lean`, about the bounds-checked twin `PepperModel/SsmChecked.lean`.  Outside any model: the
loader, output, `int` overflow and the ≈600 lines of floating-point scoring code (sanitizer runs of the real
binary; the comparison is an input here), and the wall-clock option `tmax`.
-/
namespace Pepper.C19
open Pepper.Ssm

theorem contract_of_contractB {t : Triple} (h : contractB t = true) : Contract t := of_decide_eq_true h

/-- After `constrain`, every constraint holds — for *any* start sequence of the right length that
    is blank where the template is and holds an allowed base at each position `constrain` copies
    from (the lowest position of a class whose partner class lies above it, `isClassRep`); all other
    positions of the start sequence are arbitrary.  This covers the random initial sequence
    (`ConstraintGen.startOf_ok`, PepperProofs/ConstraintGenFiles.lean), a `sequence=` file, and the final `constrain` call. -/
theorem constrain_good {t : Triple} (hc : contractB t = true) {S0 : Seq} (hs : StartOK t S0) :
    Good t (constrain t S0) :=
  good_constrain (contract_of_contractB hc).toF hs

/-- `randbasec` only returns bases of the code's set. -/
theorem randbase_allowed {t : Triple} (hc : contractB t = true) {i : Nat} (hi : i ∈ freeLocs t) {b : Char}
    (hb : b ∈ choices (t.stAt i)) : memCode b (t.stAt i) = true :=
  choices_memCode ((contract_of_contractB hc).toF.code i i (freeF_of_mem_freeLocs hi).1) hb

/-- A mutation at a free location to a base allowed by the template, followed by
    `constrain_single_fast` (which only rewrites positions `j > i`), preserves every constraint. -/
theorem mutate_preserves_good {t : Triple} (hc : contractB t = true) {S : Seq} (g : Good t S)
    {i : Nat} (hi : i ∈ freeLocs t) {b : Char} (hb : memCode b (t.stAt i) = true) :
    Good t (mutate t S i b) :=
  mutate_good (contract_of_contractB hc).toF g (freeF_of_mem_freeLocs hi) hb

/-- The search loop preserves the invariant: for every stream of legal random choices and every
    sequence of comparison outcomes (accepted moves keep the mutated sequence, rejected moves restore
    the previous one), every intermediate sequence and the sequence at loop exit are `Good`. -/
theorem loop_preserves_good {t : Triple} (hc : contractB t = true) (p : Params) (nfree : Nat)
    (s : State) (g : Good t s.S) (es : List Event) (hv : ∀ e ∈ es, validEvent t e = true) :
    Good t (run t p nfree s es).S ∧ ∀ s' ∈ runList t p nfree s es, Good t s'.S := by
  have c := (contract_of_contractB hc).toF
  exact run_inv t p nfree (fun s => Good t s.S) es s g
    (fun s e he g => step_good c g (validEv_of_validEvent c (hv e he)))

/-- The program's own final self-check accepts every `Good` sequence, and such a sequence has
    the input length (so exactly `N` characters are printed). -/
theorem final_check_passes {t : Triple} (hc : contractB t = true) {S : Seq} (g : Good t S) :
    testConsistency t S = true ∧ S.length = t.N :=
  ⟨testConsistency_of_good (contract_of_contractB hc) g, g.1⟩

/-- `constrain_good`, `loop_preserves_good` and the self-check (`testConsistency_of_good`) together, for `main` after the loader: on a consistent triple, from any admissible start
    sequence, with any stopping options, any legal random choices and any comparison outcomes, neither
    self-check aborts and the printed sequence is `Good` and has length `N`. -/
theorem program_output_good {t : Triple} (hc : contractB t = true) (o : Opts) {start : Seq}
    (hs : StartOK t start) (es : List Event) (hv : ∀ e ∈ es, validEvent t e = true) :
    ∃ out, program t o start es = some out ∧ Good t out ∧ out.length = t.N := by
  have c := contract_of_contractB hc
  have g0 := constrain_good hc hs
  have g1 := (loop_preserves_good hc ⟨effectiveBmax o t, o.imax⟩ (freeLocs t).length
    ⟨constrain t start, 0, 0⟩ g0 es hv).1
  have g2 := constrain_good hc (startOK_of_good c.toF g1)
  refine ⟨_, ?_, g2, g2.1⟩
  unfold program
  simp only [testConsistency_of_good c g0, testConsistency_of_good c g2, Bool.not_true,
    Bool.false_eq_true, if_false]

/-- Counting half of termination: with `imax = 0` and `bmax > 0` the number of executed iterations is at most
    `bmax · (k + 1)`, `k` the number of strictly improving events of the stream: an improvement
    resets `bored`, every other iteration increments it, the loop runs only while `bored < bmax`.
    No assumption on the triple, the events or the scores. -/
theorem iteration_count (t : Triple) {bmax : Nat} (hb : 0 < bmax) (nfree : Nat) (S : Seq) (steps : Nat)
    (es : List Event) :
    (runList t ⟨bmax, 0⟩ nfree ⟨S, 0, steps⟩ es).length ≤ bmax * (improvements es + 1) := by
  have := runList_length_le t hb nfree es ⟨S, 0, steps⟩ (Nat.zero_le _)
  simpa using this

/-- When neither `bmax` nor `imax` is given (and no `tmax`), the loop starts with
    `bmax = bmult · nq + 1 ≥ 1`, with or without `score=automatic`: some stopping rule is always
    active. -/
theorem default_bmax_pos (o : Opts) (t : Triple) (h1 : o.bmax = none) (h2 : o.imax = 0) :
    effectiveBmax o t = o.bmult * nq t + 1 ∧ 0 < effectiveBmax o t := by
  have e : effectiveBmax o t = o.bmult * nq t + 1 := by
    unfold effectiveBmax defaultBmax
    rw [h1, h2]
    simp
  rw [e]; exact ⟨rfl, Nat.succ_pos _⟩

/-- With `imax > 0` at most `imax` iterations are made. -/
theorem imax_bound (t : Triple) (p : Params) (hi : 0 < p.imax) (nfree : Nat) (S : Seq) (es : List Event) :
    (runList t p nfree ⟨S, 0, 0⟩ es).length ≤ p.imax :=
  Nat.le_trans (runList_length_le_imax t p hi nfree es ⟨S, 0, 0⟩) (Nat.sub_le _ _)

/-- Termination at full strength.  Let the comparison outcomes come from *any* score function
    `score` of the sequence into *any* strictly ordered set (`lt` irreflexive and transitive; `cmp < 0`
    means strictly smaller, `cmp = 0` means equal — `Scored`).  Then on a consistent triple, from a
    `Good` sequence, with `imax = 0` and `bmax > 0`, whatever stream of legal random choices is
    supplied and however long it is, the loop executes at most `bmax · 5^N` iterations: the current
    score never rises, strict improvements visit pairwise distinct scores, and there are at most `5^N`
    sequences of length `N` over blank/A/C/G/T. -/
theorem terminates {α : Type} (lt : α → α → Prop) (irr : ∀ a, ¬ lt a a)
    (tr : ∀ a b c, lt a b → lt b c → lt a c) (score : Seq → α)
    {t : Triple} (hc : contractB t = true) {bmax : Nat} (hb : 0 < bmax) (nfree : Nat)
    (S : Seq) (g : Good t S) (steps : Nat) (es : List Event) (hv : ∀ e ∈ es, validEvent t e = true)
    (hsc : Scored lt score t ⟨bmax, 0⟩ nfree ⟨S, 0, steps⟩ es) :
    (runList t ⟨bmax, 0⟩ nfree ⟨S, 0, steps⟩ es).length ≤ bmax * 5 ^ t.N := by
  have c := (contract_of_contractB hc).toF
  have := runList_bound_chain lt irr tr score ((seqSpace t.N).map score) t (fun s => Good t s.S)
    (fun s gS => List.mem_map.2 ⟨s.S, good_mem_seqSpace gS, rfl⟩) hb nfree es ⟨S, 0, steps⟩ [] g (Nat.zero_le _)
    (fun s e he g => step_good c g (validEv_of_validEvent c (hv e he))) hsc
    ⟨List.nodup_nil, fun _ h => absurd h List.not_mem_nil, fun _ h => absurd h List.not_mem_nil⟩
  simp only [List.length_map, length_seqSpace, List.length_nil, Nat.sub_zero] at this
  omega

/-- "It never runs forever": under the assumptions of `terminates`, as soon as more than
    `bmax · 5^N` random choices are available the loop has exited by its own stopping rule (the `while`
    condition is false in the final state). -/
theorem loop_exits {α : Type} (lt : α → α → Prop) (irr : ∀ a, ¬ lt a a)
    (tr : ∀ a b c, lt a b → lt b c → lt a c) (score : Seq → α)
    {t : Triple} (hc : contractB t = true) {bmax : Nat} (hb : 0 < bmax) (nfree : Nat)
    (S : Seq) (g : Good t S) (steps : Nat) (es : List Event) (hv : ∀ e ∈ es, validEvent t e = true)
    (hsc : Scored lt score t ⟨bmax, 0⟩ nfree ⟨S, 0, steps⟩ es) (hlen : bmax * 5 ^ t.N < es.length) :
    running ⟨bmax, 0⟩ nfree (run t ⟨bmax, 0⟩ nfree ⟨S, 0, steps⟩ es) = false := by
  apply run_stopped
  have := terminates lt irr tr score hc hb nfree S g steps es hv hsc
  omega

/-- The same for the program as started without any limit option: the stopping rule that is then
    in force (`default_bmax_pos`) bounds the search by `(bmult · nq + 1) · 5^N` iterations. -/
theorem terminates_default {α : Type} (lt : α → α → Prop) (irr : ∀ a, ¬ lt a a)
    (tr : ∀ a b c, lt a b → lt b c → lt a c) (score : Seq → α)
    {t : Triple} (hc : contractB t = true) (o : Opts) (h1 : o.bmax = none) (h2 : o.imax = 0)
    {start : Seq} (hs : StartOK t start) (es : List Event) (hv : ∀ e ∈ es, validEvent t e = true)
    (hsc : Scored lt score t ⟨effectiveBmax o t, 0⟩ (freeLocs t).length ⟨constrain t start, 0, 0⟩ es) :
    (runList t ⟨effectiveBmax o t, o.imax⟩ (freeLocs t).length ⟨constrain t start, 0, 0⟩ es).length
      ≤ (o.bmult * nq t + 1) * 5 ^ t.N := by
  have hb := default_bmax_pos o t h1 h2
  rw [h2]
  have := terminates lt irr tr score hc hb.2 (freeLocs t).length (constrain t start)
    (constrain_good hc hs) 0 es hv hsc
  rw [hb.1] at this ⊢
  exact this

/-! ### non-vacuity -/

/-- two strands, the second the reverse complement of the first: `NNSW WSNN` -/
abbrev ex1 : Triple :=
  { st := "NNSW WSNN".toList, eq := [1, 2, 3, 4, 0, 6, 7, 8, 9], wc := [9, 8, 7, 6, -1, 4, 3, 2, 1] }

/-- three strands (`NSW NSW  WSN`, two complexes): the second equals the first, the third is the
    reverse complement of both -/
abbrev ex2 : Triple :=
  { st := "NSW NSW  WSN".toList, eq := [1, 2, 3, 0, 1, 2, 3, 0, 0, 10, 11, 12],
    wc := [12, 11, 10, -1, 12, 11, 10, -1, -1, 3, 2, 1] }

/-- the contract is satisfiable -/
example : contractB ex1 = true := by decide +kernel
example : contractB ex2 = true := by decide +kernel

/-- … and not trivially true: the reverse complement of `NNSW` is `WSNN`, not `NNSW` -/
example : contractB { ex1 with st := "NNSW NNSW".toList } = false := by decide +kernel

/-- … and a self-complementary class is refused -/
example : contractB { st := "N".toList, eq := [1], wc := [1] } = false := by decide +kernel

/-- the free locations of the examples (only the lowest member of each class / class pair) -/
example : freeLocs ex1 = [0, 1, 2, 3] ∧ freeLocs ex2 = [0, 1, 2] ∧ nq ex2 = 3 := by decide +kernel

/-- `constrain` repairs an arbitrary start sequence from the representatives (`ex2`: positions 4-6 and
    9-11 of the start are ignored) -/
example : constrain ex2 "ACT TTT  TTT".toList = "ACT ACT  AGT".toList := by decide +kernel
example : StartOK ex2 "ACT TTT  TTT".toList ∧ ¬ Good ex2 "ACT TTT  TTT".toList ∧
    Good ex2 "ACT ACT  AGT".toList := by decide +kernel

/-- a concrete run (the trace of the real binary with seed 5, `bmax=5`): a rejected move restores the
    sequence, equal moves are kept, `bored` counts to `bmax` and the loop stops although a sixth event
    is offered -/
example : (runList ex1 ⟨5, 0⟩ 4 ⟨"AGCA TGCT".toList, 0, 0⟩
      [⟨3, 'T', 1⟩, ⟨1, 'A', 0⟩, ⟨3, 'T', 0⟩, ⟨0, 'C', 0⟩, ⟨2, 'G', 0⟩, ⟨2, 'C', 0⟩]).map
      (fun s => (String.ofList s.S, s.bored)) =
    [("AGCA TGCT", 1), ("AACA TGTT", 2), ("AACT AGTT", 3), ("CACT AGTG", 4), ("CAGT ACTG", 5)] := by
  decide +kernel

/-- the whole program on that input prints a `Good` sequence -/
example : program ex1 { bmax := some 5 } "AGCA TGCT".toList
      [⟨3, 'T', 1⟩, ⟨1, 'A', 0⟩, ⟨3, 'T', 0⟩, ⟨0, 'C', 0⟩, ⟨2, 'G', 0⟩, ⟨2, 'C', 0⟩] =
    some "CAGT ACTG".toList ∧ Good ex1 "CAGT ACTG".toList := by decide +kernel

/-- an improvement resets `bored` -/
example : (runList ex1 ⟨2, 0⟩ 4 ⟨"AGCA TGCT".toList, 0, 0⟩
      [⟨3, 'T', 0⟩, ⟨1, 'A', -1⟩, ⟨3, 'A', 1⟩, ⟨0, 'C', 1⟩, ⟨2, 'G', 0⟩]).map (·.bored) = [1, 0, 1, 2] := by
  decide +kernel

/-- the default stopping rule of the examples -/
example : effectiveBmax {} ex1 = 49 ∧ effectiveBmax { automatic := true, bmult := 1 } ex2 = 4 ∧
    effectiveBmax { imax := 50 } ex1 = 0 := by decide +kernel

end Pepper.C19
