import PepperProofs.SsmChecked
import PepperProps.C19
/-!
# C19Safe — the modelled part of spuriousSSM.c makes no out-of-range array access (supports C19)

Model: `PepperModel/SsmChecked.lean`, the bounds-checked twin of `PepperModel/Ssm.lean`: every array read of `constrain`,
`constrain_single_fast`, `mutate` (with the lookup `freeloc[k]` of the drawn index), `test_consistency` (with the reads
of its error messages), the `nq` / `nbp` loops, the construction of `freeloc`, the save / restore loops over `oldS` and
`main` is `A[i]?`, every store checks its index; an out-of-range access is the result `oob ⟨array, index, site⟩`.
Index expressions are the C's (`wc[i]-1`, `eq[i]-1` in `Int`), guards in the C's order.

* **T1** `checked_refines_total` (+ one theorem per function): an `ok v` of a checked function is the value of the
  total function of `Ssm.lean`; so every theorem of C19 holds of the checked model (`program_output_good_checked`).
* **T2** `no_oob_under_contract`: for every triple with `contractB t`, every start sequence of length `N`, every
  stopping option, every event stream whose drawn indices obey `k < Nfree` (`EventsOk`: what `int_urn(0,Nfree-1)`
  guarantees) and whatever the score comparisons are, `programC` does not return `oob`.  `no_oob_under_bounds` needs
  only `Bounds t` (array lengths `N`, `wc[i] = -1 ∨ 1 ≤ wc[i] ≤ N`, `eq[i] ≤ N`) — the upper ends are what the real
  loader would have to reject and does not (it rejects `wc = 0`, `wc < -1`, `eq < 0` and unequal lengths).
* **T3** examples: outside the guard the checked model reports the access while the total model returns a value.

Tied to the binary on every run of the C19 check (section `[checked model]` of `harness/props/c19.py`).
Limits: extents are the logical ones (`N` cells; the real `malloc`s are longer); `int` overflow, the loader, the scoring
code, `randbasec`'s table read and output are not modelled.
-/
namespace Pepper.C19Safe.Props
open Pepper.Ssm Pepper.SsmChecked

/-- what `int_urn(0, Nfree-1)` guarantees of every drawn index -/
def EventsOk (t : Triple) (es : List EventC) : Prop := ∀ e ∈ es, e.k < (freeLocs t).length

/-! ### T1 — an `ok` result is the total model's result -/

theorem constrainSingleFast_refines {t : Triple} {S S' : Seq} {i : Nat} (h : constrainSingleFastC t S i = .ok S') :
    S' = constrainSingleFast t S i := constrainSingleFastC_sim.only S' h

theorem constrain_refines {t : Triple} {S S' : Seq} (h : constrainC t S = .ok S') : S' = constrain t S :=
  constrainC_sim.only S' h

/-- `test_consistency` (the reads of the error messages do not influence the result) -/
theorem testConsistency_refines {t : Triple} {S : Seq} {b : Bool} (h : testConsistencyC t S = .ok b) :
    b = testConsistency t S := testConsistencyC_sim.only b h

/-- the `freeloc` table: the array has `N` cells, its first `Nfree` cells are `freeLocs t`, the rest is the `calloc` zero -/
theorem freeloc_refines {t : Triple} {fn : List Nat × Nat} (h : freelocC t = .ok fn) :
    fn.1.length = t.N ∧ fn.2 = (freeLocs t).length ∧ ∀ k, fn.1.getD k 0 = (freeLocs t).getD k 0 :=
  let inv := freelocC_post.only fn h
  ⟨inv.len, inv.nf, inv.get⟩

/-- `bmax` at loop entry (`strlen(S) = N`: the loader exits otherwise) -/
theorem effectiveBmax_refines {o : Opts} {t : Triple} {start : Seq} {b : Nat} (hl : start.length = t.N)
    (h : effectiveBmaxC o t start = .ok b) : b = effectiveBmax o t := (effectiveBmaxC_sim hl).only b h

/-- `mutate` (called with `Nfree > 0`): the drawn index was inside the table and the result is the total `mutate` at the
    looked-up position -/
theorem mutate_refines {t : Triple} {fl : List Nat} {nf : Nat} {S S' : Seq} {k : Nat} {b : Char} (hn : nf ≠ 0)
    (h : mutateC t fl nf S k b = .ok S') : k < fl.length ∧ S' = mutate t S (fl.getD k 0) b := (mutateC_post hn).only S' h

/-- one iteration of the search loop, with the save / restore loops over `oldS` -/
theorem step_refines {t : Triple} {fl : List Nat} {nf : Nat} {s s' : StateC} {e : EventC} (hn : nf ≠ 0)
    (hl : s.S.length = t.N) (h : stepC t fl nf s e = .ok s') :
    s'.toState = step t s.toState ⟨fl.getD e.k 0, e.base, e.cmp⟩ := ((stepC_post hn hl).only s' h).sim

theorem run_refines {t : Triple} {p : Params} {fl : List Nat} {nf : Nat} {es : List EventC} {s s' : StateC}
    (hl : s.S.length = t.N) (h : runC t p fl nf s es = .ok s') :
    s'.toState = run t p nf s.toState (es.map (fun e => ⟨fl.getD e.k 0, e.base, e.cmp⟩)) := ((runC_post es s hl).only s' h).1

/-- **T1.** `main` after the loader: if the checked program returns `ok r` (no out-of-range access happened), then `r` is
    what the total model returns on the same inputs, each event's table index replaced by the looked-up position.
    Guard: the start sequence has length `N` (the loader exits otherwise). -/
theorem checked_refines_total {t : Triple} {o : Opts} {start : Seq} {es : List EventC} {r : Option Seq}
    (hl : start.length = t.N) (h : programC t o start es = .ok r) :
    r = program t o start (es.map (EventC.toEvent t)) := (programC_sim hl).only r h

/-! ### T2 — no out-of-range access under the contract -/

theorem bounds_of_contractB {t : Triple} (hc : contractB t = true) : Bounds t :=
  Bounds.of_contract (of_decide_eq_true hc)

/-- `constrain` on a sequence of length `N` -/
theorem constrain_no_oob {t : Triple} (hc : contractB t = true) {S : Seq} (hS : S.length = t.N) :
    ∃ S', constrainC t S = .ok S' ∧ S'.length = t.N :=
  ⟨_, constrainC_sim.eq_ok ⟨bounds_of_contractB hc, hS⟩, constrain_length hS⟩

/-- `test_consistency` on a sequence of length `N` — *any* such sequence, also one that fails the test, so that the
    message reads `S[wc[i]]`, `S[eq[i]]` happen (they may touch the terminating NUL, never more) -/
theorem testConsistency_no_oob {t : Triple} (hc : contractB t = true) {S : Seq} (hS : S.length = t.N) :
    ∃ b, testConsistencyC t S = .ok b := testConsistencyC_sim.safe ⟨bounds_of_contractB hc, hS⟩

/-- the `freeloc` table is built without an out-of-range store (`Nfree` never exceeds the loop counter) -/
theorem freeloc_no_oob {t : Triple} (hc : contractB t = true) : ∃ fn, freelocC t = .ok fn :=
  freelocC_post.safe (bounds_of_contractB hc)

/-- `mutate` with a drawn index `k < Nfree` -/
theorem mutate_no_oob {t : Triple} (hc : contractB t = true) {fn : List Nat × Nat} (hf : freelocC t = .ok fn)
    {S : Seq} (hS : S.length = t.N) {k : Nat} (hk : k < fn.2) (b : Char) :
    ∃ S', mutateC t fn.1 fn.2 S k b = .ok S' ∧ S'.length = t.N :=
  let tb := tableOk_of_inv (freelocC_post.only fn hf)
  let m := mutateC_post (b := b) (Nat.ne_zero_of_lt hk)
  let ⟨S', h⟩ := m.safe ⟨bounds_of_contractB hc, (tb k hk).1, (tb k hk).2, hS⟩
  ⟨S', h, by rw [(m.only S' h).2, mutate_length]; exact hS⟩

/-- one loop iteration, whatever the comparison outcome -/
theorem step_no_oob {t : Triple} (hc : contractB t = true) {fn : List Nat × Nat} (hf : freelocC t = .ok fn)
    {s : StateC} (hS : s.S.length = t.N) (hO : s.oldS.length = t.N) {e : EventC} (hk : e.k < fn.2) :
    ∃ s', stepC t fn.1 fn.2 s e = .ok s' ∧ s'.S.length = t.N ∧ s'.oldS.length = t.N :=
  let st := stepC_post (e := e) (Nat.ne_zero_of_lt hk) hS
  let ⟨s', h⟩ := st.safe ⟨bounds_of_contractB hc, tableOk_of_inv (freelocC_post.only fn hf), hk, hO⟩
  ⟨s', h, (st.only s' h).lenS, (st.only s' h).lenOld.trans hO⟩

/-- **T2 under the minimal guard.** -/
theorem no_oob_under_bounds {t : Triple} (hb : Bounds t) (o : Opts) {start : Seq} (hl : start.length = t.N)
    {es : List EventC} (he : EventsOk t es) : ∃ r, programC t o start es = .ok r := (programC_sim hl).safe ⟨hb, he⟩

/-- **T2.** On every triple satisfying the contract, from every start sequence of the input length, with every
    stopping option, for every stream of events whose drawn table indices are `< Nfree` — any bases, any score
    comparison outcomes, any length — the checked program does not make an out-of-range access: not in the first
    `constrain` / `test_consistency`, not while building `freeloc`, in no iteration of the loop (save, `mutate` with the
    `freeloc[k]` lookup, `constrain_single_fast`, restore), not in the final `constrain` / `test_consistency`. -/
theorem no_oob_under_contract {t : Triple} (hc : contractB t = true) (o : Opts) {start : Seq} (hl : start.length = t.N)
    {es : List EventC} (he : EventsOk t es) : ∃ r, programC t o start es = .ok r :=
  no_oob_under_bounds (bounds_of_contractB hc) o hl he

/-- T1 + T2 + C19: under the hypotheses of `C19.program_output_good` (admissible start, every event a legal outcome of
    the two draws) the *checked* program returns `ok (some out)` with `out` obeying every constraint. -/
theorem program_output_good_checked {t : Triple} (hc : contractB t = true) (o : Opts) {start : Seq}
    (hs : StartOK t start) {es : List EventC} (he : EventsOk t es)
    (hv : ∀ e ∈ es, e.base ∈ choices (t.stAt ((freeLocs t).getD e.k 0))) :
    ∃ out, programC t o start es = .ok (some out) ∧ Good t out ∧ out.length = t.N := by
  obtain ⟨r, hr⟩ := no_oob_under_contract hc o hs.1 he
  have hv' : ∀ e ∈ es.map (EventC.toEvent t), validEvent t e = true := by
    intro e' he'
    obtain ⟨e, hm, rfl⟩ := List.mem_map.1 he'
    have hk := he e hm
    have hmem := getD_mem hk 0
    simp only [validEvent, EventC.toEvent, Bool.and_eq_true, List.contains_iff_mem]
    exact ⟨hmem, hv e hm⟩
  obtain ⟨out, h1, h2, h3⟩ := Pepper.C19.program_output_good hc o hs (es.map (EventC.toEvent t)) hv'
  have := checked_refines_total hs.1 hr
  rw [h1] at this
  exact ⟨out, by rw [hr, this], h2, h3⟩

/-! ### T3 — outside the guard; non-vacuity -/

/-- two unconstrained free positions: `Nfree = N = 2` -/
abbrev exNN : Triple := { st := "NN".toList, eq := [1, 2], wc := [-1, -1] }

example : contractB exNN = true ∧ freeLocs exNN = [0, 1] := by decide +kernel

/-- the off-by-one `int_urn(0,Nfree)`: the draw `k = Nfree` reads `freeloc[2]` of a
    2-cell array — the checked model reports it — -/
example : programC exNN { bmax := some 5 } "AC".toList [⟨2, 'C', 0⟩] = .oob ⟨.freeloc, 2, .mutate⟩ := by decide +kernel

/-- — while the total model's default turns the same draw into "position 0" and prints a sequence -/
example : program exNN { bmax := some 5 } "AC".toList [EventC.toEvent exNN ⟨2, 'C', 0⟩] = some "CC".toList := by decide +kernel

/-- when `Nfree < N` the same off-by-one stays inside the `calloc(N)` array (it reads the zero behind the table and
    mutates position 0): not a memory error, neither in C nor here; it is the `Good`-ness theorems that do not
    cover that event (`EventsOk` fails) -/
example : freeLocs Pepper.C19.ex1 = [0, 1, 2, 3] ∧
    (programC Pepper.C19.ex1 { bmax := some 5 } "AGCA TGCT".toList [⟨4, 'C', 0⟩]).isOob = false := by decide +kernel

/-- a `wc` entry `N+1` (the loader accepts any positive value): `test_consistency` reads `wc[wc[0]-1] = wc[2]` of a
    2-cell array; the total model reads its default `-1` there and reports a clean `exit(-1)` -/
example : programC { exNN with wc := [3, -1] } {} "AC".toList [] = .oob ⟨.wc, 2, .testConsistency1⟩ ∧
    program { exNN with wc := [3, -1] } {} "AC".toList [] = none := by decide +kernel

/-- an `eq` entry `N+1`: `eq[eq[1]-1] = eq[2]` -/
example : programC { exNN with eq := [1, 3] } {} "AC".toList [] = .oob ⟨.eq, 2, .testConsistency1⟩ ∧
    program { exNN with eq := [1, 3] } {} "AC".toList [] = none := by decide +kernel

/-- a negative index: `wc[0] = 0` (the real loader rejects `0`; the functions themselves would read `wc[-1]`); the total
    model's `wcIx` turns it into position `0` -/
example : testConsistencyC { exNN with wc := [0, -1] } "AC".toList = .oob ⟨.wc, -1, .testConsistency1⟩ ∧
    ({ exNN with wc := [0, -1] } : Triple).wcIx 0 = 0 := by decide +kernel

/-- a start sequence shorter than `N` (the loader exits on it): `constrain` reads `S[1]` -/
example : (constrainC exNN "A".toList).isOob = true ∧ (constrain exNN "A".toList).length = 1 := by decide +kernel

/-- the guards of T2 on these inputs: `Bounds` fails for the broken triples, `EventsOk` for the draw `k = Nfree` -/
example : ¬ Bounds { exNN with wc := [3, -1] } ∧ ¬ Bounds { exNN with eq := [1, 3] } ∧ Bounds exNN ∧
    ¬ EventsOk exNN [⟨2, 'C', 0⟩] := by
  refine ⟨by decide +kernel, by decide +kernel, by decide +kernel, ?_⟩
  intro h
  exact absurd (h _ List.mem_cons_self) (by decide +kernel)

/-- T2 is not vacuous: the run of `C19.ex1` (trace of the real binary, seed 5, `bmax=5`; `freeloc = [0,1,2,3]`, so
    table index = position) goes through the checked program, including a rejected move (restore loop) -/
example : contractB Pepper.C19.ex1 = true ∧
    programC Pepper.C19.ex1 { bmax := some 5 } "AGCA TGCT".toList
      [⟨3, 'T', 1⟩, ⟨1, 'A', 0⟩, ⟨3, 'T', 0⟩, ⟨0, 'C', 0⟩, ⟨2, 'G', 0⟩, ⟨2, 'C', 0⟩] = .ok (some "CAGT ACTG".toList) := by
  decide +kernel

/-- a failing self-check on a consistent triple reads the NUL terminator in its message (`S[wc[i]]` with `wc[i] = N`)
    and nothing beyond: `test_consistency` answers `false`, no `oob` -/
example : testConsistencyC Pepper.C19.ex1 "AAAA AAAA".toList = .ok false := by decide +kernel

end Pepper.C19Safe.Props
