import PepperProofs.Fs
/-!
# C20 — runs with distinct output names do not interfere

Model: `PepperModel/Fs.lean`.  `footprintOf` mirrors the file-name logic of the three command-line
tools (`compiler.main`, `spurious_design.main/design` + `find_file`, `finish.main/finish`): which files a
run opens for reading (`reads`), tests for existence (`probes`) and creates / truncates / removes
(`writes`).  The second half of the model is an abstract file system with processes whose next
operation may depend on everything they have read so far, schedules (= interleavings) and sequential
execution.

(a) `footprints_disjoint`: distinct names ⇒ disjoint footprints (the scratch files `t.eq/.wc/.st/.sp` of
different temp names can never coincide, by injectivity of string append; collisions between an
arbitrary explicit name and a derived scratch name are excluded by the decidable `sideCond`).
(b) `commute`: for any list of processes with pairwise independent footprints, every complete schedule
ends in the same files as running them one after another in any order, and every process reads the
same values.  (c) `noninterference` puts (a) and (b) together for N tool runs.

**Partial** with respect to the English property in one respect only, which is not a statement about
this model: that the real processes touch nothing outside `footprintOf` is an operating-system-level
fact, observed by the harness (`strace` + directory snapshots), not proved.
-/
namespace Pepper.C20
open Pepper.Fs

/-- Scratch files of two different temp names never coincide, whichever of the four extensions they
    carry: `t ++ e = t' ++ e'` with `e, e' ∈ {.eq,.wc,.st,.sp}` forces `t = t'`. -/
theorem scratch_names_injective {t t' p : String} (h : t ≠ t') (hp : p ∈ tempFiles t) : p ∉ tempFiles t' :=
  tempFiles_disjoint h hp

/-- (a) Two runs (each a compile, a design run or a finish, with any options) whose explicitly given
    names — `--output`, `--save`, `--seqs`, `--strands` after defaulting, and the temp names — are
    pairwise distinct (`namesDistinct`) and which pass the decidable cross-collision check `sideCond`
    (no result or input name of one is literally a scratch file `<temp>.eq/.wc/.st/.sp` of the other; no
    input of one is a result name of the other): their write sets are disjoint and neither reads, or
    tests the existence of, a file the other writes. -/
theorem footprints_disjoint {A B : Invocation} (hn : namesDistinct A B = true) (hs : sideCond A B = true) :
    (∀ p ∈ (footprintOf A).writes, p ∉ (footprintOf B).writes) ∧
    (∀ p, p ∈ (footprintOf A).reads ∨ p ∈ (footprintOf A).probes → p ∉ (footprintOf B).writes) ∧
    (∀ p, p ∈ (footprintOf B).reads ∨ p ∈ (footprintOf B).probes → p ∉ (footprintOf A).writes) := by
  obtain ⟨h1, h2, h3⟩ := indep_of_namesDistinct hn hs
  exact ⟨h1, fun p hp => h2 p (List.mem_append.2 hp), fun p hp => h3 p (List.mem_append.2 hp)⟩

/-- One direction of the cross-collision check (`sideCond A B = crossFree A B && crossFree B A`; apply it both ways)
    holds as soon as a simple naming discipline is followed: no result or
    input name of `A` ends in `.eq`, `.wc`, `.st` or `.sp`, and no input of `A` is a result name of `B`. -/
theorem crossFree_of_naming_discipline {A B : Invocation}
    (h : ∀ n, n ∈ outNames A ∨ n ∈ observes A → hasTempExt n = false)
    (hio : ∀ n ∈ observes A, n ∉ outNames B) : crossFree A B = true :=
  crossFree_iff.2 ⟨fun n hn _ _ => not_mem_tempFiles_of_ext (h n hn), hio⟩

/-- (b) Commutation, for N processes.  `js` is any list of processes with declared footprints such that
    each process stays inside its footprint on every branch (`Within`) and the footprints are pairwise
    independent (disjoint write sets, nobody reads another's write set).  Then for EVERY schedule `s`
    (which process moves at each step) that lets all of them finish, and for every order `js'` of
    running them one after another: the final file systems hold the same files with the same contents,
    and in both executions every process reads exactly the values it reads when run alone from the
    initial file system `fs0`. -/
theorem commute {js js' : List Job} (hperm : js'.Perm js)
    (hw : ∀ j ∈ js, j.proc.Within j.reads j.writes) (hi : js.Pairwise Indep)
    (fs0 : Fs) (s : List Nat) (hc : (runSched s (Config.init fs0 js)).complete = true) :
    Fs.same (runSched s (Config.init fs0 js)).fs (runSeq fs0 js').1 ∧
    (runSched s (Config.init fs0 js)).logs = js.map (fun j => (j.proc.run fs0 []).2) ∧
    (runSeq fs0 js').2 = js'.map (fun j => (j.proc.run fs0 []).2) := by
  obtain ⟨a1, a2⟩ := sched_spec hw hi fs0 s hc
  obtain ⟨b1, b2⟩ := seq_spec_perm hperm hw hi fs0
  exact ⟨a2.same b2, a1, b1⟩

/-- Any two interleavings that let all processes finish end in the same files and the same read values. -/
theorem commute_schedules {js : List Job} (hw : ∀ j ∈ js, j.proc.Within j.reads j.writes) (hi : js.Pairwise Indep)
    (fs0 : Fs) (s s' : List Nat) (hc : (runSched s (Config.init fs0 js)).complete = true)
    (hc' : (runSched s' (Config.init fs0 js)).complete = true) :
    Fs.same (runSched s (Config.init fs0 js)).fs (runSched s' (Config.init fs0 js)).fs ∧
    (runSched s (Config.init fs0 js)).logs = (runSched s' (Config.init fs0 js)).logs := by
  obtain ⟨a1, a2, a3⟩ := commute (List.Perm.refl js) hw hi fs0 s hc
  obtain ⟨b1, b2, _⟩ := commute (List.Perm.refl js) hw hi fs0 s' hc'
  exact ⟨Fs.same_trans a1 (Fs.same_symm b1), a2.trans b2.symm⟩

/-- Sequential execution in any two orders gives the same files. -/
theorem sequential_order_irrelevant {js js' : List Job} (hperm : js'.Perm js)
    (hw : ∀ j ∈ js, j.proc.Within j.reads j.writes) (hi : js.Pairwise Indep) (fs0 : Fs) :
    Fs.same (runSeq fs0 js).1 (runSeq fs0 js').1 :=
  (seq_spec_perm (List.Perm.refl js) hw hi fs0).2.same (seq_spec_perm hperm hw hi fs0).2

/-- N runs with pairwise distinct names and no cross-collisions have pairwise independent footprints,
    whatever the processes do inside them. -/
theorem footprints_pairwise {runs : List (Invocation × Proc)}
    (hn : runs.Pairwise (fun a b => namesDistinct a.1 b.1 = true ∧ sideCond a.1 b.1 = true)) :
    (runs.map (fun r => (⟨r.2, observes r.1, writesOf r.1⟩ : Job))).Pairwise Indep := by
  rw [List.pairwise_map]
  exact hn.imp (fun ⟨h1, h2⟩ => indep_of_namesDistinct h1 h2)

/-- (a)+(b): the property for N concurrent tool runs.  `runs` pairs each command line with ANY process
    that only reads / probes files in that command line's `reads ∪ probes` and only writes files in its
    `writes` (this is what the harness observes of the real tools).  If the names are pairwise distinct
    and free of cross-collisions, every interleaving in which all runs finish produces the same files
    as running them one after another in any order, and every run reads the same values either way. -/
theorem noninterference {runs runs' : List (Invocation × Proc)} (hperm : runs'.Perm runs)
    (hn : runs.Pairwise (fun a b => namesDistinct a.1 b.1 = true ∧ sideCond a.1 b.1 = true))
    (hw : ∀ r ∈ runs, r.2.Within (observes r.1) (writesOf r.1))
    (fs0 : Fs) (s : List Nat)
    (hc : (runSched s (Config.init fs0 (runs.map (fun r => ⟨r.2, observes r.1, writesOf r.1⟩)))).complete = true) :
    Fs.same (runSched s (Config.init fs0 (runs.map (fun r => ⟨r.2, observes r.1, writesOf r.1⟩)))).fs
            (runSeq fs0 (runs'.map (fun r => ⟨r.2, observes r.1, writesOf r.1⟩))).1 ∧
    (runSched s (Config.init fs0 (runs.map (fun r => ⟨r.2, observes r.1, writesOf r.1⟩)))).logs =
      runs.map (fun r => (r.2.run fs0 []).2) ∧
    (runSeq fs0 (runs'.map (fun r => ⟨r.2, observes r.1, writesOf r.1⟩))).2 =
      runs'.map (fun r => (r.2.run fs0 []).2) := by
  have hw' : ∀ j ∈ runs.map (fun r => (⟨r.2, observes r.1, writesOf r.1⟩ : Job)), j.proc.Within j.reads j.writes := by
    intro j hj
    obtain ⟨r, hr, rfl⟩ := List.mem_map.1 hj
    exact hw r hr
  obtain ⟨h1, h2, h3⟩ := commute (hperm.map _) hw' (footprints_pairwise hn) fs0 s hc
  refine ⟨h1, ?_, ?_⟩
  · rw [h2, List.map_map]; rfl
  · rw [h3, List.map_map]; rfl

/-- The straight-line process of a tool run (read the inputs, then write each file of the write set with
    opaque contents that may depend on everything read; a design run without `--just-files` re-reads
    its `.sp` file, writes the output and removes its scratch files) stays inside `footprintOf`. -/
theorem tool_process_within_footprint (i : Invocation) (content : Path → List (Option String) → String) :
    (Proc.ofOps (toolOps i content) []).Within ((footprintOf i).reads ++ (footprintOf i).probes) (footprintOf i).writes :=
  toolJob_within i content

/-! ### non-vacuity (`decide +kernel`: no axiom is added) -/

/-- defaulting rules of `compiler.main`: `.sys` stripped, `.pil` / `.save` appended; `--des`; explicit names;
    an empty `--output ""` counts as absent -/
example : footprint .compile { arg0 := "Circuit.sys", sources := ["Circuit.sys", "And31.comp"] } =
    ⟨["Circuit.sys", "And31.comp"], ["Circuit.sys", "And31.comp"], ["Circuit.pil", "Circuit.save"]⟩ := by decide +kernel
example : (footprint .compile { arg0 := "a.b.comp", des := true, save := some "x" }).writes = ["a.b.des", "x"] := by decide +kernel
example : (footprint .compile { arg0 := "Circuit", output := some "", save := some "s1" }).writes = ["Circuit.pil", "s1"] := by decide +kernel
/-- only one suffix is stripped, and only a final one -/
example : (footprint .compile { arg0 := "x.sys.sys" }).writes = ["x.sys.pil", "x.sys.save"] := by decide +kernel
example : (footprint .compile { arg0 := "x.sysy" }).writes = ["x.sysy.pil", "x.sysy.save"] := by decide +kernel

/-- `find_file` + defaults of `spurious_design.main`: `Circuit` resolves to `Circuit.pil`; with `--just-files`
    the four scratch files are written (the `.sp` file too) but not the `.mfe` output -/
example : footprint .design { arg0 := "Circuit", existing := ["Circuit.pil"] } =
    ⟨["Circuit.pil"], ["Circuit", "Circuit.pil"], ["Circuit.eq", "Circuit.wc", "Circuit.st", "Circuit.sp"]⟩ := by decide +kernel
example : (footprint .design { arg0 := "Circuit", existing := ["Circuit.pil"], tempname := some "t7", justFiles := false }).writes =
    ["t7.eq", "t7.wc", "t7.st", "t7.sp", "Circuit.mfe"] := by decide +kernel
/-- a file literally called `Circuit` wins over `Circuit.pil`, and then nothing is stripped -/
example : footprint .design { arg0 := "Circuit", existing := ["Circuit.pil", "Circuit"], justFiles := false, output := some "o" } =
    ⟨["Circuit", "Circuit.sp"], ["Circuit"], ["Circuit.eq", "Circuit.wc", "Circuit.st", "Circuit.sp", "o"]⟩ := by decide +kernel
/-- no input file: `parser.error`, nothing is touched -/
example : (footprint .design { arg0 := "Circuit", existing := ["Other.pil"] }).writes = [] := by decide +kernel

/-- defaults of `finish.main` -/
example : footprint .finish { arg0 := "Circuit.mfe" } =
    ⟨["Circuit.save", "Circuit.mfe"], ["Circuit.save", "Circuit.mfe"], ["Circuit.seqs"]⟩ := by decide +kernel
example : (footprint .finish { arg0 := "c", seqs := some "s1.seqs", strands := some "s1.strands", save := some "a.save" }) =
    ⟨["a.save", "c.mfe"], ["a.save", "c.mfe"], ["s1.seqs", "s1.strands"]⟩ := by decide +kernel

/-- two design runs, a compile and a finish in one directory with distinct names -/
abbrev exD1 : Invocation := ⟨.design, { arg0 := "Circuit", existing := ["Circuit.pil"], tempname := some "t1" }⟩
abbrev exD2 : Invocation := ⟨.design, { arg0 := "Circuit", existing := ["Circuit.pil"], tempname := some "t2" }⟩
abbrev exC : Invocation := ⟨.compile, { arg0 := "Circuit.sys", output := some "o1.pil", save := some "o1.save", sources := ["Circuit.sys"] }⟩
abbrev exF : Invocation := ⟨.finish, { arg0 := "Circuit", seqs := some "s1.seqs" }⟩

/-- the hypotheses of `footprints_disjoint` hold for all six pairs … -/
example : [exD1, exD2, exC, exF].Pairwise (fun a b => namesDistinct a b = true ∧ sideCond a b = true) := by decide +kernel
/-- … fail for two design runs that share the (default) temp name … -/
example : namesDistinct ⟨.design, { arg0 := "Circuit", existing := ["Circuit.pil"], output := some "a.mfe" }⟩
    ⟨.design, { arg0 := "Circuit.pil", existing := ["Circuit.pil"], output := some "b.mfe" }⟩ = false := by decide +kernel
/-- … for a compile into the default `Circuit.pil` next to a design run that reads it … -/
example : sideCond ⟨.compile, { arg0 := "Circuit.sys" }⟩ exD1 = false := by decide +kernel
/-- … and the side condition catches the cross-collision of an output literally named like a scratch file
    although all given names are distinct; the write sets then really overlap -/
example : namesDistinct ⟨.compile, { arg0 := "Circuit", output := some "t1.st", save := some "x.save" }⟩ exD1 = true ∧
    sideCond ⟨.compile, { arg0 := "Circuit", output := some "t1.st", save := some "x.save" }⟩ exD1 = false ∧
    "t1.st" ∈ writesOf ⟨.compile, { arg0 := "Circuit", output := some "t1.st", save := some "x.save" }⟩ ∧
    "t1.st" ∈ writesOf exD1 := by decide +kernel

/-- three straight-line processes: each reads the shared source and writes its own files, the contents
    depending on what was read -/
abbrev exContent (tag : String) : Path → List (Option String) → String :=
  fun _ log => tag ++ ":" ++ String.join (log.map (fun v => v.getD "-"))
abbrev exRuns : List (Invocation × Proc) :=
  [(exD1, Proc.ofOps (toolOps exD1 (exContent "d1")) []), (exC, Proc.ofOps (toolOps exC (exContent "c")) []),
   (exD2, Proc.ofOps (toolOps exD2 (exContent "d2")) [])]
abbrev exJobs : List Job := exRuns.map (fun r => ⟨r.2, observes r.1, writesOf r.1⟩)
abbrev exFs0 : Fs := ⟨[("Circuit.pil", some "P"), ("Circuit.sys", some "S")]⟩

/-- the hypotheses of `noninterference` (hence of `commute`) hold for them … -/
example : exRuns.Pairwise (fun a b => namesDistinct a.1 b.1 = true ∧ sideCond a.1 b.1 = true) ∧
    ∀ r ∈ exRuns, r.2.Within (observes r.1) (writesOf r.1) := by
  refine ⟨by decide +kernel, ?_⟩
  intro r hr
  simp only [exRuns, List.mem_cons, List.not_mem_nil, or_false] at hr
  rcases hr with rfl | rfl | rfl <;> exact toolJob_within _ _

/-- … there are 13!/(5!·3!·5!) = 72072 interleavings of their 5, 3 and 5 operations; a sample of complete schedules, among them
    the sequential one and a round-robin one, produce the very same directory -/
example : (runSched [0,0,0,0,0,1,1,1,2,2,2,2,2] (Config.init exFs0 exJobs)).complete = true ∧
    (runSched [0,1,2,0,1,2,0,1,2,0,2,0,2] (Config.init exFs0 exJobs)).complete = true ∧
    (runSched [0,1,2,0,1,2,0,1,2,0,2,0,2] (Config.init exFs0 exJobs)).fs.read "o1.save" = some "c:S" ∧
    (runSched [2,2,1,0,0,2,1,1,0,0,2,0,2] (Config.init exFs0 exJobs)).fs.read "t2.wc" = some "d2:P" ∧
    (runSeq exFs0 exJobs).1.read "t2.wc" = some "d2:P" := by decide +kernel

example : interleavings [2, 2] = [[0,0,1,1],[0,1,0,1],[0,1,1,0],[1,0,0,1],[1,0,1,0],[1,1,0,0]] := by decide +kernel

/-- The independence hypothesis is needed: two processes that copy a shared file `x` to `x` with a mark
    appended (write sets overlap) — the 6 interleavings end in 3 different contents of `x`. -/
abbrev exClash : List Job :=
  let mk := fun (m : String) => (⟨Proc.ofOps [.read "x", .write "x" (fun l => String.join (l.map (fun v => v.getD "")) ++ m)] [],
                                   ["x"], ["x"]⟩ : Job)
  [mk "a", mk "b"]
example : (interleavings [2, 2]).map (fun s => (runSched s (Config.init ⟨[("x", some "0")]⟩ exClash)).fs.read "x") =
    [some "0ab", some "0b", some "0a", some "0b", some "0a", some "0ba"] := by decide +kernel

/-- and "nobody reads another's write set" is needed too: a reader of `y` next to a writer of `y`
    (write sets disjoint) observes different values under different interleavings -/
abbrev exRace : List Job :=
  [⟨Proc.ofOps [.read "y"] [], ["y"], []⟩, ⟨Proc.ofOps [.write "y" (fun _ => "new")] [], [], ["y"]⟩]
example : (runSched [0, 1] (Config.init ⟨[("y", some "old")]⟩ exRace)).logs = [[some "old"], []] ∧
    (runSched [1, 0] (Config.init ⟨[("y", some "old")]⟩ exRace)).logs = [[some "new"], []] := by decide +kernel

end Pepper.C20
