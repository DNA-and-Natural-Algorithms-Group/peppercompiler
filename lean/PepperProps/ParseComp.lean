import PepperProofs.ParseComp
import PepperProps.C09
/-!
# ParseComp — the statement-level text parser of `.comp` files (supports C01 / C09)

Not one of the numbered properties: it closes the gap between *text* and the component source AST (`Comp.Src`) on
which the theorems of C01, C09, C10, … are stated.  Model: `PepperModel/ParseComp.lean` — `utils.match` and the
regexes of `component_parser_regex.py` transcribed combinator by combinator into a backtracking engine (greedy
quantifiers that give characters back, optional groups, ordered alternatives: the first complete match in the
engine's order is the match, as in Python's `re`), `parse_constraints` / `parse_constraint` / `parse_signal`, the
`float()` acceptance test, and the statement loop of `component_parser.load_component` from the substituted
document on.  Tied to the real functions by the per-line correspondence `harness/parsecorr_comp.py` (real
`parse_*_statement` functions and the real loop with a recording `Component`, generated valid and malformed lines and
every line of every example).  ASCII input; non-ASCII is outside the model.

Definitions used in the statements (`PepperProofs/ParseCompDefs.lean`; `noAnonNames`, the hypothesis of part (d), in
`PepperProofs/ParseComp.lean`):
* `renderStmtWith sp s` / `renderDeclWith sp d` — the canonical spelling `harness/progen.py` uses, the `i`-th gap
  filled with `sp i`; `renderStmt` / `renderDecl` use single spaces.  `SpOk sp`: every gap is a non-empty run of
  spaces and tabs.
* `wfStmt`, `wfDecl` (decidable): names non-empty over `[A-Za-z0-9_-]` (`nameOk`), item lists / strand lists /
  kinetic name lists non-empty, quoted bodies non-empty over `[?\w\s]`, number texts over their regex class and
  accepted by `float()`, structure text non-empty, not starting with white space, passing the HU / dot-paren
  character check; parameter names non-empty without white space and commas.
* `accStmt`, `accDecl` (decidable): the shape of whatever is accepted — as `wf…` for `sequence` / `strand`
  statements, the declare line's name and ports and a structure's own name, option, and text; but the STRAND names
  inside a `structure` statement and the structure names inside a `kinetic` statement are only stripped pieces
  between `+` signs (`looseStrand`, `looseIn`, `looseOut`): the real regexes accept arbitrary text there.
* `docLines text` — the lines the loop looks at: pieces between `\n`, comment regex applied (a no-op, `docLines_eq`),
  stripped, empty ones dropped.
-/
namespace Pepper.ParseComp.Props
open Pepper.Comp Pepper.ParseComp

/-! ### (a) parsing the canonical spelling gives the AST back -/

/-- **parse ∘ render = id, any spacing.**  For every statement AST satisfying `wfStmt` and every way of filling the
    gaps with non-empty runs of spaces / tabs, the statement loop's body (`command = line.split()[0]`, dispatch, the
    statement regex with all its backtracking, `parse_constraints`, `float`, `int`) returns exactly that AST. -/
theorem parse_render (sp : Nat → String) (hsp : SpOk sp) (s : Stmt) (h : wfStmt s = true) :
    parseLine (renderStmtWith sp s) = .ok s := by
  unfold parseLine renderStmtWith
  rw [String.toList_ofList]
  exact parseLineL_render hsp s h

/-- the spelling with single spaces -/
theorem parse_render_single (s : Stmt) (h : wfStmt s = true) : parseLine (renderStmt s) = .ok s :=
  parse_render _ spOk_single s h

/-- the declare line (`parse_declare_statement`, `parse_signal`), parameters / inputs / outputs possibly empty -/
theorem parse_render_declare (sp : Nat → String) (hsp : SpOk sp) (d : Decl) (h : wfDecl d = true) :
    parseDeclare (renderDeclWith sp d) = .ok d := by
  unfold parseDeclare renderDeclWith
  rw [String.toList_ofList]
  exact parseDeclareL_render hsp d h

theorem parse_render_declare_single (d : Decl) (h : wfDecl d = true) : parseDeclare (renderDecl d) = .ok d :=
  parse_render_declare _ spOk_single d h

/-- a port: `seq`, `seq*`, `seq(struct)`, `seq*(struct)` -/
theorem parse_render_port (p : Port) (h : wfPort p = true) : parseSignal (renderPort p).toList = .ok p := by
  unfold renderPort
  rw [String.toList_ofList]
  exact parseSignal_render p h

/-- non-trivial statements of each kind satisfy `wfStmt` (and the theorem applies to them) -/
example : wfStmt (.seq "toe-1" [.nuc "5N ?S".toList, .ref "a_b" true, .domains "X" false] (some 12)) = true := by decide +kernel
example : wfStmt (.strand true "S" [.ref "x" false, .nuc "3N".toList, .domains "y-2" true] none) = true := by decide +kernel
example : wfStmt (.struct (.value "1.5") "Gate" ["S", "T-2"] true "U3 H2(U4 +) U1".toList) = true := by decide +kernel
example : wfStmt (.struct .noOpt "G" ["S"] false "..((3.)) 2.".toList) = true := by decide +kernel
example : wfStmt (.kinetic (some "1e3") (some "2.5E6") ["A", "B"] ["C"]) = true := by decide +kernel
example : wfStmt (.kinetic none none ["A"] ["B", "C"]) = true := by decide +kernel
example : wfDecl ⟨"Comp-1", ["n", "toe"], [⟨"x", true, some "S"⟩, ⟨"y", false, none⟩], [⟨"z", false, some "T"⟩]⟩ = true := by decide +kernel
/-- evaluated: the canonical spelling of one statement of each kind and of a declare line -/
theorem exSeq_render : renderStmt (.seq "toe-1" [.nuc "5N ?S".toList, .ref "a_b" true, .domains "X" false] (some 12)) =
    "sequence toe-1 = \"5N ?S\" a_b* domains(X) : 12" := rfl
theorem exStruct_render : renderStmt (.struct (.value "1.5") "Gate" ["S", "T-2"] true "U3 H2(U4 +) U1".toList) =
    "structure [1.5nt] Gate = S + T-2 : domain U3 H2(U4 +) U1" := rfl
theorem exKinetic_render : renderStmt (.kinetic (some "1e3") (some "2.5E6") ["A", "B"] ["C"]) =
    "kinetic [1e3 /M/s < k < 2.5E6 /M/s] A + B -> C" := rfl
theorem exDecl_render :
    renderDecl ⟨"Comp-1", ["n", "toe"], [⟨"x", true, some "S"⟩, ⟨"y", false, none⟩], [⟨"z", false, some "T"⟩]⟩ =
    "declare component Comp-1(n, toe): x*(S) + y -> z(T)" := rfl
example : renderStmt (.seq "toe-1" [.nuc "5N ?S".toList, .ref "a_b" true, .domains "X" false] (some 12)) =
    "sequence toe-1 = \"5N ?S\" a_b* domains(X) : 12" := exSeq_render
example : renderStmt (.struct (.value "1.5") "Gate" ["S", "T-2"] true "U3 H2(U4 +) U1".toList) =
    "structure [1.5nt] Gate = S + T-2 : domain U3 H2(U4 +) U1" := exStruct_render
example : renderStmt (.kinetic (some "1e3") (some "2.5E6") ["A", "B"] ["C"]) =
    "kinetic [1e3 /M/s < k < 2.5E6 /M/s] A + B -> C" := exKinetic_render
example : renderDecl ⟨"Comp-1", ["n", "toe"], [⟨"x", true, some "S"⟩, ⟨"y", false, none⟩], [⟨"z", false, some "T"⟩]⟩ =
    "declare component Comp-1(n, toe): x*(S) + y -> z(T)" := exDecl_render

/-- the theorems at concrete strings: these lines are accepted with exactly these ASTs -/
example : parseLine "sequence toe-1 = \"5N ?S\" a_b* domains(X) : 12" =
    .ok (.seq "toe-1" [.nuc "5N ?S".toList, .ref "a_b" true, .domains "X" false] (some 12)) := by
  rw [← exSeq_render]
  exact parse_render_single _ (by decide +kernel)
example : parseLine "structure [1.5nt] Gate = S + T-2 : domain U3 H2(U4 +) U1" =
    .ok (.struct (.value "1.5") "Gate" ["S", "T-2"] true "U3 H2(U4 +) U1".toList) := by
  rw [← exStruct_render]
  exact parse_render_single _ (by decide +kernel)
example : parseLine "kinetic [1e3 /M/s < k < 2.5E6 /M/s] A + B -> C" =
    .ok (.kinetic (some "1e3") (some "2.5E6") ["A", "B"] ["C"]) := by
  rw [← exKinetic_render]
  exact parse_render_single _ (by decide +kernel)
example : parseDeclare "declare component Comp-1(n, toe): x*(S) + y -> z(T)" =
    .ok ⟨"Comp-1", ["n", "toe"], [⟨"x", true, some "S"⟩, ⟨"y", false, none⟩], [⟨"z", false, some "T"⟩]⟩ := by
  rw [← exDecl_render]
  exact parse_render_declare_single _ (by decide +kernel)

/-! ### (b) what is accepted has well-formed names -/

/-- the name class is `[A-Za-z0-9_-]` -/
theorem isName_iff (c : Char) :
    isName c = true ↔ (c.isUpper = true ∨ c.isLower = true ∨ c.isDigit = true ∨ c = '_' ∨ c = '-') := by
  simp only [isName, isWord, Char.isAlphanum, Char.isAlpha, Bool.or_eq_true, beq_iff_eq, or_assoc]

theorem nameOk_iff (n : String) : nameOk n = true ↔ n.toList ≠ [] ∧ ∀ c ∈ n.toList, isName c = true :=
  nameOkL_iff

/-- **accepted statements have well-formed names.**  Whatever line the statement loop accepts: in a `sequence` or
    `strand` statement the defined name and every name in the item list (`x`, `x*`, `domains(x)`, `domains(x*)`) is
    non-empty over `[A-Za-z0-9_-]` and every quoted body is non-empty over `[?\w\s]`; a `structure` statement's name
    likewise, its option is absent, `no-opt`, or a text over `[\w.]` that `float()` accepts, its structure text is
    non-empty over `[HU.()+\d\s]` and passes the HU / dot-paren character check; kinetic rate texts are over `[\deE.]`
    and accepted by `float()`; declared lengths are numerals (they are `Nat`s).  Strand names in a `structure`
    statement and structure names in a `kinetic` statement are only guaranteed to be stripped pieces between `+` signs
    (without `:` resp. without `[`, `]`, `>` / line breaks): the real regexes accept arbitrary text there; such names
    are checked against the tables later (`Comp.addStmt`: `undefinedStrand`, `undefinedStruct`). -/
theorem parse_names_wellformed (line : String) (s : Stmt) (h : parseLine line = .ok s) : accStmt s = true :=
  parseLineL_acc h

/-- the declare line: component name, port sequence names and port structure names non-empty over `[A-Za-z0-9_-]`;
    parameters non-empty stripped pieces between commas -/
theorem parse_names_wellformed_declare (line : String) (d : Decl) (h : parseDeclare line = .ok d) : accDecl d = true :=
  parseDeclareL_acc h

/-- `accStmt` spelled out for `sequence` statements -/
theorem accepted_sequence (line : String) (n : String) (items : List SrcItem) (len : Option Nat)
    (h : parseLine line = .ok (.seq n items len)) :
    (n.toList ≠ [] ∧ ∀ c ∈ n.toList, isName c = true) ∧
    ∀ it ∈ items, match it with
      | .nuc t => t ≠ [] ∧ ∀ c ∈ t, isBodyCh c = true
      | .ref m _ => m.toList ≠ [] ∧ ∀ c ∈ m.toList, isName c = true
      | .domains m _ => m.toList ≠ [] ∧ ∀ c ∈ m.toList, isName c = true :=
  nameItems_spelled (accStmt_seq.mp (parse_names_wellformed line _ h))

/-- `accStmt` spelled out for `strand` statements -/
theorem accepted_strand (line : String) (d : Bool) (n : String) (items : List SrcItem) (len : Option Nat)
    (h : parseLine line = .ok (.strand d n items len)) :
    (n.toList ≠ [] ∧ ∀ c ∈ n.toList, isName c = true) ∧
    ∀ it ∈ items, match it with
      | .nuc t => t ≠ [] ∧ ∀ c ∈ t, isBodyCh c = true
      | .ref m _ => m.toList ≠ [] ∧ ∀ c ∈ m.toList, isName c = true
      | .domains m _ => m.toList ≠ [] ∧ ∀ c ∈ m.toList, isName c = true :=
  nameItems_spelled (accStmt_strand.mp (parse_names_wellformed line _ h))

/-- `accStmt` spelled out for `structure` statements: name, structure text, option -/
theorem accepted_structure (line : String) (opt : OptSrc) (n : String) (strands : List String) (dom : Bool) (text : List Char)
    (h : parseLine line = .ok (.struct opt n strands dom text)) :
    (n.toList ≠ [] ∧ ∀ c ∈ n.toList, isName c = true) ∧
    (text ≠ [] ∧ ∀ c ∈ text, isStructCh c = true) ∧
    (∀ t, opt = .value t → (∀ c ∈ t.toList, isOptCh c = true) ∧ pyFloatOk t.toList = true) ∧
    (∀ x ∈ strands, strip x.toList = x.toList ∧ ∀ c ∈ x.toList, c ≠ ':' ∧ c ≠ '+') := by
  obtain ⟨hn, hnum, hs, hne, hall, -⟩ := accStmt_struct.mp (parse_names_wellformed line _ h)
  refine ⟨nameOkL_iff.mp hn, ⟨hne, hall⟩, fun t e => ?_, fun x hx => ?_⟩
  · simpa [numOk] using hnum t e
  · simpa [looseStrand, strippedL] using hs x hx

/-! ### (c) the document parser is total and line-local -/

/-- the comment regex of the loop never matches (a line from `split("\n")` contains no `\n`): the lines looked at
    are the stripped non-empty pieces between newlines -/
theorem docLines_eq (text : String) :
    docLines text = ((((splitOn '\n' text.toList).map strip).filter (fun l => !l.isEmpty)).map String.ofList) := by
  unfold docLines
  rw [docLinesL_eq]

/-- **`parseDoc` is total and line-local.**  `parseDoc` is a total function; it accepts a document iff the declare
    line parses and every non-empty stripped line parses (none of them starting with a command the loop refuses:
    `declare`, `equal`, `super-sequence`, `sup-sequence`, or any other word than `sequence` / `strand` / `structure` /
    `kinetic`); and then the resulting source is the declare line's header together with the per-line results, in
    order.  So the per-line correspondence covers whole documents. -/
theorem parseDoc_total_and_line_local (text decl : String) :
    ((∃ src, parseDoc text decl = .ok src) ↔
        (∃ d, parseDeclare decl = .ok d) ∧ ∀ l ∈ docLines text, ∃ st, parseLine l = .ok st) ∧
    (∀ src, parseDoc text decl = .ok src ↔
        ∃ d, parseDeclare decl = .ok d ∧ src = ⟨d.name, d.params, d.inputs, d.outputs, src.stmts⟩ ∧
          (docLines text).map parseLine = src.stmts.map .ok) ∧
    (∀ l st, parseLine l = .ok st →
        ∃ w, firstWord l.toList = some w ∧ w ∉ forbiddenWords ∧ (w = sSequence ∨ w = sStrand ∨ w = sStructure ∨ w = sKinetic)) :=
  ⟨parseDoc_accepts_iff text decl, parseDoc_ok_iff text decl, fun _ _ h => parseLineL_not_forbidden h⟩

/-- the refused command words, spelled out -/
theorem forbiddenWords_def :
    forbiddenWords = ["declare".toList, "equal".toList, "super-sequence".toList, "sup-sequence".toList] := by
  repeat rw [String.toList_ofList]
  rfl

/-- a second `declare`, `equal`, `super-sequence`, `sup-sequence` lines and unknown commands are rejected whatever follows -/
example : parseLine "super-sequence x = a b" = .error .command := by
  unfold parseLine
  rw [String.toList_ofList]
  decide +kernel
example : parseLine "equal a b" = .error .command := by
  unfold parseLine
  rw [String.toList_ofList]
  decide +kernel
example : parseLine "declare component x: a -> b" = .error .command := by
  unfold parseLine
  rw [String.toList_ofList]
  decide +kernel

/-! ### (d) from document TEXT to a well-formed specification (C09) -/

/-- what the parser accepts satisfies C09's hypothesis `UserNamesOk`, except that it may use a reserved name
    `_Anon<digits>` (the parser accepts `sequence _Anon0 = "5N"`; finding F16) -/
theorem userNamesOk_of_parse (text decl : String) (src : Src) (h : parseDoc text decl = .ok src)
    (hanon : noAnonNames src = true) : UserNamesOk src = true :=
  userNamesOk_of_parseDocL h hanon

/-- **C09 at the level of text.**  For EVERY declare line and EVERY document text (valid, corrupted, arbitrary
    bytes of ASCII): if the parser accepts it and the compile model succeeds on the resulting source, the emitted
    specification is well formed (every name defined once and before use, every super-sequence and strand of the
    length of its items, every structure balanced with one segment per strand of that strand's length) — provided no
    sequence name in the text has the reserved form `_Anon<digits>`.  No well-formedness hypothesis on the text. -/
theorem text_output_wellformed (text decl : String) (src : Src) (n : Nat) (pfx : String) (a : Nat) (st : Comp.St) (a' : Nat)
    (hparse : parseDoc text decl = .ok src) (hload : Comp.load src n pfx a = .ok (st, a'))
    (hanon : noAnonNames src = true) :
    WellFormed.WellFormedPil (Emit.compStmts st) = true :=
  Pepper.C09.output_wellformed src n pfx a st a' hload (userNamesOk_of_parse text decl src hparse hanon)

/-- the wording of C09 for text: rejected by the parser, rejected by the compiler, or compiled to a well-formed
    specification -/
theorem text_rejects_or_wellformed (text decl : String) (n : Nat) (pfx : String) (a : Nat) :
    (∃ e, parseDoc text decl = .error e) ∨
    (∃ src, parseDoc text decl = .ok src ∧
      (noAnonNames src = true →
        (∃ e, Comp.load src n pfx a = .error e) ∨
        (∃ st a', Comp.load src n pfx a = .ok (st, a') ∧ WellFormed.WellFormedPil (Emit.compStmts st) = true))) :=
  error_or_ok _ fun src hp hanon =>
    error_or_ok_pair _ fun st a' hl => text_output_wellformed text decl src n pfx a st a' hp hl hanon

end Pepper.ParseComp.Props
