import PepperProofs.ParseFixed
import PepperProps.C12
/-!
# ParseFixed — the text of a `--fixed` file (supports C12)

Not one of the numbered properties: it closes the gap between the TEXT of a fixed file and the `(kind, name, string)`
entries on which C12 is stated.  Model: `PepperModel/ParseFixed.lean` — `parse_fixed` (the regex after `utils.match`
rewrote it, run on the backtracking engine of `PepperModel/ParseComp.lean`), `load_fixed` (text-mode line iteration
with universal newlines, the skip regex, the list comprehension that raises at the first bad line) and the dispatch
of `compiler()` (`type_ in "sequence"` … = substring tests in code order).  Tied to the real functions by
`harness/parsecorr_fixed.py` (real `parse_fixed`, real `load_fixed` on files, the real dispatch observed through the
warnings and the emitted `.pil` of real compiles).  ASCII input; non-ASCII is outside the model.
-/
namespace Pepper.ParseFixed.Props
open Pepper.ParseComp Pepper.ParseFixed

/-- **parse ∘ render, any legal spacing.**  For every kind word over `\w`, name over `[\w-]` and sequence text over
    `ATCGNS+` (all non-empty), with one or more `\s` between kind and name, any run of `[\s+\t]` on either side of
    `=`, and white space and / or a ` #comment` at the end (a trailing newline is such white space): `parse_fixed`
    returns the kind word, the name, and the sequence text WITHOUT ITS LEADING `+` SIGNS (`eatPlus`: the class in
    front of the group is greedy and contains `+`; if the text consists of `+` signs only, one is left).
    This is the full-strength statement; the statement "returns `seq`" is false for texts that start with `+`
    (the examples below), and true for all others (`parse_render_exact`). -/
theorem parse_render (kind sep name pad1 pad2 seq tl : String) (hk : wordOk kind = true) (hsep : sepOk sep = true)
    (hn : nameOk name = true) (hp1 : padOk pad1 = true) (hp2 : padOk pad2 = true) (hs : seqOk seq = true)
    (ht : tailOk tl = true) :
    parseFixedLine (kind ++ sep ++ name ++ pad1 ++ "=" ++ pad2 ++ seq ++ tl) =
      .ok (kind, name, String.ofList (eatPlus seq.toList)) := by
  rw [parseFixedLine_eq, toList_line, parseFixedL_ok_iff.mpr (reFixed_render hk hsep hn hp1 hp2 hs ht)]
  simp only [Except.map, convT, String.ofList_toList]

theorem parse_render_exact (kind sep name pad1 pad2 seq tl : String) (hk : wordOk kind = true) (hsep : sepOk sep = true)
    (hn : nameOk name = true) (hp1 : padOk pad1 = true) (hp2 : padOk pad2 = true) (hs : seqOk seq = true)
    (hplus : noLeadingPlus seq = true) (ht : tailOk tl = true) :
    parseFixedLine (kind ++ sep ++ name ++ pad1 ++ "=" ++ pad2 ++ seq ++ tl) = .ok (kind, name, seq) := by
  have hhead : HeadNot (· == '+') seq.toList := by
    intro c r e
    unfold noLeadingPlus at hplus
    rw [e] at hplus
    simpa using hplus
  rw [parse_render kind sep name pad1 pad2 seq tl hk hsep hn hp1 hp2 hs ht,
    eatPlus_of_head hhead (seqOkL_iff.mp hs).1, String.ofList_toList]

/-- the canonical spelling `kind name = seq`, followed by any legal end of line -/
theorem parse_render_plain_tail (kind name seq tl : String) (hk : wordOk kind = true) (hn : nameOk name = true)
    (hs : seqOk seq = true) (hplus : noLeadingPlus seq = true) (ht : tailOk tl = true) :
    parseFixedLine (kind ++ " " ++ name ++ " = " ++ seq ++ tl) = .ok (kind, name, seq) := by
  have h := parse_render_exact kind " " name " " " " seq tl hk (by decide) hn (by decide) (by decide) hs hplus ht
  rw [show " = " = " " ++ ("=" ++ " ") by decide +kernel]
  simpa only [String.append_assoc] using h

theorem parse_render_plain (kind name seq : String) (hk : wordOk kind = true) (hn : nameOk name = true)
    (hs : seqOk seq = true) (hplus : noLeadingPlus seq = true) :
    parseFixedLine (kind ++ " " ++ name ++ " = " ++ seq) = .ok (kind, name, seq) := by
  simpa only [String.append_empty] using parse_render_plain_tail kind name seq "" hk hn hs hplus (by decide)

/-- the same as a line of a file (with its newline), as `load_fixed` hands it over -/
theorem parse_render_plain_nl (kind name seq : String) (hk : wordOk kind = true) (hn : nameOk name = true)
    (hs : seqOk seq = true) (hplus : noLeadingPlus seq = true) :
    parseFixedLine (kind ++ " " ++ name ++ " = " ++ seq ++ "\n") = .ok (kind, name, seq) :=
  parse_render_plain_tail kind name seq "\n" hk hn hs hplus (by decide)

/-- **documented surprise: leading `+` signs of the sequence text are lost.**  `structure s = +ACGT` fixes `s` to
    `ACGT` (one strand), not to an empty strand followed by `ACGT` -/
example : parseFixedLine "structure s = +ACGT\n" = .ok ("structure", "s", "ACGT") := by
  -- a literal is `String.ofList` of its characters by definition; evaluating its `toList` would decode UTF-8
  rw [parseFixedLine_eq, String.toList_ofList]
  decide +kernel

/-- `+` is a member of the class around `=`, and a text of `+` signs keeps its last one -/
example : parseFixedLine "structure s +=+ ++ # two strands?\n" = .ok ("structure", "s", "+") := by
  rw [parseFixedLine_eq, String.toList_ofList]
  decide +kernel

/-- tabs, no blanks around `=`, separator controls, CR-less line end, a trailing comment -/
example : parseFixedLine "seq\t\x1cg1-a_2=ACGTNS+A \t# note" = .ok ("seq", "g1-a_2", "ACGTNS+A") := by
  rw [parseFixedLine_eq, String.toList_ofList]
  decide +kernel

/-- **accepted lines are well-formed and are rendered lines.**  Whatever `parse_fixed` accepts: the kind word is
    non-empty over `\w`, the name non-empty over `[\w-]`, the sequence text non-empty over `ATCGNS+`, and the line is
    the spelling of these three with legal gaps (so, with `parse_render`, the accepted lines are exactly the rendered ones) -/
theorem accepted_line_wellformed (line t n q : String) (h : parseFixedLine line = .ok (t, n, q)) :
    wordOk t = true ∧ nameOk n = true ∧ seqOk q = true ∧
    ∃ sep pad1 pad2 tl, line = t ++ sep ++ n ++ pad1 ++ "=" ++ pad2 ++ q ++ tl ∧
      sepOk sep = true ∧ padOk pad1 = true ∧ padOk pad2 = true ∧ tailOk tl = true := by
  obtain ⟨⟨t', n', q'⟩, hre, hx⟩ := parseFixedLine_ok h
  cases hx
  obtain ⟨ht, hn, hq, sep, p1, p2, tl, hline, hsep, hp1, hp2, htl⟩ := reFixed_shape hre
  refine ⟨?_, ?_, ?_, String.ofList sep, String.ofList p1, String.ofList p2, String.ofList tl,
    String.toList_inj.mp ?_, ?_, ?_, ?_, ?_⟩
  · rwa [wordOk, String.toList_ofList]
  · rwa [nameOk, String.toList_ofList]
  · rwa [seqOk, String.toList_ofList]
  · simp only [toList_line, String.toList_ofList, hline]
  · rwa [sepOk, String.toList_ofList]
  · rwa [padOk, String.toList_ofList]
  · rwa [padOk, String.toList_ofList]
  · rwa [tailOk, String.toList_ofList]

theorem isFixCh_iff (c : Char) :
    isFixCh c = true ↔ (c = 'A' ∨ c = 'T' ∨ c = 'C' ∨ c = 'G' ∨ c = 'N' ∨ c = 'S' ∨ c = '+') :=
  isFixCh_eq_true_iff

theorem isPad_iff (c : Char) : isPad c = true ↔ (isSp c = true ∨ c = '+') := isPad_eq_true_iff

/-- a line that is skipped would not parse: the order "skip test first" in `load_fixed` hides nothing -/
theorem skipped_line_does_not_parse (line : String) (h : skipLine line = true) : parseFixedLine line = .error .syntax := by
  rw [parseFixedLine_eq, parseFixedL_error_of_skipL h]
  rfl

/-- the skip test: white space only, or white space, `#`, and a comment after whose first line break only white
    space follows (for a line of a file: a blank line or a comment line) -/
theorem skipLine_iff (line : String) : skipLine line = true ↔
    ∃ ws r, line.toList = ws ++ r ∧ (∀ c ∈ ws, isSp c = true) ∧
      (r = [] ∨ ∃ body, r = '#' :: body ∧ ∀ c ∈ body.dropWhile notNl, isSp c = true) :=
  skipL_iff line.toList

/-- leading white space is a syntax error (and with it the whole compile fails): no kind word at the start -/
example : parseFixedLine " sequence a = ACGT\n" = .error .syntax := by
  rw [parseFixedLine_eq, String.toList_ofList]
  decide +kernel

/-- **the file is read line by line**: `load_fixed` succeeds with the entries `es` iff the results of `parse_fixed`
    on the non-skipped lines of the file, in order, are exactly `es` (all successes) -/
theorem loadFixed_line_local (text : String) (es : List (String × String × String)) :
    loadFixed text = .ok es ↔
      ((fileLinesS text).filter (fun l => !skipLine l)).map parseFixedLine = es.map .ok := by
  rw [loadFixed_eq_mapM]
  exact mapM_eq_ok_iff

theorem loadFixed_accepts_iff (text : String) :
    (∃ es, loadFixed text = .ok es) ↔ ∀ l ∈ fileLinesS text, skipLine l = false → ∃ x, parseFixedLine l = .ok x := by
  rw [loadFixed_eq_mapM]
  constructor
  · rintro ⟨es, h⟩ l hl hs
    exact (mapM_ok_mem h l (List.mem_filter.mpr ⟨hl, by simp [hs]⟩)).imp fun _ h => h.2
  · intro h
    exact mapM_ok_total fun l hl => h l (List.mem_filter.mp hl).1 (by simpa using (List.mem_filter.mp hl).2)

/-- … and otherwise the outcome is the one error there is (`ValueError`, the compile fails) -/
theorem loadFixed_rejects_iff (text : String) :
    loadFixed text = .error .syntax ↔ ∃ l ∈ fileLinesS text, skipLine l = false ∧ parseFixedLine l = .error .syntax := by
  rw [error_iff_not_ok, loadFixed_accepts_iff]
  simp only [error_iff_not_ok, Classical.not_forall, exists_prop]

/-- the lines of a file: their concatenation is the text after newline translation, which contains no carriage
    return; every line is non-empty, contains `\n` only as its last character, and only the last line may lack it -/
theorem fileLines_spec (text : Str) :
    (fileLines text).flatten = univNl false text ∧ (∀ c ∈ univNl false text, c ≠ '\r') ∧
    ∀ pre l post, fileLines text = pre ++ l :: post → LineOk post.isEmpty l :=
  ⟨linesKeep_flatten _, univNl_no_cr false text, linesKeep_shape _⟩

theorem fileLines_no_cr (text : Str) (h : ∀ c ∈ text, c ≠ '\r') : (fileLines text).flatten = text := by
  rw [(fileLines_spec text).1, univNl_id text h]

example : fileLinesS "sequence a = A\r\n# c\rs b=C\n\nlast" = ["sequence a = A\n", "# c\n", "s b=C\n", "\n", "last"] := by
  rw [fileLinesS, String.toList_ofList]
  decide +kernel
example : fileLinesS "" = [] := by decide
example : loadFixed "sequence a = A\r\n# c\rs b=C\n\n \x0c\n" = .ok [("sequence", "a", "A"), ("s", "b", "C")] := by
  rw [loadFixed_eq, String.toList_ofList]
  decide +kernel
example : loadFixed "sequence a = A\nsequence a = U\n" = .error .syntax := by
  rw [loadFixed_eq, String.toList_ofList]
  decide +kernel

/-- **`kindOf` is the dispatch of `compiler()`**: `type_ in "sequence"`, else `type_ in "signal"`, else
    `type_ == "strand"`, else `type_ == "structure"`, else nothing (the negated earlier tests are vacuous for the two
    exact words: neither is a substring of `sequence` or `signal`) -/
theorem kindOf_spec (w : String) :
    (kindOf w = some .sequence ↔ IsSubstr w "sequence") ∧
    (kindOf w = some .signal ↔ ¬ IsSubstr w "sequence" ∧ IsSubstr w "signal") ∧
    (kindOf w = some .strand ↔ ¬ IsSubstr w "sequence" ∧ ¬ IsSubstr w "signal" ∧ w = "strand") ∧
    (kindOf w = some .structure ↔
      ¬ IsSubstr w "sequence" ∧ ¬ IsSubstr w "signal" ∧ w ≠ "strand" ∧ w = "structure") ∧
    (kindOf w = none ↔ ¬ IsSubstr w "sequence" ∧ ¬ IsSubstr w "signal" ∧ w ≠ "strand" ∧ w ≠ "structure") := by
  have h := kindOfL_spec w.toList
  simp only [← isSubstr_ofList, ne_eq, toList_eq_iff] at h
  exact h

/-- the keyword of a branch selects that branch (the driver hands entries on under these keywords) -/
theorem kindOf_word (k : FixKind) : kindOf k.word = some k := by
  cases k <;> rw [kindOf, FixKind.word, String.toList_ofList] <;> decide +kernel

theorem kindOf_sequence (w : String) : kindOf w = some .sequence ↔ IsSubstr w "sequence" := (kindOf_spec w).1

theorem kindOf_signal (w : String) : kindOf w = some .signal ↔ ¬ IsSubstr w "sequence" ∧ IsSubstr w "signal" :=
  (kindOf_spec w).2.1

theorem kindOf_strand (w : String) : kindOf w = some .strand ↔ w = "strand" :=
  ⟨fun h => ((kindOf_spec w).2.2.1.mp h).2.2, fun h => h ▸ kindOf_word .strand⟩

theorem kindOf_structure (w : String) : kindOf w = some .structure ↔ w = "structure" :=
  ⟨fun h => ((kindOf_spec w).2.2.2.1.mp h).2.2.2, fun h => h ▸ kindOf_word .structure⟩

theorem kindOf_none (w : String) :
    kindOf w = none ↔ ¬ IsSubstr w "sequence" ∧ ¬ IsSubstr w "signal" ∧ w ≠ "strand" ∧ w ≠ "structure" :=
  (kindOf_spec w).2.2.2.2

/-- **documented surprise: every kind word of at most three letters that selects the sequence branch** — the empty
    word cannot be written in a file (`\w+`), the other 19 can -/
theorem short_words_sequence (w : String) :
    (kindOf w = some .sequence ∧ w.length ≤ 3) ↔
      w ∈ ["", "s", "e", "q", "u", "n", "c", "se", "eq", "qu", "ue", "en", "nc", "ce", "seq", "equ", "que", "uen", "enc", "nce"] := by
  rw [kindOf, (kindOfL_spec _).1, ← short_infixes_iff sSequence (fun _ => true) (mem_iff_of_all (by decide +kernel)),
    eq_self, true_and]

/-- **… and every one that selects the signal branch** (`s`, `n` and the empty word are sequences) -/
theorem short_words_signal (w : String) :
    (kindOf w = some .signal ∧ w.length ≤ 3) ↔
      w ∈ ["i", "g", "a", "l", "si", "ig", "gn", "na", "al", "sig", "ign", "gna", "nal"] := by
  rw [kindOf, (kindOfL_spec _).2.1, ← isSub_iff, ← short_infixes_iff sSignal (fun x => !isSub x sSequence)
    (mem_iff_of_all (by decide +kernel)), Bool.not_eq_true', Bool.not_eq_true]

/-- no word of at most three letters selects the strand or the structure branch, and longer words that look like
    keywords select nothing -/
example : kindOf "str" = none ∧ kindOf "struct" = none ∧ kindOf "sequences" = none ∧ kindOf "Sequence" = none ∧
    kindOf "signals" = none ∧ kindOf "strands" = none ∧ kindOf "domain" = none := by
  simp only [kindOf]
  repeat rw [String.toList_ofList]
  decide +kernel
example : kindOf "sig" = some .signal ∧ kindOf "seq" = some .sequence ∧ kindOf "e" = some .sequence ∧
    kindOf "l" = some .signal ∧ kindOf "n" = some .sequence ∧ kindOf "equence" = some .sequence ∧
    kindOf "ignal" = some .signal := by
  simp only [kindOf]
  repeat rw [String.toList_ofList]
  decide +kernel

/-- `fixedEntries` is `load_fixed` followed by the dispatch, dropping the lines that select no branch -/
theorem fixedEntries_spec (text : String) :
    fixedEntries text =
      (loadFixed text).map (fun raw => raw.filterMap (fun x => (kindOf x.1).map (fun k => (⟨k, x.2.1, x.2.2.toList⟩ : Entry)))) := by
  unfold fixedEntries fixedEntriesL loadFixed
  cases loadFixedL text.toList with
  | error e => rfl
  | ok l =>
    simp only [Except.map, List.filterMap_map]
    exact congrArg (fun f => Except.ok (l.filterMap f)) (funext fun x => by
      simp only [Function.comp, entryOfL, kindOf, String.toList_ofList])

/-- **every entry comes from a line of the file**: a non-skipped line that `parse_fixed` accepts, whose kind word
    selects the entry's branch; so `accepted_line_wellformed` applies to it -/
theorem entry_from_line (text : String) (es : List Entry) (h : fixedEntries text = .ok es) (e : Entry) (he : e ∈ es) :
    ∃ l ∈ fileLinesS text, ∃ t, skipLine l = false ∧ parseFixedLine l = .ok (t, e.name, String.ofList e.seq) ∧
      kindOf t = some e.kind := by
  rw [fixedEntries_spec] at h
  cases hl : loadFixed text with
  | error x => rw [hl] at h; cases h
  | ok raw =>
    rw [hl] at h
    cases Except.ok.inj h
    obtain ⟨⟨t, n, q⟩, hx, hxe⟩ := List.mem_filterMap.mp he
    obtain ⟨k, hk, rfl⟩ := Option.map_eq_some_iff.mp hxe
    obtain ⟨l, hlm, hlp⟩ := mapM_mem (loadFixed_eq_mapM text ▸ hl) _ hx
    obtain ⟨hl1, hl2⟩ := List.mem_filter.mp hlm
    exact ⟨l, hl1, t, by simpa using hl2, by rw [hlp, String.ofList_toList], hk⟩

theorem entry_wellformed (text : String) (es : List Entry) (h : fixedEntries text = .ok es) (e : Entry) (he : e ∈ es) :
    nameOk e.name = true ∧ e.seq ≠ [] ∧ ∀ c ∈ e.seq, isFixCh c = true := by
  obtain ⟨l, _, t, _, hp, _⟩ := entry_from_line text es h e he
  obtain ⟨_, hn, hq, _⟩ := accepted_line_wellformed _ _ _ _ hp
  rw [seqOk, String.toList_ofList] at hq
  exact ⟨hn, seqOkL_iff.mp hq⟩

theorem fixCodes_dna : FixCodes Generated.dnaTable := by unfold FixCodes; decide

/-- **C12's assumption "strings consist of codes" is discharged for text input.**  For every fixed-file TEXT that
    `fixedEntries` accepts, every letter of every entry's string is `+` or a code of the table: exactly the
    hypothesis `hs` of `C12.fix_struct_exact` / `fix_struct_length`; for strings without `+` the hypothesis `hs` of
    `C12.fix_exact`, `fix_narrows`, `fix_frame`, `fix_strand`, `fix_port`, `fixSignal_spec`, … -/
theorem entries_over_codes {t : CodeTable} (ht : FixCodes t) (text : String) (es : List Entry)
    (h : fixedEntries text = .ok es) (e : Entry) (he : e ∈ es) :
    (∀ c ∈ e.seq, c = '+' ∨ t.isCode c = true) ∧ ('+' ∉ e.seq → ∀ c ∈ e.seq, t.isCode c = true) := by
  have hw := (entry_wellformed text es h e he).2.2
  have h1 : ∀ c ∈ e.seq, c = '+' ∨ t.isCode c = true := fun c hc =>
    (fix_letter_or_plus (hw c hc)).symm.imp_right (ht c)
  exact ⟨h1, fun hp c hc => (h1 c hc).resolve_left fun hc' => hp (hc' ▸ hc)⟩

open Pepper Pepper.Comp Pepper.Fix Pepper.FixSpec in
/-- **from text to narrowing** (composition with `C12.fix_narrows`): a `sequence` line of an accepted fixed file,
    applied to a well-formed component the way the compile loop applies it (`Fix.fixNamed … .sequence`), with a string
    without `+`: after a successful fix the base set at every position is the old set intersected with the sets of
    the letters that landed on it — the code hypothesis `hs` of C12 is discharged from the text; `hplus` stays -/
theorem text_fix_narrows {t : CodeTable} (hl : t.lawful = true) (ht : FixCodes t) (text : String) (es : List Entry)
    (h : fixedEntries text = .ok es) (e : Entry) (he : e ∈ es) (hplus : '+' ∉ e.seq)
    {st st' : Comp.St} (hw : wfB t st = true) (fuel : Nat)
    (hfix : Fix.fixNamed t .sequence (fuel + 1) (.comp st) e.name e.seq = .ok (some (.comp st'))) (n : String) (i : Nat) :
    maskAt t st' n i = (hits t ((posOfView st e.name false).zip e.seq) n i).foldl (· &&& ·) (maskAt t st n i) := by
  have hs := (entries_over_codes ht text es h e he).2 hplus
  rw [fixNamed_comp_sequence] at hfix
  cases hf : st.findSeq e.name with
  | none => rw [hf] at hfix; cases hfix
  | some se =>
    rw [hf] at hfix
    obtain ⟨s2, hi, h2⟩ := map_ok hfix
    cases h2
    exact C12.fix_narrows hl hw hf false e.seq hs hi n i

open Pepper Pepper.Comp Pepper.Fix Pepper.FixSpec in
/-- **structures** (composition with `C12.fix_struct_exact`): for a `structure` line of an accepted fixed file the
    code path is the specification, the hypothesis on the letters being discharged by the text -/
theorem text_fix_struct_exact {t : CodeTable} (hl : t.lawful = true) (ht : FixCodes t) (text : String) (es : List Entry)
    (h : fixedEntries text = .ok es) (e : Entry) (he : e ∈ es)
    {st : Comp.St} (hw : wfB t st = true) {x : StructE} (hx : x ∈ st.structs)
    (hcount : (Notation.splitOn '+' e.seq).length = x.strands.length)
    (hlens : ∀ np ∈ x.strands.zip (Notation.splitOn '+' e.seq), (posOfStrandName st np.1).length = np.2.length) :
    fixStruct t st x e.seq = specFixStruct t st x e.seq ∧
    specFixStruct t st x e.seq =
      specFix t st ((x.strands.zip (Notation.splitOn '+' e.seq)).flatMap (fun np => posOfStrandName st np.1))
        (Notation.splitOn '+' e.seq).flatten :=
  C12.fix_struct_exact hl hw hx e.seq (entries_over_codes ht text es h e he).1 hcount hlens

/-- non-vacuity: a file text, its entries (the `sequences` line selects no branch), and the live table -/
example : fixedEntries "# fixed\nseq x = ACGTCG\nsequences a = TTTT\nstructure G\t=\tNNNNNNNNNN # all\nsig m=NN\n" =
    .ok [⟨.sequence, "x", "ACGTCG".toList⟩, ⟨.structure, "G", "NNNNNNNNNN".toList⟩, ⟨.signal, "m", "NN".toList⟩] := by
  rw [fixedEntries]
  repeat rw [String.toList_ofList]
  decide +kernel

/-- … composed with C12's example component (`a = 4N`, `b = 2S`, `x = a b*`): the text `seq x = ACGTCG` makes
    `a = ACGT` and `b = CG` (through the code path, by `C12.fix_exact`) -/
example : ∃ e, fixedEntries "seq x = ACGTCG\n" = .ok [e] ∧
    (Fix.fixItem Generated.dnaTable 4 C12.exSt e.name false e.seq).toOption.map (fun s => s.seqs.map (·.const)) =
      some ["ACGT".toList, "CG".toList, []] := by
  refine ⟨⟨.sequence, "x", "ACGTCG".toList⟩, ?_, ?_⟩
  · rw [fixedEntries]
    repeat rw [String.toList_ofList]
    decide +kernel
  · dsimp only
    repeat rw [String.toList_ofList]
    rw [C12.fix_exact C12.dna_lawful (by decide +kernel) (e := C12.exSt.seqs[2]) (by decide +kernel) 4 (by decide) false _
      (by decide +kernel)]
    decide +kernel

end Pepper.ParseFixed.Props
