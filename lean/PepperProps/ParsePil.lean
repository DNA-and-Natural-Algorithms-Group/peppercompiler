import PepperModel.Generated.Tables
import PepperProofs.ParsePil
import PepperProofs.ParsePilSound
import PepperProofs.ParsePilLoad
import PepperProofs.ParsePilNames
import PepperProps.C06
/-!
# ParsePil — the designer's PIL *text* reader, tied to the compile model's emitter

Model: `PepperModel/ParsePil.lean` (`parsePil tbl text`), a line-by-line mirror of `design/PIL_parser.py`
(`load_spec` + the four statement regexes of `utils.match`; the reader is `re`-based, NOT a pyparsing grammar) that
returns the calls `load_spec` makes on `PIL_class.Spec` as the `Pil.Stmt` list `Pil.load` consumes (a `kinetic` line
makes no call).  `harness/parsecorr_pil.py` runs the real `load_spec` on the same bytes (recording the calls) and
compares.  Proofs: `PepperProofs/ParsePil.lean` (scanners, line shapes, documents, round trip),
`PepperProofs/ParsePilSound.lean` (what an accepted line looks like), `PepperProofs/ParsePilLoad.lean` (`instEmitOk` from its
names part and `Pil.load`; `structsNonempty` from `Comp.load`), `PepperProofs/ParsePilNames.lean` (the names part from
predicates on the sources).

The theorems close the gap "the theorems start from statements, the designer starts from text":

* (a) `parse_emit_roundtrip` (+ `_component`, `_terminated`, `_file`): the text the compile model emits
  (`Sys.emitPilInst` / `Comp.emitPil`, one line per statement) parses to exactly the statement list the end-to-end
  theorems use (`Emit.instStmts` / `Emit.compStmts`), under the decidable predicate `instEmitOk` / `compEmitOk` on the
  loaded tree.  What the predicate says, and where each clause comes from:
  - every NAME the emitter writes is non-empty over the reader's alphabet `[A-Za-z0-9_-]` (`nameOk`, collected in
    `instNamesOk` / `compNamesOk`).  The compile well-formedness (`Comp.WF`) says nothing about the characters of names
    (the compile model takes arbitrary strings; the source readers decide them), so this cannot follow from it; it
    FOLLOWS from `Comp.load` / `Sys.loadFile` and a decidable predicate on the SOURCES (`names_of_compile`): the prefix is
    over the alphabet (`charsOk`), every name a component statement declares is (`srcCharsOk`), every instance and
    signal name of a system is (`sysCharsOk`) — all other names written are those, `_Anon<k>`, or found in the tables;
  - template letters are codes of the reader's table and not white space / `:` / `#`; structure texts are over `.()+`;
    every structure has a strand — all three FOLLOW from `Pil.load` accepting the statements
    (`emitOk_of_load`), which C01/C02 prove for compiled programs;
  - no structure text is empty — FOLLOWS from `Comp.load` / `Sys.loadFile` (`load_structsNonempty`,
    `loadFile_structsNonempty`: zero-length strands are refused);
  - the printed `%g` parameter is over `[A-Za-z0-9_.+-]` and printed `%f` rates are digits and a point (part of
    `instNamesOk`; true whenever the stored decimals are digit strings).
* (b) `parse_names_wellformed`: every statement of an ACCEPTED document has the shape `stmtWF`.
* (c) `end_to_end_component_from_text`, `end_to_end_from_text`: C06's end-to-end theorems with the hypothesis
  `Pil.load … (compStmts st)` replaced by "the emitted TEXT parses to `stmts` and `Pil.load` accepts `stmts`"; the
  `…_src` versions take the names hypothesis on the sources instead of on the loaded tree.  They end at `Finish.apply` on
  the record list; the `.mfe` TEXT side is `C06Gc.Props.end_to_end_text_gc` (PepperProps/C06Gc.lean), which starts at
  `Pil.load … (Emit.instStmts inst)`: the two meet through `parse_of_compile`.
-/
namespace Pepper.ParsePil.Props
open Pepper Pepper.ParsePil

/-! ### (a) round trip -/

/-- **(a) Round trip, whole tree.**  For every instance tree satisfying the decidable predicate `instEmitOk tbl`
    (names over `[A-Za-z0-9_-]`, templates over the table's codes, structures non-empty over `.()+` with at least one
    strand, printed numerals over the parameter alphabet `[A-Za-z0-9_.+-]`): the document made of the lines `Sys.emitPilInst` emits, joined by `\n`,
    is accepted by the reader and yields exactly `Emit.instStmts inst` — the statement list of C02/C04/C06. -/
theorem parse_emit_roundtrip {tbl : CodeTable} {inst : Sys.Inst} (h : instEmitOk tbl inst = true) :
    parsePil tbl (String.intercalate "\n" (Sys.emitPilInst inst)) = .ok (Emit.instStmts inst) :=
  parsePil_intercalate (reads_inst tbl inst h)

/-- **(a) Round trip, one component**: `Comp.emitPil` (including its `kinetic` lines, which leave no statement)
    parses to `Emit.compStmts`. -/
theorem parse_emit_roundtrip_component {tbl : CodeTable} {st : Comp.St} (h : compEmitOk tbl st = true) :
    parsePil tbl (String.intercalate "\n" (Comp.emitPil st)) = .ok (Emit.compStmts st) :=
  parsePil_intercalate (reads_comp tbl st h)

/-- the same with every line newline-terminated (as `outfile.write("…\n")` leaves the file) -/
theorem parse_emit_roundtrip_terminated {tbl : CodeTable} {inst : Sys.Inst} (h : instEmitOk tbl inst = true) :
    parsePil tbl (String.join ((Sys.emitPilInst inst).map (· ++ "\n"))) = .ok (Emit.instStmts inst) :=
  parsePil_unlines (reads_inst tbl inst h)

/-- **(a) Round trip, the file as the compiler writes it**: ANY list of newline-free lines whose non-blank,
    non-comment lines (`isBlank`: nothing left after `#…` and white space are removed) are exactly the emitted
    statement lines, each written with a terminating `\n` — e.g. with the `#` / `## Component …` banner lines of
    `output_synthesis` in between — parses to `Emit.instStmts inst`. -/
theorem parse_emit_roundtrip_file {tbl : CodeTable} {inst : Sys.Inst} (h : instEmitOk tbl inst = true)
    {file : List String} (hfile : file.filter (fun l => !isBlank l) = Sys.emitPilInst inst)
    (hnl : ∀ l ∈ file, ∀ c ∈ l.toList, c ≠ '\n' ∧ c ≠ '\r') :
    parsePil tbl (String.join (file.map (· ++ "\n"))) = .ok (Emit.instStmts inst) :=
  parsePil_file hfile hnl (reads_inst tbl inst h).1

/-- **Where the predicate comes from (trees).**  If the reader's object model accepts the statements
    (`Pil.load … = .ok`, which C02 proves for compiled trees), the table's code letters are not white space / `:` /
    `#` and contain `N` (decidable; true of the generated tables, see `tables_ok`), every name is over the reader's
    alphabet (`instNamesOk`) and no structure text is empty (`instStructsNonempty`, which `loadFile_structsNonempty`
    provides), then `instEmitOk` holds. -/
theorem emitOk_of_load {tbl : CodeTable} (ht : tableCharsOk tbl = true) (hN : tbl.isCode 'N' = true)
    {inst : Sys.Inst} {spec : Pil.Spec} (hload : Pil.load tbl (Emit.instStmts inst) {} = .ok spec)
    (hn : instNamesOk inst = true) (hz : instStructsNonempty inst = true) : instEmitOk tbl inst = true :=
  instEmitOk_of_load ht hN inst [] [] {} spec (by simpa using hload) hn hz

/-- the same for one component -/
theorem compEmitOk_of_load {tbl : CodeTable} (ht : tableCharsOk tbl = true)
    {st : Comp.St} {spec : Pil.Spec} (hload : Pil.load tbl (Emit.compStmts st) {} = .ok spec)
    (hn : compNamesOk st = true) (hz : structsNonempty st = true) : compEmitOk tbl st = true :=
  ParsePil.compEmitOk_of_load ht (pre := []) (post := []) (by simpa using hload) hn hz

/-- **No structure text is empty in anything the compiler returns** (zero-length strands are refused, a structure
    has one segment per strand): components and trees. -/
theorem structsNonempty_of_compile :
    (∀ {src : Comp.Src} {n : Nat} {pfx : String} {a : Nat} {st : Comp.St} {a' : Nat},
      Comp.load src n pfx a = .ok (st, a') → structsNonempty st = true) ∧
    (∀ {b : Sys.Bundle} {fuel : Nat} {base : String} {args : Nat} {argKey pfx path : String}
      {includes : List String} {anon : Nat} {inst : Sys.Inst} {a' : Nat},
      Sys.loadFile b fuel base args argKey pfx path includes anon = .ok (inst, a') →
      instStructsNonempty inst = true) :=
  ⟨load_structsNonempty, loadFile_structsNonempty⟩

/-- **The names predicate follows from the sources.**  (i) a component loaded under a prefix of name characters from a
    source with `UserNamesOk` whose declared names are non-empty over `[A-Za-z0-9_-]` has `compNamesOk`; (ii) a tree
    loaded from a bundle satisfying C02's `bundleOk` whose component sources are such and whose system sources name
    instances and signals over the alphabet has `instNamesOk`. -/
theorem names_of_compile :
    (∀ {src : Comp.Src} {n : Nat} {pfx : String} {a : Nat} {st : Comp.St} {a' : Nat},
      Comp.load src n pfx a = .ok (st, a') → Comp.UserNamesOk src = true → charsOk pfx = true →
      srcCharsOk src = true → compNamesOk st = true) ∧
    (∀ {b : Sys.Bundle} {fuel : Nat} {base : String} {args : Nat} {argKey pfx path : String}
      {includes : List String} {anon : Nat} {inst : Sys.Inst} {a' : Nat},
      Sys.loadFile b fuel base args argKey pfx path includes anon = .ok (inst, a') →
      SysProofs.bundleOk Generated.nupackTable b = true → bundleCharsOk b = true → charsOk pfx = true →
      instNamesOk inst = true) :=
  ⟨fun h hn hp hs => (compNamesOk_of_load h hn hp hs).1,
   fun h hb hc hp => instNamesOk_of_bundle (fun _ _ hl => (SysProofs.bundleOk_comp hb hl).1) hc h hp⟩

/-- the generated tables satisfy the two table hypotheses -/
theorem tables_ok :
    tableCharsOk Generated.nupackTable = true ∧ Generated.nupackTable.isCode 'N' = true ∧
    tableCharsOk Generated.pilTable = true ∧ Generated.pilTable.isCode 'N' = true := by decide

/-! ### (b) accepted documents -/

/-- **(b) Names in accepted documents.**  Whatever text the reader accepts, every statement it hands to `Spec` has
    the shape `stmtWF`: the declared name is non-empty over `[A-Za-z0-9_-]`; a template consists of codes of the table
    without `:` or white space; the items of a super-sequence / strand are non-empty tokens without white space or
    `:`; a bracketed structure parameter is non-empty over `[A-Za-z0-9_.+-]`; a
    structure has at least one strand field, no field contains `+` or `:`, and its text is over `.()+`; the members of
    an `equal` line are non-empty tokens without white space; and no `kinetic` statement is produced. -/
theorem parse_names_wellformed {tbl : CodeTable} {text : String} {stmts : List Pil.Stmt}
    (h : parsePil tbl text = .ok stmts) : ∀ s ∈ stmts, stmtWF tbl s = true :=
  parseLines_wf h

/-- in particular the declared names -/
theorem parse_declared_names {tbl : CodeTable} {text : String} {stmts : List Pil.Stmt}
    (h : parsePil tbl text = .ok stmts) :
    (∀ n t, Pil.Stmt.seq n t ∈ stmts → nameOk n = true) ∧
    (∀ n its, Pil.Stmt.sup n its ∈ stmts → nameOk n = true) ∧
    (∀ n d its, Pil.Stmt.strand n d its ∈ stmts → nameOk n = true) ∧
    (∀ n p ss st, Pil.Stmt.struct n p ss st ∈ stmts → nameOk n = true) := by
  have hw := parse_names_wellformed h
  refine ⟨fun n t hm => ?_, fun n its hm => ?_, fun n d its hm => ?_, fun n p ss st hm => ?_⟩
  · have := hw _ hm; simp only [stmtWF, Bool.and_eq_true] at this; exact this.1
  · have := hw _ hm; simp only [stmtWF, Bool.and_eq_true] at this; exact this.1
  · have := hw _ hm; simp only [stmtWF, Bool.and_eq_true] at this; exact this.1
  · have := hw _ hm; simp only [stmtWF, Bool.and_eq_true] at this; exact this.1.1.1.1

/-! ### (c) the end-to-end theorems, from the emitted text -/

section
open Pepper.Pil Pepper.ConstraintGen Pepper.LinkSpec Pepper.EndToEnd Pepper.Comp

/-- the statement list the reader obtains from a compiled component's text IS `Emit.compStmts` -/
theorem parse_of_compile_component {src : Comp.Src} {n : Nat} {pfx : String} {anon : Nat} {st : Comp.St} {a' : Nat}
    (hcomp : Comp.load src n pfx anon = .ok (st, a'))
    (hnames : Comp.UserNamesOk src = true) (hcodes : Comp.CodesOk Generated.nupackTable src = true)
    (hchars : compNamesOk st = true) :
    parsePil Generated.nupackTable (String.intercalate "\n" (Comp.emitPil st)) = .ok (Emit.compStmts st) := by
  obtain ⟨spec', _, _, hload', _⟩ :=
    Comp.compile_preserves Generated.nupackTable src n pfx anon st a' hcomp hnames hcodes
  exact parse_emit_roundtrip_component (compEmitOk_of_load tables_ok.1 hload' hchars (load_structsNonempty hcomp))

/-- **(c) C06 end to end for one component, from the TEXT.**  `Pepper.C06.end_to_end_component` with its hypothesis
    "`Pil.load` accepts `Emit.compStmts st`" replaced by: the reader parses the emitted text (the lines of
    `Comp.emitPil st` joined by `\n`) to SOME statement list `stmts`, and `Pil.load` accepts `stmts`.  The only new
    hypothesis is on names: `compNamesOk st` (every emitted name is non-empty over `[A-Za-z0-9_-]`, printed numerals
    over `[A-Za-z0-9_.+-]`); everything else the round trip needs follows from the compile hypotheses. -/
theorem end_to_end_component_from_text {src : Comp.Src} {n : Nat} {pfx : String} {anon : Nat} {st : Comp.St} {a' : Nat}
    (hcomp : Comp.load src n pfx anon = .ok (st, a'))
    (hnames : Comp.UserNamesOk src = true) (hcodes : Comp.CodesOk Generated.nupackTable src = true)
    (hchars : compNamesOk st = true)
    {stmts : List Pil.Stmt}
    (hparse : parsePil Generated.nupackTable (String.intercalate "\n" (Comp.emitPil st)) = .ok stmts)
    {spec : Spec} (hload : Pil.load Generated.nupackTable stmts {} = .ok spec)
    (hn : MfeNamesDistinct spec) {a : Arrays} (ha : getConstraints .strand spec = .ok a) {nts : List Char}
    (hg : ArraysGood a nts) :
    ∃ (o : Denote.Out) (ports : List (List Nuc × Bool)) (asg : Var → Base) (assigned : Mfe.Assigned) (out : Finish.Out),
      Denote.denoteComp src pfx anon = .ok (o, ports, a') ∧
      Mfe.processResults Generated.pilTable spec (startOf .strand spec) nts = .ok (assigned, strandSeqs spec asg) ∧
      Mfe.output Generated.pilTable spec assigned (strandSeqs spec asg) = some (mfeLines Generated.pilTable spec asg) ∧
      Finish.apply Generated.dnaTable (.comp st) (mfeDesign Generated.pilTable spec asg) = .ok out ∧
      Sat Generated.pilTable (o.design []) asg ∧ Entries Generated.pilTable (o.design []) asg out ∧
      SatSrc Generated.pilTable (o.design []) out := by
  rw [parse_of_compile_component hcomp hnames hcodes hchars] at hparse
  cases hparse
  exact Pepper.C06.end_to_end_component hcomp hnames hcodes hload hn ha hg

/-- **(c), names hypothesis on the source**: the same with `compNamesOk st` replaced by `charsOk pfx` (the prefix is
    over `[A-Za-z0-9_-]`) and `srcCharsOk src` (every declared name is non-empty over it) -/
theorem end_to_end_component_from_text_src {src : Comp.Src} {n : Nat} {pfx : String} {anon : Nat} {st : Comp.St} {a' : Nat}
    (hcomp : Comp.load src n pfx anon = .ok (st, a'))
    (hnames : Comp.UserNamesOk src = true) (hcodes : Comp.CodesOk Generated.nupackTable src = true)
    (hpfx : charsOk pfx = true) (hsrc : srcCharsOk src = true)
    {stmts : List Pil.Stmt}
    (hparse : parsePil Generated.nupackTable (String.intercalate "\n" (Comp.emitPil st)) = .ok stmts)
    {spec : Spec} (hload : Pil.load Generated.nupackTable stmts {} = .ok spec)
    (hn : MfeNamesDistinct spec) {a : Arrays} (ha : getConstraints .strand spec = .ok a) {nts : List Char}
    (hg : ArraysGood a nts) :
    ∃ (o : Denote.Out) (ports : List (List Nuc × Bool)) (asg : Var → Base) (assigned : Mfe.Assigned) (out : Finish.Out),
      Denote.denoteComp src pfx anon = .ok (o, ports, a') ∧
      Mfe.processResults Generated.pilTable spec (startOf .strand spec) nts = .ok (assigned, strandSeqs spec asg) ∧
      Mfe.output Generated.pilTable spec assigned (strandSeqs spec asg) = some (mfeLines Generated.pilTable spec asg) ∧
      Finish.apply Generated.dnaTable (.comp st) (mfeDesign Generated.pilTable spec asg) = .ok out ∧
      Sat Generated.pilTable (o.design []) asg ∧ Entries Generated.pilTable (o.design []) asg out ∧
      SatSrc Generated.pilTable (o.design []) out :=
  end_to_end_component_from_text hcomp hnames hcodes (names_of_compile.1 hcomp hnames hpfx hsrc) hparse hload hn ha hg

/-- **(c) C06 end to end for systems to any depth, from the TEXT** (`Pepper.C06.end_to_end`). -/
theorem end_to_end_from_text {b : Sys.Bundle} {fuel : Nat} {base : String} {args : Nat} {argKey pfx path : String}
    {includes : List String} {anon : Nat} {inst : Sys.Inst} {a' : Nat}
    (hfile : Sys.loadFile b fuel base args argKey pfx path includes anon = .ok (inst, a'))
    (hb : SysProofs.bundleOk Generated.nupackTable b = true)
    (hchars : instNamesOk inst = true)
    {stmts : List Pil.Stmt}
    (hparse : parsePil Generated.nupackTable (String.intercalate "\n" (Sys.emitPilInst inst)) = .ok stmts)
    {spec : Spec} (hload : Pil.load Generated.nupackTable stmts {} = .ok spec)
    (hn : MfeNamesDistinct spec) {a : Arrays} (ha : getConstraints .strand spec = .ok a) {nts : List Char}
    (hg : ArraysGood a nts) :
    ∃ (d : Design) (ports : List (List Nuc × Bool)) (asg : Var → Base) (assigned : Mfe.Assigned) (out : Finish.Out),
      Denote.denoteFile b fuel base args argKey pfx path includes anon = .ok (d, ports, a') ∧
      Mfe.processResults Generated.pilTable spec (startOf .strand spec) nts = .ok (assigned, strandSeqs spec asg) ∧
      Mfe.output Generated.pilTable spec assigned (strandSeqs spec asg) = some (mfeLines Generated.pilTable spec asg) ∧
      Finish.apply Generated.dnaTable inst (mfeDesign Generated.pilTable spec asg) = .ok out ∧
      Sat Generated.pilTable d asg ∧ Entries Generated.pilTable d asg out ∧ SatSrc Generated.pilTable d out := by
  obtain ⟨spec', _, _, hload', _⟩ :=
    Pepper.C02.system_preserves_design Generated.nupackTable b fuel base args argKey pfx path includes anon inst a' hfile hb
  have hok := emitOk_of_load tables_ok.1 tables_ok.2.1 hload' hchars (loadFile_structsNonempty hfile)
  rw [parse_emit_roundtrip hok] at hparse
  cases hparse
  obtain ⟨d, ports, asg, assigned, out, h1, h2, h3, h4, h5, h6, _⟩ := Pepper.C06.end_to_end hfile hb hload hn ha hg
  exact ⟨d, ports, asg, assigned, out, h1, h2, h3, h4, h5, h6, asg, h5, h6⟩

/-- **(c), systems, names hypothesis on the sources** (`bundleCharsOk`, `charsOk pfx`) -/
theorem end_to_end_from_text_src {b : Sys.Bundle} {fuel : Nat} {base : String} {args : Nat} {argKey pfx path : String}
    {includes : List String} {anon : Nat} {inst : Sys.Inst} {a' : Nat}
    (hfile : Sys.loadFile b fuel base args argKey pfx path includes anon = .ok (inst, a'))
    (hb : SysProofs.bundleOk Generated.nupackTable b = true)
    (hchars : bundleCharsOk b = true) (hpfx : charsOk pfx = true)
    {stmts : List Pil.Stmt}
    (hparse : parsePil Generated.nupackTable (String.intercalate "\n" (Sys.emitPilInst inst)) = .ok stmts)
    {spec : Spec} (hload : Pil.load Generated.nupackTable stmts {} = .ok spec)
    (hn : MfeNamesDistinct spec) {a : Arrays} (ha : getConstraints .strand spec = .ok a) {nts : List Char}
    (hg : ArraysGood a nts) :
    ∃ (d : Design) (ports : List (List Nuc × Bool)) (asg : Var → Base) (assigned : Mfe.Assigned) (out : Finish.Out),
      Denote.denoteFile b fuel base args argKey pfx path includes anon = .ok (d, ports, a') ∧
      Mfe.processResults Generated.pilTable spec (startOf .strand spec) nts = .ok (assigned, strandSeqs spec asg) ∧
      Mfe.output Generated.pilTable spec assigned (strandSeqs spec asg) = some (mfeLines Generated.pilTable spec asg) ∧
      Finish.apply Generated.dnaTable inst (mfeDesign Generated.pilTable spec asg) = .ok out ∧
      Sat Generated.pilTable d asg ∧ Entries Generated.pilTable d asg out ∧ SatSrc Generated.pilTable d out :=
  end_to_end_from_text hfile hb (names_of_compile.2 hfile hb hchars hpfx) hparse hload hn ha hg

/-- the text of every compiled tree reads back as `Emit.instStmts`, hypotheses on the sources only -/
theorem parse_of_compile {b : Sys.Bundle} {fuel : Nat} {base : String} {args : Nat} {argKey pfx path : String}
    {includes : List String} {anon : Nat} {inst : Sys.Inst} {a' : Nat}
    (hfile : Sys.loadFile b fuel base args argKey pfx path includes anon = .ok (inst, a'))
    (hb : SysProofs.bundleOk Generated.nupackTable b = true)
    (hchars : bundleCharsOk b = true) (hpfx : charsOk pfx = true) :
    parsePil Generated.nupackTable (String.intercalate "\n" (Sys.emitPilInst inst)) = .ok (Emit.instStmts inst) := by
  obtain ⟨spec', _, _, hload', _⟩ :=
    Pepper.C02.system_preserves_design Generated.nupackTable b fuel base args argKey pfx path includes anon inst a' hfile hb
  exact parse_emit_roundtrip (emitOk_of_load tables_ok.1 tables_ok.2.1 hload'
    (names_of_compile.2 hfile hb hchars hpfx) (loadFile_structsNonempty hfile))

end

/-! ### non-vacuity and the reader's corner cases (all checked against the real reader by the harness) -/

/-- a small document in free spelling -/
example : parsePil Generated.nupackTable
    "# duplex\nsequence a = NNNN : 4\nsup-sequence s = a a* : 8\nstrand [dummy] T = s\n\tstructure [1nt] D = T : ....((+)) \nequal a a\nkinetic [0.000000 /M/s < k < inf /M/s] D -> D\n" =
    .ok [.seq "a" "NNNN".toList, .sup "s" ["a", "a*"], .strand "T" true ["s"],
         .struct "D" (some "1nt") ["T"] "....((+))".toList, .equal ["a", "a"]] := by
  unfold parsePil
  repeat rw [String.toList_ofList]
  decide +kernel

/-- the compiled duplex of C06 satisfies the predicate, and its text reads back -/
example : compEmitOk Generated.nupackTable Pepper.C06.dupSt = true := by decide +kernel

example : parsePil Generated.nupackTable (String.intercalate "\n" (Comp.emitPil Pepper.C06.dupSt)) =
    .ok (Emit.compStmts Pepper.C06.dupSt) := parse_emit_roundtrip_component (by decide +kernel)

/-- the source of the duplex satisfies the source predicate -/
example : srcCharsOk Pepper.C06.dupSrc = true ∧ charsOk "d-" = true := by decide +kernel

/-- the two-gate system of C02 satisfies the tree predicate -/
example : Pepper.C02.exTree.map (instEmitOk Generated.nupackTable) = some true := by decide +kernel

/-- the reader's parameter alphabet is `[A-Za-z0-9_.+-]`: a bound printed by `%g` with an exponent (`[1e+06nt]`) is
    readable, so is `[no-opt]`; any other character (here `,`) is a syntax error -/
example : (parsePil Generated.nupackTable "structure [1e+06nt] S = s : ...\n").toOption.isSome = true ∧
    (parsePil Generated.nupackTable "structure [no-opt] S = s : ...\n").toOption.isSome = true ∧
    parsePil Generated.nupackTable "structure [1,5nt] S = s : ...\n" = .error .structSyntax := by
  unfold parsePil
  repeat rw [String.toList_ofList]
  decide +kernel

/-- a comment on an UNTERMINATED last line is not removed (`re.sub(r"#.*\n", …)`): the same line is accepted with a
    final newline and rejected without -/
example : parsePil Generated.nupackTable "sequence a = NNN # c\n" = .ok [.seq "a" "NNN".toList] ∧
    parsePil Generated.nupackTable "sequence a = NNN # c" = .error .seqSyntax := by
  unfold parsePil
  repeat rw [String.toList_ofList]
  decide +kernel

/-- an empty template needs two blanks between `=` and `:` -/
example : parsePil Generated.nupackTable "sequence a =  : 0\n" = .ok [.seq "a" []] ∧
    parsePil Generated.nupackTable "sequence a = : 0\n" = .error .seqSyntax := by
  unfold parsePil
  repeat rw [String.toList_ofList]
  decide +kernel

/-- a structure line with an empty text is rejected (why `structsNonempty` is needed) -/
example : parsePil Generated.nupackTable "structure [1nt] S = s : \n" = .error .structSyntax := by
  unfold parsePil
  repeat rw [String.toList_ofList]
  decide +kernel

/-- strand fields keep inner white space and may be empty; `equal` takes any tokens -/
example : parsePil Generated.nupackTable "structure S = s t + : ..+\nequal a : b = c\n" =
    .ok [.struct "S" none ["s t", ""] "..+".toList, .equal ["a", ":", "b", "=", "c"]] := by
  unfold parsePil
  repeat rw [String.toList_ofList]
  decide +kernel

/-- CR and CRLF end lines; form feed and `\x1c`–`\x1f` are white space but do not end a line -/
example : parsePil Generated.nupackTable "sequence a = N\rsequence\x0cb\x1c= N\r\n" =
    .ok [.seq "a" ['N'], .seq "b" ['N']] := by
  unfold parsePil
  repeat rw [String.toList_ofList]
  decide +kernel

end Pepper.ParsePil.Props
