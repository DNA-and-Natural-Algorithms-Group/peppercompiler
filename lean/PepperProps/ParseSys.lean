import PepperProofs.ParseSys
import PepperProofs.ParseSysInv
import PepperProofs.ParseSysLink
import PepperProps.C09
/-!
# The `.sys` statement parser as a function on text (supports C02/C09/C13)

Model: `PepperModel/ParseSys.lean` — the three pyparsing statement grammars of `system_parser_pyparsing.py` and the
first-statement search / statement loop of `system_parser.load_system`, on text.  It is tied to the real functions by
`harness/parsecorr_sys.py` (per-line and per-document correspondence).  Proofs: `PepperProofs/ParseSys.lean`
(render, then parse), `PepperProofs/ParseSysInv.lean` (what accepted text looks like, line-locality, `dw`),
`PepperProofs/ParseSysLink.lean` (accepted names satisfy `SysProofs.sysNamesOk`).

`dw` is pyparsing's process-global default white space at call time (see the model's header); every theorem about
the statement loop holds for every `dw`, and `parseLine_dw_irrelevant` says the loop does not depend on it at all.

Argument texts outside the model's argument language make the model answer `Err.outOfModel` (never `.ok`), so every
theorem with a hypothesis `… = .ok …` is about statements whose arguments the model does decide.
-/
namespace Pepper.ParseSys.Props
open Pepper.Sys Pepper.ParseSys

/-! ## (a) what is rendered parses back -/

/-- well-formed statement AST: the instance / template / signal names and import aliases are
    `[A-Za-z][A-Za-z0-9_]*`, import paths are non-empty over `[A-Za-z0-9._/~-]`, an import statement has at least one
    item.  Nothing else: no name is excluded for looking like a keyword (`as`, `import`, `system` are fine as names,
    paths and aliases — the grammar is position-driven), the number of arguments is arbitrary. -/
abbrev wfSStmt (s : SStmt) : Bool := stmtNamesOk s
/-- well-formed declare header: system name, parameter names and signal names are `[A-Za-z][A-Za-z0-9_]*` -/
abbrev wfDecl (d : Decl) : Bool := declNamesOk d

/-- **parse ∘ render = id, any number of blanks** at each of the places where the grammar skips white space
    (`Layout`: before and after the statement, after the keyword (≥ 1), around `=`, `(`, `,`, `:`, `+`, `->`, before
    `*`, before (≥ 1) and after (≥ 0: `a asb` does alias `b`) `as`, and `()` for an empty argument list).
    Not covered by this theorem (by the correspondence only): tabs (the model expands them as `str.expandtabs`
    does), a trailing `# comment`, blanks in front of `,` / `)` inside an ARGUMENT list (there they belong to the
    argument text), and argument spellings other than `1`. -/
theorem parse_render_spaced (dw : String) (L : Layout) (s : SStmt) (h : wfSStmt s = true) :
    parseLine dw (String.ofList (renderSStmtW L s)) = .ok (some s) := by
  simp only [parseLine, String.toList_ofList]
  exact parseLineL_render dw.toList L s h

/-- **parse ∘ render = id, canonical spelling.**  Every well-formed statement, written the way `progen.render_sys`
    writes it (`renderSStmt`: single blanks, `, ` and ` + ` separators, `name(1, 1)` for two arguments, the trailing
    blank of `x -> ` when there are no outputs), goes through the statement loop of `load_system` — comment regex,
    `strip`, dispatch on the first word, pyparsing grammar with `parseAll` — and comes out as the same AST. -/
theorem parse_render (dw : String) (s : SStmt) (h : wfSStmt s = true) :
    parseLine dw (renderSStmt s) = .ok (some s) :=
  parse_render_spaced dw {} s h

/-- any layout again, for a direct call of `parse_import_statement` / `parse_component_statement` on the unstripped
    text -/
theorem parse_render_direct (dw : String) (L : Layout) (s : SStmt) (h : wfSStmt s = true) :
    (match s with
     | .imports items => parseImport dw (String.ofList (renderSStmtW L s)) = some items
     | .component .. => parseComponent dw (String.ofList (renderSStmtW L s)) = .ok s) := by
  cases s with
  | imports items =>
    simp only [parseImport, String.toList_ofList, renderSStmtW, List.append_assoc]
    exact parseImportL_render dw.toList L items h L.lead _
  | component name templ args ins outs =>
    simp only [parseComponent, String.toList_ofList, renderSStmtW, List.append_assoc]
    exact parseComponentL_render dw.toList L name templ args ins outs h L.lead _

/-- the declare line with any number of blanks (also between `system` and the name: 0 is allowed, `declare systemX:`
    declares `X`), as written and as the first-statement search hands it on (cleaned) -/
theorem parse_render_declare_spaced (dw : String) (L : Layout) (d : Decl) (h : wfDecl d = true) :
    parseDeclare dw (String.ofList (renderDeclW L d)) = some d ∧
    parseDeclare dw (String.ofList (cleanLine (renderDeclW L d))) = some d := by
  simp only [parseDeclare, String.toList_ofList]
  refine ⟨parseDeclareL_renderDeclW dw.toList L d h, ?_⟩
  rw [cleanLine_renderDeclW L d h]
  exact parseDeclareL_renderDeclCoreW dw.toList L d h

/-- **the declare line**, canonical spelling -/
theorem parse_render_declare (dw : String) (d : Decl) (h : wfDecl d = true) :
    parseDeclare dw (renderDecl d) = some d :=
  (parse_render_declare_spaced dw {} d h).1

/-- **a whole rendered file parses back.**  For every well-formed system source: write the declare line, then one
    statement per line (each line with its own free layout).  Then (1) the first-statement search of `load_system`
    finds exactly the declare line (blanks stripped) and leaves exactly the statement lines in the file, and (2) the
    declare parser and the statement loop, run on those, rebuild the source.  (Between (1) and (2) the real code runs
    `process_list` on the remaining lines — the identity on such text apart from dropping blank lines; that is C13's
    model `Subst`, not repeated here.) -/
theorem parse_render_file (dw : String) (L : Layout) (Ls : Nat → Layout) (src : SSrc) (h : srcNamesOk src = true) :
    firstStatementL (renderFileW L Ls src) =
      (renderDeclCoreW L ⟨src.name, src.params, src.inputs, src.outputs⟩, fileLines (renderDocW Ls 0 src.stmts) []) ∧
    parseDocL dw.toList (renderDeclCoreW L ⟨src.name, src.params, src.inputs, src.outputs⟩) (renderDocW Ls 0 src.stmts) =
      .ok src := by
  have h' := srcNamesOk_cases h
  refine ⟨firstStatementL_render L _ h'.1 _, ?_⟩
  simp only [parseDocL, parseDeclareL_renderDeclCoreW dw.toList L _ h'.1,
    parseLines_render dw.toList Ls src.stmts 0 h'.2]

theorem parse_render_doc (dw : String) (src : SSrc) (h : srcNamesOk src = true) :
    parseDoc dw (renderDecl ⟨src.name, src.params, src.inputs, src.outputs⟩) (renderDoc src.stmts) = .ok src := by
  have h' := srcNamesOk_cases h
  simp only [parseDoc, renderDecl, renderDoc, String.toList_ofList, parseDocL,
    parseDeclareL_renderDeclW dw.toList {} _ h'.1, parseLines_render dw.toList (fun _ => {}) src.stmts 0 h'.2]

example : wfSStmt (.component "gate1" "And22" 2 [⟨"x", true⟩, ⟨"y0", false⟩] [⟨"z_1", false⟩]) = true := by decide +kernel
example : renderSStmt (.component "gate1" "And22" 2 [⟨"x", true⟩, ⟨"y0", false⟩] [⟨"z_1", false⟩]) =
    "component gate1 = And22(1, 1): x* + y0 -> z_1" := by
  -- as character lists: `String.toList` on a literal makes the kernel decode UTF-8
  refine congrArg String.ofList (?_ : _ = _)
  decide +kernel
example : wfSStmt (.imports [("../lib/And-2.v~1", some "as"), ("as", none), ("import", some "system")]) = true := by decide +kernel
example : renderSStmt (.imports [("../lib/And-2.v~1", some "as"), ("as", none)]) = "import ../lib/And-2.v~1 as as, as" := by
  refine congrArg String.ofList (?_ : _ = _)
  decide +kernel
example : wfDecl ⟨"Osc", ["t", "bm"], [⟨"x", false⟩], []⟩ = true := by decide +kernel
example : renderDecl ⟨"Osc", ["t", "bm"], [⟨"x", false⟩], []⟩ = "declare system Osc(t, bm): x -> " := by
  refine congrArg String.ofList (?_ : _ = _)
  decide +kernel
/-- the hypothesis is needed: a name with `-` is not read back -/
example : wfSStmt (.component "a-b" "c" 0 [] []) = false ∧
    parseLine " \t" (renderSStmt (.component "a-b" "c" 0 [] [])) = .error .reject := by
  unfold parseLine renderSStmt
  repeat rw [String.toList_ofList]
  decide +kernel
example : wfSStmt (.imports []) = false ∧ parseLine " \t" (renderSStmt (.imports [])) = .error .reject := by
  unfold parseLine renderSStmt
  repeat rw [String.toList_ofList]
  decide +kernel

/-! ## (b) what is accepted is well formed -/

/-- **every accepted name is `[A-Za-z][A-Za-z0-9_]*`, every accepted import path is non-empty over
    `[A-Za-z0-9._/~-]`** — for every line of text whatsoever that the statement loop accepts. -/
theorem parse_names_wellformed (dw line : String) (st : SStmt) (h : parseLine dw line = .ok (some st)) :
    stmtNamesOk st = true :=
  parseLineL_namesOk dw.toList line.toList st h

/-- the same for direct calls of the two statement parsers -/
theorem parse_names_wellformed_direct (dw line : String) :
    (∀ items, parseImport dw line = some items → stmtNamesOk (.imports items) = true) ∧
    (∀ st, parseComponent dw line = .ok st → stmtNamesOk st = true) :=
  ⟨fun items h => parseImportL_namesOk dw.toList line.toList items h,
   fun st h => parseComponentL_namesOk dw.toList line.toList st h⟩

theorem parse_names_wellformed_declare (dw line : String) (d : Decl) (h : parseDeclare dw line = some d) :
    declNamesOk d = true :=
  parseDeclareL_namesOk dw.toList line.toList d h

theorem parse_names_wellformed_doc (dw decl doc : String) (src : SSrc) (h : parseDoc dw decl doc = .ok src) :
    srcNamesOk src = true :=
  parseDocL_namesOk dw.toList decl.toList doc.toList src h

example : parseLine " \t" "  component g = And(2*3, 'x'): a* + b ->   # note" =
    .ok (some (.component "g" "And" 2 [⟨"a", true⟩, ⟨"b", false⟩] [])) := by
  unfold parseLine
  repeat rw [String.toList_ofList]
  decide +kernel
example : parseLine " \t" "import a asb, c/d" = .ok (some (.imports [("a", some "b"), ("c/d", none)])) := by
  unfold parseLine
  repeat rw [String.toList_ofList]
  decide +kernel
example : parseLine " \t" "IMPORT a" = .error .reject ∧ parseImport " \t" "IMPORT a" = some [("a", none)] := by
  unfold parseLine parseImport
  repeat rw [String.toList_ofList]
  decide +kernel
example : parseDeclare " \t" "DeClArE systemX(n): ->" = some ⟨"X", ["n"], [], []⟩ := by
  unfold parseDeclare
  repeat rw [String.toList_ofList]
  decide +kernel
example : parseLine " \t" "component g = And(6  16): a -> b" = .error .reject := by
  unfold parseLine
  repeat rw [String.toList_ofList]
  decide +kernel
example : parseLine " \t" "component g = And(toe): a -> b" = .error .outOfModel := by
  unfold parseLine
  repeat rw [String.toList_ofList]
  decide +kernel

/-! ## (c) the statement loop is line-local -/

/-- **a document is accepted iff its first statement is a declare statement and every line of `doc.split("\n")`
    is accepted by the loop body (blank lines yield nothing); the statements are the per-line results in order.**
    So the per-line correspondence covers documents. -/
theorem parseDoc_line_local (dw decl doc : String) (src : SSrc) :
    parseDoc dw decl doc = .ok src ↔
      ∃ (d : Decl) (rs : List (Option SStmt)), parseDeclare dw decl = some d ∧
        (splitOn '\n' doc.toList).map (parseLineL dw.toList) = rs.map Except.ok ∧
        src = ⟨d.name, d.params, d.inputs, d.outputs, rs.filterMap id⟩ := by
  simp only [parseDoc, parseDeclare, parseDocL_ok_iff, parseLines_ok_iff]
  constructor
  · rintro ⟨d, _, hd, ⟨rs, hrs, rfl⟩, rfl⟩
    exact ⟨d, rs, hd, hrs, rfl⟩
  · rintro ⟨d, rs, hd, hrs, rfl⟩
    exact ⟨d, _, hd, ⟨rs, hrs, rfl⟩, rfl⟩

/-- … and rejected (or out of the model) iff the first statement is not a declare statement or some line is -/
theorem parseDoc_rejects_iff (dw decl doc : String) :
    (∃ e, parseDoc dw decl doc = .error e) ↔
      parseDeclare dw decl = none ∨ ∃ l ∈ splitOn '\n' doc.toList, ∃ e, parseLineL dw.toList l = .error e := by
  simp only [parseDoc, parseDeclare, parseDocL, ← parseLines_error_iff]
  rcases parseDeclareL dw.toList decl.toList with _ | d
  · simp
  · rcases parseLines dw.toList (splitOn '\n' doc.toList) with e | sts <;> simp

/-- **the process-global white-space default cannot influence `load_system`**: whatever value `dw` another grammar
    module of the package left behind (all of them consist of characters `str.strip` removes), the statement loop
    gives the same result on every line. -/
theorem parseLine_dw_irrelevant (dw dw' line : String) (h : dwOk dw.toList = true) (h' : dwOk dw'.toList = true) :
    parseLine dw line = parseLine dw' line :=
  parseLineL_dw_irrelevant dw.toList dw'.toList line.toList h h'

theorem parseDoc_dw_irrelevant (dw dw' decl doc : String) (h : dwOk dw.toList = true) (h' : dwOk dw'.toList = true)
    (hd : parseDeclare dw decl = parseDeclare dw' decl) : parseDoc dw decl doc = parseDoc dw' decl doc := by
  simp only [parseDoc, parseDocL, parseDeclare] at hd ⊢
  rw [hd, parseLines_dw_irrelevant dw.toList dw'.toList _ h h']

/-- but a direct call does depend on it -/
example : parseImport " \t" "import a\n" = none ∧ parseImport " \t\n" "import a\n" = some [("a", none)] := by
  unfold parseImport
  repeat rw [String.toList_ofList]
  decide +kernel

/-! ## (d) text level: systems given as text compile to well-formed specifications -/

/-- a system source that came out of the text parser satisfies the name hypothesis of the system-level theorems
    (`sysNamesOk`: instance names without `-`, signal names non-empty, without `-`, not ending in `*`) -/
theorem sysNamesOk_of_text (dw decl doc : String) (src : SSrc) (h : parseDoc dw decl doc = .ok src) :
    Pepper.SysProofs.sysNamesOk src = true :=
  sysNamesOk_of_srcNamesOk src (parseDocL_namesOk dw.toList decl.toList doc.toList src h)

/-- **C09 for systems, from text.**  Take any bundle in which every SYSTEM source is the result of `parseDoc` on some
    (first statement, substituted document) pair — arbitrary text — and every component source satisfies `UserNamesOk`
    (for component sources that come from text, the `.comp` parser's own theorem gives this).  Whatever instance tree
    `load_file` returns, the emitted specification is well formed.  What composes cleanly: the hypothesis
    `bundleNamesOk` of `C09.output_wellformed_system` is discharged for systems by the parser itself — no condition on
    the `.sys` texts is left.  What does not: the bundle still abstracts the file system (which text is found under
    which path) and template substitution (`process_list`, C13's model) — the documents are the substituted ones. -/
theorem output_wellformed_system_text (b : Bundle) (fuel : Nat) (base : String) (args : Nat) (argKey pfx path : String)
    (includes : List String) (anon : Nat) (inst : Inst) (a' : Nat)
    (h : Sys.loadFile b fuel base args argKey pfx path includes anon = .ok (inst, a'))
    (hsys : ∀ k s, (k, FileSrc.sys s) ∈ b.files → ∃ dw decl doc, parseDoc dw decl doc = .ok s)
    (hcomp : ∀ k c, (k, FileSrc.comp c) ∈ b.files → Pepper.Comp.UserNamesOk c = true) :
    Pepper.WellFormed.WellFormedPil (Emit.instStmts inst) = true := by
  refine Pepper.C09.output_wellformed_system b fuel base args argKey pfx path includes anon inst a' h ?_
  simp only [Pepper.SysProofs.bundleNamesOk, List.all_eq_true]
  rintro ⟨k, f⟩ hkf
  cases f with
  | comp c => exact hcomp k c hkf
  | sys s =>
    obtain ⟨dw, decl, doc, hp⟩ := hsys k s hkf
    exact sysNamesOk_of_text dw decl doc s hp

/-- the property's wording: for every bundle of parsed documents, compilation rejects or emits a well-formed
    specification -/
theorem rejects_or_wellformed_system_text (b : Bundle) (fuel : Nat) (base : String) (args : Nat)
    (argKey pfx path : String) (includes : List String) (anon : Nat)
    (hsys : ∀ k s, (k, FileSrc.sys s) ∈ b.files → ∃ dw decl doc, parseDoc dw decl doc = .ok s)
    (hcomp : ∀ k c, (k, FileSrc.comp c) ∈ b.files → Pepper.Comp.UserNamesOk c = true) :
    (∃ e, Sys.loadFile b fuel base args argKey pfx path includes anon = .error e) ∨
    (∃ inst a', Sys.loadFile b fuel base args argKey pfx path includes anon = .ok (inst, a') ∧
      Pepper.WellFormed.WellFormedPil (Emit.instStmts inst) = true) :=
  error_or_ok_pair _ fun inst a' h =>
    output_wellformed_system_text b fuel base args argKey pfx path includes anon inst a' h hsys hcomp

end Pepper.ParseSys.Props
